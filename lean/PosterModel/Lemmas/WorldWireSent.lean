/-
  Lemmas/WorldWireSent.lean — the packets a script SUBMITS to the transport (ghost functions running in parallel with
  `pollCtx`, `pollTask`, `drain`, `sweep`, `apply`, `step`), and the theorem that with an unlimited transport the bytes
  handed to the transport (`World.sent`) are exactly the concatenation of the submitted packets, in submission order.
  No assumption on the requests is needed here (a request outside the MQTT 5 domain is submitted as it is encoded).
-/
import PosterModel.Lemmas.WorldCtx
import PosterModel.Lemmas.WorldTweak
import PosterModel.Lemmas.WorldDuring

namespace Poster
open Framing
namespace World

/-- the packets ONE poll of the context task submits to the transport (each is one `tx.write`), in order:
    * `connect()` / `authorize()` first polled with an accepted request: its CONNECT resp. AUTH packet;
    * `run()` first polled: the retransmit queue of the resumed session, then the writes of the handlers of the poll;
    * `run()` polled again: the writes of the handlers of the poll (`writesOf` of the effects of every handled message /
      inbound packet of the history `loopHist` of the poll).
    The definition does not ask whether the transport takes the re-sent packets: when it does not (a write limit), the
    loop is not entered and the list still names what its handlers would have written from `w.resent`. With an unlimited
    transport (`pollCtx_sent`) the list is exactly what is written; under a limit it is an upper bound, which is how
    `submitted_from_script` (Properties/C01World.lean) uses it. -/
def ctxSubmits (w : World) : List Bytes :=
  match w.task with
  | .none => []
  | .connecting call t a started =>
    if started then [] else
    if reqValid call t a then [match call with | .connect => t.encode | _ => a.encode] else []
  | .running started =>
    if started then histWrites (w.c.serve (loopHist w.loopFuel w)).2
    else w.c.resume.2.2 ++ histWrites (w.resent.c.serve (loopHist w.resent.loopFuel w.resent)).2

/-- the packets one poll of a task submits: only the context task writes to the transport -/
def taskSubmits (w : World) : Task → List Bytes
  | .ctx => (w.unwake .ctx).ctxSubmits
  | _ => []

/-- … of the executor running until nothing is ready -/
def drainSubmits : Nat → World → List Bytes
  | 0, _ => []
  | f+1, w =>
    match w.pick with
    | none => []
    | some t => w.taskSubmits t ++ drainSubmits f (w.pollTask t)

/-- … of the sweep over the task list `l` -/
def sweepListSubmits : List Task → World → List Bytes
  | [], _ => []
  | t :: l, w =>
    if w.taskLive t ∧ t ∉ w.woken ∧ t ∉ w.held then w.taskSubmits t ++ sweepListSubmits l (w.pollTask t)
    else sweepListSubmits l w

def sweepSubmits (w : World) : List Bytes := sweepListSubmits w.sweepTasks w

/-- … of a script event itself: only an explicit `POLL` of a live task polls anything -/
def applySubmits (w : World) : Ev → List Bytes
  | .poll t => if w.taskLive t then w.taskSubmits t else []
  | _ => []

/-- … of one script step: the event, the drain, and with `exec=sweep` the sweep and the second drain -/
def stepSubmits (w : World) (e : Ev) : List Bytes :=
  if w.bad then [] else
  let w0 := w.emit (.ev e)
  let w1 := w0.apply e
  w0.applySubmits e ++
    (if w1.bad then [] else
      let w2 := drain w1.drainFuel w1
      drainSubmits w1.drainFuel w1 ++
        (if w2.cfg.sweep then w2.sweepSubmits ++ drainSubmits w2.sweep.drainFuel w2.sweep else []))

/-- … of a script run from the world `w` -/
def scriptSubmits : World → List Ev → List Bytes
  | _, [] => []
  | w, e :: es => w.stepSubmits e ++ scriptSubmits (w.step e) es

/-- **the packets a script submits to the transport**, in submission order -/
def submitted (cfg : Cfg) (evs : List Ev) : List Bytes := scriptSubmits { cfg := cfg } evs

theorem drainSubmits_eq (f : Nat) (w : World) : drainSubmits f w = drainAcc [] (· ++ ·) taskSubmits f w := by
  induction f generalizing w with
  | zero => rfl
  | succ f ih => simp only [drainSubmits, drainAcc, ih]; rfl

theorem sweepListSubmits_eq (l : List Task) (w : World) :
    sweepListSubmits l w = sweepListAcc [] (· ++ ·) taskSubmits l w := by
  induction l generalizing w with
  | nil => rfl
  | cons t l ih => simp only [sweepListSubmits, sweepListAcc, ih]

theorem stepSubmits_eq (w : World) (e : Ev) : w.stepSubmits e = stepAcc [] (· ++ ·) taskSubmits applySubmits w e := by
  simp only [stepSubmits, stepAcc, settleAcc, drainedAcc, sweepSubmits, sweepAcc, drainSubmits_eq, sweepListSubmits_eq]

/-- the packets a script submits are the label of the script (Lemmas/WorldLift.lean): lists of packets under append,
    `taskSubmits` for a poll, `applySubmits` for an event -/
theorem scriptSubmits_eq (w : World) (evs : List Ev) :
    scriptSubmits w evs = scriptAcc [] (· ++ ·) taskSubmits applySubmits w evs := by
  induction evs generalizing w with
  | nil => rfl
  | cons e es ih => simp only [scriptSubmits, scriptAcc, ih, stepSubmits_eq]

theorem scriptSubmits_lift {R : World → World → List Bytes → Prop} (refl : ∀ w, R w w [])
    (trans : ∀ {a b c : World} {l m : List Bytes}, R a b l → R b c m → R a c (l ++ m))
    (poll : ∀ w t, w.taskLive t = true → t ∉ w.held → R w (w.pollTask t) (w.taskSubmits t)) (evs : List Ev)
    (emit : ∀ w o, (∃ e ∈ evs, o = .ev e) ∨ o = .stall → R w (w.emit o) [])
    (apply : ∀ e ∈ evs, ∀ w, R w (w.apply e) (w.applySubmits e)) (w : World) :
    R w (evs.foldl step w) (scriptSubmits w evs) :=
  scriptSubmits_eq w evs ▸ scriptAcc_lift refl trans poll List.append_nil List.nil_append evs emit apply w

theorem allocPid_sent (w : World) : w.allocPid.2.sent = w.sent := rfl
theorem allocSub_sent (w : World) : w.allocSub.2.sent = w.sent := rfl
theorem sent_set_ops (w : World) (l : List (Nat × OpSt)) : ({ w with ops := l } : World).sent = w.sent := rfl
theorem sent_set_rsps (w : World) (l : List Nat) : ({ w with rsps := l } : World).sent = w.sent := rfl

theorem firstEnd_sent {w : World} {call : Call} {t : ConnectTx} {a : AuthTx} {r : World}
    (h : FirstEnd w call t a r) : r.sent = w.sent := by
  cases h with
  | assertSubId | panic => exact W7.sent_of_added (outExtP_one (P := fun o => obsBytes o = []) _ rfl rfl) (fun _ h => h) rfl
  | pending rx' rd' hp => split <;> exact sent_congr (by simp) (by simp)
  | _ => exact (sent_finish _ _ _).trans (sent_congr rfl rfl)

theorem awaitFirst_sent (w : World) (call : Call) (t : ConnectTx) (a : AuthTx) :
    (w.awaitFirst call t a).sent = w.sent := firstEnd_sent (awaitFirst_spec w call t a)

theorem ctxSubmits_connecting (w : World) (call : Call) (t : ConnectTx) (a : AuthTx) (started : Bool)
    (ht : w.task = .connecting call t a started) :
    w.ctxSubmits = if started then [] else if reqValid call t a then [W7.reqBytes call t a] else [] := by
  unfold ctxSubmits
  rw [ht]
  cases call <;> rfl

theorem pollConnect_first_sent (w : World) (call : Call) (t : ConnectTx) (a : AuthTx) (hl : w.cfg.wlimit = none) :
    (w.pollConnect call t a false).sent = w.sent ++ (if reqValid call t a then W7.reqBytes call t a else []) := by
  have hc : ∀ n, (W7.seiSet w call t).canWrite n = true :=
    fun n => canWrite_unlimited _ (by cases call <;> exact hl) n
  rw [pollConnect_false_eq]
  cases reqValid call t a with
  | false => exact (sent_finish w call _).trans (List.append_nil _).symm
  | true =>
    rw [if_neg (by simp), if_pos (canWrite_unlimited _ hl _), awaitFirst_sent, (sent_writeBytes _ _ (hc _)).1]
    cases call <;> rfl

theorem pollCtx_sent (w : World) (hl : w.cfg.wlimit = none) : w.pollCtx.sent = w.sent ++ w.ctxSubmits.flatten := by
  unfold pollCtx ctxSubmits
  cases ht : w.task with
  | none => simp
  | connecting call t a started =>
    cases started with
    | true => simp [pollConnect, awaitFirst_sent]
    | false =>
      simp only [Bool.false_eq_true, ↓reduceIte]
      rw [pollConnect_first_sent w call t a hl]
      cases call <;> split <;> simp [W7.reqBytes]
  | running started =>
    cases started with
    | true =>
      simp only [↓reduceIte]
      exact (pollRun_started_pollServe w).sent_eq hl
    | false =>
      simp only [Bool.false_eq_true, ↓reduceIte]
      have hc : w.resumed.canWrite ((w.c.resume.2.2.map List.length).sum) = true :=
        canWrite_unlimited _ (by rw [resumed_cfg]; exact hl) _
      rw [(pollRun_first_pollServe w hc).sent_eq (by rw [resent_cfg]; exact hl), resent_sent w hc]
      simp

theorem pollTask_sent (w : World) (t : Task) (hl : w.cfg.wlimit = none) :
    (w.pollTask t).sent = w.sent ++ (w.taskSubmits t).flatten := by
  cases t with
  | ctx => exact pollCtx_sent (w.unwake .ctx) hl
  | op n => exact (pollOp_sent _ n).trans (List.append_nil _).symm
  | st n => exact (pollStream_sent _ n).trans (List.append_nil _).symm

theorem applySubmits_nil (w : World) {e : Ev} (hne : ∀ t, e ≠ .poll t) : w.applySubmits e = [] := by
  cases e with
  | poll t => exact absurd rfl (hne t)
  | _ => rfl

theorem apply_sent (w : World) (e : Ev) (hl : w.cfg.wlimit = none) :
    (w.apply e).sent = w.sent ++ (w.applySubmits e).flatten := by
  by_cases hp : ∃ t, e = .poll t
  · obtain ⟨t, rfl⟩ := hp
    simp only [World.apply, applySubmits]
    split
    · exact pollTask_sent w t hl
    · exact (List.append_nil _).symm
  · have hne : ∀ t, e ≠ .poll t := fun t h => hp ⟨t, h⟩
    rw [applySubmits_nil w hne, applied_sent (apply_spec w e) hne]
    exact (List.append_nil _).symm

theorem scriptSubmits_sent (evs : List Ev) (w : World) (hl : w.cfg.wlimit = none) :
    (evs.foldl step w).sent = w.sent ++ (scriptSubmits w evs).flatten := by
  refine (scriptSubmits_lift
    (R := fun w w' l => w.cfg.wlimit = none → w'.sent = w.sent ++ l.flatten ∧ w'.cfg = w.cfg)
    (fun w _ => ⟨(List.append_nil _).symm, rfl⟩) ?_ ?_ evs ?_ ?_ w hl).1
  · intro a b c l m h1 h2 ha
    obtain ⟨s1, c1⟩ := h1 ha
    obtain ⟨s2, c2⟩ := h2 (c1 ▸ ha)
    exact ⟨by rw [s2, s1, List.flatten_append, List.append_assoc], c2.trans c1⟩
  · exact fun w t _ _ h => ⟨pollTask_sent w t h, pollTask_cfg w t⟩
  · rintro w o (⟨e, _, rfl⟩ | rfl) _ <;> exact ⟨(sent_emit _ _ rfl).trans (List.append_nil _).symm, rfl⟩
  · exact fun e _ w h => ⟨apply_sent w e h, apply_cfg w e⟩

theorem scriptSubmits_append (a b : List Ev) (w : World) :
    scriptSubmits w (a ++ b) = scriptSubmits w a ++ scriptSubmits (a.foldl step w) b := by
  simp only [scriptSubmits_eq]
  exact scriptAcc_append List.nil_append List.append_assoc a b w

end World
end Poster

/- Concrete worlds for the non-vacuity examples of Properties/C07World.lean. -/
import PosterModel.Lemmas.WorldStreamSid
import PosterModel.Lemmas.WorldOwnEx
import PosterModel.Lemmas.WorldEx
import PosterModel.Lemmas.WorldOpsEx
import PosterModel.Lemmas.WorldStreamStep

namespace Poster
open Framing World
namespace Ex

/-- a PUBLISH, QoS 0, topic "a", subscription identifier 1, empty payload -/
def pubFrame : Bytes := [0x30, 6, 0, 1, 0x61, 2, 0x0B, 1]
def pubA : PublishRx := { topic := [0x61], subIds := [1] }

-- evaluated by the kernel: the decoder's well-founded recursions are opaque to the evaluator of plain `decide`
theorem dec_pubFrame : decodeRx pubFrame = .ok (.publish pubA) := by decide +kernel
theorem pn_pubFrame : pollNext {} [.data pubFrame] = ({}, [], .item pubFrame) :=
  pollNext_whole _ (by decide) (by decide) (by decide)

/-- `wSub` (stream 1 asleep on its empty channel, registered under subscription identifier 1) with that PUBLISH
    pending at the transport -/
def wPub : World := { wSub with reader := [.data pubFrame] }

theorem sInv_congr {U : Nat → Prop} {w w' : World} (h : SInv U w) (h1 : w'.chans = w.chans) (h2 : w'.ops = w.ops) :
    SInv U w' := by
  have hc : ∀ n, w'.chan n = w.chan n := fun n => by simp [chan, h1]
  have ho : ∀ n, w'.opSt n = w.opSt n := fun n => by simp [opSt, h2]
  exact ⟨chanWf_of_eq h.wf h1, fun n hn => h.opsU n (by rw [← ho]; exact hn),
    fun id hid => ⟨(h.polled id (by rw [← hc]; exact hid)).1, fun hd r => by
      rw [ho]; exact (h.polled id (by rw [← hc]; exact hid)).2 hd r⟩⟩

/-- `wSub` is the world the script of `W11.evsSub_foldl5` reaches, up to the transcript -/
theorem wSub_sInv : SInv (· = 1) wSub := by
  obtain ⟨tr, st, hs⟩ := steps_dec [Ev.setup, .run, .op 1 0 W11.subReq, .feed [W11.subackFr], .stream 1] {} (OpsInv.init {})
  have h := (sInv_init (fun _ => False) {}).trace st (hs.nodup (by decide)) (fun _ _ h => h)
  rw [W11.evsSub_foldl5] at h
  exact sInv_congr (h.mono fun x hx => hx.elim False.elim fun hm => List.mem_singleton.1 (hs.subset hm)) rfl rfl

theorem wPub_sInv : SInv (· = 1) wPub := sInv_congr wSub_sInv rfl rfl

theorem wSub_opsInv : OpsInv wSub :=
  ⟨by decide, fun id s k h => by simp [wSub] at h, ⟨by decide, by decide⟩⟩

/-- `subscribe()` call 1 has been sent and registered (subscription identifier 1) but its SUBACK has not arrived: the
    future still waits on its oneshot; `stream()` cannot have been called yet -/
def wWaitSub : World :=
  { hasCtx := true, handles := [0], task := .running true, ops := [(1, .wait 2 .suback)], slots := [(2, .empty)],
    slotReg := [2], c := { awaiting := [(actionId 9 1, 2)], subs := [(1, 1)] }, chans := [(1, {})],
    pidCtr := 2, subCtr := 2 }

theorem wWaitSub_wf : ChanWf wWaitSub := by
  obtain ⟨tr, st, _⟩ := steps_dec [Ev.setup, .run, .op 1 0 W11.subReq] {} (OpsInv.init {})
  have h := (chanWf_init {}).trace st
  rw [W11.evsSub_foldl3] at h
  exact chanWf_of_eq h rfl

theorem wPub_opsInv : OpsInv wPub :=
  ⟨by decide, fun id s k h => by simp [wPub, wSub] at h, ⟨by decide, by decide⟩⟩

/-- **the step `POLL ctx` from `wPub`**: the context reads the PUBLISH and delivers it into channel 1, the executor then
    polls the woken stream, which yields it (`ITEM 1`) and parks again on its empty channel -/
theorem wPub_step : (wPub.step (.poll .ctx)).out = [.ev (.poll .ctx), .item 1 pubA] ∧
    (wPub.step (.poll .ctx)).chan 1 = some { buf := [], reg := true } := by
  have e1 : (wPub.emit (.ev (.poll .ctx))).apply (.poll .ctx) =
      { wSub with chans := [(1, { buf := [pubA], reg := false })], woken := [.st 1], out := [.ev (.poll .ctx)] } := by
    rw [apply, if_pos (by decide), pollTask_ctx_frame _ pubFrame (.publish pubA) (by decide) (by decide) (by decide)
      pn_pubFrame dec_pubFrame (by decide)]
    decide
  rw [step_eq_settle, if_neg (by decide), e1]
  decide

theorem wSub_sidInv : SidInv wSub := ⟨by decide, by decide⟩

end Ex
end Poster

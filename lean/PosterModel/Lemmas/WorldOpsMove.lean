/-
  The bookkeeping of handle operations (`ops`, their oneshots, what the context owns in `queue` / `awaiting`) moves in
  five ways (`Move tag`): three that are not steps of a handle future (tag `none`) and two of the future of operation `id`
  (tag `some id`). Every primitive of `World` is a sequence of such moves, so an invariant kept by them and by the accepted
  `op` event (`MoveInv`) holds along every script, under every resolution of `select!`. Properties/C05.lean is imported for
  what one handler call completes (`msg_replies_only_to_its_own_slot`, `ack_completion_cases`).
-/
import PosterModel.Lemmas.WorldReach
import PosterModel.Lemmas.WorldIdsOp
import PosterModel.Lemmas.ScriptIds
import PosterModel.Lemmas.CtxDecodeWf
import PosterModel.Properties.C05


namespace Poster
open Framing
namespace World

/-- the range `allocPid` keeps the packet-identifier counter in -/
def PidOk (n : Nat) : Prop := 1 ≤ n ∧ n ≤ 65535

/-- a line that says nothing of a handle future's end: what a move may log without touching the bookkeeping -/
def Neutral (o : Obs) : Prop := (∀ id r, o ≠ .done id r) ∧ (∀ id c, o ≠ .panic (.op id) c)

theorem Neutral.of_ctxLine {o : Obs} (h : CtxLine o) : Neutral o := by
  rcases h with ⟨_, rfl | rfl⟩ | ⟨_, _, rfl⟩ | ⟨_, rfl⟩ <;> first
    | exact ⟨fun _ _ h => Obs.noConfusion h, fun _ _ h => Obs.noConfusion h⟩
    | exact ⟨fun _ _ h => Obs.noConfusion h, fun _ _ h => Obs.noConfusion h fun ht _ => Task.noConfusion ht⟩

theorem outExtP_neutral_of_outExt {a b : World} (h : OutExt a b) : OutExtP Neutral a b :=
  outExtP_of_outExt h fun _ => ⟨.of_ctxLine (.wire _), .of_ctxLine (.wraw _)⟩

/-- a oneshot takes one value, or is closed, while it is empty; the values put in satisfy `P` -/
def SlotRel (P : Nat → SlotVal → Prop) (w w' : World) : Prop :=
  ∀ s, w'.slot s = w.slot s ∨
    (w.slot s = some .empty ∧ (w'.slot s = some .closed ∨ ∃ v, w'.slot s = some (.full v) ∧ P s v))

theorem slotRel_of_eq {P : Nat → SlotVal → Prop} {w w' : World} (h : ∀ s, w'.slot s = w.slot s) : SlotRel P w w' :=
  fun s => Or.inl (h s)

theorem slotRel_refl (P : Nat → SlotVal → Prop) (w : World) : SlotRel P w w := fun _ => Or.inl rfl

theorem slotRel_mono {P Q : Nat → SlotVal → Prop} {w w' : World} (h : SlotRel P w w')
    (hpq : ∀ s v, P s v → Q s v) : SlotRel Q w w' := by
  intro s
  rcases h s with h | ⟨h1, h2 | ⟨v, h2, h3⟩⟩
  · exact Or.inl h
  · exact Or.inr ⟨h1, Or.inl h2⟩
  · exact Or.inr ⟨h1, Or.inr ⟨v, h2, hpq s v h3⟩⟩

theorem slotRel_trans {P : Nat → SlotVal → Prop} {a b c : World} (h1 : SlotRel P a b) (h2 : SlotRel P b c) :
    SlotRel P a c := by
  intro s
  rcases h2 s with e2 | ⟨e2, r2⟩
  · rcases h1 s with e1 | ⟨e1, r1⟩
    · exact Or.inl (e2.trans e1)
    · exact Or.inr ⟨e1, by rw [e2]; exact r1⟩
  · rcases h1 s with e1 | ⟨e1, r1 | ⟨v, r1, _⟩⟩
    · exact Or.inr ⟨by rw [← e1]; exact e2, r2⟩
    · rw [e2] at r1; cases r1
    · rw [e2] at r1; cases r1

theorem slotRel_isSome {P : Nat → SlotVal → Prop} {w w' : World} (h : SlotRel P w w') (s : Nat)
    (hs : (w.slot s).isSome) : (w'.slot s).isSome := by
  rcases h s with e | ⟨_, e | ⟨v, e, _⟩⟩
  · rw [e]; exact hs
  · rw [e]; rfl
  · rw [e]; rfl

theorem SlotRel.full {P : Nat → SlotVal → Prop} {w w' : World} (h : SlotRel P w w') {s : Nat} {v : SlotVal}
    (hs : w'.slot s = some (.full v)) : w.slot s = some (.full v) ∨ (w.slot s = some .empty ∧ P s v) := by
  rcases h s with e | ⟨e0, e | ⟨v', e, hv⟩⟩ <;> rw [e] at hs
  · exact Or.inl hs
  · cases hs
  · cases hs; exact Or.inr ⟨e0, hv⟩

def ctxSlots (w : World) : List Nat := w.queue.map Msg.slot ++ w.c.awaiting.map (·.2)

/-- the packet type of the acknowledgement awaited (`none`: the future waits for "written") -/
def Wait.code : Wait → Option Nat
  | .ff => none
  | .puback => some 4
  | .pubrec => some 5
  | .pubcomp => some 7
  | .suback => some 9
  | .unsuback => some 11
  | .pingresp => some 13

def AidOk (aid : Nat) (k : Wait) : Prop := ∃ c pid, Wait.code k = some c ∧ pid < 65536 ∧ aid = actionId c pid

def MsgOk (m : Msg) (k : Wait) : Prop :=
  match m.aid with
  | none => k = .ff
  | some aid => AidOk aid k

theorem actionId_kind {c c' pid pid' : Nat} (h : actionId c pid = actionId c' pid') (hp : pid < 65536)
    (hp' : pid' < 65536) : c = c' := by
  unfold actionId at h; omega

theorem accepts_of_aidOk {aid : Nat} {k : Wait} {p : RxPacket} (h : AidOk aid k) (hp : rxActionId p = some aid)
    (hwf : p.wf) : Wait.accepts k p = true := by
  obtain ⟨c, pid, hc, hpid, rfl⟩ := h
  -- `p` is an acknowledgement of packet type `c'` with an identifier below 2^16: then `c' = c`, which fixes `k`
  have key : ∀ c' pid', rxActionId p = some (actionId c' pid') → pid' < 65536 → Wait.code k = some c' :=
    fun c' pid' e h' => actionId_kind (Option.some.inj (hp.symm.trans e)) hpid h' ▸ hc
  -- in each arm `this : Wait.code k = some c'` refutes every `k` but the one that accepts `p`
  cases p with
  | puback a => have := key 4 _ rfl hwf.2; cases k <;> cases this <;> rfl
  | pubrec a => have := key 5 _ rfl hwf.2; cases k <;> cases this <;> rfl
  | pubrel a => have := key 6 _ rfl hwf.2; cases k <;> cases this
  | pubcomp a => have := key 7 _ rfl hwf.2; cases k <;> cases this <;> rfl
  | suback a => have := key 9 _ rfl hwf.2; cases k <;> cases this <;> rfl
  | unsuback a => have := key 11 _ rfl hwf.2; cases k <;> cases this <;> rfl
  | pingresp => have := key 13 0 rfl (by omega); cases k <;> cases this <;> rfl
  | _ => cases hp

inductive Move : Option Nat → World → World → Prop
  /-- the context handles the first queued message: only its own oneshot can be completed, and never with a packet -/
  | cmsg {w w' : World} (m : Msg) (q : List Msg) (hq : w.queue = m :: q) (queue : w'.queue = q)
      (ops : w'.ops = w.ops) (pid : w'.pidCtr = w.pidCtr) (out : OutExtP Neutral w w')
      (aw : w'.c.awaiting = w.c.awaiting ∨ ∃ aid, m.aid = some aid ∧ w'.c.awaiting = w.c.awaiting ++ [(aid, m.slot)])
      (slots : SlotRel (fun s v => s = m.slot ∧ ∀ p, v ≠ .pkt p) w w') : Move none w w'
  /-- the context handles a well-formed acknowledgement: the first waiter under its action identifier receives it -/
  | cpkt {w w' : World} (p : RxPacket) (aid slot : Nat) (pre post : List (Nat × Nat)) (wf : p.wf)
      (haid : rxActionId p = some aid) (haw : w.c.awaiting = pre ++ (aid, slot) :: post)
      (hpre : aid ∉ pre.map (·.1))
      (aw : w'.c.awaiting = pre ++ post) (queue : w'.queue = w.queue)
      (ops : w'.ops = w.ops) (pid : w'.pidCtr = w.pidCtr) (out : OutExtP Neutral w w')
      (slots : SlotRel (fun s v => s = slot ∧ v = .pkt p) w w') : Move none w w'
  /-- nothing the context owns is gained -/
  | drop {w w' : World} (queue : w'.queue.Sublist w.queue) (aw : w'.c.awaiting.Sublist w.c.awaiting)
      (ops : w'.ops = w.ops) (pid : w'.pidCtr = w.pidCtr) (out : OutExtP Neutral w w')
      (slots : SlotRel (fun _ _ => False) w w') : Move none w w'
  /-- the operation leaves `ops`: completed, failed, panicked or dropped -/
  | finish {w w' : World} (id : Nat) (st : OpSt) (hst : w.opSt id = some st)
      (ops : w'.ops = eraseFirst id w.ops) (queue : w'.queue = w.queue) (aw : w'.c.awaiting = w.c.awaiting)
      (pid : PidOk w.pidCtr → PidOk w'.pidCtr)
      (slots : ∀ s', (∀ k0, st ≠ .wait s' k0) → w'.slot s' = w.slot s')
      (out : w'.out = w.out ∨ (∃ r, w'.out = w.out ++ [.done id r]) ∨
        (w'.out = w.out ++ [.panic (.op id) "unreachable"] ∧
          ∃ s k p, st = .wait s k ∧ w.slot s = some (.full (.pkt p)) ∧ Wait.accepts k p = false)) : Move (some id) w w'
  /-- the operation enqueues `m` with the new oneshot `s` and waits on it: its first poll (`s = 2 * id`), or the PUBREL
      after a PUBREC on `s0` (`s = s0 + 1`) -/
  | send {w w' : World} (id : Nat) (st : OpSt) (m : Msg) (s : Nat) (k : Wait) (hst : w.opSt id = some st)
      (shape : (∃ h r, st = .fresh h r ∧ s = 2 * id ∧ k ≠ .pubcomp) ∨
        (∃ s0, st = .wait s0 .pubrec ∧ s = s0 + 1 ∧ k = .pubcomp))
      (ops : w'.ops = setAssoc id (.wait s k) w.ops) (queue : w'.queue = w.queue ++ [m]) (mslot : m.slot = s)
      (aw : w'.c.awaiting = w.c.awaiting) (pid : PidOk w.pidCtr → PidOk w'.pidCtr)
      (slotNew : w'.slot s = some .empty)
      (slots : ∀ s', s' ≠ s → (∀ k0, st ≠ .wait s' k0) → w'.slot s' = w.slot s')
      (out : w'.out = w.out)
      (msgok : PidOk w.pidCtr →
        (∀ s0 k0 p, st = .wait s0 k0 → w.slot s0 = some (.full (.pkt p)) → p.wf) → MsgOk m k) : Move (some id) w w'

theorem Move.quiet {w w' : World} (ops : w'.ops = w.ops) (slots : ∀ s, w'.slot s = w.slot s)
    (queue : w'.queue = w.queue) (aw : w'.c.awaiting = w.c.awaiting) (pid : w'.pidCtr = w.pidCtr)
    (out : OutExtP Neutral w w') : Move none w w' :=
  .drop (queue ▸ List.Sublist.refl _) (aw ▸ List.Sublist.refl _) ops pid out (slotRel_of_eq slots)

theorem move_emit (w : World) {o : Obs} (h : Neutral o) : Move none w (w.emit o) :=
  .quiet rfl (fun _ => rfl) rfl rfl rfl (outExtP_one o rfl h)

/-- what the three moves that are not steps of a handle future have in common -/
structure Move.Frame (w w' : World) : Prop where
  ops : w'.ops = w.ops
  pid : w'.pidCtr = w.pidCtr
  out : OutExtP Neutral w w'
  queue : w'.queue.Sublist w.queue
  slots : SlotRel (fun _ _ => True) w w'

theorem Move.ctx_frame {w w' : World} (m : Move none w w') : Move.Frame w w' := by
  cases m with
  | cmsg m q hq queue ops pid out aw slots =>
    exact ⟨ops, pid, out, by rw [queue, hq]; exact List.sublist_cons_self _ _, slotRel_mono slots fun _ _ _ => trivial⟩
  | cpkt p aid slot pre post wf haid haw hpre aw queue ops pid out slots =>
    exact ⟨ops, pid, out, by rw [queue]; exact List.Sublist.refl _, slotRel_mono slots fun _ _ _ => trivial⟩
  | drop queue aw ops pid out slots => exact ⟨ops, pid, out, queue, slotRel_mono slots fun _ _ _ => trivial⟩

/-- a value found in a oneshot after such a move was there before, or the oneshot was empty and the value is no packet, or
    it is the acknowledgement the context has just handed to the first waiter under its action identifier -/
theorem Move.fills {w w' : World} (m : Move none w w') {s : Nat} {v : SlotVal} (hs' : w'.slot s = some (.full v)) :
    w.slot s = some (.full v) ∨ (w.slot s = some .empty ∧
      ((∀ p, v ≠ .pkt p) ∨ ∃ p aid pre post, v = .pkt p ∧ p.wf ∧ rxActionId p = some aid ∧
        w.c.awaiting = pre ++ (aid, s) :: post ∧ aid ∉ pre.map (·.1))) := by
  cases m with
  | cmsg m q hq queue ops pid out aw slots => exact (slots.full hs').imp_right fun ⟨e, _, hv⟩ => ⟨e, Or.inl hv⟩
  | cpkt p aid slot pre post wf haid haw hpre aw queue ops pid out slots =>
    exact (slots.full hs').imp_right fun ⟨e, es, ev⟩ => ⟨e, Or.inr ⟨p, aid, pre, post, ev, wf, haid, es ▸ haw, hpre⟩⟩
  | drop queue aw ops pid out slots => exact (slots.full hs').imp_right fun ⟨_, hf⟩ => hf.elim

theorem Move.out_prefix {t : Option Nat} {w w' : World} (hm : Move t w w') : ∃ added, w'.out = w.out ++ added := by
  cases t with
  | none => obtain ⟨added, e, _⟩ := hm.ctx_frame.out; exact ⟨added, e⟩
  | some j =>
    cases hm with
    | finish _ st hst ops queue aw pid slots out =>
      rcases out with e | ⟨r, e⟩ | ⟨e, _⟩
      · exact ⟨[], by rw [e, List.append_nil]⟩
      · exact ⟨_, e⟩
      · exact ⟨_, e⟩
    | send _ st m s k hst shape ops queue mslot aw pid slotNew slots out msgok =>
      exact ⟨[], by rw [out, List.append_nil]⟩

theorem mem_of_opSt {w : World} {id : Nat} {st : OpSt} (h : w.opSt id = some st) : (id, st) ∈ w.ops :=
  Poster.mem_of_lookupFirst id st w.ops h

/-- the tags of moves allowed in a sequence: `none` = a move that is not a step of a handle future,
    `some id` = a `finish` / `send` move of operation `id` -/
abbrev AnyTag : Option Nat → Prop := fun _ => True
abbrev CtxTag : Option Nat → Prop := fun t => t = none
abbrev OpTag (id : Nat) : Option Nat → Prop := fun t => t = none ∨ t = some id
abbrev TaskTag : Task → Option Nat → Prop
  | .op id => OpTag id
  | _ => CtxTag

inductive Moves (A : Option Nat → Prop) : World → World → Prop
  | refl (w : World) : Moves A w w
  | cons {t : Option Nat} {a b c : World} : A t → Move t a b → Moves A b c → Moves A a c

/-- The tag condition is closed by default: every `A` in use is `AnyTag`, `CtxTag` or `OpTag id` (`TaskTag t`, `EvTag e` are
    one of these by cases), and `t` is `none` or that `some id`. -/
theorem Moves.step {A : Option Nat → Prop} {t : Option Nat} {a b c : World} (h : Move t a b) (h2 : Moves A b c)
    (ht : A t := by first | exact rfl | exact Or.inl rfl | exact Or.inr rfl | exact True.intro) : Moves A a c :=
  .cons ht h h2

theorem Moves.one {A : Option Nat → Prop} {t : Option Nat} {a b : World} (h : Move t a b)
    (ht : A t := by first | exact rfl | exact Or.inl rfl | exact Or.inr rfl | exact True.intro) : Moves A a b :=
  .cons ht h (.refl b)

theorem Moves.trans {A : Option Nat → Prop} {a b c : World} (h1 : Moves A a b) (h2 : Moves A b c) : Moves A a c := by
  induction h1 with
  | refl => exact h2
  | cons ht hm _ ih => exact .cons ht hm (ih h2)

theorem Moves.mono {A B : Option Nat → Prop} {a b : World} (h : Moves A a b) (hab : ∀ t, A t → B t) :
    Moves B a b := by
  induction h with
  | refl => exact .refl _
  | cons ht hm _ ih => exact .cons (hab _ ht) hm ih

theorem Moves.any {A : Option Nat → Prop} {a b : World} (h : Moves A a b) : Moves AnyTag a b :=
  h.mono fun _ _ => True.intro

theorem Moves.inv {A : Option Nat → Prop} {I : World → Prop} (hI : ∀ t w w', I w → Move t w w' → I w')
    {a b : World} (h : Moves A a b) (ha : I a) : I b := by
  induction h with
  | refl => exact ha
  | cons _ hm _ ih => exact ih (hI _ _ _ ha hm)

theorem sendSlot_slot (w : World) (s s' : Nat) (v : SlotVal) :
    (w.sendSlot s v).slot s' = if s' = s ∧ w.slot s = some .empty then some (.full v) else w.slot s' := by
  rw [sendSlot_eq]; exact slot_fillSlot_if w s _ s'

theorem applyEff_slotRel (w : World) (e : Eff) : SlotRel (fun s v => e = .send s v) w (w.applyEff e) := by
  intro s'
  cases e with
  | write bs => left; simp [applyEff]
  | send s v =>
    simp only [applyEff, sendSlot_slot]
    by_cases h : s' = s ∧ w.slot s = some .empty
    · obtain ⟨rfl, he⟩ := h
      right; exact ⟨he, Or.inr ⟨v, by simp [he], rfl⟩⟩
    · left; simp [h]
  | dropSlot s =>
    simp only [applyEff, dropSlotTx_slot]
    by_cases h : s' = s ∧ w.slot s' = some .empty
    · right; exact ⟨h.2, Or.inl (by rw [if_pos h])⟩
    · left; simp [h]
  | deliver c p => left; simp [applyEff]
  | dropChan c => left; simp [applyEff]

theorem applyEffs_slotRel (w : World) (es : List Eff) :
    SlotRel (fun s v => (s, v) ∈ sendsOf es) w (w.applyEffs es) :=
  applyEffs_lift (slotRel_refl _) slotRel_trans
    (fun w e he => slotRel_mono (applyEff_slotRel w e) fun _ _ h => mem_sendsOf.2 (h ▸ he)) w

theorem runHandler_rel (w : World) (h : Bool → Ctx × List Eff × Flow) :
    ∃ b, (w.runHandler h).1.c = (h b).1 ∧ (w.runHandler h).2 = (h b).2.2 ∧
      SlotRel (fun s v => (s, v) ∈ sendsOf (h b).2.1) w (w.runHandler h).1 ∧
      (w.runHandler h).1.ops = w.ops ∧ (w.runHandler h).1.queue = w.queue ∧
      (w.runHandler h).1.pidCtr = w.pidCtr ∧ OutExtP Neutral w (w.runHandler h).1 := by
  refine ⟨w.canWrite (writeNeed (h true).2.1), ?_, ?_, ?_, (runHandler_ctxFrame w h).ops, by simp,
    (runHandler_ctxFrame w h).pidCtr,
    outExtP_neutral_of_outExt (runHandler_outExt w h)⟩
  · rw [runHandler_eq]; simp
  · rw [runHandler_eq]
  · rw [runHandler_eq]
    exact applyEffs_slotRel ({ w with c := _ }) _

theorem handleMsg_move (w : World) (m : Msg) (q : List Msg) (hq : w.queue = m :: q) :
    Move none w (({ w with queue := q }).runHandler (fun wok => w.c.handleMsg m wok)).1 := by
  obtain ⟨b, hc, _, hs, ho, hqu, hp, hout⟩ := runHandler_rel ({ w with queue := q }) (fun wok => w.c.handleMsg m wok)
  refine .cmsg m q hq hqu ho hp hout ?_ ?_
  · rw [hc]; exact handleMsg_awaiting_cases w.c m b
  · refine slotRel_mono hs ?_
    intro s v hm
    obtain ⟨h1, h2, _⟩ := msg_replies_only_to_its_own_slot w.c m b s v hm
    refine ⟨h1, ?_⟩
    intro p hp
    rcases h2 with h | h | h <;> rw [h] at hp <;> cases hp

theorem handlePkt_move (w : World) (rx' : Rx) (rd' : List ReadEv) (p : RxPacket) (hwf : p.wf) :
    Move none w (({ w with rx := rx', reader := rd' }).runHandler (fun wok => w.c.handlePkt w.chanRxAlive p wok)).1 := by
  obtain ⟨b, hc, _, hs, ho, hqu, hp, hout⟩ :=
    runHandler_rel ({ w with rx := rx', reader := rd' }) (fun wok => w.c.handlePkt w.chanRxAlive p wok)
  rcases ack_completion_cases w.c w.chanRxAlive p b with ⟨h1, h2, _⟩ | ⟨aid, slot, rest, hid, hr, h1, h2⟩
  · refine .drop (by rw [hqu]; exact List.Sublist.refl _) (by rw [hc, h2]; exact List.Sublist.refl _) ho hp hout ?_
    refine slotRel_mono hs ?_
    intro s v hm
    simp only [h1] at hm
    cases hm
  · obtain ⟨pre, post, e1, e2, e3⟩ := (removeFirst_some_iff _ _ _ _).1 hr
    refine .cpkt p aid slot pre post hwf hid e1 e2 (by rw [hc, h2, e3]) hqu ho hp hout ?_
    refine slotRel_mono hs ?_
    intro s v hm
    simp only [h1, List.mem_singleton, Prod.mk.injEq] at hm
    exact hm

theorem resume_facts (c : Ctx) :
    (c.resume).1.awaiting.Sublist c.awaiting ∧ sendsOf (c.resume).2.1 = [] := by
  refine ⟨?_, sendsOf_eq_nil_iff.2 fun s v h => ?_⟩
  · rcases c.resume_fst_cases with h | h | h <;> rw [h]
    · exact List.Sublist.refl _
    · exact List.Sublist.refl _
    · exact List.nil_sublist _
  · rcases c.resume_effs_drops _ h with ⟨_, e⟩ | ⟨_, e⟩ <;> cases e

theorem move_inert {w w' : World} (i : CtxInert w w') : Move none w w' :=
  .quiet i.ops i.slot i.queue i.tables.2.1 i.pidCtr
    (outExtP_mono i.out fun _ => .of_ctxLine)

theorem move_resumed (w : World) :
    Move none w (({ w with c := w.c.resume.1, task := .running true } : World).applyEffs w.c.resume.2.1) := by
  obtain ⟨hsub, hsend⟩ := resume_facts w.c
  refine .drop (by simp) (by simpa using hsub) (by simp) (by simp)
    (outExtP_neutral_of_outExt (outExt_trans (outExt_of_eq rfl) (applyEffs_outExt _ _))) ?_
  refine slotRel_mono (applyEffs_slotRel ({ w with c := (w.c.resume).1, task := .running true } : World) _) ?_
  intro s v hm
  rw [hsend] at hm; cases hm

theorem pollCtxS_moves (sched : Nat → Bool) (w : World) : Moves CtxTag w (w.pollCtxS sched) :=
  pollCtxS_via (R := Moves CtxTag) Moves.trans (fun i => .one (move_inert i)) Moves.refl
    (fun w m q hq => .one (handleMsg_move w m q hq))
    (fun w rx' rd' fr p _ hd => .one (handlePkt_move w rx' rd' p (decodeRx_wf_aux fr p hd)))
    (fun w => .one (move_resumed w)) sched w

theorem pollCtx_moves (w : World) : Moves CtxTag w w.pollCtx := pollCtxS_false w ▸ pollCtxS_moves _ w

theorem allocPid_pidOk (w : World) (h : PidOk w.pidCtr) : PidOk (w.allocPid.2).pidCtr := by
  unfold PidOk at *
  simp only [allocPid]
  split <;> omega

theorem allocFor_pidOk (w : World) (req : Req) (h : PidOk w.pidCtr) : PidOk (w.allocFor req).pidCtr := by
  rw [W10.allocFor_pidCtr]; split
  · exact User.nextPid_range _
  · exact h

theorem OpPrep.pidOk {w w0 : World} {id : Nat} {st : OpSt} (hp : OpPrep w id st w0) (h : PidOk w.pidCtr) :
    PidOk w0.pidCtr := by
  cases hp with
  | fresh _ req => exact allocFor_pidOk w req h
  | wait => exact h

theorem finishOp_move {w w0 : World} {id : Nat} {st : OpSt} (hst : w.opSt id = some st) (hp : OpPrep w id st w0)
    (r : DoneRes) : Move (some id) w (w0.finishOp id r) :=
  .finish id st hst (by simp [hp.ops]) (by simp [hp.queue]) (by simp [hp.userFrame.c]) (by simpa using hp.pidOk)
    (fun s' h => by simpa using hp.slot_of_ne h) (Or.inr (Or.inl ⟨r, by simp [hp.out]⟩))

theorem sendAwait_move {w w0 : World} {id : Nat} {st : OpSt} (hst : w.opSt id = some st) (hp : OpPrep w id st w0)
    (m : Msg) (s : Nat) (k : Wait)
    (shape : (∃ h r, st = .fresh h r ∧ s = 2 * id ∧ k ≠ .pubcomp) ∨
      (∃ s0, st = .wait s0 .pubrec ∧ s = s0 + 1 ∧ k = .pubcomp))
    (hm : m.slot = s)
    (msgok : PidOk w.pidCtr →
      (∀ s0 k0 p, st = .wait s0 k0 → w.slot s0 = some (.full (.pkt p)) → p.wf) → MsgOk m k) :
    Move (some id) w (w0.sendAwait m id s k) := by
  by_cases hc : w0.hasCtx = true
  · obtain ⟨wk, qr, e⟩ := User.sendAwait_ctx w0 m id s k hc
    rw [e]
    refine .send id st m s k hst shape (by simp [hp.ops]) (by simp [hp.queue]) hm (by simp [hp.userFrame.c])
      (by simpa using hp.pidOk) ?_ ?_ (by simp [hp.out]) msgok
    · show lookupFirst s (setAssoc s Slot.empty w0.slots) = _
      exact lookupFirst_setAssoc_self _ _ _
    · intro s' h1 h2
      show lookupFirst s' (setAssoc s Slot.empty w0.slots) = _
      rw [lookupFirst_setAssoc_of_ne h1 _ _]
      exact hp.slot_of_ne h2
  · rw [User.sendAwait_no_ctx w0 m id s k (by simpa using hc)]
    exact finishOp_move hst hp _

theorem reqWait_ne_pubcomp (req : Req) : req.wait ≠ .pubcomp := by
  cases req with
  | publish t =>
    simp only [Req.wait]
    split
    · simp
    · split <;> simp
  | _ => simp [Req.wait]

theorem reqMsg_aid (w : World) (id : Nat) (req : Req) :
    (w.reqMsg id req).aid = (Wait.code req.wait).map fun c => actionId c (if c = 13 then 0 else w.pidCtr) := by
  cases req with
  | publish t =>
    simp only [reqMsg, Req.wait]
    split
    · rfl
    · split <;> rfl
  | _ => rfl

theorem reqMsg_ok (w : World) (id : Nat) (req : Req) (hp : PidOk w.pidCtr) : MsgOk (w.reqMsg id req) req.wait := by
  have hlt : w.pidCtr < 65536 := by unfold PidOk at hp; omega
  unfold MsgOk
  rw [reqMsg_aid]
  cases req.wait <;> first | rfl | exact ⟨_, _, rfl, by split <;> omega, rfl⟩

theorem pollOp_move (w : World) (id : Nat) :
    (w.opSt id = none ∧ w.pollOp id = w) ∨
    (∃ s k, w.opSt id = some (.wait s k) ∧ (w.slot s = none ∨ w.slot s = some .empty) ∧
      w.pollOp id = { w with slotReg := if s ∈ w.slotReg then w.slotReg else w.slotReg ++ [s] }) ∨
    Move (some id) w (w.pollOp id) := by
  rcases pollOp_spec w id with h | h | ⟨st, w0, ho, hp, hend⟩
  · exact Or.inl h
  · exact Or.inr (Or.inl h)
  right; right
  rcases hend with ⟨o, _, e, why, _⟩ | ⟨m, s, k, hw, _, e, _⟩
  · rw [e]
    rcases why with ⟨rfl, hmis⟩ | ⟨⟨r, rfl⟩, _⟩
    · rw [endOp]
      exact .finish id _ ho (by simp [hp.ops]) (by simp [hp.queue]) (by simp [hp.userFrame.c]) (by simpa using hp.pidOk)
        (fun s' h2 => by rw [senderGone_slot, emit_slot]; exact hp.slot_of_ne h2)
        (Or.inr (Or.inr ⟨by simp [hp.out], hmis⟩))
    · exact finishOp_move ho hp r
  · rw [e]
    refine sendAwait_move ho hp m s k ?_ hw.slot ?_
    · rcases hw.shape with ⟨h, req, rfl, rfl, rfl⟩ | h
      · exact Or.inl ⟨h, req, rfl, rfl, reqWait_ne_pubcomp req⟩
      · exact Or.inr h
    · rcases hw with ⟨h, req, rfl, rfl, rfl, rfl⟩ | ⟨s0, a, rfl, hs, ha, rfl, rfl, rfl⟩
      · exact fun hp _ => reqMsg_ok w id req hp
      · exact fun _ hwf => ⟨7, _, rfl, (hwf s0 .pubrec (.pubrec a) rfl hs).2, rfl⟩

theorem pollOp_one (w : World) (id : Nat) :
    w.pollOp id = w ∨ Move none w (w.pollOp id) ∨ Move (some id) w (w.pollOp id) := by
  rcases pollOp_move w id with ⟨_, e⟩ | ⟨s, k, _, _, e⟩ | h
  · exact Or.inl e
  · exact Or.inr (Or.inl (e ▸ .quiet rfl (fun _ => rfl) rfl rfl rfl (outExtP_of_eq rfl)))
  · exact Or.inr (Or.inr h)

theorem pollOp_moves (w : World) (id : Nat) : Moves (OpTag id) w (w.pollOp id) := by
  rcases pollOp_one w id with h | h | h
  · rw [h]; exact .refl w
  · exact .one h
  · exact .one h

theorem dropOp_move (w : World) (id : Nat) : w.dropOp id = w ∨ Move (some id) w (w.dropOp id) := by
  rcases dropOp_spec w id with ⟨_, e⟩ | ⟨st, w0, ho, hp, e⟩
  · exact Or.inl e
  · rw [e]
    have f : w0.ops = w.ops ∧ w0.queue = w.queue ∧ w0.c = w.c ∧ w0.pidCtr = w.pidCtr ∧ w0.out = w.out := by
      cases hp <;> exact ⟨rfl, rfl, rfl, rfl, rfl⟩
    refine Or.inr (.finish id st ho (by simp [eraseOp, f.1]) (by simp [eraseOp, f.2.1]) (by simp [eraseOp, f.2.2.1])
      (by simp [eraseOp, f.2.2.2.1]) (fun s' hs' => ?_) (Or.inl (by simp [eraseOp, f.2.2.2.2])))
    rw [eraseOp, senderGone_slot]
    cases hp with
    | fresh => rfl
    | wait s k => exact lookupFirst_eraseFirst_of_ne (fun e : s' = s => hs' k (e ▸ rfl)) _

theorem dropOp_moves (w : World) (id : Nat) : Moves (OpTag id) w (w.dropOp id) := by
  rcases dropOp_move w id with h | h
  · rw [h]; exact .refl w
  · exact .one h

theorem pollStream_moves (w : World) (id : Nat) : Moves CtxTag w (w.pollStream id) := by
  rcases pollStream_shape w id with ⟨_, e⟩ | ⟨ch, p, rest, _, _, _, e⟩ | ⟨ch, _, _, _, _, e⟩ | ⟨ch, _, _, _, _, e⟩ <;>
    rw [e]
  · exact .refl w
  · exact .one (.quiet rfl (fun _ => rfl) rfl rfl rfl (outExtP_one _ rfl ⟨by simp, by simp⟩))
  · exact .one (.quiet rfl (fun _ => rfl) rfl rfl rfl (outExtP_of_eq rfl))
  · exact .one (.quiet rfl (fun _ => rfl) rfl rfl rfl (outExtP_one _ rfl ⟨by simp, by simp⟩))

theorem move_unwake (w : World) (t : Task) : Move none w (w.unwake t) :=
  .quiet rfl (fun _ => rfl) rfl rfl rfl (outExtP_of_eq rfl)

theorem pollTaskAny_moves {w : World} {t : Task} {w' : World} (h : PollTaskAny w t w') : Moves (TaskTag t) w w' := by
  obtain ⟨sched, rfl⟩ := h
  cases t with
  | ctx => exact .step (move_unwake w _) (pollCtxS_moves sched _)
  | op id => exact .step (move_unwake w _) (pollOp_moves _ id)
  | st id => exact .step (move_unwake w _) (pollStream_moves _ id)

theorem pollTask_moves (w : World) (t : Task) : Moves (TaskTag t) w (w.pollTask t) :=
  pollTaskAny_moves (pollTaskAny_pollTask w t)

theorem moves_opSt_ne {A : Option Nat → Prop} {w w' : World} (m : Moves A w w') (id : Nat)
    (hA : ∀ t, A t → t ≠ some id) : w'.opSt id = w.opSt id := by
  induction m with
  | refl => rfl
  | @cons t a b c ht mv _ ih =>
    rw [ih]
    have hne := hA t ht
    cases mv with
    | cmsg m q hq queue ops => simp only [opSt, ops]
    | cpkt p aid slot pre post wf haid haw hpre aw queue ops => simp only [opSt, ops]
    | drop queue aw ops => simp only [opSt, ops]
    | finish j st hst ops =>
      have : id ≠ j := fun e => hne (by rw [e])
      simp only [opSt, ops, lookupFirst_eraseFirst_of_ne this _]
    | send j st m s k hst shape ops =>
      have : id ≠ j := fun e => hne (by rw [e])
      simp only [opSt, ops, lookupFirst_setAssoc_of_ne this _ _]

theorem taskTag_ne {t : Task} {id : Nat} (h : t ≠ .op id) : ¬ TaskTag t (some id) := by
  cases t with
  | ctx => exact nofun
  | st n => exact nofun
  | op n => rintro (e | e) <;> cases e; exact h rfl

theorem pollTask_opSt_ne (w : World) (t : Task) (id : Nat) (h : t ≠ .op id) :
    (w.pollTask t).opSt id = w.opSt id :=
  moves_opSt_ne (pollTask_moves w t) id fun _ hx e => taskTag_ne h (e ▸ hx)

/-- the script event `op id h req` accepted: a fresh future appears in `ops` -/
structure AddOp (id h : Nat) (req : Req) (w w' : World) : Prop where
  fresh : w.opSt id = none
  ops : w'.ops = w.ops ++ [(id, .fresh h req)]
  slots : ∀ s, w'.slot s = w.slot s
  queue : w'.queue = w.queue
  aw : w'.c.awaiting = w.c.awaiting
  pid : w'.pidCtr = w.pidCtr
  out : w'.out = w.out

theorem AddOp.mem_ops {id h : Nat} {req : Req} {w w' : World} (a : AddOp id h req w w') {j : Nat} {st : OpSt} :
    (j, st) ∈ w'.ops ↔ (j, st) ∈ w.ops ∨ (j = id ∧ st = .fresh h req) := by
  rw [a.ops]; simp only [List.mem_append, List.mem_singleton, Prod.mk.injEq]

theorem flushRaw_neutral (w : World) : OutExtP Neutral w w.flushRaw := flushRaw_outExtP w (.of_ctxLine (.wraw _))

theorem flushRaw_move (w : World) : Move none w w.flushRaw := by
  obtain ⟨ou, wp, e⟩ := flushRaw_frame w
  have h := flushRaw_neutral w
  rw [e] at h ⊢
  exact .quiet rfl (fun _ => rfl) rfl rfl rfl h

theorem CloseInv.slotRel {w w' : World} (inv : CloseInv w w') : SlotRel (fun _ _ => False) w w' := by
  intro s
  cases hv : w.slot s with
  | none => exact .inl (inv.slotNone s hv)
  | some sl =>
    cases sl with
    | empty => exact (inv.slotEmpty s hv).imp id fun h => ⟨rfl, .inl h⟩
    | full v => exact .inl (inv.slotFull s v hv)
    | closed => exact .inl (inv.slotClosed s hv)

theorem dropCtx_move (w : World) :
    Move none w { dropCtxClosed w with queue := [], c := {} } :=
  have inv := closes_inv (closes_dropCtxClosed w)
  .drop (List.nil_sublist _) (List.nil_sublist _) inv.ops_eq inv.pidCtr_eq (outExtP_of_eq inv.out_eq) inv.slotRel

/-- the handle future a script event can advance: the polled one, or the dropped one -/
abbrev EvTag : Ev → Option Nat → Prop
  | .poll t => TaskTag t
  | .drop (.op id) => OpTag id
  | _ => CtxTag

theorem evTag_none (e : Ev) : EvTag e none := by
  cases e with
  | poll t =>
    cases t with
    | op id => exact Or.inl rfl
    | _ => exact rfl
  | drop t =>
    cases t with
    | op id => exact Or.inl rfl
    | _ => exact rfl
  | _ => exact rfl

theorem Applied.decomp {w w' : World} {e : Ev} (h : Applied w e w') :
    (∃ id hd req, e = .op id hd req ∧ AddOp id hd req w w') ∨ Moves (EvTag e) w w' := by
  have ctx : ∀ {e : Ev} {w' : World}, Moves CtxTag w w' →
      (∃ id hd req, e = .op id hd req ∧ AddOp id hd req w w') ∨ Moves (EvTag e) w w' :=
    fun h => Or.inr (h.mono fun t ht => ht ▸ evTag_none _)
  -- nothing of the bookkeeping moves, one neutral line at most
  have q : ∀ w' : World, w'.ops = w.ops → w'.slots = w.slots → w'.queue = w.queue →
      w'.c.awaiting = w.c.awaiting → w'.pidCtr = w.pidCtr → OutExtP Neutral w w' → Moves CtxTag w w' :=
    fun w' a b c d e f => .one (.quiet a (fun _ => by simp only [slot, b]) c d e f)
  cases h.norm with
  | same e => exact ctx (.refl w)
  | poll t _ => exact Or.inr (pollTask_moves w t)
  | bad e => exact ctx (q _ rfl rfl rfl rfl rfl (outExtP_one .badscript rfl ⟨by simp, by simp⟩))
  | snap => exact ctx (q _ rfl rfl rfl rfl rfl (outExtP_one (.state w.c) rfl ⟨by simp, by simp⟩))
  | newConn ou wp ef =>
    have hn := flushRaw_neutral w
    rw [ef] at hn
    exact ctx (q _ rfl rfl rfl rfl rfl hn)
  | newCtx =>
    exact ctx (.one (.drop (List.Sublist.refl _) (List.nil_sublist _) rfl rfl (outExtP_of_eq rfl)
      (slotRel_of_eq fun _ => rfl)))
  | dropCtx sl sr ch wk ed _ =>
    have hm := dropCtx_move w
    rw [ed] at hm
    exact ctx (.one hm)
  | op id hd req _ ho => exact Or.inl ⟨id, hd, req, rfl, ho, rfl, fun _ => rfl, rfl, rfl, rfl, rfl⟩
  | dropOp id o sl sr ch wk qr ed => exact ed ▸ Or.inr (dropOp_moves w id)
  | _ => exact ctx (q _ rfl rfl rfl rfl rfl (outExtP_of_eq rfl))

theorem apply_decomp (w : World) (e : Ev) :
    (∃ id h req, e = .op id h req ∧ AddOp id h req w (w.apply e)) ∨ Moves (EvTag e) w (w.apply e) :=
  (apply_spec w e).decomp

theorem applyAny_decomp {w : World} {e : Ev} {w' : World} (h : ApplyAny w e w') :
    (∃ id hd req, e = .op id hd req ∧ AddOp id hd req w w') ∨ Moves (EvTag e) w w' := by
  rcases h.cases with ⟨t, rfl, _, hp⟩ | rfl
  · exact Or.inr (pollTaskAny_moves hp)
  · exact apply_decomp w e

theorem stepAny_decomp {w : World} {e : Ev} {w' : World} (h : StepAny w e w') :
    w' = w ∨
    (∃ id hd req w1, e = .op id hd req ∧ AddOp id hd req (w.emit (.ev e)) w1 ∧ Moves AnyTag w1 w') ∨
    Moves AnyTag (w.emit (.ev e)) w' := by
  rcases h.cases with ⟨_, rfl⟩ | ⟨_, w1, ha, h⟩
  · exact Or.inl rfl
  · right
    have tail : Moves AnyTag w1 w' := by
      rcases h with ⟨_, rfl⟩ | ⟨_, w3, hx, h⟩
      · exact .refl _
      · have h3 : Moves AnyTag w1 w3 := ExecAny.lift Moves.refl Moves.trans (fun _ _ hp => (pollTaskAny_moves hp).any) hx
        rcases h with rfl | ⟨_, _, rfl⟩
        · exact h3
        · exact h3.trans (.one (move_emit w3 ⟨by simp, by simp⟩))
    rcases applyAny_decomp ha with ⟨id, hd, req, he, hadd⟩ | hm
    · exact Or.inl ⟨id, hd, req, w1, he, hadd, tail⟩
    · exact Or.inr (hm.any.trans tail)

theorem emit_ev_move (w : World) (e : Ev) : Move none w (w.emit (.ev e)) :=
  move_emit w ⟨by simp, by simp⟩

/-- `I` is kept by the five moves and by an accepted `op` event (taken together with its `EV` line) -/
structure MoveInv (I : World → Prop) : Prop where
  move : ∀ {t : Option Nat} {w w' : World}, I w → Move t w w' → I w'
  addOp : ∀ {id hd : Nat} {req : Req} {w w' : World}, I w → AddOp id hd req (w.emit (.ev (.op id hd req))) w' → I w'

theorem MoveInv.moves {I : World → Prop} (hI : MoveInv I) {A : Option Nat → Prop} {w w' : World} (m : Moves A w w')
    (h : I w) : I w' :=
  Moves.inv (fun _ _ _ hi hm => hI.move hi hm) m h

theorem MoveInv.stepAny {I : World → Prop} (hI : MoveInv I) {w : World} {e : Ev} {w' : World} (h : I w)
    (hs : StepAny w e w') : I w' := by
  rcases stepAny_decomp hs with h0 | ⟨id, hd, req, w1, he, ha, hm⟩ | hm
  · rw [h0]; exact h
  · subst he; exact hI.moves hm (hI.addOp h ha)
  · exact hI.moves hm (hI.move h (emit_ev_move w e))

theorem MoveInv.stepsAny {I : World → Prop} (hI : MoveInv I) {w : World} {evs : List Ev} {w' : World} (h : I w)
    (hs : StepsAny w evs w') : I w' :=
  StepsAny.ind (fun _ h1 h => hI.stepAny h h1) hs h

theorem MoveInv.step {I : World → Prop} (hI : MoveInv I) {w : World} (h : I w) (e : Ev) : I (w.step e) :=
  hI.stepAny h (stepAny_step w e)

theorem MoveInv.steps {I : World → Prop} (hI : MoveInv I) {w : World} (h : I w) (evs : List Ev) :
    I (evs.foldl World.step w) :=
  hI.stepsAny h (stepsAny_foldl evs w)

theorem mem_setAssoc_self {β} (k : Nat) (v : β) (l : List (Nat × β)) : (k, v) ∈ setAssoc k v l := by
  induction l with
  | nil => simp [setAssoc]
  | cons x t ih =>
    obtain ⟨a, b⟩ := x
    simp only [setAssoc]
    split
    · simp
    · simp [ih]

end World
end Poster

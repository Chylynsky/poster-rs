/-
  The prelude of `run()` on an EXPIRED session, at the World level (C17; a session that has not expired:
  Lemmas/WorldResumeLive.lean).

  The effects of `Ctx.resume` are only dropped senders (`Closes`), so the first poll of `run()` closes the oneshot of every
  waiter the session owned and shuts every subscription channel it owned. The rest of the step is polls of tasks and
  perhaps the `STALL` line; what these keep (`StepStable`) and holds after the first poll holds at the end of
  the step, where the executor is idle and so has polled every flagged task the script does not hold back. "Closed and not
  yet noticed, or already failed / ended" is stable (`Settled`, `Failed` — together `Abandoned` — and `Shut`). At the end,
  the scripts and worlds of the examples of Properties/C17World.lean.
-/
import PosterModel.Lemmas.WorldOwnStream
import PosterModel.Lemmas.WorldReachable
import PosterModel.Lemmas.WorldEx
import PosterModel.Lemmas.WorldHistEx
import PosterModel.Lemmas.WorldRet
import PosterModel.Lemmas.WorldOwnEx


namespace Poster
open Framing
namespace World
namespace W13

theorem onlyDrops_resume (c : Ctx) : OnlyDrops c.resume.2.1 := c.resume_effs_drops

/-- the world to which the prelude applies the effects of `Ctx.resume` (`resumed_eq_pre`); the binders `∃ pre post` of
    this namespace are transcript segments, not this -/
def pre (w : World) : World := { w with c := w.c.resume.1, task := .running true }

theorem resumed_eq_pre (w : World) : w.resumed = (pre w).applyEffs w.c.resume.2.1 := rfl

theorem closes_resumed (w : World) : Closes (pre w) w.resumed :=
  closes_applyEffs _ _ (onlyDrops_resume w.c)

theorem pollCtx_expired_eq (w : World) (e : Nat) (ht : w.task = .running false) (hd : w.c.disc = some e)
    (hx : w.c.sessionExpired e = true) :
    w.pollCtx = if w.resumed.canWrite 0 then runLoop w.resumed.loopFuel w.resumed
                else (w.resumed.writeBytes []).finish .run (.err .socketClosed) := by
  have h1 : w.pollCtx = w.pollRun false := pollCtx_running ht
  have h2 : w.c.resume.2.2 = [] := by rw [w.c.resume_expired_eq e hd hx]
  rw [h1, pollRun_first_eq]
  simp [resent, h2]

theorem hand_after_resumed (w : World) (e : Nat) (ht : w.task = .running false) (hd : w.c.disc = some e)
    (hx : w.c.sessionExpired e = true) : Hand w.resumed w.pollCtx := by
  rw [pollCtx_expired_eq w e ht hd hx]
  split
  · exact hand_runLoop _ _
  · exact hand_trans (hand_inert (.write _ _)) (hand_finish _ _ _)

theorem expired_poll_slot (w : World) (e : Nat) (ht : w.task = .running false) (hd : w.c.disc = some e)
    (hx : w.c.sessionExpired e = true) (aid s : Nat) (hs : (aid, s) ∈ w.c.awaiting) :
    (w.slot s = some .empty → w.pollCtx.slot s = some .closed) ∧ w.pollCtx.slot s ≠ some .empty := by
  have hcl := closes_inv (closes_resumed w)
  have hact := (hand_after_resumed w e ht hd hx).act
  have hset : w.resumed.slot s ≠ some .empty := by
    rw [resumed_eq_pre]
    refine applyEffs_settles _ _ s (Or.inr ?_)
    rw [w.c.resume_expired_eq e hd hx]
    simp only [List.mem_append, List.mem_map]
    exact Or.inl ⟨(aid, s), hs, rfl⟩
  have hps : (pre w).slot s = w.slot s := rfl
  refine ⟨fun he => ?_, by rw [hact.slot_ne_empty s hset]; exact hset⟩
  rcases hcl.slotEmpty s (by rw [hps]; exact he) with h | h
  · exact absurd h hset
  · exact hact.slotClosed s h

theorem expired_poll_chan (w : World) (e : Nat) (ht : w.task = .running false) (hd : w.c.disc = some e)
    (hx : w.c.sessionExpired e = true) (sid ch : Nat) (hs : (sid, ch) ∈ w.c.subs) :
    TxGone w.pollCtx ch ∧
    (∀ c0, w.chan ch = some c0 → ∃ c1, w.resumed.chan ch = some c1 ∧ c1.buf = c0.buf ∧ c1.txAlive = false) ∧
    (∀ c0, w.chan ch = some c0 → c0.txAlive = true → c0.reg = true → Task.st ch ∈ w.pollCtx.woken) := by
  have hcl := closes_inv (closes_resumed w)
  have hact := (hand_after_resumed w e ht hd hx).act
  have hshut : ChanShut w.resumed ch := by
    rw [resumed_eq_pre]
    refine chanShut_applyEffs _ _ (onlyDrops_resume w.c) ch ?_
    rw [w.c.resume_expired_eq e hd hx]
    exact List.mem_append_right _ (List.mem_map.2 ⟨(sid, ch), hs, rfl⟩)
  have hgone : TxGone w.resumed ch := fun c1 h => (hshut c1 h).1
  refine ⟨hact.txGone ch hgone, fun c0 hc0 => ?_, fun c0 hc0 hta hr => ?_⟩
  · obtain ⟨c1, e1, e2, _⟩ := hcl.chanSome ch c0 hc0
    exact ⟨c1, e1, e2, hgone c1 e1⟩
  · rcases hcl.chanWake ch c0 hc0 hr with ⟨c1, e1, e2⟩ | h
    · -- still registered after the prelude is impossible: dropping the sender resets the registration
      exact absurd e2 (by rw [(hshut c1 e1).2]; simp)
    · exact hact.wokenMono _ h

/-- `b` is `a` after zero or more polls of tasks, the shape of what the executor's drain and sweep do; no lemma ties them
    to it, the step lemmas go through `StepStable` (unrelated to `Era.Polls`, the obligations of an erasure) -/
inductive Polls : World → World → Prop
  | refl (w : World) : Polls w w
  | tail {a b : World} (t : Task) : Polls a b → Polls a (b.pollTask t)

/-- what the executor's part of a script step keeps: the invariant `I` and, in worlds satisfying `I`, the predicate `P`
    survive every poll of a task; both survive the `STALL` line -/
structure StepStable (I P : World → Prop) : Prop where
  inv : ∀ w t, I w → I (w.pollTask t)
  keep : ∀ w t, I w → P w → P (w.pollTask t)
  invStall : ∀ w, I w → I (w.emit .stall)
  keepStall : ∀ w, P w → P (w.emit .stall)

section StepStable
variable {I P : World → Prop} (st : StepStable I P)
include st

theorem StepStable.settle (w1 : World) (h : I w1 ∧ P w1) : I w1.settle ∧ P w1.settle :=
  settle_lift (R := fun a b => I a ∧ P a → I b ∧ P b) (fun _ h => h) (fun f g h => g (f h))
    (fun w t _ _ h => ⟨st.inv w t h.1, st.keep w t h.1 h.2⟩) (fun w h => ⟨st.invStall _ h.1, st.keepStall _ h.2⟩) w1 h

/-- `StepStable.settle` from what holds after the executor's first poll -/
theorem StepStable.settle_pick {w1 : World} {t : Task} (hb : w1.bad = false) (hp : w1.pick = some t)
    (h : I (w1.pollTask t) ∧ P (w1.pollTask t)) : I w1.settle ∧ P w1.settle := by
  have dr : ∀ f w, I w ∧ P w → I (drain f w) ∧ P (drain f w) :=
    drain_lift (R := fun a b => I a ∧ P a → I b ∧ P b) (fun _ h => h) (fun f g h => g (f h))
      fun w t _ h => ⟨st.inv w t h.1, st.keep w t h.1 h.2⟩
  have sw : ∀ w : World, I w ∧ P w → I w.sweep ∧ P w.sweep :=
    sweep_lift (R := fun a b => I a ∧ P a → I b ∧ P b) (fun _ h => h) (fun f g h => g (f h))
      fun w t _ _ h => ⟨st.inv w t h.1, st.keep w t h.1 h.2⟩
  have hd : I (drained w1) ∧ P (drained w1) := by
    unfold drained
    simp only
    rw [drain_pick _ w1 t (by unfold drainFuel; omega) hp]
    split
    · exact dr _ _ (sw _ (dr _ _ h))
    · exact dr _ _ h
  rw [settle_eq, hb, if_neg Bool.false_ne_true]
  split
  · exact ⟨st.invStall _ hd.1, st.keepStall _ hd.2⟩
  · exact hd

end StepStable

theorem polls_both {a b : World} (h : Polls a b) (hb : Both a) : Both b := by
  induction h with
  | refl => exact hb
  | tail t _ ih => exact both_pollTask _ t ih

theorem polls_out_prefix {a b : World} (h : Polls a b) : ∃ added, b.out = a.out ++ added := by
  induction h with
  | refl => exact ⟨[], by simp⟩
  | tail t _ ih =>
    obtain ⟨x, ex⟩ := ih
    obtain ⟨y, ey, _⟩ := pollTask_line _ t
    exact ⟨x ++ y, by rw [ey, ex, List.append_assoc]⟩

/-- the script's `HOLD`s are not the executor's to change -/
theorem held_stable (hd : List Task) : StepStable (fun _ => True) (fun w => w.held = hd) :=
  ⟨fun _ _ _ => trivial, fun w t _ h => (pollTask_pollFrame w t).held.trans h, fun _ _ => trivial, fun _ h => h⟩

theorem pollTask_slot_other (w : World) (t : Task) (ho : OwnInv w) (s : Nat) (ht : t ≠ .op (s / 2))
    (hs : w.slot s ≠ some .empty) : (w.pollTask t).slot s = w.slot s := by
  cases t with
  | ctx => exact (hand_pollCtx (w.unwake .ctx)).act.slot_ne_empty s hs
  | op id' =>
    have f := (own_pollOp_task w id' ho).frame
    exact f.slot s (fun e => ht (by rw [e]))
  | st n =>
    show lookupFirst s ((w.unwake (.st n)).pollStream n).slots = _
    rw [(W7.pollStream_ops_slots _ _).2]; rfl

theorem pollOp_wait_cases (w : World) (id s : Nat) (k : Wait) (hn : (w.ops.map (·.1)).Nodup)
    (hop : w.opSt id = some (.wait s k)) :
    ((w.slot s = some .empty ∨ w.slot s = none) ∧ (w.pollOp id).opSt id = some (.wait s k)) ∨
    (((∃ v, w.slot s = some (.full v)) ∨ w.slot s = some .closed) ∧
      ((w.pollOp id).opSt id = none ∨ (w.pollOp id).opSt id = some (.wait (s + 1) .pubcomp))) := by
  rcases pollOp_spec w id with ⟨ho, _⟩ | ⟨s', k', ho, hs, e⟩ | ⟨st, w0, ho, hp, hend⟩
  · rw [hop] at ho; cases ho
  · obtain ⟨rfl, rfl⟩ : s' = s ∧ k' = k := by rw [hop] at ho; cases ho; exact ⟨rfl, rfl⟩
    exact Or.inl ⟨hs.symm, by rw [e]; exact hop⟩
  · obtain rfl : st = .wait s k := by rw [hop] at ho; exact (Option.some.inj ho).symm
    refine Or.inr ⟨?_, ?_⟩
    · cases hp with
      | wait _ _ rs h _ => exact h.symm
    rcases hend with ⟨o, _, e, _⟩ | ⟨m, s1, k1, hw, hc, e, _⟩
    · exact Or.inl (by rw [e]; exact endOp_opSt_self (by rw [hp.ops]; exact hn) id o)
    · -- only the PUBREL after a good PUBREC is sent from a waiting state
      rcases hw with ⟨_, _, h, _⟩ | ⟨s0, a, h, _, _, _, rfl, rfl⟩
      · cases h
      · cases h
        obtain ⟨wk, qr, e'⟩ := User.sendAwait_ctx w0 m id (s + 1) .pubcomp hc
        exact Or.inr (by rw [e]; exact opSt_setWait id _ _ (by rw [e']))

/-- operation `id`, which waited with kind `k` on the oneshot `s`: it has completed, or still waits there but the
    oneshot is no longer `empty` (so the operation is flagged: `OwnInv.waitDone`), or it has moved on to a later
    oneshot -/
def Settled (id s : Nat) (k : Wait) (w : World) : Prop :=
  w.opSt id = none ∨ (w.opSt id = some (.wait s k) ∧ w.slot s ≠ some .empty) ∨
  (∃ s' k', w.opSt id = some (.wait s' k') ∧ s < s')

theorem settled_pollTask (id s : Nat) (k : Wait) (w : World) (t : Task) (ho : OwnInv w)
    (h : Settled id s k w) : Settled id s k (w.pollTask t) := by
  by_cases ht : t = .op id
  · subst ht
    have hu : ((w.unwake (.op id)).ops.map (·.1)).Nodup := by simpa using ho.nodup
    show Settled id s k ((w.unwake (.op id)).pollOp id)
    rcases h with h | ⟨h1, h2⟩ | ⟨s', k', h1, h2⟩
    · left
      rw [pollOp_of_none (w := w.unwake (.op id)) h]; exact h
    · rcases pollOp_wait_cases (w.unwake (.op id)) id s k hu h1 with ⟨hs, _⟩ | ⟨_, hr | hr⟩
      · exfalso
        rcases hs with hs | hs
        · exact h2 hs
        · exact ho.slotSome id s k h1 hs
      · exact Or.inl hr
      · exact Or.inr (Or.inr ⟨_, _, hr, Nat.lt_succ_self s⟩)
    · rcases pollOp_wait_cases (w.unwake (.op id)) id s' k' hu h1 with ⟨_, hr⟩ | ⟨_, hr | hr⟩
      · exact Or.inr (Or.inr ⟨_, _, hr, h2⟩)
      · exact Or.inl hr
      · exact Or.inr (Or.inr ⟨_, _, hr, Nat.lt_succ_of_lt h2⟩)
  · have e1 := pollTask_opSt_ne w t id ht
    rcases h with h | ⟨h1, h2⟩ | ⟨s', k', h1, h2⟩
    · exact Or.inl (by rw [e1]; exact h)
    · refine Or.inr (Or.inl ⟨by rw [e1]; exact h1, ?_⟩)
      rw [pollTask_slot_other w t ho s (by rw [(ho.slotOf id s k h1).half]; exact ht) h2]
      exact h2
    · exact Or.inr (Or.inr ⟨s', k', by rw [e1]; exact h1, h2⟩)

theorem settled_idle (id s : Nat) (k : Wait) (w : World) (ho : OwnInv w) (h : Settled id s k w)
    (hm : (id, OpSt.wait s k) ∈ w.ops) (hq : w.pick = none) : Task.op id ∈ w.held := by
  have hop := ho.opSt_of_mem hm
  have hne : w.slot s ≠ some .empty := by
    rcases h with h | ⟨_, h⟩ | ⟨s', k', h1, h2⟩
    · rw [hop] at h; cases h
    · exact h
    · rw [hop] at h1; cases h1; exact absurd h2 (Nat.lt_irrefl _)
  exact pick_none_held w _ hq (ho.waitDone id s k hop hne) (by simp [taskLive, hop])

/-- operation `id` waits on the CLOSED oneshot `s`, or `DONE id Err(ContextExited)` has been logged after position `n0` -/
def Failed (id s : Nat) (k : Wait) (n0 : Nat) (w : World) : Prop :=
  n0 ≤ w.out.length ∧
  ((w.opSt id = some (.wait s k) ∧ w.slot s = some .closed) ∨
   ∃ pre post, w.out = pre ++ Obs.done id (.err .contextExited) :: post ∧ n0 ≤ pre.length)

theorem failed_pollTask (id s : Nat) (k : Wait) (n0 : Nat) (w : World) (t : Task) (ho : OwnInv w)
    (h : Failed id s k n0 w) : Failed id s k n0 (w.pollTask t) := by
  obtain ⟨added, eo, _⟩ := pollTask_line w t
  obtain ⟨hn0, h⟩ := h
  refine ⟨by rw [eo, List.length_append]; omega, ?_⟩
  rcases h with ⟨h1, h2⟩ | ⟨pre, post, e, hp⟩
  · by_cases ht : t = .op id
    · subst ht
      right
      have hop : (w.unwake (.op id)).opSt id = some (.wait s k) := h1
      have hsl : (w.unwake (.op id)).slot s = some .closed := h2
      have e : (w.pollTask (.op id)).out = w.out ++ [.done id (.err .contextExited)] := by
        show ((w.unwake (.op id)).pollOp id).out = _
        rw [pollOp_of_closed hop hsl]; exact User.finishOp_out _ _ _
      exact ⟨w.out, [], e, hn0⟩
    · left
      refine ⟨by rw [pollTask_opSt_ne w t id ht]; exact h1, ?_⟩
      rw [pollTask_slot_other w t ho s (by rw [(ho.slotOf id s k h1).half]; exact ht) (by rw [h2]; simp)]
      exact h2
  · exact Or.inr ⟨pre, post ++ added, by rw [eo, e]; simp, hp⟩

theorem failed_idle (id s : Nat) (k : Wait) (n0 : Nat) (w : World) (ho : OwnInv w) (h : Failed id s k n0 w)
    (hq : w.pick = none) (hh : Task.op id ∉ w.held) :
    ∃ pre post, w.out = pre ++ Obs.done id (.err .contextExited) :: post ∧ n0 ≤ pre.length := by
  rcases h.2 with ⟨h1, h2⟩ | h
  · exfalso
    exact hh (pick_none_held w _ hq (ho.waitDone id s k h1 (by rw [h2]; simp)) (by simp [taskLive, h1]))
  · exact h

theorem txGone_pollStream (w : World) (n ch : Nat) (hn : (w.chans.map (·.1)).Nodup) (h : TxGone w ch) :
    TxGone (w.pollStream n) ch := by
  -- rewriting the channel of `n` without touching its sending half
  have set : ∀ c0 c1 : Chan, w.chan n = some c0 → c1.txAlive = c0.txAlive → TxGone (w.setChan n c1) ch := by
    intro c0 c1 hc0 e1 c2 hc2
    simp only [chan, setChan_chans', lookupFirst_setAssoc] at hc2
    split at hc2
    · rename_i e; subst e
      obtain rfl := Option.some.inj hc2
      rw [e1]; exact h c0 hc0
    · exact h c2 hc2
  rcases pollStream_shape w n with ⟨_, e⟩ | ⟨c, p, rest, _, hc, _, e⟩ | ⟨c, _, hc, _, _, e⟩ | ⟨c, _, _, _, _, e⟩ <;>
    rw [e]
  · exact h
  · exact set c { c with buf := rest } hc rfl
  · exact set c _ hc rfl
  · intro c2 hc2
    simp only [chan] at hc2
    by_cases e : ch = n
    · subst e
      rw [lookupFirst_eraseFirst_self _ _ hn] at hc2
      cases hc2
    · rw [lookupFirst_eraseFirst_of_ne e _] at hc2
      exact h c2 hc2

/-- the stream `ch`, if it is still there, reads from a channel without a sender -/
def Shut (ch : Nat) (w : World) : Prop := ch ∈ w.streams → TxGone w ch

theorem pollStream_streams_sub (w : World) (n ch : Nat) (h : ch ∈ (w.pollStream n).streams) : ch ∈ w.streams := by
  obtain ⟨_, _, _, _, e, hst⟩ := pollStream_footprint w n
  rw [e] at h; exact hst ch h

theorem shut_pollTask (ch : Nat) (w : World) (t : Task) (hb : Both w) (h : Shut ch w) : Shut ch (w.pollTask t) := by
  intro hin
  cases t with
  | ctx =>
    have a := (hand_pollCtx (w.unwake .ctx)).act
    have hin' : ch ∈ w.streams := by
      have : (w.unwake .ctx).pollCtx.streams = w.streams := by rw [a.streams_eq]; rfl
      rw [← this]; exact hin
    exact a.txGone ch (h hin')
  | op id' =>
    have f := (own_pollOp_task w id' hb.own).frame
    have hin' : ch ∈ w.streams := by rw [← f.streams_eq]; exact hin
    by_cases e : ch = id'
    · subst e
      have hnone : w.opSt ch = none := hb.str.disjS ch hin'
      have e1 : w.pollTask (.op ch) = w.unwake (.op ch) := pollOp_of_none (w := w.unwake (.op ch)) hnone
      rw [e1]; exact h hin'
    · intro c1 hc1
      have hc1' : ((w.unwake (.op id')).pollOp id').chan ch = some c1 := hc1
      rw [f.chan ch e] at hc1'
      exact h hin' c1 hc1'
  | st n =>
    have hin' : ch ∈ w.streams := by
      have := pollStream_streams_sub (w.unwake (.st n)) n ch hin
      simpa using this
    exact txGone_pollStream (w.unwake (.st n)) n ch (by simpa using hb.own.chanNodup) (h hin')

/-- with an idle executor, a stream whose channel has no sender is held by the script (otherwise it would have been
    polled to its end) -/
theorem shut_idle (ch : Nat) (w : World) (hb : Both w) (h : Shut ch w) (hin : ch ∈ w.streams) (hq : w.pick = none) :
    Task.st ch ∈ w.held := by
  obtain ⟨c0, hc0, hfl⟩ := hb.str.strOk ch hin
  have hw : Task.st ch ∈ w.woken := by
    rcases hfl with hfl | ⟨_, _, hta⟩
    · exact hfl
    · rw [h hin c0 hc0] at hta; cases hta
  exact pick_none_held w _ hq hw (by simp [taskLive, hin])

theorem step_of_good {w : World} (e : Ev) (hb : w.bad = false) : w.step e = ((w.emit (.ev e)).apply e).settle := by
  rw [step_eq_settle, hb, if_neg Bool.false_ne_true]

/-- the operation `id`, which waited with kind `k` on a oneshot `s` owned by an expired session, from the first poll of
    `run()` on: the script holds the tasks `hd` it held before, the operation is settled, and — if the oneshot had no
    value before that poll (`e`) — it has failed, its `DONE` logged after position `n0` -/
def Abandoned (id s : Nat) (k : Wait) (n0 : Nat) (hd : List Task) (e : Prop) (w : World) : Prop :=
  w.held = hd ∧ Settled id s k w ∧ (e → Failed id s k n0 w)

theorem abandoned_stable (id s : Nat) (k : Wait) (n0 : Nat) (hd : List Task) (e : Prop) :
    StepStable OwnInv (Abandoned id s k n0 hd e) where
  inv := own_pollTask
  keep := fun w t ho h =>
    ⟨(pollTask_pollFrame w t).held.trans h.1, settled_pollTask id s k w t ho h.2.1, fun he => failed_pollTask id s k n0 w t ho (h.2.2 he)⟩
  invStall := fun w ho => own_emit w _ ho
  keepStall := fun w h => by
    refine ⟨h.1, h.2.1, fun he => ?_⟩
    obtain ⟨hn, hf⟩ := h.2.2 he
    refine ⟨Nat.le_trans hn (by simp [emit]), hf.imp (fun h => h) fun ⟨pre, post, eo, hp⟩ => ⟨pre, post ++ [.stall], ?_, hp⟩⟩
    show w.out ++ [Obs.stall] = _
    rw [eo, List.append_assoc]; rfl

theorem Abandoned.idle {id s : Nat} {k : Wait} {n0 : Nat} {hd : List Task} {e : Prop} {w : World} (ho : OwnInv w)
    (h : Abandoned id s k n0 hd e w) (hq : w.pick = none) :
    ((id, OpSt.wait s k) ∈ w.ops → Task.op id ∈ w.held) ∧
    (e → Task.op id ∉ hd → ∃ pre post, w.out = pre ++ Obs.done id (.err .contextExited) :: post ∧ n0 ≤ pre.length) :=
  ⟨fun hm => settled_idle id s k w ho h.2.1 hm hq,
    fun he hh => failed_idle id s k n0 w ho (h.2.2 he) hq (by rw [h.1]; exact hh)⟩

theorem abandoned_first_poll (w0 : World) (ho : OwnInv w0) (el : Nat) (ht : w0.task = .running false)
    (hd : w0.c.disc = some el) (hx : w0.c.sessionExpired el = true) (id s : Nat) (k : Wait) (aid : Nat)
    (hm : (id, OpSt.wait s k) ∈ w0.ops) (ha : (aid, s) ∈ w0.c.awaiting) :
    Abandoned id s k w0.out.length w0.held (w0.slot s = some .empty) (w0.pollTask .ctx) := by
  obtain ⟨s1, s3⟩ := expired_poll_slot (w0.unwake .ctx) el ht hd hx aid s ha
  have hop1 : (w0.pollTask .ctx).opSt id = some (.wait s k) := by
    rw [pollTask_opSt_ne w0 .ctx id (by simp)]; exact ho.opSt_of_mem hm
  obtain ⟨added, eo, _⟩ := pollTask_line w0 .ctx
  exact ⟨(pollTask_pollFrame w0 .ctx).held, Or.inr (Or.inl ⟨hop1, s3⟩),
    fun he => ⟨by rw [eo, List.length_append]; omega, Or.inl ⟨hop1, s1 he⟩⟩⟩

theorem shut_stable (ch : Nat) : StepStable Both (Shut ch) :=
  ⟨both_pollTask, shut_pollTask ch, fun w h => both_emit w _ h, fun _ h => h⟩

theorem step_expired_ops (w : World) (e : Ev) (hw : W11.Reachable w)
    (hb : w.bad = false) (el : Nat) (hb1 : ((w.emit (.ev e)).apply e).bad = false)
    (hp : ((w.emit (.ev e)).apply e).pick = some .ctx)
    (ht : ((w.emit (.ev e)).apply e).task = .running false)
    (hd : ((w.emit (.ev e)).apply e).c.disc = some el)
    (hx : ((w.emit (.ev e)).apply e).c.sessionExpired el = true)
    (id s : Nat) (k : Wait) (aid : Nat) (hm : (id, OpSt.wait s k) ∈ ((w.emit (.ev e)).apply e).ops)
    (ha : (aid, s) ∈ ((w.emit (.ev e)).apply e).c.awaiting) :
    ((id, OpSt.wait s k) ∈ (w.step e).ops → Task.op id ∈ (w.step e).held) ∧
    (((w.emit (.ev e)).apply e).slot s = some .empty → Task.op id ∉ ((w.emit (.ev e)).apply e).held →
      ∃ pre post, (w.step e).out = pre ++ Obs.done id (.err .contextExited) :: post ∧
        ((w.emit (.ev e)).apply e).out.length ≤ pre.length) := by
  have hq : (w.step e).pick = none :=
    W5.stepAny_pick (stepAny_step w e) hw.own hw.reg (hw.quiet.resolve_left (by rw [hb]; nofun))
  have ho0 : OwnInv ((w.emit (.ev e)).apply e) := own_apply _ e (own_emit w _ hw.own)
  rw [step_of_good e hb] at hq ⊢
  obtain ⟨ho2, h2⟩ := (abandoned_stable id s k _ _ _).settle_pick hb1 hp
    ⟨own_pollTask _ _ ho0, abandoned_first_poll _ ho0 el ht hd hx id s k aid hm ha⟩
  exact h2.idle ho2 hq

theorem step_expired_streams (w : World) (e : Ev) (hbo : Both w) (hf : opFresh w e) (hr : RegInv w)
    (hq : w.pick = none) (hb : w.bad = false) (el : Nat) (hb1 : ((w.emit (.ev e)).apply e).bad = false)
    (hp : ((w.emit (.ev e)).apply e).pick = some .ctx)
    (ht : ((w.emit (.ev e)).apply e).task = .running false)
    (hd : ((w.emit (.ev e)).apply e).c.disc = some el)
    (hx : ((w.emit (.ev e)).apply e).c.sessionExpired el = true)
    (sid ch : Nat) (ha : (sid, ch) ∈ ((w.emit (.ev e)).apply e).c.subs) :
    ch ∈ (w.step e).streams → Task.st ch ∈ (w.step e).held ∧ TxGone (w.step e) ch := by
  have hbo0 : Both ((w.emit (.ev e)).apply e) := both_apply _ e (both_emit w _ hbo) (opFresh_emit w _ e hf)
  obtain ⟨g, _, _⟩ := expired_poll_chan (((w.emit (.ev e)).apply e).unwake .ctx) el ht hd hx sid ch ha
  have hq : (w.step e).pick = none := W5.stepAny_pick (stepAny_step w e) hbo.own hr hq
  rw [step_of_good e hb] at hq ⊢
  obtain ⟨hb2, hs2⟩ := (shut_stable ch).settle_pick hb1 hp ⟨both_pollTask _ .ctx hbo0, fun _ => g⟩
  exact fun hin => ⟨shut_idle ch _ hb2 hs2 hin hq, hs2 hin⟩

/-- `step_expired_ops` when the script itself polls the context task (`POLL ctx`, e.g. while the task is held back) -/
theorem step_expired_ops_poll (w : World) (hw : W11.Reachable w)
    (hb : w.bad = false) (el : Nat) (ht : w.task = .running false) (hd : w.c.disc = some el)
    (hx : w.c.sessionExpired el = true)
    (id s : Nat) (k : Wait) (aid : Nat) (hm : (id, OpSt.wait s k) ∈ w.ops) (ha : (aid, s) ∈ w.c.awaiting) :
    ((id, OpSt.wait s k) ∈ (w.step (.poll .ctx)).ops → Task.op id ∈ (w.step (.poll .ctx)).held) ∧
    (w.slot s = some .empty → Task.op id ∉ w.held →
      ∃ pre post, (w.step (.poll .ctx)).out = pre ++ Obs.done id (.err .contextExited) :: post ∧
        w.out.length + 1 ≤ pre.length) := by
  have hlive : (w.emit (.ev (.poll .ctx))).taskLive .ctx = true := by simp [taskLive, ht]
  have happ : (w.emit (.ev (.poll .ctx))).apply (.poll .ctx) = (w.emit (.ev (.poll .ctx))).pollTask .ctx := by
    simp [apply, hlive]
  have ho0 : OwnInv (w.emit (.ev (.poll .ctx))) := own_emit w _ hw.own
  have hq : (w.step (.poll .ctx)).pick = none :=
    W5.stepAny_pick (stepAny_step w _) hw.own hw.reg (hw.quiet.resolve_left (by rw [hb]; nofun))
  rw [step_of_good _ hb, happ] at hq ⊢
  -- the event's own poll is the first poll; the executor's polls follow
  obtain ⟨ho2, h2⟩ := (abandoned_stable id s k _ _ _).settle _
    ⟨own_pollTask _ _ ho0, abandoned_first_poll _ ho0 el ht hd hx id s k aid hm ha⟩
  have hlen : (w.emit (.ev (.poll .ctx))).out.length = w.out.length + 1 := by simp [emit]
  exact hlen ▸ h2.idle ho2 hq

theorem goodFrom_append (a b : List Ev) (w : World) :
    GoodFrom w (a ++ b) ↔ GoodFrom w a ∧ GoodFrom (a.foldl step w) b := by
  induction a generalizing w with
  | nil => simp [GoodFrom]
  | cons e t ih => simp only [List.cons_append, GoodFrom, List.foldl_cons, ih, and_assoc]

/-- `HistEx.scrA` (a QoS 1 PUBLISH and a DISCONNECT are requested, a first `run()` serves both and returns), then the
    disconnection is recorded. No session expiry was ever negotiated (interval 0): the session has expired. -/
def scrExp : List Ev := HistEx.scrA ++ [.markDisc 5]

/-- the world `scrExp` reaches: operation 1 still waits, registered, for its PUBACK on the empty oneshot 2, whose sender
    sits in `awaiting_ack` -/
def wExp : World :=
  { hasCtx := true, handles := [0],
    c := { awaiting := [(actionId 4 1, 2)], retx := [(actionId 4 1, [0x3A, 6, 0, 1, 0x61, 0, 1, 0])], quota := 65534,
           disc := some 5 },
    ops := [(1, .wait 2 .puback)], slots := [(2, .empty)], slotReg := [2], pidCtr := 2, written := 12,
    out := [.ev .setup, .ev (.op 1 0 HistEx.pubQ1), .ev (.op 2 0 (.disconnect {})), .ev .run,
            .wire [0x32, 6, 0, 1, 0x61, 0, 1, 0], .wire [0xE0, 2, 0, 0], .ret .run .ok, .done 2 .ok,
            .ev (.markDisc 5)] }

theorem scrExp_foldl : scrExp.foldl World.step {} = wExp := by decide +kernel

/-- … and after the next event, `run`, has been applied: the executor is about to poll the context for the first time -/
def wExp0 : World := { wExp with task := .running false, woken := [.ctx], out := wExp.out ++ [.ev .run] }

theorem wExp_run : (wExp.emit (.ev .run)).apply .run = wExp0 := by decide +kernel

/-- `scrExp`, then the context task is held back and `run()` is called: the executor does not poll it -/
def scrExpH : List Ev := scrExp ++ [.hold .ctx, .run]

def wExpH : World :=
  { wExp with task := .running false, woken := [.ctx], held := [.ctx],
              out := wExp.out ++ [.ev (.hold .ctx), .ev .run] }

theorem scrExpH_foldl : scrExpH.foldl World.step {} = wExpH := by
  simp only [scrExpH, List.foldl_append, scrExp_foldl]
  decide +kernel

/-- `Ex.wSub` (stream 1 asleep on its subscription) after `run()` was cancelled, the disconnection recorded and `run()`
    called again, except that `woken` lacks the flag `.ctx` that the event `run` sets (compare `wExp0`; the example
    polls the context directly): the session (interval 0) has expired, the first poll is about to happen -/
def wSubExp : World := { Ex.wSub with task := .running false, c := { subs := [(1, 1)], disc := some 5 } }

/-- `Ex.wSub` after `run()` was cancelled and the disconnection recorded (before `run()` is called again) -/
def wSubD : World := { Ex.wSub with task := .none, c := { subs := [(1, 1)], disc := some 5 } }

theorem wSubD_both : Both wSubD :=
  ⟨own_congr Ex.wSub_both.own rfl rfl (fun _ h => h) (fun h => by simp [wSubD, Ex.wSub] at h),
   { Ex.wSub_both.str with }⟩

theorem wSubD_reg : RegInv wSubD := by
  intro s hs
  simp [wSubD, Ex.wSub] at hs

theorem wSubExp_both : Both wSubExp :=
  ⟨own_congr Ex.wSub_both.own rfl rfl (fun _ h => h) (fun h => by simp [wSubExp, Ex.wSub] at h),
   { Ex.wSub_both.str with }⟩

end W13
end World
end Poster

/-
  The moments of an execution: `Micro`, the elementary transitions a script step is made of, `During cfg`, their
  closure from the initial world, and `Reaches`, their closure between two worlds. What one transition does is read off
  by cases: which lines it logs (`Micro.line`; hence every line of a transcript has the transition that logged it,
  `During.line_origin`), what it does to the call of the context task (`Micro.call_cases`), and that it is a sequence of
  bookkeeping moves or an accepted `op` event (`Micro.decomp`), so that a `MoveInv` holds at every moment
  (`MoveInv.during`).
-/
import PosterModel.Lemmas.WorldOps
import PosterModel.Lemmas.WorldCtx
import PosterModel.Lemmas.WorldCtl


namespace Poster
open Framing
namespace World
namespace W7

/-- what a handle future, a stream or a bookkeeping script event cannot touch is the same; the lemmas use the field-wise
    form, `UserFrame` (Lemmas/WorldShape.lean) -/
def UFrame (w w' : World) : Prop :=
  ∃ q o sl sr wk qr ou pc sc ch rs st hd hl,
    w' = { w with queue := q, ops := o, slots := sl, slotReg := sr, woken := wk, queueReg := qr, out := ou,
                  pidCtr := pc, subCtr := sc, chans := ch, rsps := rs, streams := st, held := hd, handles := hl }

theorem UFrame.of_eq {a b : World} (h : b = a) : UFrame a b :=
  h ▸ ⟨_, _, _, _, _, _, _, _, _, _, _, _, _, _, rfl⟩

theorem UFrame.written {w w' : World} (h : UFrame w w') : w'.written = w.written := by
  obtain ⟨_, _, _, _, _, _, _, _, _, _, _, _, _, _, rfl⟩ := h; rfl
theorem UFrame.ctxDropped {w w' : World} (h : UFrame w w') : w'.ctxDropped = w.ctxDropped := by
  obtain ⟨_, _, _, _, _, _, _, _, _, _, _, _, _, _, rfl⟩ := h; rfl
theorem UFrame.reader {w w' : World} (h : UFrame w w') : w'.reader = w.reader := by
  obtain ⟨_, _, _, _, _, _, _, _, _, _, _, _, _, _, rfl⟩ := h; rfl
theorem UFrame.readerReg {w w' : World} (h : UFrame w w') : w'.readerReg = w.readerReg := by
  obtain ⟨_, _, _, _, _, _, _, _, _, _, _, _, _, _, rfl⟩ := h; rfl
theorem UFrame.bad {w w' : World} (h : UFrame w w') : w'.bad = w.bad := by
  obtain ⟨_, _, _, _, _, _, _, _, _, _, _, _, _, _, rfl⟩ := h; rfl

inductive Micro : World → World → Prop
  | ctx (w : World) : Micro w w.pollCtx
  | user (w : World) (t : Task) : t ≠ .ctx → Micro w (w.pollTask t)
  /-- the executor clears the flag of the task it is about to poll -/
  | unwake (w : World) (t : Task) : Micro w (w.unwake t)
  | ev (w : World) (e : Ev) : (∀ t, e ≠ .poll t) → w.bad = false → Micro w ((w.emit (.ev e)).apply e)
  /-- a `poll` script event is logged (the poll itself, if the task is live, is a `ctx` / `user` transition) -/
  | logged (w : World) (t : Task) : w.bad = false → Micro w (w.emit (.ev (.poll t)))
  | stall (w : World) : Micro w (w.emit .stall)
  | flush (w : World) : Micro w w.flushRaw

theorem Micro.lift_rest {R : World → World → Prop} (trans : ∀ {a b c : World}, R a b → R b c → R a c)
    (st : ∀ w id, R w (w.pollStream id)) (unwake : ∀ w t, R w (w.unwake t))
    (line : ∀ w o, (∃ e, o = .ev e) ∨ o = .stall → R w (w.emit o))
    (apply : ∀ w e, (∀ t, e ≠ .poll t) → R w (w.apply e)) (flush : ∀ w, R w w.flushRaw)
    {w w' : World} (hm : Micro w w') : w' = w.pollCtx ∨ (∃ id, w' = w.pollTask (.op id)) ∨ R w w' := by
  cases hm with
  | ctx => exact Or.inl rfl
  | user t ht =>
    cases t with
    | ctx => exact absurd rfl ht
    | op id => exact Or.inr (Or.inl ⟨id, rfl⟩)
    | st id => exact Or.inr (Or.inr (trans (unwake w _) (st _ id)))
  | unwake t => exact Or.inr (Or.inr (unwake w t))
  | ev e hp hb => exact Or.inr (Or.inr (trans (line w _ (Or.inl ⟨e, rfl⟩)) (apply _ e hp)))
  | logged t hb => exact Or.inr (Or.inr (line w _ (Or.inl ⟨_, rfl⟩)))
  | stall => exact Or.inr (Or.inr (line w _ (Or.inr rfl)))
  | flush => exact Or.inr (Or.inr (flush w))

theorem Micro.lift {R : World → World → Prop} (trans : ∀ {a b c : World}, R a b → R b c → R a c)
    (ctx : ∀ w, R w w.pollCtx) (op : ∀ w id, R w (w.pollOp id)) (st : ∀ w id, R w (w.pollStream id))
    (unwake : ∀ w t, R w (w.unwake t)) (line : ∀ w o, (∃ e, o = .ev e) ∨ o = .stall → R w (w.emit o))
    (apply : ∀ w e, (∀ t, e ≠ .poll t) → R w (w.apply e)) (flush : ∀ w, R w w.flushRaw)
    {w w' : World} (hm : Micro w w') : R w w' := by
  rcases hm.lift_rest @trans st unwake line apply flush with rfl | ⟨id, rfl⟩ | h
  · exact ctx w
  · exact trans (unwake w _) (op _ id)
  · exact h

/-- `w` is a moment of the execution of some script under `cfg`. The executor's choice of the next task is left open:
    what is proved for all such `w` holds for the states the deterministic executor goes through (`during_run`,
    `during_script`). -/
inductive During (cfg : Cfg) : World → Prop
  | init : During cfg { cfg := cfg }
  | next {w w' : World} : During cfg w → Micro w w' → During cfg w'

theorem During.inv {cfg : Cfg} {I : World → Prop} (init : I { cfg := cfg })
    (next : ∀ {w w'}, During cfg w → I w → Micro w w' → I w') {w : World} (h : During cfg w) : I w := by
  induction h with
  | init => exact init
  | next hd hm ih => exact next hd ih hm

theorem During.poll {cfg : Cfg} {w : World} (h : During cfg w) (t : Task) : During cfg (w.pollTask t) := by
  cases t with
  | ctx => exact (h.next (.unwake w .ctx)).next (.ctx _)
  | op id => exact h.next (.user w _ (by simp))
  | st id => exact h.next (.user w _ (by simp))

theorem During.event {cfg : Cfg} {w : World} (h : During cfg w) (hb : w.bad = false) (e : Ev) :
    During cfg ((w.emit (.ev e)).apply e) := by
  by_cases hp : ∃ t, e = .poll t
  · obtain ⟨t, rfl⟩ := hp
    have h1 := h.next (.logged w t hb)
    simp only [apply]
    split
    · exact h1.poll t
    · exact h1
  · exact h.next (.ev w e (fun t ht => hp ⟨t, ht⟩) hb)

theorem During.step {cfg : Cfg} {w : World} (e : Ev) (h : During cfg w) : During cfg (w.step e) :=
  step_lift_ev (R := fun w w' => During cfg w → During cfg w') (fun _ h => h) (fun f g h => g (f h))
    (fun _ t _ _ h => h.poll t) (fun w h => h.next (.stall w)) w e (fun hb h => h.event hb e) h

theorem During.steps {cfg : Cfg} (evs : List Ev) {w : World} (h : During cfg w) :
    During cfg (evs.foldl World.step w) := by
  induction evs generalizing w with
  | nil => exact h
  | cons e t ih => exact ih (h.step e)

theorem during_run (cfg : Cfg) (evs : List Ev) : During cfg (evs.foldl World.step { cfg := cfg }) :=
  (During.init (cfg := cfg)).steps evs

theorem during_script (cfg : Cfg) (evs : List Ev) :
    During cfg (evs.foldl World.step { cfg := cfg }).finishScript ∧
    World.run cfg evs = (evs.foldl World.step { cfg := cfg }).finishScript.out :=
  ⟨(during_run cfg evs).next (.flush _), rfl⟩

inductive Reaches : World → World → Prop
  | refl (w : World) : Reaches w w
  | tail {a b c : World} : Reaches a b → Micro b c → Reaches a c

theorem During.reaches {cfg : Cfg} {a b : World} (h : During cfg a) (hr : Reaches a b) : During cfg b := by
  induction hr with
  | refl => exact h
  | tail _ hm ih => exact ih.next hm

theorem taskLine_bytes {t : Task} {o : Obs} (ht : t ≠ .ctx) (h : TaskLine t o) : obsBytes o = [] :=
  h.user (P := fun o => obsBytes o = []) ht (fun _ _ => rfl) (fun _ => rfl) (fun _ _ => rfl) (fun _ => rfl)

theorem pollTask_user (w : World) (t : Task) (ht : t ≠ .ctx) :
    UserFrame w (w.pollTask t) ∧ OutExtP (TaskLine t) w (w.pollTask t) :=
  have m := pollTask_userMove w t ht
  ⟨(UserFrame.of_eq rfl).trans m.frame, outExtP_of_out m.out⟩

theorem sent_of_added {w w' : World} {P : Obs → Prop} (h : OutExtP P w w') (hb : ∀ o, P o → obsBytes o = [])
    (hw : w'.wirePend = w.wirePend) : w'.sent = w.sent := by
  obtain ⟨added, e, hP⟩ := h
  have : added.flatMap obsBytes = [] := by
    rw [List.flatMap_eq_nil_iff]
    intro o ho
    exact hb o (hP o ho)
  simp [sent, e, hw, List.flatMap_append, this]

/-- how the context task changes while its call goes on: not at all, or "first polled" becomes "polled before" -/
def TaskNext (a b : CtxTask) : Prop :=
  b = a ∨ (∃ call t au, a = .connecting call t au false ∧ b = .connecting call t au true) ∨
  (a = .running false ∧ b = .running true)

theorem TaskNext.call {a b : CtxTask} (h : TaskNext a b) : taskCall b = taskCall a := by
  rcases h with rfl | ⟨call, t, au, rfl, rfl⟩ | ⟨rfl, rfl⟩ <;> rfl

theorem pollCtx_shape (w : World) :
    (TaskNext w.task w.pollCtx.task ∧ OutExt w w.pollCtx) ∨
    (w.pollCtx.task = .none ∧ ∃ pre last, Quiet pre ∧ w.pollCtx.out = w.out ++ pre ++ [last] ∧
       ((∃ c r, last = .ret c r ∧ taskCall w.task = some c) ∨ ∃ cls, last = .panic .ctx cls)) := by
  rcases pollCtx_outcome w with ⟨h1, hx⟩ | ⟨h1, pre, last, hq, ho, hl⟩
  · refine Or.inl ⟨?_, hx⟩
    rw [h1]
    rcases w.task with _ | ⟨c, t, a, _ | _⟩ | _ | _
    · exact .inl rfl
    · exact .inr (.inl ⟨c, t, a, rfl, rfl⟩)
    · exact .inl rfl
    · exact .inr (.inr ⟨rfl, rfl⟩)
    · exact .inl rfl
  · refine Or.inr ⟨h1, pre, last, hq, ho, ?_⟩
    rcases hl with ⟨c, r, h, rfl, _⟩ | ⟨rfl, _⟩ | ⟨rfl, _⟩
    · exact Or.inl ⟨c, r, rfl, h⟩
    · exact Or.inr ⟨_, rfl⟩
    · exact Or.inr ⟨_, rfl⟩

/-- the call the script event starts, if it starts one (an `Option`, not a test) -/
def isCallEv (e : Ev) : Option Call := (startTask e).bind taskCall

/-- a transition that is neither a poll nor the start of a call -/
structure Passive (w w' : World) : Prop where
  task : w'.task = w.task ∨ w'.task = .none
  out : OutExtP Dull w w'
  sent : w'.sent = w.sent
  queue : w'.queue = w.queue ∨ w'.queue = []

theorem Passive.of_eq {w w' : World} (task : w'.task = w.task) (out : w'.out = w.out)
    (wire : w'.wirePend = w.wirePend) (queue : w'.queue = w.queue) : Passive w w' :=
  ⟨Or.inl task, outExtP_of_eq out, sent_congr out wire, Or.inl queue⟩

theorem flushRaw_dull (w : World) : OutExtP Dull w w.flushRaw :=
  flushRaw_outExtP w (Or.inr (Or.inr (Or.inl ⟨_, rfl⟩)))

theorem applied_cases {w w' : World} {e : Ev} (h : Applied w e w') :
    (∃ t, e = .poll t ∧ w' = w.pollTask t) ∨
    (∃ tk, startTask e = some tk ∧ w' = ({ w with task := tk }).wake .ctx) ∨ Passive w w' := by
  cases h.norm with
  | bad e => exact Or.inr (Or.inr ⟨Or.inl rfl, outExtP_one .badscript rfl (Or.inl rfl), sent_emit w .badscript rfl, Or.inl rfl⟩)
  | poll t => exact Or.inl ⟨t, rfl, rfl⟩
  | start e tk hs => exact Or.inr (Or.inl ⟨tk, hs, (wake_eq { w with task := tk } .ctx).symm⟩)
  | newConn ou wp ef =>
    have hd := flushRaw_dull w
    have hs := flushRaw_sent w
    rw [ef] at hd hs
    exact Or.inr (Or.inr ⟨Or.inl rfl, hd, (sent_congr rfl rfl).trans hs, Or.inl rfl⟩)
  | dropFut => exact Or.inr (Or.inr ⟨Or.inr rfl, outExtP_of_eq rfl, rfl, Or.inl rfl⟩)
  | dropCtx => exact Or.inr (Or.inr ⟨Or.inr rfl, outExtP_of_eq rfl, rfl, Or.inr rfl⟩)
  | dropCtxNone => exact Or.inr (Or.inr ⟨Or.inr rfl, outExtP_of_eq rfl, rfl, Or.inl rfl⟩)
  | snap => exact Or.inr (Or.inr ⟨Or.inl rfl, outExtP_one _ rfl (Or.inr (Or.inr (Or.inr ⟨_, rfl⟩))), sent_emit w _ rfl, Or.inl rfl⟩)
  | _ => exact Or.inr (Or.inr (.of_eq rfl rfl rfl rfl))

theorem apply_cases (w : World) (e : Ev) :
    (∃ t, e = .poll t ∧ w.apply e = w.pollTask t) ∨
    (∃ tk, startTask e = some tk ∧ w.apply e = ({ w with task := tk }).wake .ctx) ∨ Passive w (w.apply e) :=
  applied_cases (apply_spec w e)

theorem apply_dull (w : World) (e : Ev) (hp : ∀ t, e ≠ .poll t) : OutExtP Dull w (w.apply e) :=
  outExtP_mono (apply_line w e) fun _ h => h.elim id fun ⟨t, he, _⟩ => absurd he (hp t)

/-- who logs what: a poll logs lines of its task, every other transition `EV` lines and lines of its own -/
theorem Micro.line {w w' : World} (hm : Micro w w') :
    (w' = w.pollCtx ∧ OutExtP CtxLine w w') ∨ (∃ t, t ≠ .ctx ∧ w' = w.pollTask t ∧ OutExtP (TaskLine t) w w') ∨
    OutExtP (fun o => (∃ e, o = .ev e) ∨ Dull o) w w' := by
  cases hm with
  | ctx => exact Or.inl ⟨rfl, pollCtx_ctxLine w⟩
  | user t ht => exact Or.inr (Or.inl ⟨t, ht, rfl, pollTask_line w t⟩)
  | unwake t => exact Or.inr (Or.inr (outExtP_of_eq rfl))
  | ev e hp hb =>
    exact Or.inr (Or.inr (outExtP_trans (outExtP_one _ rfl (Or.inl ⟨e, rfl⟩)) (outExtP_mono (apply_dull _ e hp) fun _ => Or.inr)))
  | logged t hb => exact Or.inr (Or.inr (outExtP_one _ rfl (Or.inl ⟨_, rfl⟩)))
  | stall => exact Or.inr (Or.inr (outExtP_one _ rfl (Or.inr (Or.inr (Or.inl rfl)))))
  | flush => exact Or.inr (Or.inr (outExtP_mono (flushRaw_dull w) fun _ => Or.inr))

theorem Micro.out_prefix {w w' : World} (hm : Micro w w') : ∃ added, w'.out = w.out ++ added := by
  rcases hm.line with ⟨_, a, e, _⟩ | ⟨_, _, _, a, e, _⟩ | ⟨a, e, _⟩ <;> exact ⟨a, e⟩

def Plain (o : Obs) : Prop := (∀ c r, o ≠ .ret c r) ∧ (∀ bs, o ≠ .wire bs)

theorem plain_of_taskLine {t : Task} {o : Obs} (ht : t ≠ .ctx) (h : TaskLine t o) : Plain o :=
  h.user (P := Plain) ht (fun _ _ => ⟨by simp, by simp⟩) (fun _ => ⟨by simp, by simp⟩) (fun _ _ => ⟨by simp, by simp⟩)
    (fun _ => ⟨by simp, by simp⟩)

theorem plain_of_dull {o : Obs} (h : Dull o) : Plain o := by
  rcases h with rfl | rfl | ⟨_, rfl⟩ | ⟨_, rfl⟩ <;> exact ⟨by simp, by simp⟩

theorem plain_ev (e : Ev) : Plain (.ev e) := ⟨by simp, by simp⟩

/-- a transition that leaves the call and the transport alone -/
structure Still (w w' : World) : Prop where
  task : w'.task = w.task ∨ w'.task = .none
  out : OutExtP Plain w w'
  sent : w'.sent = w.sent

theorem Micro.call_cases {w w' : World} (h : Micro w w') :
    w' = w.pollCtx ∨
    (∃ e tk, startTask e = some tk ∧ w' = ({ (w.emit (.ev e)) with task := tk }).wake .ctx) ∨ Still w w' := by
  cases h with
  | ctx => exact Or.inl rfl
  | user t ht =>
    obtain ⟨h1, h2⟩ := pollTask_user w t ht
    exact Or.inr (Or.inr ⟨Or.inl h1.task, outExtP_mono h2 (fun _ => plain_of_taskLine ht),
      sent_of_added h2 (fun _ => taskLine_bytes ht) h1.wirePend⟩)
  | unwake t => exact Or.inr (Or.inr ⟨Or.inl rfl, outExtP_of_eq rfl, rfl⟩)
  | ev e hp hb =>
    rcases apply_cases (w.emit (.ev e)) e with ⟨t, rfl, _⟩ | ⟨tk, h1, h4⟩ | hpas
    · exact absurd rfl (hp t)
    · exact Or.inr (Or.inl ⟨e, tk, h1, h4⟩)
    · exact Or.inr (Or.inr ⟨hpas.task,
        outExtP_trans (outExtP_one _ rfl (plain_ev e)) (outExtP_mono hpas.out fun _ => plain_of_dull),
        hpas.sent.trans (sent_emit w _ rfl)⟩)
  | logged t hb => exact Or.inr (Or.inr ⟨Or.inl rfl, outExtP_one _ rfl (plain_ev _), sent_emit w _ rfl⟩)
  | stall => exact Or.inr (Or.inr ⟨Or.inl rfl, outExtP_one _ rfl ⟨by simp, by simp⟩, sent_emit w _ rfl⟩)
  | flush =>
    exact Or.inr (Or.inr ⟨Or.inl (flushRaw_task w), outExtP_mono (flushRaw_dull w) (fun _ => plain_of_dull), flushRaw_sent w⟩)

theorem quiet_no_ret {p : List Obs} (hq : Quiet p) (c : Call) (r : RetRes) : Obs.ret c r ∉ p := by
  intro hx
  obtain ⟨bs, h | h⟩ := hq _ hx <;> cases h

theorem pollCtx_ret_last {w : World} {a b : List Obs} {c : Call} {r : RetRes}
    (h : w.pollCtx.out = w.out ++ (a ++ .ret c r :: b)) :
    b = [] ∧ taskCall w.task = some c ∧ w.pollCtx.task = .none := by
  rcases pollCtx_shape w with ⟨_, p, hq, hp⟩ | ⟨h1, pre, last, hq, hp, hl⟩
  · have e := List.append_cancel_left (hp.symm.trans h)
    exact absurd (e ▸ List.mem_append_right a List.mem_cons_self) (quiet_no_ret hq c r)
  · rw [hp, List.append_assoc] at h
    obtain ⟨rfl, rfl, rfl⟩ := snoc_eq_append_cons (List.append_cancel_left h) (quiet_no_ret hq c r)
    rcases hl with ⟨c0, r0, hl, hc0⟩ | ⟨cls, hl⟩ <;> cases hl
    exact ⟨rfl, hc0, h1⟩

/-- `During.inv` under a hypothesis on the transcript that every prefix of it satisfies as well -/
theorem During.inv_out {cfg : Cfg} {H : List Obs → Prop} (hH : ∀ a b, H (a ++ b) → H a)
    {I : World → Prop} (init : I { cfg := cfg })
    (next : ∀ {w w'}, During cfg w → H w.out → I w → Micro w w' → I w') {w : World} (h : During cfg w)
    (hw : H w.out) : I w :=
  h.inv (I := fun w => H w.out → I w) (fun _ => init) (fun hd ih hm hq => by
    obtain ⟨added, eo⟩ := hm.out_prefix
    have hq0 := hH _ added (eo ▸ hq)
    exact next hd hq0 (ih hq0) hm) hw

theorem Reaches.out_prefix {a b : World} (hr : Reaches a b) : ∃ added, b.out = a.out ++ added := by
  induction hr with
  | refl => exact ⟨[], by simp⟩
  | tail _ hm ih =>
    obtain ⟨x, ex⟩ := ih
    obtain ⟨y, ey⟩ := hm.out_prefix
    exact ⟨x ++ y, by rw [ey, ex, List.append_assoc]⟩

theorem During.line_origin {cfg : Cfg} {w : World} (h : During cfg w) {pre post : List Obs} {o : Obs}
    (ho : w.out = pre ++ o :: post) :
    ∃ w0 w1 a b, During cfg w0 ∧ Micro w0 w1 ∧ Reaches w1 w ∧ pre = w0.out ++ a ∧ w1.out = w0.out ++ (a ++ o :: b) := by
  induction h generalizing post with
  | init => simp at ho
  | @next w w' hd hm ih =>
    obtain ⟨added, e⟩ := hm.out_prefix
    rw [e] at ho
    rcases append_eq_append_cons ho with ⟨post1, h1, _⟩ | ⟨pre2, h1, h2⟩
    · obtain ⟨w0, w1, a, b, i1, i2, i3, i4, i5⟩ := ih h1
      exact ⟨w0, w1, a, b, i1, i2, i3.tail hm, i4, i5⟩
    · exact ⟨w, w', pre2, post, hd, hm, .refl _, h1, by rw [e, h2]⟩

theorem Micro.decomp {w w' : World} (hm : Micro w w') :
    (∃ id h req, AddOp id h req (w.emit (.ev (.op id h req))) w') ∨ Moves AnyTag w w' := by
  cases hm with
  | ctx => exact Or.inr (pollCtx_moves w).any
  | user t ht => exact Or.inr (pollTask_moves w t).any
  | unwake t => exact Or.inr (.one (move_unwake w t))
  | ev e hp hb =>
    rcases apply_decomp (w.emit (.ev e)) e with ⟨id, h, req, rfl, ha⟩ | hmv
    · exact Or.inl ⟨id, h, req, ha⟩
    · exact Or.inr (.step (emit_ev_move w e) hmv.any)
  | logged t hb => exact Or.inr (.one (emit_ev_move w _))
  | stall => exact Or.inr (.one (move_emit w ⟨by simp, by simp⟩))
  | flush => exact Or.inr (.one (flushRaw_move w))

theorem _root_.Poster.World.MoveInv.micro {I : World → Prop} (hI : MoveInv I) {w w' : World} (hm : Micro w w') (h : I w) :
    I w' := by
  rcases hm.decomp with ⟨id, hd, req, ha⟩ | hmv
  · exact hI.addOp h ha
  · exact hI.moves hmv h

theorem _root_.Poster.World.MoveInv.during {I : World → Prop} (hI : MoveInv I) {cfg : Cfg} (h0 : I { cfg := cfg })
    {w : World} (h : During cfg w) : I w := h.inv h0 fun _ ih hm => hI.micro hm ih

theorem during_opsInv {cfg : Cfg} {w : World} (h : During cfg w) : OpsInv w := OpsInv.moveInv.during (OpsInv.init cfg) h

theorem during_reach {cfg : Cfg} {w : World} (h : During cfg w) : Reach w.rx :=
  h.inv (I := fun w => Reach w.rx) Reach.init fun _ ih hm =>
    hm.lift (R := fun w w' => Reach w.rx → Reach w'.rx) (fun f g h => g (f h))
      (fun w hr => pollCtxS_false w ▸ pollCtxS_reach _ w hr)
      (fun w id h => (pollOp_userFrame w id).rx ▸ h) (fun w id h => (pollStream_userFrame w id).rx ▸ h) (fun _ _ h => h)
      (fun _ _ _ h => h) (fun w e _ h => (apply_safe w e h).1) (fun w h => (flushRaw_safe w h).1) ih

theorem ctlOk_micro {w w' : World} (h : CtlOk w) (hm : Micro w w') : CtlOk w' :=
  hm.lift (R := fun w w' => CtlOk w → CtlOk w') (fun f g h => g (f h)) (fun _ h => h.pollCtx)
    (fun w id h => h.userFrame (pollOp_userFrame w id)) (fun w id h => h.userFrame (pollStream_userFrame w id))
    (fun _ _ h => h.of_eq rfl rfl id) (fun _ o _ h => h.emit o) (fun _ e _ h => h.apply e)
    (fun w h => by obtain ⟨ou, wp, e⟩ := flushRaw_frame w; rw [e]; exact h.of_eq rfl rfl id) h

theorem during_ctlOk {cfg : Cfg} {w : World} (h : During cfg w) : CtlOk w :=
  h.inv (.init cfg) fun _ ih hm => ctlOk_micro ih hm

end W7

theorem EndObs.noBytes {id : Nat} {o : Obs} (h : EndObs id o) : obsBytes o = [] := by
  rcases h with rfl | ⟨r, rfl⟩ <;> rfl

theorem finishOp_sent (w : World) (id : Nat) (r : DoneRes) : (w.finishOp id r).sent = w.sent :=
  W7.sent_of_added (outExtP_one (P := fun o => obsBytes o = []) (.done id r) (endOp_out w id _) rfl) (fun _ h => h)
    (endOp_userFrame w id _).wirePend

theorem pollOp_sent (w : World) (id : Nat) : (w.pollOp id).sent = w.sent :=
  W7.sent_of_added (pollOp_outExtP w id) (fun _ => EndObs.noBytes) (pollOp_userFrame w id).wirePend

theorem pollStream_sent (w : World) (id : Nat) : (w.pollStream id).sent = w.sent :=
  W7.sent_of_added (pollStream_outExtP w id) (fun _ h => by rcases h with ⟨_, rfl⟩ | rfl <;> rfl)
    (pollStream_userFrame w id).wirePend

theorem applied_sent {w w' : World} {e : Ev} (h : Applied w e w') (hne : ∀ t, e ≠ .poll t) : w'.sent = w.sent := by
  rcases W7.applied_cases h with ⟨t, rfl, _⟩ | ⟨tk, _, rfl⟩ | hp
  · exact absurd rfl (hne t)
  · exact sent_congr (by simp) (by simp)
  · exact hp.sent

end World
end Poster

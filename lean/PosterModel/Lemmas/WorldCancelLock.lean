/-
  Lemmas/WorldCancelLock.lean — two executions in lockstep modulo an erasure. An erasure `H` forgets part of the world
  (the private state of a future, the receiving end of a channel); under a side condition `S` it commutes with the
  executor. Two reachable worlds with `H a = H b` then stay so through a script step whose event commutes with `H`,
  although the two steps drain with different fuels: both drains reach quiescence, and two quiescent drains of the same
  world end in the same world. `Lock.steps` carries the lockstep through whole scripts; two erasures compose.
-/
import PosterModel.Lemmas.WorldCancel
import PosterModel.Lemmas.WorldReachable

namespace Poster
open Framing
namespace World
namespace W11

theorem drain_add_of_quiet (f g : Nat) (w : World) (h : (drain f w).pick = none) : drain (f + g) w = drain f w := by
  induction f generalizing w with
  | zero =>
    simp only [drain] at h
    rw [Nat.zero_add, drain_none g w h]; rfl
  | succ f ih =>
    rw [Nat.succ_add, drain, drain]
    cases hp : w.pick with
    | none => rfl
    | some t =>
      simp only
      rw [drain, hp] at h
      exact ih _ h

theorem drain_unique (f g : Nat) (w : World) (hf : (drain f w).pick = none) (hg : (drain g w).pick = none) :
    drain f w = drain g w := by
  rcases Nat.le_total f g with hle | hle
  · obtain ⟨k, rfl⟩ := Nat.exists_eq_add_of_le hle
    exact (drain_add_of_quiet f k w hf).symm
  · obtain ⟨k, rfl⟩ := Nat.exists_eq_add_of_le hle
    exact drain_add_of_quiet g k w hg

/-- what the settling argument needs of an erasure `H` (any map of worlds) and its side condition `S`; an `Era` that
    `Polls` gives one (`Era.Polls.erasure`) -/
structure Erasure (H : World → World) (S : World → Prop) : Prop where
  bad : ∀ w, (H w).bad = w.bad
  task : ∀ w, (H w).task = w.task
  reader : ∀ w, (H w).reader = w.reader
  sweepCfg : ∀ w, (H w).cfg.sweep = w.cfg.sweep
  pick : ∀ w, S w → (H w).pick = w.pick
  drain : ∀ f w, S w → World.drain f (H w) = H (World.drain f w)
  sDrain : ∀ f w, S w → S (World.drain f w)
  sweep : ∀ w, S w → (H w).sweep = H w.sweep ∧ S w.sweep
  stall : ∀ w, (H w).emit .stall = H (w.emit .stall)
  sEmit : ∀ w o, S w → S (w.emit o)

/-- the fuels of `a` and `b` differ (the fuel counts the operations, the streams, the buffered messages): hence the
    hypotheses that both drains end idle, and `drain_unique` -/
theorem erasure_drain_eq {H : World → World} {S : World → Prop} (E : Erasure H S) {a b : World} (ha : S a) (hb : S b)
    (heq : H a = H b) (qa : (drain a.drainFuel a).pick = none) (qb : (drain b.drainFuel b).pick = none) :
    H (drain a.drainFuel a) = H (drain b.drainFuel b) := by
  rw [← E.drain _ a ha, ← E.drain _ b hb, heq]
  apply drain_unique
  · rw [← heq, E.drain _ a ha, E.pick _ (E.sDrain _ a ha)]; exact qa
  · rw [E.drain _ b hb, E.pick _ (E.sDrain _ b hb)]; exact qb

/-- the four hypotheses `q…` (each drain of `settle` ends idle) hold in the worlds a script reaches
    (`World.W5.step_drains_quiet`) -/
theorem settle_erasure {H : World → World} {S : World → Prop} (E : Erasure H S) (a b : World) (ha : S a) (hb : S b)
    (heq : H a = H b)
    (qa1 : (drain a.drainFuel a).pick = none) (qb1 : (drain b.drainFuel b).pick = none)
    (qa2 : (drain (drain a.drainFuel a).sweep.drainFuel (drain a.drainFuel a).sweep).pick = none)
    (qb2 : (drain (drain b.drainFuel b).sweep.drainFuel (drain b.drainFuel b).sweep).pick = none) :
    H (settle a) = H (settle b) ∧ (a.bad = false → S (settle a) ∧ S (settle b)) := by
  have hbad : a.bad = b.bad := by rw [← E.bad a, ← E.bad b, heq]
  unfold settle
  cases hba : a.bad
  case true =>
    simp only [hba, ← hbad, ↓reduceIte]
    exact ⟨heq, nofun⟩
  simp only [hba, ← hbad, Bool.false_eq_true, ↓reduceIte]
  have e1 := erasure_drain_eq E ha hb heq qa1 qb1
  have sa1 := E.sDrain a.drainFuel a ha
  have sb1 := E.sDrain b.drainFuel b hb
  generalize drain a.drainFuel a = a1 at sa1 e1 qa2 ⊢
  generalize drain b.drainFuel b = b1 at sb1 e1 qb2 ⊢
  have hsw : a1.cfg.sweep = b1.cfg.sweep := by rw [← E.sweepCfg a1, ← E.sweepCfg b1, e1]
  have key : H (if a1.cfg.sweep = true then drain a1.sweep.drainFuel a1.sweep else a1) =
      H (if b1.cfg.sweep = true then drain b1.sweep.drainFuel b1.sweep else b1) ∧
      S (if a1.cfg.sweep = true then drain a1.sweep.drainFuel a1.sweep else a1) ∧
      S (if b1.cfg.sweep = true then drain b1.sweep.drainFuel b1.sweep else b1) := by
    by_cases hs : a1.cfg.sweep = true
    · rw [if_pos hs, if_pos (hsw ▸ hs)]
      obtain ⟨ea, sa2⟩ := E.sweep a1 sa1
      obtain ⟨eb, sb2⟩ := E.sweep b1 sb1
      exact ⟨erasure_drain_eq E sa2 sb2 (by rw [← ea, ← eb, e1]) qa2 qb2, E.sDrain _ _ sa2, E.sDrain _ _ sb2⟩
    · rw [if_neg hs, if_neg (hsw ▸ hs)]
      exact ⟨e1, sa1, sb1⟩
  obtain ⟨e3, sa3, sb3⟩ := key
  generalize (if a1.cfg.sweep = true then drain a1.sweep.drainFuel a1.sweep else a1) = a3 at e3 sa3 ⊢
  generalize (if b1.cfg.sweep = true then drain b1.sweep.drainFuel b1.sweep else b1) = b3 at e3 sb3 ⊢
  have ht : a3.task = b3.task := by rw [← E.task a3, ← E.task b3, e3]
  have hr : a3.reader = b3.reader := by rw [← E.reader a3, ← E.reader b3, e3]
  by_cases hst : a3.task ≠ .none ∧ a3.reader ≠ []
  · rw [if_pos hst, if_pos (ht ▸ hr ▸ hst)]
    exact ⟨by rw [← E.stall a3, ← E.stall b3, e3], fun _ => ⟨E.sEmit _ _ sa3, E.sEmit _ _ sb3⟩⟩
  · rw [if_neg hst, if_neg (ht ▸ hr ▸ hst)]
    exact ⟨e3, fun _ => ⟨sa3, sb3⟩⟩

theorem settle_not_bad {w : World} (h : (settle w).bad = false) : w.bad = false := by
  cases hw : w.bad
  · rfl
  · rw [settle, if_pos hw, hw] at h; cases h

/-- two worlds in lockstep under `H`: they look the same once `H` is applied, both satisfy the invariants of reachable
    worlds and (unless the script was refused) the side condition of the commutation -/
structure Lock (H : World → World) (S : World → Prop) (a b : World) : Prop where
  eq : H a = H b
  ra : Reachable a
  rb : Reachable b
  sa : a.bad = false → S a
  sb : b.bad = false → S b

section
variable {H : World → World} {S : World → Prop} (E : Erasure H S)
include E

theorem Lock.bad_eq {a b : World} (h : Lock H S a b) : a.bad = b.bad := by rw [← E.bad a, ← E.bad b, h.eq]

theorem Lock.of_applied {a b : World} (ea eb : Ev) (ra : Reachable a) (rb : Reachable b)
    (hba : a.bad = false) (hbb : b.bad = false)
    (heq : H ((a.emit (.ev ea)).apply ea) = H ((b.emit (.ev eb)).apply eb))
    (sa : S ((a.emit (.ev ea)).apply ea)) (sb : S ((b.emit (.ev eb)).apply eb)) : Lock H S (a.step ea) (b.step eb) := by
  have qa : a.pick = none := ra.quiet.resolve_left (by rw [hba]; exact Bool.noConfusion)
  have qb : b.pick = none := rb.quiet.resolve_left (by rw [hbb]; exact Bool.noConfusion)
  obtain ⟨qa1, qa2⟩ := W5.step_drains_quiet a ea ra.own ra.reg qa
  obtain ⟨qb1, qb2⟩ := W5.step_drains_quiet b eb rb.own rb.reg qb
  obtain ⟨e, s⟩ := settle_erasure E _ _ sa sb heq qa1 qb1 qa2 qb2
  have hbad : ((a.emit (.ev ea)).apply ea).bad = ((b.emit (.ev eb)).apply eb).bad :=
    (E.bad _).symm.trans ((congrArg World.bad heq).trans (E.bad _))
  have sta : a.step ea = settle ((a.emit (.ev ea)).apply ea) := by rw [step_eq_settle, if_neg (by simp [hba])]
  have stb : b.step eb = settle ((b.emit (.ev eb)).apply eb) := by rw [step_eq_settle, if_neg (by simp [hbb])]
  refine ⟨by rw [sta, stb]; exact e, ra.step ea, rb.step eb, ?_, ?_⟩
  · rw [sta]; exact fun h => (s (settle_not_bad h)).1
  · rw [stb]; exact fun h => (s (hbad.trans (settle_not_bad h))).2

theorem Lock.step {a b : World} (h : Lock H S a b) (e : Ev)
    (ca : a.bad = false →
      H ((a.emit (.ev e)).apply e) = ((H a).emit (.ev e)).apply e ∧ S ((a.emit (.ev e)).apply e))
    (cb : b.bad = false →
      H ((b.emit (.ev e)).apply e) = ((H b).emit (.ev e)).apply e ∧ S ((b.emit (.ev e)).apply e)) :
    Lock H S (a.step e) (b.step e) := by
  by_cases hba : a.bad = true
  · have hbb : b.bad = true := by rw [← h.bad_eq E]; exact hba
    rw [step_of_bad a e hba, step_of_bad b e hbb]
    exact h
  · have hba' : a.bad = false := by simpa using hba
    have hbb' : b.bad = false := by rw [← h.bad_eq E]; exact hba'
    obtain ⟨e1, s1⟩ := ca hba'
    obtain ⟨e2, s2⟩ := cb hbb'
    exact Lock.of_applied E e e h.ra h.rb hba' hbb' (by rw [e1, e2, h.eq]) s1 s2

theorem Lock.start {w : World} (r : Reachable w) (ea eb : Ev)
    (c : w.bad = false → H ((w.emit (.ev ea)).apply ea) = H ((w.emit (.ev eb)).apply eb) ∧
      S ((w.emit (.ev ea)).apply ea) ∧ S ((w.emit (.ev eb)).apply eb)) :
    Lock H S (w.step ea) (w.step eb) := by
  by_cases hb : w.bad = true
  · rw [step_of_bad w _ hb, step_of_bad w _ hb]
    exact ⟨rfl, r, r, fun h => (by rw [hb] at h; cases h), fun h => (by rw [hb] at h; cases h)⟩
  · have hb' : w.bad = false := by simpa using hb
    obtain ⟨e, sa, sb⟩ := c hb'
    exact Lock.of_applied E ea eb r r hb' hb' e sa sb

end

theorem _root_.Poster.World.Era.Polls.erasure {E : Era} {S : World → Prop} (P : E.Polls S)
    (sweepCfg : ∀ c, (E.cfg c).sweep = c.sweep) (stall : E.kObs .stall = true) (sEmit : ∀ w o, S w → S (w.emit o)) :
    Erasure E.app S :=
  ⟨fun _ => rfl, fun _ => rfl, fun _ => rfl, fun w => sweepCfg w.cfg, P.pick, fun f w s => (P.drain f w s).1,
    fun f w s => (P.drain f w s).2, P.sweep, fun w => Era.emit_app w .stall stall, sEmit⟩

/-- the script level of an erasure: an event that `Q` admits commutes with `H` and keeps `S`; whether `Q` admits an event
    is the same in two worlds that look the same under `H` -/
structure Events (H : World → World) (S : World → Prop) (Q : World → Ev → Prop) : Prop where
  event : ∀ w e, S w → Q w e →
    H ((w.emit (.ev e)).apply e) = ((H w).emit (.ev e)).apply e ∧ S ((w.emit (.ev e)).apply e)
  carry : ∀ a b e, H a = H b → S a → S b → Q a e → Q b e

theorem Lock.steps {H : World → World} {S : World → Prop} {Q : World → Ev → Prop} (E : Erasure H S) (X : Events H S Q)
    (evs : List Ev) {a b : World} (h : Lock H S a b) (hq : Along Q a evs) :
    Lock H S (evs.foldl World.step a) (evs.foldl World.step b) := by
  induction evs generalizing a b with
  | nil => exact h
  | cons e t ih =>
    refine ih (h.step E e (fun ha => X.event a e (h.sa ha) (hq.1 ha)) fun hb => ?_) hq.2
    have ha : a.bad = false := (h.bad_eq E).trans hb
    exact X.event b e (h.sb hb) (X.carry a b e h.eq (h.sa ha) (h.sb hb) (hq.1 ha))

theorem Lock.script {H : World → World} {S : World → Prop} {Q : World → Ev → Prop} (E : Erasure H S) (X : Events H S Q)
    (cfg : Cfg) (pre post : List Ev) {ea eb : Ev}
    (h : Lock H S ((pre.foldl World.step { cfg := cfg }).step ea) ((pre.foldl World.step { cfg := cfg }).step eb))
    (hq : Along Q ((pre.foldl World.step { cfg := cfg }).step ea) post) :
    H ((pre ++ ea :: post).foldl World.step { cfg := cfg }) = H ((pre ++ eb :: post).foldl World.step { cfg := cfg }) := by
  rw [List.foldl_append, List.foldl_append, List.foldl_cons, List.foldl_cons]
  exact (h.steps E X post hq).eq

theorem run_erasure {H : World → World} {filt : List Obs → List Obs} (out : ∀ w, (H w).out = filt w.out)
    (flush : ∀ w, (H w).flushRaw = H w.flushRaw) {cfg : Cfg} {evs evs' : List Ev}
    (h : H (evs.foldl World.step { cfg := cfg }) = H (evs'.foldl World.step { cfg := cfg })) :
    filt (World.run cfg evs) = filt (World.run cfg evs') := by
  unfold World.run finishScript
  rw [← out, ← out, ← flush, ← flush, h]

section
variable {H1 H2 : World → World} {S1 S2 : World → Prop}

theorem Erasure.comp (E1 : Erasure H1 S1) (E2 : Erasure H2 S2)
    (emit : ∀ w o, H1 (w.emit o) = (H1 w).emit o ∨ H1 (w.emit o) = H1 w)
    {S : World → Prop} (hS : ∀ w, S w ↔ S1 w ∧ S2 (H1 w)) : Erasure (fun w => H2 (H1 w)) S where
  bad := fun w => (E2.bad _).trans (E1.bad w)
  task := fun w => (E2.task _).trans (E1.task w)
  reader := fun w => (E2.reader _).trans (E1.reader w)
  sweepCfg := fun w => (E2.sweepCfg _).trans (E1.sweepCfg w)
  pick := fun w s => (E2.pick _ ((hS w).1 s).2).trans (E1.pick w ((hS w).1 s).1)
  drain := fun f w s => by rw [E2.drain f _ ((hS w).1 s).2, E1.drain f w ((hS w).1 s).1]
  sDrain := fun f w s =>
    (hS _).2 ⟨E1.sDrain f w ((hS w).1 s).1, by rw [← E1.drain f w ((hS w).1 s).1]; exact E2.sDrain f _ ((hS w).1 s).2⟩
  sweep := fun w s => by
    obtain ⟨e1, s1⟩ := E1.sweep w ((hS w).1 s).1
    obtain ⟨e2, s2⟩ := E2.sweep (H1 w) ((hS w).1 s).2
    exact ⟨by rw [e2, e1], (hS _).2 ⟨s1, by rw [← e1]; exact s2⟩⟩
  stall := fun w => by rw [E2.stall, E1.stall]
  sEmit := fun w o s => by
    refine (hS _).2 ⟨E1.sEmit w o ((hS w).1 s).1, ?_⟩
    rcases emit w o with e | e <;> rw [e]
    · exact E2.sEmit _ o ((hS w).1 s).2
    · exact ((hS w).1 s).2

theorem Events.comp {Q1 Q2 : World → Ev → Prop} (X1 : Events H1 S1 Q1) (X2 : Events H2 S2 Q2)
    {S : World → Prop} (hS : ∀ w, S w ↔ S1 w ∧ S2 (H1 w))
    (carry1 : ∀ a b e, H2 (H1 a) = H2 (H1 b) → S1 a → S1 b → Q1 a e → Q1 b e) :
    Events (fun w => H2 (H1 w)) S (fun w e => Q1 w e ∧ Q2 (H1 w) e) where
  event := fun w e s q => by
    obtain ⟨e1, s1⟩ := X1.event w e ((hS w).1 s).1 q.1
    obtain ⟨e2, s2⟩ := X2.event (H1 w) e ((hS w).1 s).2 q.2
    exact ⟨by rw [e1, e2], (hS _).2 ⟨s1, by rw [e1]; exact s2⟩⟩
  carry := fun a b e h sa sb q =>
    ⟨carry1 a b e h ((hS a).1 sa).1 ((hS b).1 sb).1 q.1,
      X2.carry (H1 a) (H1 b) e h ((hS a).1 sa).2 ((hS b).1 sb).2 q.2⟩

end

end W11
end World
end Poster

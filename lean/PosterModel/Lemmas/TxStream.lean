/-
  `write_all` over a writer oracle (TxStream.lean): one poll and the whole call keep "taken ++ still held = the packet"; a
  fault-free oracle with enough `accept` answers completes the call; a sequence of packets; the harness's mock
  transports as such oracles.
-/
import PosterModel.TxStream

namespace Poster.TxStream
open Poster

def WEv.isAccept : WEv → Bool
  | .accept _ => true
  | _ => false

def WEv.isFault : WEv → Bool
  | .err => true
  | .zero => true
  | _ => false

theorem WEv.isFault_eq_false_iff (e : WEv) : e.isFault = false ↔ e ≠ .err ∧ e ≠ .zero := by
  cases e <;> simp [WEv.isFault]

@[simp] theorem pollWriteAll_nil_buf (evs : List WEv) : pollWriteAll [] evs = ⟨[], [], evs, .done, 0⟩ := by
  cases evs <;> simp [pollWriteAll]

@[simp] theorem writeAll_nil_buf (evs : List WEv) : writeAll [] evs = (⟨[], [], evs, .done, 0⟩, 1) := by
  cases evs <;> simp [writeAll]

/-- One poll: what the transport has taken followed by what the future still holds is the packet; `Ready(Ok(()))` exactly
    when nothing is left; `poll_write` is called at most once per byte. -/
theorem pollWriteAll_spec (buf : Bytes) (evs : List WEv) :
    (pollWriteAll buf evs).acc ++ (pollWriteAll buf evs).rest = buf ∧
    ((pollWriteAll buf evs).out = .done ↔ (pollWriteAll buf evs).rest = []) ∧
    (pollWriteAll buf evs).calls ≤ buf.length := by
  induction evs generalizing buf with
  | nil =>
    by_cases h : buf = []
    · simp [h]
    · have := List.length_pos_iff.mpr h
      simp [pollWriteAll, h]; omega
  | cons ev evs ih =>
    by_cases h : buf = []
    · simp [h]
    · have := List.length_pos_iff.mpr h
      cases ev with
      | accept n =>
        obtain ⟨h1, h2, h3⟩ := ih (buf.drop (n + 1))
        simp only [pollWriteAll, h, if_false, List.append_assoc, h1, List.take_append_drop, true_and]
        exact ⟨h2, by rw [List.length_drop] at h3; omega⟩
      | pending | err | zero =>
        simp [pollWriteAll, h]; omega

theorem pollWriteAll_conserves_aux (evs : List WEv) : ∀ buf : Bytes,
    (pollWriteAll buf evs).acc ++ (pollWriteAll buf evs).rest = buf :=
  fun buf => (pollWriteAll_spec buf evs).1

theorem pollWriteAll_done_aux (evs : List WEv) : ∀ buf : Bytes,
    (pollWriteAll buf evs).out = .done → (pollWriteAll buf evs).rest = [] :=
  fun buf => (pollWriteAll_spec buf evs).2.1.mp

theorem pollWriteAll_notdone_aux (evs : List WEv) : ∀ buf : Bytes,
    (pollWriteAll buf evs).out ≠ .done → (pollWriteAll buf evs).rest ≠ [] :=
  fun buf => mt (pollWriteAll_spec buf evs).2.1.mpr

theorem pollWriteAll_calls_aux (evs : List WEv) : ∀ buf : Bytes,
    (pollWriteAll buf evs).calls ≤ buf.length :=
  fun buf => (pollWriteAll_spec buf evs).2.2

theorem pollWriteAll_pending_aux (evs : List WEv) : ∀ buf : Bytes,
    (pollWriteAll buf evs).out = .pending →
    ∃ pre, (∀ e ∈ pre, e.isAccept = true) ∧
      (evs = pre ++ WEv.pending :: (pollWriteAll buf evs).evs ∨ (evs = pre ∧ (pollWriteAll buf evs).evs = [])) := by
  induction evs with
  | nil => exact fun buf _ => ⟨[], nofun, Or.inr ⟨rfl, by by_cases hb : buf = [] <;> simp [pollWriteAll, hb]⟩⟩
  | cons ev evs ih =>
    intro buf h
    by_cases hb : buf = []
    · simp [hb] at h
    · cases ev with
      | accept n =>
        simp only [pollWriteAll, hb, if_false] at h ⊢
        obtain ⟨pre, h1, h2⟩ := ih _ h
        refine ⟨.accept n :: pre, List.forall_mem_cons.mpr ⟨rfl, h1⟩, ?_⟩
        rcases h2 with h2 | ⟨h2, h3⟩
        · left; rw [List.cons_append, ← h2]
        · right; exact ⟨by rw [h2], h3⟩
      | pending => exact ⟨[], nofun, Or.inl (by simp [pollWriteAll, hb])⟩
      | err => simp [pollWriteAll, hb] at h
      | zero => simp [pollWriteAll, hb] at h

/-- The whole call: taken ++ still held = the packet, and `Ok(())` exactly when nothing is left. -/
theorem writeAll_spec (buf : Bytes) (evs : List WEv) :
    (writeAll buf evs).1.acc ++ (writeAll buf evs).1.rest = buf ∧
    ((writeAll buf evs).1.out = .done ↔ (writeAll buf evs).1.rest = []) := by
  induction evs generalizing buf with
  | nil => exact ⟨(pollWriteAll_spec buf []).1, (pollWriteAll_spec buf []).2.1⟩
  | cons ev evs ih =>
    by_cases h : buf = []
    · simp [h]
    · cases ev with
      | accept n =>
        obtain ⟨h1, h2⟩ := ih (buf.drop (n + 1))
        simp only [writeAll, h, if_false, List.append_assoc, h1, List.take_append_drop, true_and]
        exact h2
      | pending => simp only [writeAll, h, if_false]; exact ih buf
      | err | zero => simp [writeAll, h]

theorem writeAll_conserves_aux (evs : List WEv) : ∀ buf : Bytes,
    (writeAll buf evs).1.acc ++ (writeAll buf evs).1.rest = buf :=
  fun buf => (writeAll_spec buf evs).1

theorem writeAll_done_aux (evs : List WEv) : ∀ buf : Bytes,
    (writeAll buf evs).1.out = .done → (writeAll buf evs).1.rest = [] :=
  fun buf => (writeAll_spec buf evs).2.mp

theorem writeAll_notdone_aux (evs : List WEv) : ∀ buf : Bytes,
    (writeAll buf evs).1.out ≠ .done → (writeAll buf evs).1.rest ≠ [] :=
  fun buf => mt (writeAll_spec buf evs).2.mpr

theorem writeAll_err_aux (evs : List WEv) : ∀ buf : Bytes,
    (writeAll buf evs).1.out = .err → ∃ e ∈ evs, e.isFault = true := by
  induction evs with
  | nil => intro buf h; by_cases hb : buf = [] <;> simp [writeAll, pollWriteAll, hb] at h
  | cons ev evs ih =>
    intro buf h
    by_cases hb : buf = []
    · simp [hb] at h
    · cases ev with
      | accept n | pending =>
        simp only [writeAll, hb, if_false] at h
        obtain ⟨e, h1, h2⟩ := ih _ h
        exact ⟨e, List.mem_cons_of_mem _ h1, h2⟩
      | err => exact ⟨.err, List.mem_cons_self, rfl⟩
      | zero => exact ⟨.zero, List.mem_cons_self, rfl⟩

theorem writeAll_delays_aux (evs : List WEv) : ∀ buf : Bytes,
    (writeAll buf evs).1.acc = (writeAll buf (evs.filter (· ≠ WEv.pending))).1.acc ∧
    (writeAll buf evs).1.rest = (writeAll buf (evs.filter (· ≠ WEv.pending))).1.rest ∧
    (writeAll buf evs).1.out = (writeAll buf (evs.filter (· ≠ WEv.pending))).1.out := by
  induction evs with
  | nil => simp
  | cons ev evs ih =>
    intro buf
    by_cases h : buf = []
    · simp [h]
    · cases ev with
      | accept n =>
        have := ih (buf.drop (n + 1))
        simp only [ne_eq, reduceCtorEq, not_false_eq_true, decide_true, List.filter_cons_of_pos, writeAll, h, if_false]
        exact ⟨by rw [this.1], this.2.1, this.2.2⟩
      | pending =>
        have := ih buf
        simp only [ne_eq, not_true_eq_false, decide_false, Bool.false_eq_true, not_false_eq_true,
          List.filter_cons_of_neg, writeAll, h, if_false]
        exact this
      | err => simp [writeAll, h]
      | zero => simp [writeAll, h]

theorem writeAll_pending {buf : Bytes} (h : buf ≠ []) (evs : List WEv) :
    (writeAll buf (.pending :: evs)).1.out = (writeAll buf evs).1.out ∧
    (writeAll buf (.pending :: evs)).1.acc = (writeAll buf evs).1.acc := by
  simp only [writeAll, h, if_false, and_self]

theorem writeAll_accept {buf : Bytes} (h : buf ≠ []) (n : Nat) (evs : List WEv) :
    (writeAll buf (.accept n :: evs)).1.out = (writeAll (buf.drop (n + 1)) evs).1.out ∧
    (writeAll buf (.accept n :: evs)).1.acc = buf.take (n + 1) ++ (writeAll (buf.drop (n + 1)) evs).1.acc := by
  simp only [writeAll, h, if_false, and_self]

theorem writeAll_done_acc {buf : Bytes} {evs : List WEv} (h : (writeAll buf evs).1.out = .done) :
    (writeAll buf evs).1.acc = buf := by
  have hs := writeAll_spec buf evs
  rw [hs.2.mp h, List.append_nil] at hs
  exact hs.1

theorem writeAll_notdone_proper {buf : Bytes} {evs : List WEv} (h : (writeAll buf evs).1.out ≠ .done) :
    (writeAll buf evs).1.acc <+: buf ∧ (writeAll buf evs).1.acc.length < buf.length := by
  have hs := writeAll_spec buf evs
  have hpos := List.length_pos_iff.mpr (mt hs.2.mpr h)
  have := congrArg List.length hs.1
  rw [List.length_append] at this
  exact ⟨⟨_, hs.1⟩, by omega⟩

theorem writeAll_completes_aux (evs : List WEv) : ∀ buf : Bytes,
    (∀ e ∈ evs, e.isFault = false) → buf.length ≤ (evs.filter WEv.isAccept).length →
    (writeAll buf evs).1.out = .done := by
  induction evs with
  | nil =>
    intro buf _ hl
    have : buf = [] := by simpa using hl
    simp [this]
  | cons ev evs ih =>
    intro buf hf hl
    by_cases h : buf = []
    · simp [h]
    · have hf' : ∀ e ∈ evs, e.isFault = false := fun e he => hf e (by simp [he])
      cases ev with
      | accept n =>
        simp only [writeAll, h, if_false]
        apply ih _ hf'
        simp only [List.filter_cons, WEv.isAccept, if_true, List.length_cons] at hl
        have : 0 < buf.length := List.length_pos_iff.2 h
        simp only [List.length_drop]
        omega
      | pending =>
        simp only [writeAll, h, if_false]
        apply ih _ hf'
        simpa [List.filter_cons, WEv.isAccept] using hl
      | err => have := hf .err (by simp); simp [WEv.isFault] at this
      | zero => have := hf .zero (by simp); simp [WEv.isFault] at this

theorem writeSeq_cons_done {p : Bytes} {evs : List WEv} (ps : List Bytes) (h : (writeAll p evs).1.out = .done) :
    writeSeq (p :: ps) evs =
      { writeSeq ps (writeAll p evs).1.evs with
        wire := p ++ (writeSeq ps (writeAll p evs).1.evs).wire,
        completed := (writeSeq ps (writeAll p evs).1.evs).completed + 1 } := by
  simp only [writeSeq, h, writeAll_done_acc h]

theorem writeSeq_cons_notdone {p : Bytes} {evs : List WEv} (ps : List Bytes) (h : (writeAll p evs).1.out ≠ .done) :
    writeSeq (p :: ps) evs = ⟨(writeAll p evs).1.acc, 0, (writeAll p evs).1.out⟩ := by
  cases ho : (writeAll p evs).1.out with
  | done => exact absurd ho h
  | pending | err => simp only [writeSeq, ho]

/-- the wire is the completed packets, whole and in order, then a proper prefix of the next one -/
theorem writeSeq_shape (pkts : List Bytes) : ∀ evs : List WEv,
    (writeSeq pkts evs).completed ≤ pkts.length ∧
    ∃ pre, (writeSeq pkts evs).wire = (pkts.take (writeSeq pkts evs).completed).flatten ++ pre ∧
      ((writeSeq pkts evs).out = .done → (writeSeq pkts evs).completed = pkts.length ∧ pre = []) ∧
      ((writeSeq pkts evs).out ≠ .done →
        ∃ p, pkts[(writeSeq pkts evs).completed]? = some p ∧ pre <+: p ∧ pre.length < p.length) := by
  induction pkts with
  | nil => exact fun evs => ⟨by simp [writeSeq], [], by simp [writeSeq], by simp [writeSeq], by simp [writeSeq]⟩
  | cons p ps ih =>
    intro evs
    by_cases hd : (writeAll p evs).1.out = .done
    · -- the first packet is through: the rest of the wire is that of the remaining packets
      obtain ⟨h1, pre, h2, h3, h4⟩ := ih (writeAll p evs).1.evs
      rw [writeSeq_cons_done ps hd]
      refine ⟨Nat.succ_le_succ h1, pre, ?_, ?_, ?_⟩
      · simp only [List.take_succ_cons, List.flatten_cons, List.append_assoc, h2]
      · intro ho
        obtain ⟨a, b⟩ := h3 ho
        exact ⟨by simp [a], b⟩
      · intro ho
        obtain ⟨q, a, b, c⟩ := h4 ho
        exact ⟨q, by simpa using a, b, c⟩
    · obtain ⟨hpre, hlt⟩ := writeAll_notdone_proper hd
      rw [writeSeq_cons_notdone ps hd]
      exact ⟨Nat.zero_le _, _, rfl, fun ho => absurd ho hd, fun _ => ⟨p, rfl, hpre, hlt⟩⟩

theorem mockEvs_noFault (one pend : Bool) (len : Nat) : ∀ e ∈ mockEvs one pend len, e.isFault = false := by
  intro e he
  simp only [mockEvs, List.mem_flatten, List.mem_replicate] at he
  obtain ⟨l, ⟨_, rfl⟩, he⟩ := he
  cases one <;> cases pend <;> simp at he <;> rcases he with rfl | rfl <;> rfl

theorem filter_flatten_replicate_len (k : Nat) (u : List WEv) :
    ((List.replicate k u).flatten.filter WEv.isAccept).length = k * (u.filter WEv.isAccept).length := by
  induction k with
  | zero => simp
  | succ k ih => simp [List.replicate_succ, Nat.succ_mul, Nat.add_comm]

theorem mockEvs_accepts (one pend : Bool) (len : Nat) : len ≤ ((mockEvs one pend len).filter WEv.isAccept).length := by
  unfold mockEvs
  simp only []
  rw [filter_flatten_replicate_len]
  cases one <;> cases pend <;> simp [List.filter_cons, WEv.isAccept]

end Poster.TxStream

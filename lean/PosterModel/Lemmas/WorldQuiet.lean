/-
  Lemmas/WorldQuiet.lean — quiescence and full registration compose over whole scripts:
  `Quiesced` worlds are fixed points of spurious polls and of sweeps; a script step with the sweep phase equals
  the step without it (`step_eq_stepN`); runs with `sweep := true` and `sweep := false` stay equal up to the
  configuration (`steps_sweep_irrelevant`); a spurious poll inserted in a script inserts only `pollSeg`, its own
  `ev` line and the `stall` marker again when the context is stalled (`poll_inserted_from`, by `step_poll_spurious`
  and `steps_tweak` of WorldTweak). The executable conditions on a script under which this holds (`stepOk`,
  `stepsOk`, `evsOk`, `runOk`) are defined here.
-/
import PosterModel.Lemmas.WorldQuietStep
import PosterModel.Lemmas.WorldTweak


namespace Poster
open Framing
namespace World

/-- the executor has nothing left to poll (`pick = none`: every flagged task is dead or held), and every live
    task that is not flagged is parked with all its wake sources registered (`Inv`, whose `ok` field gives
    `TaskOk` for each such task); the framing state is one the library can reach -/
structure Quiesced (w : World) : Prop where
  idle : w.pick = none
  inv : Inv NoE w
  reach : Reach w.rx

theorem not_woken_of_idle (w : World) (t : Task) (h : w.pick = none) (hl : w.taskLive t = true)
    (hh : t ∉ w.held) : t ∉ w.woken :=
  fun hw => hh (pick_none_held w t h hw hl)

/-- what `Quiesced` says about a task that is not flagged: `TaskOk`, which for a live task reads (spelled out in
    `quiesced_full_registration`, Properties/C16World.lean): the context future has nothing
    to read, an idle framing machine, the transport waker registered (and for `run()`: nothing queued, the queue
    waker registered, a sender alive); an operation waits on an empty oneshot whose waker is registered; a stream
    has an empty channel with a live sender and its waker registered -/
theorem Quiesced.registered {w : World} (hq : Quiesced w) (t : Task) (hw : t ∉ w.woken) : TaskOk w t :=
  hq.inv.ok t hw (fun x => x)

theorem apply_poll_eq_self {w : World} (hi : Inv NoE w) (t : Task) (hw : t ∉ w.woken) :
    w.apply (.poll t) = w := by
  simp only [World.apply]
  split
  · rename_i hl
    exact pollTask_eq_self w t hl hw (hi.ok t hw (fun x => x))
  · rfl

theorem Quiesced.sweep_eq_self {w : World} (hq : Quiesced w) :
    w.sweep = w ∧ World.drain w.sweep.drainFuel w.sweep = w := by
  have e := World.sweep_eq_self w hq.inv
  rw [e]
  exact ⟨rfl, drain_none _ w hq.idle⟩

theorem drained_of_quiesced {w : World} (hq : Quiesced (World.drain w.drainFuel w)) :
    drained w = World.drain w.drainFuel w := by
  unfold drained
  simp only
  split
  · exact hq.sweep_eq_self.2
  · rfl

/-- a script step is fine: the event satisfies `evOk`, and the drain fuel sufficed (after the drain no flagged
    live task that is not held is left; this half alone is `stepFuelOk`, Lemmas/WorldQuietFuel.lean) -/
def stepOk (w : World) (e : Ev) : Bool :=
  evOk w e &&
    (w.bad || ((w.emit (.ev e)).apply e).bad ||
      (World.drain ((w.emit (.ev e)).apply e).drainFuel ((w.emit (.ev e)).apply e)).pick.isNone)

def stepsOk : World → List Ev → Bool
  | _, [] => true
  | w, e :: es => stepOk w e && stepsOk (w.step e) es

def evsOk : World → List Ev → Bool
  | _, [] => true
  | w, e :: es => evOk w e && evsOk (w.step e) es

def runOk (cfg : Cfg) (evs : List Ev) : Bool := stepsOk { cfg := cfg } evs

theorem evsOk_of_stepsOk : ∀ (evs : List Ev) (w : World), stepsOk w evs = true → evsOk w evs = true
  | [], _, _ => rfl
  | e :: es, w, h => by
    simp only [stepsOk, stepOk, Bool.and_eq_true] at h
    simp only [evsOk, Bool.and_eq_true]
    exact ⟨h.1.1, evsOk_of_stepsOk es _ h.2⟩

theorem Regd.steps : ∀ (evs : List Ev) {w : World}, Regd w → evsOk w evs = true → Regd (evs.foldl World.step w)
  | [], _, h, _ => h
  | e :: es, w, h, hok => by
    simp only [evsOk, Bool.and_eq_true] at hok
    exact Regd.steps es (h.step e hok.1) hok.2

theorem Inv.steps_init (cfg : Cfg) (evs : List Ev) (hok : evsOk { cfg := cfg } evs = true) :
    Inv NoE (evs.foldl World.step { cfg := cfg }) ∧ Reach (evs.foldl World.step { cfg := cfg }).rx :=
  have h := Regd.steps evs (Regd.init cfg) hok
  ⟨h.inv, h.reach⟩

theorem step_eq_stepN {w : World} (h : Regd w) (e : Ev) (hok : stepOk w e = true) :
    w.step e = stepN w e := by
  simp only [stepOk, Bool.and_eq_true, Bool.or_eq_true, Option.isNone_iff_eq_none] at hok
  obtain ⟨hev, hok⟩ := hok
  rw [step_eq_settle]
  unfold stepN
  by_cases hb : w.bad = true
  · rw [if_pos hb, if_pos hb]
  rw [if_neg hb, if_neg hb, settle_eq]
  have h1 := (h.emit (.ev e)).apply e ((evOk_emit w _ e).trans hev)
  generalize (w.emit (.ev e)).apply e = w1 at h1 hok ⊢
  by_cases hb1 : w1.bad = true
  · rw [if_pos hb1, if_pos hb1]
  rw [if_neg hb1, if_neg hb1]
  have h2 := h1.drain w1.drainFuel
  rw [drained_of_quiesced ⟨hok.resolve_left (not_or.mpr ⟨hb, hb1⟩), h2.inv, h2.reach⟩]

theorem Regd.tweak {w : World} (h : Regd w) (b : Bool) (p : List Obs) : Regd (tweak b p w) :=
  ⟨{ h.own with }, fun n => { h.core n with }, fun hn => h.ctx hn, by simpa using h.reach⟩

theorem evOk_tweak (b : Bool) (p : List Obs) (w : World) (e : Ev) : evOk (tweak b p w) e = evOk w e := by
  cases e with
  | op id hh req => cases req <;> rfl
  | _ => rfl

theorem stepOk_tweak (b : Bool) (p : List Obs) (w : World) (e : Ev) : stepOk (tweak b p w) e = stepOk w e := by
  simp only [stepOk, evOk_tweak, tweak_bad, emit_tweak, apply_tweak, drainFuel_tweak, drain_tweak, pick_tweak]

theorem steps_sweep_irrelevant : ∀ (evs : List Ev) (w : World), w.cfg.sweep = false → Regd w →
    stepsOk w evs = true → evs.foldl World.step (tweak true [] w) = tweak true [] (evs.foldl World.step w)
  | [], _, _, _, _ => rfl
  | e :: es, w, hs, h, hok => by
    simp only [stepsOk, Bool.and_eq_true] at hok
    simp only [List.foldl_cons]
    have e1 : (tweak true [] w).step e = tweak true [] (w.step e) := by
      rw [step_eq_stepN (h.tweak true []) e (by rw [stepOk_tweak]; exact hok.1),
        stepN_tweak, step_eq_stepN_of_nosweep w e hs]
    rw [e1]
    have hev : evOk w e = true := by
      have := hok.1; simp only [stepOk, Bool.and_eq_true] at this; exact this.1
    exact steps_sweep_irrelevant es (w.step e) (by rw [step_cfg]; exact hs) (h.step e hev) hok.2

/-- the observations of a spurious `poll t` step: the event itself, and the stall marker again if the context
    future is stalled (alive with unread input, e.g. because it is held) -/
def pollSeg (w : World) (t : Task) : List Obs :=
  if w.bad then [] else
    [Obs.ev (.poll t)] ++ (if w.task ≠ .none ∧ w.reader ≠ [] then [Obs.stall] else [])

theorem step_poll_spurious {w : World} (hi : Inv NoE w) (hr : Reach w.rx) (hidle : w.pick = none) (t : Task)
    (hw : t ∉ w.woken) : w.step (.poll t) = { w with out := w.out ++ pollSeg w t } := by
  have hq : Quiesced (w.emit (.ev (.poll t))) := ⟨hidle, hi.emit _, hr⟩
  rw [step_eq_settle]
  unfold pollSeg
  by_cases hb : w.bad = true
  · rw [if_pos hb, if_pos hb, List.append_nil]
  · rw [if_neg hb, if_neg hb, apply_poll_eq_self hq.inv t hw, settle_eq, if_neg (show ¬ (w.emit _).bad = true from hb),
      drained_of_quiesced (by rw [drain_none _ _ hq.idle]; exact hq), drain_none _ _ hq.idle]
    simp only [emit_task, emit_reader]
    by_cases hst : w.task ≠ .none ∧ w.reader ≠ []
    · rw [if_pos hst, if_pos hst]
      simp [World.emit]
    · rw [if_neg hst, if_neg hst]
      simp [World.emit]

theorem eq_tweak_reset (w : World) (p : List Obs) :
    ({ w with out := p } : World) = tweak w.cfg.sweep p { w with out := [] } := by
  cases w; simp [tweak]

theorem run_append (cfg : Cfg) (evs₁ evs₂ : List Ev) :
    run cfg (evs₁ ++ evs₂) = ((evs₂.foldl World.step (evs₁.foldl World.step { cfg := cfg })).finishScript).out := by
  simp [run, List.foldl_append]

theorem poll_inserted_from (w₁ : World) (evs₂ : List Ev) (t : Task)
    (h : w₁.bad = true ∨ (Inv NoE w₁ ∧ Reach w₁.rx ∧ w₁.pick = none ∧ t ∉ w₁.woken)) :
    ∃ post, ((evs₂.foldl World.step w₁).finishScript).out = w₁.out ++ post ∧
      ((evs₂.foldl World.step (w₁.step (.poll t))).finishScript).out = w₁.out ++ pollSeg w₁ t ++ post := by
  rcases h with hb | ⟨hi, hr, hidle, hw⟩
  · rw [step_of_bad w₁ _ hb, foldl_step_of_bad evs₂ w₁ hb, show pollSeg w₁ t = [] by simp [pollSeg, hb],
      List.append_nil]
    unfold finishScript flushRaw
    split
    · exact ⟨[], by simp, by simp⟩
    · exact ⟨[.wraw w₁.wirePend], rfl, rfl⟩
  · rw [step_poll_spurious hi hr hidle t hw]
    -- both runs are the run from `w₁` with an empty transcript, behind a prefix
    have b : ∀ p, evs₂.foldl World.step { w₁ with out := p } =
        tweak w₁.cfg.sweep p (evs₂.foldl World.step { w₁ with out := [] }) := fun p => by
      have h0 := steps_tweak w₁.cfg.sweep p evs₂ { w₁ with out := [] } rfl
      rwa [← eq_tweak_reset w₁ p] at h0
    refine ⟨((evs₂.foldl World.step { w₁ with out := [] }).finishScript).out, ?_, ?_⟩
    · rw [show w₁ = { w₁ with out := w₁.out } from rfl, b, finishScript_tweak, tweak_out]
    · rw [b, finishScript_tweak, tweak_out]

end World
end Poster

/-
  Lemmas/WorldShape.lean — the few outcomes of the user-side functions of `World`. `pollOp`, `startOp`, `resumeOp`,
  `dropOp` and `pollStream` are nested case distinctions over requests (5), awaited kinds (7) and packets (11); what a
  proof needs of them is almost always one of three or four outcomes. The case distinctions are made here, once. In
  order: what a request is completed to and what is opened for it; the classes of log lines; the frame no user-side
  poll touches (`UserFrame`); the end of an operation (`endOp`, `eraseOp`) and `sendAwait`; `resumeOp`; `startOp`
  (`startOp_eq`); one poll of a handle future as a prepared world `OpPrep` followed by `endOp` or `sendAwait` of the
  message `SendWhy` names (`pollOp_spec`); `dropOp` (`DropPrep`); `pollStream`; and `UserMove`, what every such poll or
  drop is; last, the log layer: a world extending the log of another by lines of a class (`OutExtP`, `OutExt`), through
  every primitive and a handler run. The script events: Lemmas/WorldApplied.lean.
-/
import PosterModel.Lemmas.UserWorld
import PosterModel.Lemmas.World

namespace Poster
open Framing

/-- the request has its mandatory parts (`build()` / `validate()` succeed) -/
def Req.accepted : Req → Bool
  | .publish t => t.valid
  | .subscribe t => t.valid
  | .unsubscribe t => t.valid
  | .ping => true
  | .disconnect _ => true

def Req.bytes : Req → Bytes
  | .publish t => t.encode
  | .subscribe t => t.encode
  | .unsubscribe t => t.encode
  | .ping => pingreqBytes
  | .disconnect t => t.encode

def Req.wait : Req → Wait
  | .publish t => if t.qos = 0 then .ff else if t.qos = 1 then .puback else .pubrec
  | .subscribe _ => .suback
  | .unsubscribe _ => .unsuback
  | .ping => .pingresp
  | .disconnect _ => .ff

namespace World

/-- the request with the identifiers the library assigns to it when its future is first polled in world `w` -/
def completeReq (w : World) : Req → Req
  | .publish t => .publish (if t.qos = 0 then t else { t with packetId := some w.pidCtr })
  | .subscribe t => .subscribe { t with packetId := w.pidCtr, subId := some w.subCtr }
  | .unsubscribe t => .unsubscribe { t with packetId := w.pidCtr }
  | .ping => .ping
  | .disconnect t => .disconnect t

/-- the world after the identifiers of the request were taken from the counters -/
def allocFor (w : World) : Req → World
  | .publish t => if t.qos = 0 then w else w.allocPid.2
  | .subscribe _ => w.allocPid.2.allocSub.2
  | .unsubscribe _ => w.allocPid.2
  | .ping => w
  | .disconnect _ => w

/-- … and, for a SUBSCRIBE, after the subscription channel was created -/
def openFor (w : World) (id : Nat) : Req → World
  | .subscribe t => (w.allocFor (.subscribe t)).setChan id {}
  | r => w.allocFor r

/-- the message the first poll of the future of a request puts into the queue -/
def reqMsg (w : World) (id : Nat) : Req → Msg
  | .publish t =>
    if t.qos = 0 then .ff t.encode (2 * id)
    else .awaitAck (actionId (if t.qos = 1 then 4 else 5) w.pidCtr)
      ({ t with packetId := some w.pidCtr } : PublishTx).encode (2 * id)
  | .subscribe t =>
    .subscribe (actionId 9 w.pidCtr) w.subCtr
      ({ t with packetId := w.pidCtr, subId := some w.subCtr } : SubscribeTx).encode (2 * id) id
  | .unsubscribe t => .awaitAck (actionId 11 w.pidCtr) ({ t with packetId := w.pidCtr } : UnsubscribeTx).encode (2 * id)
  | .ping => .awaitAck (actionId 13 0) pingreqBytes (2 * id)
  | .disconnect t => .ff t.encode (2 * id)

/-- a request whose message finds no context gives up what was opened for it: the channel of a SUBSCRIBE -/
def abandonFor (w : World) (id : Nat) : Req → World
  | .subscribe _ => w.dropChanRx id
  | _ => w

namespace W7
/-- the PUBREL message `publish()` sends for the packet identifier `pid`, to be acknowledged on the oneshot `s` -/
def pubrelMsg (pid s : Nat) : Msg := .awaitAck (actionId 7 pid) (ackBytes 0x62 pid) s
end W7

theorem allocFor_prep (w : World) (req : Req) : w.allocFor req =
    { w with pidCtr := (w.allocFor req).pidCtr, subCtr := (w.allocFor req).subCtr, chans := w.chans } := by
  cases req with
  | publish t => simp only [allocFor]; split <;> rfl
  | _ => rfl

theorem openFor_subscribe_prep (w : World) (id : Nat) (t : SubscribeTx) : w.openFor id (.subscribe t) =
    { w with pidCtr := (w.allocFor (.subscribe t)).pidCtr, subCtr := (w.allocFor (.subscribe t)).subCtr,
             chans := setAssoc id {} w.chans } := by
  rw [openFor, allocFor_prep w (.subscribe t)]; rfl

theorem openFor_prep (w : World) (id : Nat) (req : Req) : ∃ ch, w.openFor id req =
    { w with pidCtr := (w.allocFor req).pidCtr, subCtr := (w.allocFor req).subCtr, chans := ch } ∧
    (ch = w.chans ∨ ∃ t, req = .subscribe t ∧ ch = setAssoc id {} w.chans) := by
  cases req with
  | subscribe t => exact ⟨_, openFor_subscribe_prep w id t, Or.inr ⟨t, rfl, rfl⟩⟩
  | publish t => exact ⟨w.chans, allocFor_prep w (.publish t), Or.inl rfl⟩
  | unsubscribe t => exact ⟨w.chans, allocFor_prep w (.unsubscribe t), Or.inl rfl⟩
  | ping => exact ⟨w.chans, allocFor_prep w .ping, Or.inl rfl⟩
  | disconnect t => exact ⟨w.chans, allocFor_prep w (.disconnect t), Or.inl rfl⟩

theorem openFor_hasCtx (w : World) (id : Nat) (req : Req) : (w.openFor id req).hasCtx = w.hasCtx := by
  obtain ⟨ch, e, _⟩ := openFor_prep w id req; rw [e]

theorem reqMsg_slot (w : World) (id : Nat) (req : Req) : (w.reqMsg id req).slot = 2 * id := by
  cases req with
  | publish t => simp only [reqMsg]; split <;> rfl
  | _ => rfl

theorem reqMsg_pkt (w : World) (id : Nat) (req : Req) : (w.reqMsg id req).pkt = (w.completeReq req).bytes := by
  cases req with
  | publish t => simp only [reqMsg, completeReq]; split <;> rfl
  | _ => rfl

/-- the observations `endOp` is called with: DONE, or the `unreachable!()` of a handle future -/
def EndObs (id : Nat) (o : Obs) : Prop := o = .panic (.op id) "unreachable" ∨ ∃ r, o = .done id r

/-- a line the context task logs itself -/
def CtxLine (o : Obs) : Prop :=
  (∃ bs, o = .wire bs ∨ o = .wraw bs) ∨ (∃ c r, o = .ret c r) ∨ ∃ cls, o = .panic .ctx cls

theorem CtxLine.wire (bs : Bytes) : CtxLine (.wire bs) := Or.inl ⟨bs, Or.inl rfl⟩
theorem CtxLine.wraw (bs : Bytes) : CtxLine (.wraw bs) := Or.inl ⟨bs, Or.inr rfl⟩
theorem CtxLine.ret (c : Call) (r : RetRes) : CtxLine (.ret c r) := Or.inr (Or.inl ⟨c, r, rfl⟩)
theorem CtxLine.panic (cls : String) : CtxLine (.panic .ctx cls) := Or.inr (Or.inr ⟨cls, rfl⟩)

/-- the lines a poll of the task `t` may log -/
def TaskLine : Task → Obs → Prop
  | .ctx => CtxLine
  | .op id => EndObs id
  | .st id => fun o => (∃ p, o = .item id p) ∨ o = .endStream id

/-- what holds of the four kinds of lines a handle future or a stream logs holds of a line of a task other than the
    context task -/
theorem TaskLine.user {P : Obs → Prop} {t : Task} {o : Obs} (ht : t ≠ .ctx) (h : TaskLine t o)
    (done : ∀ id r, P (.done id r)) (panic : ∀ id, P (.panic (.op id) "unreachable"))
    (item : ∀ id p, P (.item id p)) (fin : ∀ id, P (.endStream id)) : P o := by
  cases t with
  | ctx => exact absurd rfl ht
  | op id => exact h.elim (fun e => e ▸ panic id) fun ⟨r, e⟩ => e ▸ done id r
  | st id => exact h.elim (fun ⟨p, e⟩ => e ▸ item id p) fun e => e ▸ fin id

/-- what no poll of any task touches -/
structure PollFrame (w w' : World) : Prop where
  cfg : w'.cfg = w.cfg
  hasCtx : w'.hasCtx = w.hasCtx
  ctxDropped : w'.ctxDropped = w.ctxDropped
  handles : w'.handles = w.handles
  held : w'.held = w.held
  bad : w'.bad = w.bad

theorem PollFrame.refl (w : World) : PollFrame w w := ⟨rfl, rfl, rfl, rfl, rfl, rfl⟩

theorem PollFrame.trans {a b c : World} (h1 : PollFrame a b) (h2 : PollFrame b c) : PollFrame a c :=
  ⟨h2.cfg.trans h1.cfg, h2.hasCtx.trans h1.hasCtx, h2.ctxDropped.trans h1.ctxDropped, h2.handles.trans h1.handles,
   h2.held.trans h1.held, h2.bad.trans h1.bad⟩

/-- What one poll or drop of a handle future or of a stream leaves alone: the configuration, everything the context
    task owns (its state, its task, the framing state and reader), the handles and the transport. Not listed, hence
    free to change: the message queue and its waker, `woken`, the operations, oneshots, channels and streams, the
    identifier counters and the transcript. -/
structure UserFrame (w w' : World) : Prop extends PollFrame w w' where
  task : w'.task = w.task
  c : w'.c = w.c
  rx : w'.rx = w.rx
  reader : w'.reader = w.reader
  readerReg : w'.readerReg = w.readerReg
  written : w'.written = w.written
  wirePend : w'.wirePend = w.wirePend

namespace UserFrame

theorem refl (w : World) : UserFrame w w := ⟨.refl w, rfl, rfl, rfl, rfl, rfl, rfl, rfl⟩

theorem trans {a b c : World} (h1 : UserFrame a b) (h2 : UserFrame b c) : UserFrame a c :=
  ⟨h1.toPollFrame.trans h2.toPollFrame, h2.task.trans h1.task, h2.c.trans h1.c, h2.rx.trans h1.rx,
   h2.reader.trans h1.reader, h2.readerReg.trans h1.readerReg, h2.written.trans h1.written,
   h2.wirePend.trans h1.wirePend⟩

theorem of_eq {w w' : World} {q qr o sl sr ch rs st p sc wk ou}
    (h : w' = { w with queue := q, queueReg := qr, ops := o, slots := sl, slotReg := sr, chans := ch, rsps := rs,
                       streams := st, pidCtr := p, subCtr := sc, woken := wk, out := ou }) : UserFrame w w' := by
  subst h; exact ⟨⟨rfl, rfl, rfl, rfl, rfl, rfl⟩, rfl, rfl, rfl, rfl, rfl, rfl, rfl⟩

end UserFrame

def endOp (w : World) (id : Nat) (o : Obs) : World :=
  (({ w with ops := eraseFirst id w.ops }).emit o).senderGone

theorem finishOp_eq_endOp (w : World) (id : Nat) (r : DoneRes) : w.finishOp id r = w.endOp id (.done id r) := rfl

/-- an operation's entry goes and the message queue loses a sender (nothing is logged: the future was dropped) -/
def eraseOp (w : World) (id : Nat) : World := ({ w with ops := eraseFirst id w.ops }).senderGone

@[simp] theorem endOp_out (w : World) (id : Nat) (o : Obs) : (w.endOp id o).out = w.out ++ [o] := by simp [endOp]
@[simp] theorem eraseOp_out (w : World) (id : Nat) : (w.eraseOp id).out = w.out := by simp [eraseOp]
@[simp] theorem endOp_ops (w : World) (id : Nat) (o : Obs) : (w.endOp id o).ops = eraseFirst id w.ops := by simp [endOp]
@[simp] theorem eraseOp_ops (w : World) (id : Nat) : (w.eraseOp id).ops = eraseFirst id w.ops := by simp [eraseOp]
@[simp] theorem eraseOp_slots (w : World) (id : Nat) : (w.eraseOp id).slots = w.slots := by simp [eraseOp]

theorem eraseOp_shape (w : World) (id : Nat) :
    ∃ wk qr, w.eraseOp id = { w with ops := eraseFirst id w.ops, woken := wk, queueReg := qr } :=
  World.senderGone_shape ({ w with ops := eraseFirst id w.ops })

theorem endOp_shape (w : World) (id : Nat) (o : Obs) :
    ∃ wk qr, w.endOp id o = { w with ops := eraseFirst id w.ops, out := w.out ++ [o], woken := wk, queueReg := qr } := by
  obtain ⟨wk, qr, e⟩ := World.senderGone_shape (({ w with ops := eraseFirst id w.ops }).emit o)
  exact ⟨wk, qr, e⟩

theorem opSt_erase {w w' : World} (id : Nat) (hn : (w.ops.map (·.1)).Nodup) (h : w'.ops = eraseFirst id w.ops) :
    w'.opSt id = none := by
  simp only [opSt, h]; exact lookupFirst_eraseFirst_self id w.ops hn

theorem opSt_setWait {w w' : World} (id s : Nat) (k : Wait) (h : w'.ops = setAssoc id (.wait s k) w.ops) :
    w'.opSt id = some (.wait s k) := by
  simp only [opSt, h]; exact lookupFirst_setAssoc_self id _ w.ops

theorem eraseOp_opSt_self {w : World} (hn : (w.ops.map (·.1)).Nodup) (id : Nat) : (w.eraseOp id).opSt id = none := by
  obtain ⟨wk, qr, e⟩ := eraseOp_shape w id
  exact opSt_erase id hn (by rw [e])

theorem endOp_opSt_self {w : World} (hn : (w.ops.map (·.1)).Nodup) (id : Nat) (o : Obs) :
    (w.endOp id o).opSt id = none := by
  obtain ⟨wk, qr, e⟩ := endOp_shape w id o
  exact opSt_erase id hn (by rw [e])

theorem endOp_userFrame (w : World) (id : Nat) (o : Obs) : UserFrame w (w.endOp id o) := by
  obtain ⟨wk, qr, e⟩ := endOp_shape w id o
  rw [e]; exact .of_eq rfl

theorem eraseOp_userFrame (w : World) (id : Nat) : UserFrame w (w.eraseOp id) := by
  obtain ⟨wk, qr, e⟩ := eraseOp_shape w id
  rw [e]; exact .of_eq rfl

theorem endOp_woken_mono (w : World) (id : Nat) (o : Obs) (t : Task) (h : t ∈ w.woken) : t ∈ (w.endOp id o).woken :=
  senderGone_woken_mono _ t h

theorem sendAwait_queue_cases (w : World) (m : Msg) (id s : Nat) (k : Wait) :
    (w.sendAwait m id s k).queue = w.queue ∨ w.hasCtx = true ∧ (w.sendAwait m id s k).queue = w.queue ++ [m] := by
  rw [sendAwait_eq]; split
  · exact Or.inr ⟨‹_›, rfl⟩
  · exact Or.inl (finishOp_queue _ _ _)

theorem sendAwait_userFrame (w : World) (m : Msg) (id s : Nat) (k : Wait) : UserFrame w (w.sendAwait m id s k) := by
  obtain ⟨q, o, sl, sr, wk, qr, ou, e⟩ := User.sendAwait_frame w m id s k; rw [e]; exact .of_eq rfl

theorem sendAwait_woken_mono (w : World) (m : Msg) (id s : Nat) (k : Wait) (t : Task) (h : t ∈ w.woken) :
    t ∈ (w.sendAwait m id s k).woken := by
  rw [sendAwait_eq]; split
  · exact mem_wakeIf h
  · exact endOp_woken_mono w id _ t h

theorem sendAwait_out (w : World) (m : Msg) (id s : Nat) (k : Wait) :
    (w.sendAwait m id s k).out = w.out ∨ (w.sendAwait m id s k).out = w.out ++ [.done id (.err .contextExited)] := by
  rw [sendAwait_eq]; split
  · exact Or.inl rfl
  · exact Or.inr (endOp_out _ _ _)

/-- the kind of packet a suspended handle future accepts from its oneshot -/
def Wait.accepts : Wait → RxPacket → Bool
  | .puback, .puback _ => true
  | .pubrec, .pubrec _ => true
  | .pubcomp, .pubcomp _ => true
  | .suback, .suback _ => true
  | .unsuback, .unsuback _ => true
  | .pingresp, .pingresp => true
  | _, _ => false

namespace W7
/-- **What a handle future reports when it is resumed with the value `v` of its oneshot** (`k`: what it waits for,
    `ctx`: the context still exists): the local refusals (packet too large, send quota exhausted), "written" for a
    fire-and-forget request, and for an acknowledgement of its own kind: success when the reason is < 0x80 and the
    error of that kind carrying the acknowledgement's reason, reason string and user properties when it is ≥ 0x80; a
    QoS 2 publish whose PUBREC succeeded reports nothing yet (it sends the PUBREL) unless the context is gone. -/
inductive ResumeRes : Wait → SlotVal → Bool → DoneRes → Prop
  | tooLarge (k : Wait) (b : Bool) : ResumeRes k .errSize b (.err .maximumPacketSizeExceeded)
  | quota (k : Wait) (b : Bool) : ResumeRes k .errQuota b (.err .quotaExceeded)
  | written (b : Bool) : ResumeRes .ff .unit b .ok
  | internal (k : Wait) (b : Bool) : k ≠ .ff → ResumeRes k .unit b (.err .internalError)
  | pubackOk (a : AckRx) (b : Bool) : a.reason < 128 → ResumeRes .puback (.pkt (.puback a)) b .ok
  | pubackErr (a : AckRx) (b : Bool) : a.reason ≥ 128 →
      ResumeRes .puback (.pkt (.puback a)) b (.errAck .pubackError a.reason a.reasonString a.userProps)
  | pubrecErr (a : AckRx) (b : Bool) : a.reason ≥ 128 →
      ResumeRes .pubrec (.pkt (.pubrec a)) b (.errAck .pubrecError a.reason a.reasonString a.userProps)
  | pubrecNoCtx (a : AckRx) : a.reason < 128 → ResumeRes .pubrec (.pkt (.pubrec a)) false (.err .contextExited)
  | pubcompOk (a : AckRx) (b : Bool) : a.reason < 128 → ResumeRes .pubcomp (.pkt (.pubcomp a)) b .ok
  | pubcompErr (a : AckRx) (b : Bool) : a.reason ≥ 128 →
      ResumeRes .pubcomp (.pkt (.pubcomp a)) b (.errAck .pubcompError a.reason a.reasonString a.userProps)
  | suback (a : SubackRx) (b : Bool) :
      ResumeRes .suback (.pkt (.suback a)) b (.okAck false a.reasonString a.userProps a.payload)
  | unsuback (a : SubackRx) (b : Bool) :
      ResumeRes .unsuback (.pkt (.unsuback a)) b (.okAck true a.reasonString a.userProps a.payload)
  | pingresp (b : Bool) : ResumeRes .pingresp (.pkt .pingresp) b .ok
end W7

theorem resumeOp_mismatch (w : World) (id s : Nat) (k : Wait) (p : RxPacket) (h : Wait.accepts k p = false) :
    w.resumeOp id s k (.pkt p) = (w.clearSlot s).endOp id (.panic (.op id) "unreachable") := by
  -- the arms of `resumeOp` on a packet are those of `Wait.accepts`
  unfold resumeOp
  simp only
  split
  iterate 6 cases h -- the six arms for an awaited kind with its own packet: `Wait.accepts` is `true` there
  rfl -- the catch-all arm

/-- **a handle future resumed with the value of its oneshot**: it completes; or (SUBACK) completes after making the
    stream available; or (PUBREC < 0x80) sends the PUBREL and waits for the PUBCOMP on its second oneshot; or the value
    is a packet of the wrong kind. Which of the four depends on `k` and `v` only, not on the world. -/
theorem resumeOp_cases (id s : Nat) (k : Wait) (v : SlotVal) :
    (∃ r, (∀ b, W7.ResumeRes k v b r) ∧ ∀ w : World, w.resumeOp id s k v = (w.clearSlot s).finishOp id r) ∨
    (∃ a, k = .suback ∧ v = .pkt (.suback a) ∧ ∀ w : World, w.resumeOp id s k v =
      ({ w.clearSlot s with rsps := w.rsps ++ [id] }).finishOp id (.okAck false a.reasonString a.userProps a.payload)) ∨
    (∃ a, k = .pubrec ∧ v = .pkt (.pubrec a) ∧ a.reason < 128 ∧ ∀ w : World, w.resumeOp id s k v =
      (w.clearSlot s).sendAwait (W7.pubrelMsg a.packetId (s + 1)) id (s + 1) .pubcomp) ∨
    (∃ p, v = .pkt p ∧ Wait.accepts k p = false ∧
      ∀ w : World, w.resumeOp id s k v = (w.clearSlot s).endOp id (.panic (.op id) "unreachable")) := by
  cases v with
  | errSize => exact Or.inl ⟨_, .tooLarge k, fun _ => rfl⟩
  | errQuota => exact Or.inl ⟨_, .quota k, fun _ => rfl⟩
  | unit =>
    by_cases hk : k = .ff
    · subst hk; exact Or.inl ⟨_, .written, fun _ => rfl⟩
    · exact Or.inl ⟨_, (.internal k · hk), fun _ => by cases k <;> first | rfl | exact absurd rfl hk⟩
  | pkt p =>
    cases ha : Wait.accepts k p
    · exact Or.inr (Or.inr (Or.inr ⟨p, rfl, ha, fun w => resumeOp_mismatch w id s k p ha⟩))
    · unfold Wait.accepts at ha
      split at ha
      next a => -- PUBACK: error or success by the reason code
        by_cases h : a.reason ≥ 128
        · exact Or.inl ⟨_, (.pubackErr a · h), fun w => by simp only [resumeOp, h, ↓reduceIte]; rfl⟩
        · exact Or.inl ⟨_, (.pubackOk a · (by omega)), fun w => by simp only [resumeOp, h, ↓reduceIte]⟩
      next a => -- PUBREC: error, or on to the PUBREL
        by_cases h : a.reason ≥ 128
        · exact Or.inl ⟨_, (.pubrecErr a · h), fun w => by simp only [resumeOp, h, ↓reduceIte]; rfl⟩
        · exact Or.inr (Or.inr (Or.inl ⟨a, rfl, rfl, by omega, fun w => by simp only [resumeOp, h, ↓reduceIte]; rfl⟩))
      next a => -- PUBCOMP
        by_cases h : a.reason ≥ 128
        · exact Or.inl ⟨_, (.pubcompErr a · h), fun w => by simp only [resumeOp, h, ↓reduceIte]; rfl⟩
        · exact Or.inl ⟨_, (.pubcompOk a · (by omega)), fun w => by simp only [resumeOp, h, ↓reduceIte]⟩
      next => exact Or.inr (Or.inl ⟨_, rfl, rfl, fun _ => rfl⟩) -- SUBACK
      next => exact Or.inl ⟨_, .unsuback _, fun _ => rfl⟩ -- UNSUBACK
      next => exact Or.inl ⟨_, .pingresp, fun _ => rfl⟩ -- PINGRESP
      next => cases ha -- any other pair is not accepted

theorem resumeOp_shape (w : World) (id s : Nat) (k : Wait) (v : SlotVal) :
    (∃ o, EndObs id o ∧ w.resumeOp id s k v = (w.clearSlot s).endOp id o) ∨
    (∃ a, k = .suback ∧ v = .pkt (.suback a) ∧ w.resumeOp id s k v =
      ({ w.clearSlot s with rsps := w.rsps ++ [id] }).endOp id (.done id (.okAck false a.reasonString a.userProps a.payload))) ∨
    (∃ a, k = .pubrec ∧ v = .pkt (.pubrec a) ∧ a.reason < 128 ∧ w.resumeOp id s k v =
      (w.clearSlot s).sendAwait (W7.pubrelMsg a.packetId (s + 1)) id (s + 1) .pubcomp) := by
  rcases resumeOp_cases id s k v with ⟨r, _, e⟩ | ⟨a, h1, h2, e⟩ | ⟨a, h1, h2, h3, e⟩ | ⟨p, _, _, e⟩
  · exact Or.inl ⟨_, Or.inr ⟨r, rfl⟩, e w⟩
  · exact Or.inr (Or.inl ⟨a, h1, h2, e w⟩)
  · exact Or.inr (Or.inr ⟨a, h1, h2, h3, e w⟩)
  · exact Or.inl ⟨_, Or.inl rfl, e w⟩

theorem resumeOp_outcome (w : World) (id s : Nat) (k : Wait) (v : SlotVal) :
    (w.resumeOp id s k v).pidCtr = w.pidCtr ∧ (w.resumeOp id s k v).subCtr = w.subCtr ∧
    ((w.resumeOp id s k v).queue = w.queue ∨
      ∃ a, k = .pubrec ∧ v = .pkt (.pubrec a) ∧ a.reason < 128 ∧ w.hasCtx = true ∧
        (w.resumeOp id s k v).queue = w.queue ++ [W7.pubrelMsg a.packetId (s + 1)]) := by
  rcases resumeOp_shape w id s k v with ⟨o, _, e⟩ | ⟨a, _, _, e⟩ | ⟨a, hk, hv, ha, e⟩
  · obtain ⟨wk, qr, e'⟩ := endOp_shape (w.clearSlot s) id o
    rw [e, e']; exact ⟨rfl, rfl, Or.inl rfl⟩
  · obtain ⟨wk, qr, e'⟩ := endOp_shape ({ w.clearSlot s with rsps := w.rsps ++ [id] }) id
      (.done id (.okAck false a.reasonString a.userProps a.payload))
    rw [e, e']; exact ⟨rfl, rfl, Or.inl rfl⟩
  · rw [e, User.sendAwait_pidCtr, User.sendAwait_subCtr]
    exact ⟨rfl, rfl, (sendAwait_queue_cases (w.clearSlot s) _ id (s + 1) .pubcomp).imp_right
      fun ⟨hc, h⟩ => ⟨a, hk, hv, ha, hc, h⟩⟩

theorem resumeOp_chans (w : World) (id s : Nat) (k : Wait) (v : SlotVal) : (w.resumeOp id s k v).chans = w.chans := by
  rcases resumeOp_shape w id s k v with ⟨o, _, e⟩ | ⟨a, _, _, e⟩ | ⟨a, _, _, _, e⟩ <;> rw [e]
  · obtain ⟨wk, qr, e'⟩ := endOp_shape (w.clearSlot s) id o; rw [e']; rfl
  · obtain ⟨wk, qr, e'⟩ := endOp_shape _ id _; rw [e']; rfl
  · obtain ⟨q, o, sl, sr, wk, qr, ou, e'⟩ := User.sendAwait_frame (w.clearSlot s) _ id (s + 1) .pubcomp; rw [e']; rfl

theorem startOp_eq (w : World) (id : Nat) (req : Req) : w.startOp id req =
    if (w.completeReq req).accepted = true then
      match (w.openFor id req).sendMsg (w.reqMsg id req) with
      | none => ((w.openFor id req).abandonFor id req).finishOp id (.err .contextExited)
      | some w' => w'.awaitSlot id (2 * id) req.wait
    else (w.allocFor req).finishOp id (.err .codecError) := by
  cases req with
  | publish t =>
    by_cases hq : t.qos = 0
    · rw [User.startOp_publish0 _ _ _ hq]
      simp only [completeReq, Req.accepted, openFor, allocFor, reqMsg, Req.wait, abandonFor, sendAwait, hq, ↓reduceIte]
      cases t.valid <;> rfl
    · rw [User.startOp_publish12 _ _ _ hq]
      simp only [completeReq, Req.accepted, openFor, allocFor, reqMsg, Req.wait, abandonFor, sendAwait, hq, ↓reduceIte]
      cases ({ t with packetId := some w.pidCtr } : PublishTx).valid <;> rfl
  | subscribe t =>
    rw [User.startOp_subscribe]
    simp only [completeReq, Req.accepted, openFor, allocFor, reqMsg, Req.wait, abandonFor]
    by_cases hv : ({ t with packetId := w.pidCtr, subId := some w.subCtr } : SubscribeTx).valid = true <;> simp [hv] <;> rfl
  | unsubscribe t =>
    rw [User.startOp_unsubscribe]
    simp only [completeReq, Req.accepted, openFor, allocFor, reqMsg, Req.wait, abandonFor, sendAwait]
    by_cases hv : ({ t with packetId := w.pidCtr } : UnsubscribeTx).valid = true <;> simp [hv] <;> rfl
  | ping => rfl
  | disconnect t => rfl

theorem startOp_refused (w : World) (id : Nat) (req : Req) (h : (w.completeReq req).accepted = false) :
    w.startOp id req = (w.allocFor req).finishOp id (.err .codecError) := by
  rw [startOp_eq, if_neg (by simp [h])]

theorem startOp_queued (w : World) (id : Nat) (req : Req) (h : (w.completeReq req).accepted = true)
    (hc : w.hasCtx = true) :
    w.startOp id req = (w.openFor id req).sendAwait (w.reqMsg id req) id (2 * id) req.wait := by
  obtain ⟨wk, qr, hm⟩ := User.sendMsg_shape (w.openFor id req) (w.reqMsg id req) ((openFor_hasCtx w id req).trans hc)
  rw [startOp_eq, if_pos h, sendAwait, hm]

theorem startOp_noCtx (w : World) (id : Nat) (req : Req) (h : (w.completeReq req).accepted = true)
    (hc : w.hasCtx = false) :
    w.startOp id req = ((w.openFor id req).abandonFor id req).finishOp id (.err .contextExited) := by
  rw [startOp_eq, if_pos h, User.sendMsg_none _ _ ((openFor_hasCtx w id req).trans hc)]

theorem startOp_accepted (w : World) (id : Nat) (req : Req) (hc : w.hasCtx = true)
    (hv : (w.completeReq req).accepted = true) :
    (w.startOp id req).queue = w.queue ++ [w.reqMsg id req] ∧
    (w.startOp id req).opSt id = some (.wait (2 * id) req.wait) ∧ (w.startOp id req).out = w.out ∧
    (w.startOp id req).chans = (w.openFor id req).chans := by
  obtain ⟨wk, qr, e⟩ := User.sendAwait_ctx (w.openFor id req) (w.reqMsg id req) id (2 * id) req.wait
    ((openFor_hasCtx w id req).trans hc)
  obtain ⟨ch, eo, _⟩ := openFor_prep w id req
  rw [startOp_queued w id req hv hc, e]
  exact ⟨by rw [eo], lookupFirst_setAssoc_self _ _ _, by rw [eo], rfl⟩

theorem startOp_shape (w : World) (id : Nat) (req : Req) :
    ((w.completeReq req).accepted = false ∧ w.startOp id req = (w.allocFor req).finishOp id (.err .codecError)) ∨
    ((w.completeReq req).accepted = true ∧ w.hasCtx = true ∧
      w.startOp id req = (w.openFor id req).sendAwait (w.reqMsg id req) id (2 * id) req.wait) ∨
    ((w.completeReq req).accepted = true ∧ w.hasCtx = false ∧
      w.startOp id req = ((w.openFor id req).abandonFor id req).finishOp id (.err .contextExited)) := by
  cases ha : (w.completeReq req).accepted
  · exact Or.inl ⟨rfl, startOp_refused w id req ha⟩
  · cases hc : w.hasCtx
    · exact Or.inr (Or.inr ⟨rfl, rfl, startOp_noCtx w id req ha hc⟩)
    · exact Or.inr (Or.inl ⟨rfl, rfl, startOp_queued w id req ha hc⟩)

theorem pollOp_cases (w : World) (id : Nat) :
    (w.opSt id = none ∧ w.pollOp id = w) ∨
    (∃ h req, w.opSt id = some (.fresh h req) ∧ w.pollOp id = w.startOp id req) ∨
    (∃ s k v, w.opSt id = some (.wait s k) ∧ w.slot s = some (.full v) ∧ w.pollOp id = w.resumeOp id s k v) ∨
    (∃ s k, w.opSt id = some (.wait s k) ∧ w.slot s = some .closed ∧
      w.pollOp id = (w.clearSlot s).finishOp id (.err .contextExited)) ∨
    (∃ s k, w.opSt id = some (.wait s k) ∧ (w.slot s = none ∨ w.slot s = some .empty) ∧
      w.pollOp id = { w with slotReg := if s ∈ w.slotReg then w.slotReg else w.slotReg ++ [s] }) := by
  cases ho : w.opSt id with
  | none => exact Or.inl ⟨rfl, pollOp_of_none ho⟩
  | some st =>
    cases st with
    | fresh h req => exact Or.inr (Or.inl ⟨h, req, rfl, pollOp_of_fresh ho⟩)
    | wait s k =>
      cases hs : w.slot s with
      | none => exact Or.inr (Or.inr (Or.inr (Or.inr ⟨s, k, rfl, Or.inl hs, pollOp_of_empty ho (Or.inl hs)⟩)))
      | some sl =>
        cases sl with
        | empty => exact Or.inr (Or.inr (Or.inr (Or.inr ⟨s, k, rfl, Or.inr hs, pollOp_of_empty ho (Or.inr hs)⟩)))
        | full v => exact Or.inr (Or.inr (Or.inl ⟨s, k, v, rfl, hs, pollOp_of_full ho hs⟩))
        | closed => exact Or.inr (Or.inr (Or.inr (Or.inl ⟨s, k, rfl, hs, pollOp_of_closed ho hs⟩)))

/-- the handle future of `id` has taken back its registration: the oneshot it waits on (if any) has no waker registered -/
def Consumed (id : Nat) (w : World) : Prop := ∀ s k, w.opSt id = some (.wait s k) → s ∉ w.slotReg

/-- **the world in which a polled handle future ends or sends its message**, by the state `st` the poll found it in: at
    the first poll, `w` with the identifiers of the request taken and — SUBSCRIBE — its channel created (and dropped again
    when the context is gone); otherwise `w` with the oneshot it waited on, closed or full, taken back and — SUBACK — the
    stream made available -/
inductive OpPrep (w : World) (id : Nat) : OpSt → World → Prop
  | fresh (h : Nat) (req : Req) (ch : List (Nat × Chan)) :
      (ch = w.chans ∨ ∃ t, req = .subscribe t ∧
        (ch = setAssoc id {} w.chans ∨ ch = eraseFirst id (setAssoc id {} w.chans))) →
      OpPrep w id (.fresh h req)
        { w with pidCtr := (w.allocFor req).pidCtr, subCtr := (w.allocFor req).subCtr, chans := ch }
  | wait (s : Nat) (k : Wait) (rs : List Nat) :
      (w.slot s = some .closed ∨ ∃ v, w.slot s = some (.full v)) → (rs = w.rsps ∨ k = .suback ∧ rs = w.rsps ++ [id]) →
      OpPrep w id (.wait s k)
        { w with slots := eraseFirst s w.slots, slotReg := w.slotReg.filter (· ≠ s), rsps := rs }

section OpPrep
variable {w w0 : World} {id : Nat} {st : OpSt}

theorem OpPrep.ops (h : OpPrep w id st w0) : w0.ops = w.ops := by cases h <;> rfl
theorem OpPrep.queue (h : OpPrep w id st w0) : w0.queue = w.queue := by cases h <;> rfl
theorem OpPrep.out (h : OpPrep w id st w0) : w0.out = w.out := by cases h <;> rfl
theorem OpPrep.woken (h : OpPrep w id st w0) : w0.woken = w.woken := by cases h <;> rfl
theorem OpPrep.hasCtx (h : OpPrep w id st w0) : w0.hasCtx = w.hasCtx := by cases h <;> rfl
theorem OpPrep.opSt (h : OpPrep w id st w0) (i : Nat) : w0.opSt i = w.opSt i := by cases h <;> rfl

theorem OpPrep.slot_of_ne (h : OpPrep w id st w0) {s' : Nat} (hs : ∀ k, st ≠ .wait s' k) : w0.slot s' = w.slot s' := by
  cases h with
  | fresh => rfl
  | wait s k => exact lookupFirst_eraseFirst_of_ne (fun e : s' = s => hs k (e ▸ rfl)) _

theorem OpPrep.slotReg_subset (h : OpPrep w id st w0) {s' : Nat} (hs : s' ∈ w0.slotReg) : s' ∈ w.slotReg := by
  cases h with
  | fresh => exact hs
  | wait s k => exact (List.mem_filter.mp hs).1

theorem OpPrep.consumed (h : OpPrep w id st w0) (ho : w.opSt id = some st) : Consumed id w0 := by
  intro s k hop
  rw [h.opSt, ho] at hop
  cases h with
  | fresh => cases hop
  | wait s' k' =>
    cases hop
    exact fun hm => by simpa using (List.mem_filter.mp hm).2

end OpPrep

theorem OpPrep.userFrame {w w0 : World} {id : Nat} {st : OpSt} (h : OpPrep w id st w0) : UserFrame w w0 := by
  cases h <;> exact .of_eq rfl

/-- the oneshot and the kind a future found in state `st` waits on once it has sent: `2 * id` and the kind of its request
    at the first poll, the next oneshot and PUBCOMP after a PUBREC -/
def SendShape (id : Nat) (st : OpSt) (s : Nat) (k : Wait) : Prop :=
  (∃ h req, st = .fresh h req ∧ s = 2 * id ∧ k = req.wait) ∨ (∃ s0, st = .wait s0 .pubrec ∧ s = s0 + 1 ∧ k = .pubcomp)

/-- what a polled handle future sends, and why: the message of its request at the first poll, or the PUBREL answering the
    PUBREC with reason < 0x80 found in its oneshot -/
def SendWhy (w : World) (id : Nat) (st : OpSt) (m : Msg) (s : Nat) (k : Wait) : Prop :=
  (∃ h req, st = .fresh h req ∧ m = w.reqMsg id req ∧ s = 2 * id ∧ k = req.wait) ∨
  (∃ s0 a, st = .wait s0 .pubrec ∧ w.slot s0 = some (.full (.pkt (.pubrec a))) ∧ a.reason < 128 ∧
    m = W7.pubrelMsg a.packetId (s0 + 1) ∧ s = s0 + 1 ∧ k = .pubcomp)

theorem SendWhy.shape {w : World} {id : Nat} {st : OpSt} {m : Msg} {s : Nat} {k : Wait} (h : SendWhy w id st m s k) :
    SendShape id st s k := by
  rcases h with ⟨h, req, e, _, hs, hk⟩ | ⟨s0, a, e, _, _, _, hs, hk⟩
  · exact Or.inl ⟨h, req, e, hs, hk⟩
  · exact Or.inr ⟨s0, e, hs, hk⟩

theorem SendWhy.slot {w : World} {id : Nat} {st : OpSt} {m : Msg} {s : Nat} {k : Wait} (h : SendWhy w id st m s k) :
    m.slot = s := by
  rcases h with ⟨_, req, _, rfl, rfl, _⟩ | ⟨s0, a, _, _, _, rfl, rfl, _⟩
  · exact reqMsg_slot w id req
  · rfl

theorem startOp_spec (w : World) (id : Nat) (req : Req) :
    ∃ w0, (∀ h, OpPrep w id (.fresh h req) w0) ∧
      ((∃ k, (k = .codecError ∨ k = .contextExited ∧ w.hasCtx = false) ∧ w.startOp id req = w0.finishOp id (.err k) ∧
          (w0.chans = w.chans ∨ w0.chans = eraseFirst id (setAssoc id {} w.chans))) ∨
       (w.hasCtx = true ∧ w.startOp id req = w0.sendAwait (w.reqMsg id req) id (2 * id) req.wait ∧
          (∀ t, req = .subscribe t → w0.chans = setAssoc id {} w.chans) ∧ (w.completeReq req).accepted = true)) := by
  obtain ⟨ch, eo, hch⟩ := openFor_prep w id req
  rcases startOp_shape w id req with ⟨_, e⟩ | ⟨hacc, hc, e⟩ | ⟨_, hc, e⟩
  · exact ⟨w.allocFor req, fun h => by rw [allocFor_prep]; exact .fresh h req _ (Or.inl rfl),
      Or.inl ⟨_, Or.inl rfl, e, Or.inl (by rw [allocFor_prep])⟩⟩
  · refine ⟨_, fun h => ?_, Or.inr ⟨hc, e, fun t e0 => by subst e0; rw [openFor_subscribe_prep], hacc⟩⟩
    rw [eo]
    exact .fresh h req ch (hch.imp_right fun ⟨t, e1, e2⟩ => ⟨t, e1, Or.inl e2⟩)
  · -- without a context the channel of a SUBSCRIBE is dropped again
    cases req with
    | subscribe t =>
      refine ⟨_, fun h => ?_, Or.inl ⟨_, Or.inr ⟨rfl, hc⟩, e, Or.inr (by rw [openFor_subscribe_prep]; rfl)⟩⟩
      rw [openFor_subscribe_prep]; exact .fresh h _ _ (Or.inr ⟨t, rfl, Or.inr rfl⟩)
    | _ =>
      have hch' : ch = w.chans := hch.resolve_right fun ⟨t, e1, _⟩ => by cases e1
      dsimp only [abandonFor] at e
      refine ⟨_, fun h => ?_, Or.inl ⟨_, Or.inr ⟨rfl, hc⟩, e, Or.inl (by rw [eo]; exact hch')⟩⟩
      rw [eo]; exact .fresh h _ ch (Or.inl hch')

theorem startOp_counters (w : World) (id : Nat) (req : Req) :
    (w.startOp id req).pidCtr = (w.allocFor req).pidCtr ∧ (w.startOp id req).subCtr = (w.allocFor req).subCtr := by
  obtain ⟨w0, hp, ⟨k, _, e, _⟩ | ⟨_, e, _⟩⟩ := startOp_spec w id req <;> rw [e] <;> cases hp 0
  · exact ⟨finishOp_pidCtr _ _ _, finishOp_subCtr _ _ _⟩
  · exact ⟨User.sendAwait_pidCtr _ _ _ _ _, User.sendAwait_subCtr _ _ _ _ _⟩

theorem startOp_out (w : World) (id : Nat) (req : Req) :
    (w.startOp id req).out = w.out ∨ ∃ k, (w.startOp id req).out = w.out ++ [.done id (.err k)] := by
  obtain ⟨w0, hp, ⟨k, _, e, _⟩ | ⟨hc, e, _⟩⟩ := startOp_spec w id req <;> rw [e]
  · exact Or.inr ⟨k, by rw [finishOp_eq_endOp, endOp_out, (hp 0).out]⟩
  · obtain ⟨wk, qr, e'⟩ := User.sendAwait_ctx w0 _ id (2 * id) req.wait ((hp 0).hasCtx.trans hc)
    exact Or.inl (by rw [e']; exact (hp 0).out)

/-- the oneshot of a waiting future holds a packet of a kind it does not wait for: its `unreachable!()` -/
def Mismatch (w : World) (st : OpSt) : Prop :=
  ∃ s k p, st = .wait s k ∧ w.slot s = some (.full (.pkt p)) ∧ Wait.accepts k p = false

/-- **One poll of a handle future, in one statement.** No such future; or the oneshot it waits on holds nothing yet and
    its waker is registered; or, from the prepared world `w0`, the future ends (`endOp`: a `DONE` line, or the
    `unreachable` panic on a packet of the wrong kind) or — the context exists — sends a message and waits (`sendAwait`). -/
theorem pollOp_spec (w : World) (id : Nat) :
    (w.opSt id = none ∧ w.pollOp id = w) ∨
    (∃ s k, w.opSt id = some (.wait s k) ∧ (w.slot s = none ∨ w.slot s = some .empty) ∧
      w.pollOp id = { w with slotReg := if s ∈ w.slotReg then w.slotReg else w.slotReg ++ [s] }) ∨
    ∃ st w0, w.opSt id = some st ∧ OpPrep w id st w0 ∧
      ((∃ o, EndObs id o ∧ w.pollOp id = w0.endOp id o ∧
          (o = .panic (.op id) "unreachable" ∧ Mismatch w st ∨ (∃ r, o = .done id r) ∧ ¬ Mismatch w st) ∧
          (w0.chans = w.chans ∨ w0.chans = eraseFirst id (setAssoc id {} w.chans))) ∨
       (∃ m s k, SendWhy w id st m s k ∧ w0.hasCtx = true ∧ w.pollOp id = w0.sendAwait m id s k ∧
          (∀ h t, st = .fresh h (.subscribe t) → w0.chans = setAssoc id {} w.chans) ∧
          ∀ h req, st = .fresh h req → (w.completeReq req).accepted = true)) := by
  rcases pollOp_cases w id with ⟨ho, e⟩ | ⟨h, req, ho, e⟩ | ⟨s, k, v, ho, hs, e⟩ | ⟨s, k, ho, hs, e⟩ | ⟨s, k, ho, hs, e⟩
  · exact Or.inl ⟨ho, e⟩
  · right; right
    obtain ⟨w0, hp, ⟨k, _, e', hch⟩ | ⟨hc, e', hsub, hacc⟩⟩ := startOp_spec w id req
    · exact ⟨_, w0, ho, hp h, Or.inl ⟨_, Or.inr ⟨_, rfl⟩, e.trans e',
        Or.inr ⟨⟨_, rfl⟩, fun ⟨_, _, _, e0, _⟩ => OpSt.noConfusion e0⟩, hch⟩⟩
    · have hacc' : ∀ h' req', OpSt.fresh h req = .fresh h' req' → (w.completeReq req').accepted = true :=
        fun _ _ e0 => (OpSt.fresh.inj e0).2 ▸ hacc
      exact ⟨_, w0, ho, hp h, Or.inr ⟨_, _, _, Or.inl ⟨h, req, rfl, rfl, rfl, rfl⟩, (hp h).hasCtx.trans hc, e.trans e',
        fun _ t e0 => hsub t (OpSt.fresh.inj e0).2, hacc'⟩⟩
  · right; right
    have cleared : OpPrep w id (.wait s k) (w.clearSlot s) := .wait s k _ (Or.inr ⟨v, hs⟩) (Or.inl rfl)
    by_cases hm : ∃ p, v = .pkt p ∧ Wait.accepts k p = false
    · -- a packet of the wrong kind: the `unreachable!()` of the future
      obtain ⟨p, rfl, hacc⟩ := hm
      exact ⟨_, _, ho, cleared, Or.inl ⟨_, Or.inl rfl, e.trans (resumeOp_mismatch w id s k p hacc),
        Or.inl ⟨rfl, s, k, p, rfl, hs, hacc⟩, Or.inl rfl⟩⟩
    · have nomis : ¬ Mismatch w (.wait s k) := by
        rintro ⟨s', k', p, e0, hs', ha⟩
        cases e0; rw [hs] at hs'; cases hs'
        exact hm ⟨p, rfl, ha⟩
      rcases resumeOp_cases id s k v with ⟨r, _, e'⟩ | ⟨a, rfl, _, e'⟩ | ⟨a, rfl, rfl, ha, e'⟩ | ⟨p, rfl, hacc, _⟩
      · exact ⟨_, _, ho, cleared, Or.inl ⟨_, Or.inr ⟨r, rfl⟩, e.trans (e' w), Or.inr ⟨⟨_, rfl⟩, nomis⟩, Or.inl rfl⟩⟩
      · exact ⟨_, { w.clearSlot s with rsps := w.rsps ++ [id] }, ho, .wait s _ _ (Or.inr ⟨v, hs⟩) (Or.inr ⟨rfl, rfl⟩),
          Or.inl ⟨_, Or.inr ⟨_, rfl⟩, e.trans (e' w), Or.inr ⟨⟨_, rfl⟩, nomis⟩, Or.inl rfl⟩⟩
      · -- the PUBREL is sent; `sendAwait` without a context is `finishOp`
        have e2 := e.trans (e' w)
        cases hc : (w.clearSlot s).hasCtx with
        | true =>
          exact ⟨_, _, ho, cleared, Or.inr ⟨_, _, _, Or.inr ⟨s, a, rfl, hs, ha, rfl, rfl, rfl⟩, hc, e2,
            fun _ _ e0 => OpSt.noConfusion e0, fun _ _ e0 => OpSt.noConfusion e0⟩⟩
        | false =>
          rw [User.sendAwait_no_ctx _ _ _ _ _ hc] at e2
          exact ⟨_, _, ho, cleared, Or.inl ⟨_, Or.inr ⟨_, rfl⟩, e2, Or.inr ⟨⟨_, rfl⟩, nomis⟩, Or.inl rfl⟩⟩
      · exact (hm ⟨p, rfl, hacc⟩).elim
  · refine Or.inr (Or.inr ⟨_, _, ho, .wait s k _ (Or.inl hs) (Or.inl rfl),
      Or.inl ⟨_, Or.inr ⟨_, rfl⟩, e, Or.inr ⟨⟨_, rfl⟩, ?_⟩, Or.inl rfl⟩⟩)
    rintro ⟨s', k', p, e0, hs', _⟩
    cases e0; rw [hs] at hs'; cases hs'
  · exact Or.inr (Or.inl ⟨s, k, ho, hs, e⟩)

/-- `pollOp_spec` as a principle, beside `pollCtxS_via`: a reflexive transitive relation respected by a registered waker,
    by the preparation, by `endOp` and by `sendAwait` with a context — each with everything `pollOp_spec` knows at that
    point of the method (`hp.consumed`, `hp.opSt`, `hw.shape`, `hw.slot` give the rest) — is respected by a poll of a
    handle future -/
theorem pollOp_steps {R : World → World → Prop} (refl : ∀ w, R w w) (trans : ∀ {a b c : World}, R a b → R b c → R a c)
    {id : Nat}
    (reg : ∀ w s k, w.opSt id = some (.wait s k) → (w.slot s = none ∨ w.slot s = some .empty) →
      R w { w with slotReg := if s ∈ w.slotReg then w.slotReg else w.slotReg ++ [s] })
    (prep : ∀ {w st w0}, w.opSt id = some st → OpPrep w id st w0 → R w w0)
    (endOp : ∀ {w st w0} (o : Obs), w.opSt id = some st → OpPrep w id st w0 → EndObs id o → R w0 (w0.endOp id o))
    (send : ∀ {w st w0} (m : Msg) (s : Nat) (k : Wait), w.opSt id = some st → OpPrep w id st w0 →
      SendWhy w id st m s k → w0.hasCtx = true → R w0 (w0.sendAwait m id s k)) (w : World) : R w (w.pollOp id) := by
  rcases pollOp_spec w id with ⟨_, e⟩ | ⟨s, k, ho, hs, e⟩ |
    ⟨st, w0, ho, hp, ⟨o, hobs, e, _⟩ | ⟨m, s, k, hw, hc, e, _⟩⟩ <;> rw [e]
  · exact refl w
  · exact reg w s k ho hs
  · exact trans (prep ho hp) (endOp o ho hp hobs)
  · exact trans (prep ho hp) (send m s k ho hp hw hc)

theorem pollOp_sends (w : World) (id : Nat) :
    ((w.pollOp id).pidCtr = w.pidCtr ∧ (w.pollOp id).subCtr = w.subCtr ∧ (w.pollOp id).queue = w.queue) ∨
    (∃ h req, w.opSt id = some (.fresh h req) ∧ (w.pollOp id).pidCtr = (w.allocFor req).pidCtr ∧
      (w.pollOp id).subCtr = (w.allocFor req).subCtr ∧
      ((w.pollOp id).queue = w.queue ∨ w.hasCtx = true ∧ (w.pollOp id).queue = w.queue ++ [w.reqMsg id req] ∧
        (w.pollOp id).opSt id = some (.wait (2 * id) req.wait))) ∨
    (∃ s a, w.opSt id = some (.wait s .pubrec) ∧ w.slot s = some (.full (.pkt (.pubrec a))) ∧ a.reason < 128 ∧
      w.hasCtx = true ∧ (w.pollOp id).pidCtr = w.pidCtr ∧ (w.pollOp id).subCtr = w.subCtr ∧
      (w.pollOp id).queue = w.queue ++ [W7.pubrelMsg a.packetId (s + 1)]) := by
  rcases pollOp_spec w id with ⟨_, e⟩ | ⟨s, k, _, _, e⟩ | ⟨st, w0, ho, hp, ⟨o, _, e, _⟩ | ⟨m, s, k, hw, hc, e, _⟩⟩
  · rw [e]; exact Or.inl ⟨rfl, rfl, rfl⟩
  · rw [e]; exact Or.inl ⟨rfl, rfl, rfl⟩
  · obtain ⟨wk, qr, e'⟩ := endOp_shape w0 id o
    rw [e, e']
    cases hp with
    | fresh h req ch _ => exact Or.inr (Or.inl ⟨h, req, ho, rfl, rfl, Or.inl rfl⟩)
    | wait s k rs _ _ => exact Or.inl ⟨rfl, rfl, rfl⟩
  · obtain ⟨wk, qr, e'⟩ := User.sendAwait_ctx w0 m id s k hc
    rw [hp.hasCtx] at hc
    rw [e, e']
    rcases hw with ⟨h, req, rfl, rfl, rfl, rfl⟩ | ⟨s0, a, rfl, hs, ha, rfl, rfl, rfl⟩
    · cases hp with
      | fresh _ _ ch _ =>
        exact Or.inr (Or.inl ⟨h, req, ho, rfl, rfl, Or.inr ⟨hc, rfl, lookupFirst_setAssoc_self _ _ _⟩⟩)
    · cases hp with
      | wait _ _ rs _ _ => exact Or.inr (Or.inr ⟨s0, a, ho, hs, ha, hc, rfl, rfl, rfl⟩)

theorem pollOp_chans (w : World) (id : Nat) :
    (w.pollOp id).chans = w.chans ∨ (w.pollOp id).chans = setAssoc id {} w.chans ∨
    (w.pollOp id).chans = eraseFirst id (setAssoc id {} w.chans) := by
  have prep : ∀ {st w0}, OpPrep w id st w0 → w0.chans = w.chans ∨ w0.chans = setAssoc id {} w.chans ∨
      w0.chans = eraseFirst id (setAssoc id {} w.chans) := fun hp => by
    cases hp with
    | fresh h req ch hc => rcases hc with rfl | ⟨_, _, rfl | rfl⟩ <;> simp
    | wait => exact .inl rfl
  rcases pollOp_spec w id with ⟨_, e⟩ | ⟨_, _, _, _, e⟩ | ⟨st, w0, _, hp, ⟨o, _, e, _⟩ | ⟨m, s, k, _, hc, e, _⟩⟩ <;>
    rw [e]
  · exact .inl rfl
  · exact .inl rfl
  · obtain ⟨wk, qr, e'⟩ := endOp_shape w0 id o; rw [e']; exact prep (w0 := w0) hp
  · obtain ⟨wk, qr, e'⟩ := User.sendAwait_ctx w0 m id s k hc; rw [e']; exact prep (w0 := w0) hp

theorem dropOp_fresh_eq {w : World} {id h : Nat} {req : Req} (ho : w.opSt id = some (.fresh h req)) :
    w.dropOp id = w.eraseOp id := by
  unfold dropOp; rw [ho]; rfl

theorem dropOp_wait_eq {w : World} {id s : Nat} {k : Wait} (ho : w.opSt id = some (.wait s k)) :
    w.dropOp id = (if k = .suback then (w.clearSlot s).dropChanRx id else w.clearSlot s).eraseOp id := by
  unfold dropOp; rw [ho]
  cases k <;> rfl

theorem dropOp_cases (w : World) (id : Nat) :
    (w.opSt id = none ∧ w.dropOp id = w) ∨
    (∃ h req, w.opSt id = some (.fresh h req) ∧ w.dropOp id = w.eraseOp id) ∨
    (∃ s k, w.opSt id = some (.wait s k) ∧ k ≠ .suback ∧ w.dropOp id = (w.clearSlot s).eraseOp id) ∨
    (∃ s, w.opSt id = some (.wait s .suback) ∧ w.dropOp id = ((w.clearSlot s).dropChanRx id).eraseOp id) := by
  cases ho : w.opSt id with
  | none => exact Or.inl ⟨rfl, by unfold dropOp; rw [ho]⟩
  | some st =>
    cases st with
    | fresh h req => exact Or.inr (Or.inl ⟨h, req, rfl, dropOp_fresh_eq ho⟩)
    | wait s k =>
      by_cases hk : k = .suback
      · subst hk; exact Or.inr (Or.inr (Or.inr ⟨s, rfl, (dropOp_wait_eq ho).trans (by rw [if_pos rfl])⟩))
      · exact Or.inr (Or.inr (Or.inl ⟨s, k, rfl, hk, (dropOp_wait_eq ho).trans (by rw [if_neg hk])⟩))

/-- the world from which a dropped handle future is erased: `w` itself if it was never polled; otherwise `w` with the
    oneshot it waited on taken back and — a `subscribe()` waiting for its SUBACK — its channel dropped -/
inductive DropPrep (w : World) (id : Nat) : OpSt → World → Prop
  | fresh (h : Nat) (req : Req) : DropPrep w id (.fresh h req) w
  | wait (s : Nat) (k : Wait) (ch : List (Nat × Chan)) :
      (k ≠ .suback ∧ ch = w.chans ∨ k = .suback ∧ ch = eraseFirst id w.chans) →
      DropPrep w id (.wait s k)
        { w with slots := eraseFirst s w.slots, slotReg := w.slotReg.filter (· ≠ s), chans := ch }

theorem dropOp_spec (w : World) (id : Nat) :
    (w.opSt id = none ∧ w.dropOp id = w) ∨
    ∃ st w0, w.opSt id = some st ∧ DropPrep w id st w0 ∧ w.dropOp id = w0.eraseOp id := by
  rcases dropOp_cases w id with h | ⟨h, req, ho, e⟩ | ⟨s, k, ho, hk, e⟩ | ⟨s, ho, e⟩
  · exact Or.inl h
  · exact Or.inr ⟨_, w, ho, .fresh h req, e⟩
  · exact Or.inr ⟨_, _, ho, .wait s k _ (Or.inl ⟨hk, rfl⟩), e⟩
  · exact Or.inr ⟨_, _, ho, .wait s _ _ (Or.inr ⟨rfl, rfl⟩), e⟩

theorem dropOp_chans (w : World) (id : Nat) :
    (w.dropOp id).chans = w.chans ∨ (w.dropOp id).chans = eraseFirst id w.chans := by
  rcases dropOp_spec w id with ⟨_, e⟩ | ⟨st, w0, _, hp, e⟩ <;> rw [e]
  · exact .inl rfl
  · obtain ⟨wk, qr, e'⟩ := eraseOp_shape w0 id; rw [e']
    cases hp with
    | fresh => exact .inl rfl
    | wait s k ch hc => exact hc.imp (·.2) (·.2)

theorem dropOp_ops_eq (w : World) (id : Nat) : (w.dropOp id).ops = eraseFirst id w.ops := by
  rcases dropOp_spec w id with ⟨h, e⟩ | ⟨st, w0, _, hp, e⟩ <;> rw [e]
  · exact (eraseFirst_absent id w.ops h).symm
  · rw [eraseOp_ops]; cases hp <;> rfl

theorem dropOp_footprint (w : World) (id : Nat) :
    ∃ o sl sr ch wk qr, w.dropOp id =
      { w with ops := o, slots := sl, slotReg := sr, chans := ch, woken := wk, queueReg := qr } := by
  rcases dropOp_spec w id with ⟨_, e⟩ | ⟨st, w0, _, hp, e⟩ <;> rw [e]
  · exact ⟨_, _, _, _, _, _, rfl⟩
  · obtain ⟨wk, qr, e'⟩ := eraseOp_shape w0 id
    cases hp <;> exact ⟨_, _, _, _, wk, qr, e'⟩

theorem pollStream_shape (w : World) (id : Nat) :
    ((id ∉ w.streams ∨ w.chan id = none) ∧ w.pollStream id = w) ∨
    (∃ ch p rest, id ∈ w.streams ∧ w.chan id = some ch ∧ ch.buf = p :: rest ∧ w.pollStream id =
      { w with chans := setAssoc id { ch with buf := rest } w.chans, out := w.out ++ [.item id p],
               woken := if Task.st id ∈ w.woken then w.woken else w.woken ++ [.st id] }) ∨
    (∃ ch, id ∈ w.streams ∧ w.chan id = some ch ∧ ch.buf = [] ∧ ch.txAlive = true ∧
      w.pollStream id = { w with chans := setAssoc id { ch with reg := true } w.chans }) ∨
    (∃ ch, id ∈ w.streams ∧ w.chan id = some ch ∧ ch.buf = [] ∧ ch.txAlive = false ∧ w.pollStream id =
      { w with streams := w.streams.filter (· ≠ id), chans := eraseFirst id w.chans,
               out := w.out ++ [.endStream id] }) := by
  by_cases hs : id ∈ w.streams
  · cases hc : w.chan id with
    | none => exact Or.inl ⟨Or.inr rfl, User.pollStream_noop w id (Or.inr hc)⟩
    | some ch =>
      cases hb : ch.buf with
      | cons p rest => exact Or.inr (Or.inl ⟨ch, p, rest, hs, rfl, hb, User.pollStream_item w id ch p rest hs hc hb⟩)
      | nil =>
        cases ht : ch.txAlive
        · exact Or.inr (Or.inr (Or.inr ⟨ch, hs, rfl, hb, ht, User.pollStream_end w id ch hs hc hb ht⟩))
        · exact Or.inr (Or.inr (Or.inl ⟨ch, hs, rfl, hb, ht, User.pollStream_pending w id ch hs hc hb ht⟩))
  · exact Or.inl ⟨Or.inl hs, User.pollStream_noop w id (Or.inl hs)⟩

theorem pollStream_footprint (w : World) (id : Nat) : ∃ ch st wk ou,
    w.pollStream id = { w with chans := ch, streams := st, woken := wk, out := ou } ∧ ∀ n ∈ st, n ∈ w.streams := by
  rcases pollStream_shape w id with ⟨_, e⟩ | ⟨_, _, _, _, _, _, e⟩ | ⟨_, _, _, _, _, e⟩ | ⟨_, _, _, _, _, e⟩
  · exact ⟨_, _, _, _, e, fun _ h => h⟩
  · exact ⟨_, _, _, _, e, fun _ h => h⟩
  · exact ⟨_, _, _, _, e, fun _ h => h⟩
  · exact ⟨_, _, _, _, e, fun _ h => (List.mem_filter.mp h).1⟩

/-- `w'` is `w` after a poll or the drop of a handle future or a stream: the frame, no flag taken away, and at most one
    line logged, which satisfies `P` -/
structure UserMove (P : Obs → Prop) (w w' : World) : Prop where
  frame : UserFrame w w'
  woken : ∀ t, t ∈ w.woken → t ∈ w'.woken
  out : w'.out = w.out ∨ ∃ o, P o ∧ w'.out = w.out ++ [o]

theorem pollOp_userMove (w : World) (id : Nat) : UserMove (EndObs id) w (w.pollOp id) := by
  rcases pollOp_spec w id with ⟨_, e⟩ | ⟨_, _, _, _, e⟩ | ⟨st, w0, _, hp, ⟨o, ho, e, _⟩ | ⟨m, s, k, _, hc, e, _⟩⟩ <;>
    rw [e]
  · exact ⟨.refl w, fun _ h => h, Or.inl rfl⟩
  · exact ⟨.of_eq rfl, fun _ h => h, Or.inl rfl⟩
  · exact ⟨hp.userFrame.trans (endOp_userFrame _ _ _), fun t h => endOp_woken_mono _ id o t (hp.woken ▸ h),
      Or.inr ⟨o, ho, by rw [endOp_out, hp.out]⟩⟩
  · obtain ⟨wk, qr, e'⟩ := User.sendAwait_ctx w0 m id s k hc
    exact ⟨hp.userFrame.trans (sendAwait_userFrame _ _ _ _ _),
      fun t h => sendAwait_woken_mono _ m id s k t (hp.woken ▸ h), Or.inl (by rw [e']; exact hp.out)⟩

theorem dropOp_userMove (w : World) (id : Nat) : UserMove (fun _ => False) w (w.dropOp id) := by
  rcases dropOp_spec w id with ⟨_, e⟩ | ⟨st, w0, _, hp, e⟩ <;> rw [e]
  · exact ⟨.refl w, fun _ h => h, Or.inl rfl⟩
  · have h0 : UserFrame w w0 ∧ w0.woken = w.woken ∧ w0.out = w.out := by cases hp <;> exact ⟨.of_eq rfl, rfl, rfl⟩
    exact ⟨h0.1.trans (eraseOp_userFrame _ _), fun t h => senderGone_woken_mono _ t (h0.2.1 ▸ h),
      Or.inl (by rw [eraseOp_out, h0.2.2])⟩

theorem pollStream_userMove (w : World) (id : Nat) :
    UserMove (fun o => (∃ p, o = .item id p) ∨ o = .endStream id) w (w.pollStream id) := by
  rcases pollStream_shape w id with ⟨_, e⟩ | ⟨_, p, _, _, _, _, e⟩ | ⟨_, _, _, _, _, e⟩ | ⟨_, _, _, _, _, e⟩ <;> rw [e]
  · exact ⟨.refl w, fun _ h => h, Or.inl rfl⟩
  · exact ⟨.of_eq rfl, fun t h => (wake_woken w _ ▸ mem_wake_of_mem w _ t h :), Or.inr ⟨_, Or.inl ⟨p, rfl⟩, rfl⟩⟩
  · exact ⟨.of_eq rfl, fun _ h => h, Or.inl rfl⟩
  · exact ⟨.of_eq rfl, fun _ h => h, Or.inr ⟨_, Or.inr rfl, rfl⟩⟩

theorem pollTask_userMove (w : World) (t : Task) (ht : t ≠ .ctx) : UserMove (TaskLine t) (w.unwake t) (w.pollTask t) := by
  cases t with
  | ctx => exact absurd rfl ht
  | op id => exact pollOp_userMove _ id
  | st id => exact pollStream_userMove _ id

theorem pollOp_userFrame (w : World) (id : Nat) : UserFrame w (w.pollOp id) := (pollOp_userMove w id).frame
theorem dropOp_userFrame (w : World) (id : Nat) : UserFrame w (w.dropOp id) := (dropOp_userMove w id).frame
theorem pollStream_userFrame (w : World) (id : Nat) : UserFrame w (w.pollStream id) := (pollStream_userMove w id).frame


theorem pollOp_out (w : World) (id : Nat) :
    (w.pollOp id).out = w.out ∨ ∃ o, EndObs id o ∧ (w.pollOp id).out = w.out ++ [o] := (pollOp_userMove w id).out

theorem dropOp_out (w : World) (id : Nat) : (w.dropOp id).out = w.out :=
  (dropOp_userMove w id).out.elim (fun h => h) fun ⟨_, h, _⟩ => h.elim

/-- `w'` has the observations of `w` followed by observations satisfying `P` -/
def OutExtP (P : Obs → Prop) (w w' : World) : Prop := ∃ added, w'.out = w.out ++ added ∧ ∀ o ∈ added, P o

theorem outExtP_refl (P : Obs → Prop) (w : World) : OutExtP P w w := ⟨[], by simp, by simp⟩
theorem outExtP_of_eq {P : Obs → Prop} {w w' : World} (h : w'.out = w.out) : OutExtP P w w' :=
  ⟨[], by simp [h], by simp⟩
theorem outExtP_one {P : Obs → Prop} {w w' : World} (o : Obs) (h : w'.out = w.out ++ [o]) (ho : P o) :
    OutExtP P w w' := ⟨[o], h, by simpa using ho⟩
theorem flushRaw_outExtP {P : Obs → Prop} (w : World) (h : P (.wraw w.wirePend)) : OutExtP P w w.flushRaw := by
  unfold flushRaw
  split
  · exact outExtP_refl P w
  · exact outExtP_one (.wraw w.wirePend) rfl h

theorem outExtP_trans {P : Obs → Prop} {a b c : World} (h1 : OutExtP P a b) (h2 : OutExtP P b c) :
    OutExtP P a c := by
  obtain ⟨p1, e1, q1⟩ := h1
  obtain ⟨p2, e2, q2⟩ := h2
  refine ⟨p1 ++ p2, by rw [e2, e1, List.append_assoc], ?_⟩
  intro o ho
  rcases List.mem_append.mp ho with ho | ho
  · exact q1 o ho
  · exact q2 o ho
theorem outExtP_mono {P Q : Obs → Prop} {a b : World} (h : OutExtP P a b) (hpq : ∀ o, P o → Q o) :
    OutExtP Q a b := by
  obtain ⟨p, e, q⟩ := h
  exact ⟨p, e, fun o ho => hpq o (q o ho)⟩
theorem outExtP_of_out {P : Obs → Prop} {w w' : World} (h : w'.out = w.out ∨ ∃ o, P o ∧ w'.out = w.out ++ [o]) :
    OutExtP P w w' := by
  rcases h with h | ⟨o, ho, h⟩
  · exact outExtP_of_eq h
  · exact outExtP_one o h ho
theorem finish_outExtP {P : Obs → Prop} {cfg : Cfg} {w : World} (h : OutExtP P { cfg := cfg } w)
    (hr : ∀ bs, P (.wraw bs)) : ∀ o ∈ w.finishScript.out, P o := by
  obtain ⟨added, e, hP⟩ := outExtP_trans h (flushRaw_outExtP w (hr _))
  unfold finishScript
  rw [e]
  simpa using hP
theorem OutExtP.prefix {P : Obs → Prop} {w w' : World} (h : OutExtP P w w') : w.out <+: w'.out := by
  obtain ⟨added, e, _⟩ := h
  exact ⟨added, e.symm⟩
theorem filterMap_outExtP {β : Type} {P : Obs → Prop} {f : Obs → Option β} {w w' : World} (h : OutExtP P w w')
    (hf : ∀ o, P o → f o = none) : w'.out.filterMap f = w.out.filterMap f := by
  obtain ⟨added, e, q⟩ := h
  rw [e, List.filterMap_append, List.filterMap_eq_nil_iff.mpr fun o ho => hf o (q o ho), List.append_nil]

/-- only `W` / `WRAW` lines -/
def Quiet (l : List Obs) : Prop := ∀ o ∈ l, ∃ bs, o = .wire bs ∨ o = .wraw bs

theorem quiet_nil : Quiet [] := by intro o h; simp at h
theorem quiet_append {a b : List Obs} (ha : Quiet a) (hb : Quiet b) : Quiet (a ++ b) := by
  intro o h; rcases List.mem_append.mp h with h | h
  · exact ha o h
  · exact hb o h

/-- `w'` has the observations of `w` followed by `W` / `WRAW` lines only -/
def OutExt (w w' : World) : Prop := ∃ pre, Quiet pre ∧ w'.out = w.out ++ pre

theorem outExt_refl (w : World) : OutExt w w := ⟨[], quiet_nil, by simp⟩
theorem outExt_of_eq {w w' : World} (h : w'.out = w.out) : OutExt w w' := ⟨[], quiet_nil, by simp [h]⟩
theorem Quiet.all {P : Obs → Prop} {l : List Obs} (hq : Quiet l) (hw : ∀ bs, P (.wire bs) ∧ P (.wraw bs)) :
    ∀ o ∈ l, P o := by
  intro o ho
  obtain ⟨bs, rfl | rfl⟩ := hq o ho
  · exact (hw bs).1
  · exact (hw bs).2

theorem outExt_iff {a b : World} : OutExt a b ↔ OutExtP (fun o => ∃ bs, o = .wire bs ∨ o = .wraw bs) a b :=
  ⟨fun ⟨p, q, e⟩ => ⟨p, e, q⟩, fun ⟨p, e, q⟩ => ⟨p, q, e⟩⟩
theorem outExt_trans {a b c : World} (h1 : OutExt a b) (h2 : OutExt b c) : OutExt a c :=
  outExt_iff.2 (outExtP_trans (outExt_iff.1 h1) (outExt_iff.1 h2))
theorem outExtP_of_outExt {P : Obs → Prop} {a b : World} (h : OutExt a b)
    (hp : ∀ bs, P (.wire bs) ∧ P (.wraw bs)) : OutExtP P a b := by
  obtain ⟨p, q, e⟩ := h
  exact ⟨p, e, q.all hp⟩

theorem flushWire_outExt (w : World) : OutExt w w.flushWire := by
  unfold flushWire
  split
  · refine ⟨_, ?_, rfl⟩
    intro o ho
    simp only [List.mem_map] at ho
    obtain ⟨bs, _, rfl⟩ := ho
    exact ⟨bs, Or.inl rfl⟩
  · refine ⟨_, ?_, rfl⟩
    intro o ho
    simp only [List.mem_singleton] at ho
    exact ⟨_, Or.inr ho⟩

theorem writeBytes_outExt (w : World) (bs : Bytes) : OutExt w (w.writeBytes bs) := by
  unfold writeBytes
  split
  · exact outExt_trans (outExt_of_eq rfl) (flushWire_outExt _)
  · exact outExt_trans (outExt_of_eq rfl) (flushWire_outExt _)

theorem applyEff_outExt (w : World) (e : Eff) : OutExt w (w.applyEff e) := by
  cases e with
  | write bs => exact writeBytes_outExt w bs
  | send s v => exact outExt_of_eq (by simp [applyEff])
  | dropSlot s => exact outExt_of_eq (by simp [applyEff])
  | deliver c p => exact outExt_of_eq (by simp [applyEff])
  | dropChan c => exact outExt_of_eq (by simp [applyEff])

theorem applyEffs_outExt (w : World) (es : List Eff) : OutExt w (w.applyEffs es) :=
  applyEffs_lift outExt_refl outExt_trans (fun w e _ => applyEff_outExt w e) w

theorem runHandler_outExt (w : World) (h : Bool → Ctx × List Eff × Flow) : OutExt w (w.runHandler h).1 := by
  rw [runHandler_eq]
  exact outExt_trans (outExt_of_eq rfl) (applyEffs_outExt _ _)

theorem runHandler_shape (w : World) (h : Bool → Ctx × List Eff × Flow) : ∃ c sl sr ch wk wr o p, (w.runHandler h).1 =
    { w with c := c, slots := sl, slotReg := sr, chans := ch, woken := wk, written := wr, out := o, wirePend := p } := by
  rw [runHandler_eq]
  obtain ⟨sl, sr, ch, wk, wr, o, p, e⟩ := applyEffs_shape _ _
  exact ⟨_, sl, sr, ch, wk, wr, o, p, e⟩

@[simp] theorem runHandler_cfg (w : World) (h : Bool → Ctx × List Eff × Flow) : (w.runHandler h).1.cfg = w.cfg := by
  rw [runHandler_eq]; simp
@[simp] theorem runHandler_hasCtx (w : World) (h : Bool → Ctx × List Eff × Flow) : (w.runHandler h).1.hasCtx = w.hasCtx := by
  rw [runHandler_eq]; simp
@[simp] theorem runHandler_ctxDropped (w : World) (h : Bool → Ctx × List Eff × Flow) : (w.runHandler h).1.ctxDropped = w.ctxDropped := by
  rw [runHandler_eq]; simp
@[simp] theorem runHandler_task (w : World) (h : Bool → Ctx × List Eff × Flow) : (w.runHandler h).1.task = w.task := by
  rw [runHandler_eq]; simp
@[simp] theorem runHandler_rx (w : World) (h : Bool → Ctx × List Eff × Flow) : (w.runHandler h).1.rx = w.rx := by
  rw [runHandler_eq]; simp
@[simp] theorem runHandler_reader (w : World) (h : Bool → Ctx × List Eff × Flow) : (w.runHandler h).1.reader = w.reader := by
  rw [runHandler_eq]; simp
@[simp] theorem runHandler_readerReg (w : World) (h : Bool → Ctx × List Eff × Flow) : (w.runHandler h).1.readerReg = w.readerReg := by
  rw [runHandler_eq]; simp
@[simp] theorem runHandler_queue (w : World) (h : Bool → Ctx × List Eff × Flow) : (w.runHandler h).1.queue = w.queue := by
  rw [runHandler_eq]; simp
@[simp] theorem runHandler_queueReg (w : World) (h : Bool → Ctx × List Eff × Flow) : (w.runHandler h).1.queueReg = w.queueReg := by
  rw [runHandler_eq]; simp
@[simp] theorem runHandler_subCtr (w : World) (h : Bool → Ctx × List Eff × Flow) : (w.runHandler h).1.subCtr = w.subCtr := by
  rw [runHandler_eq]; simp
@[simp] theorem runHandler_senders (w : World) (h : Bool → Ctx × List Eff × Flow) : (w.runHandler h).1.senders = w.senders := by
  obtain ⟨c, sl, sr, ch, wk, wr, o, p, e⟩ := runHandler_shape w h; rw [e]; rfl
@[simp] theorem runHandler_opSt (w : World) (h : Bool → Ctx × List Eff × Flow) (i : Nat) : (w.runHandler h).1.opSt i = w.opSt i := by
  obtain ⟨c, sl, sr, ch, wk, wr, o, p, e⟩ := runHandler_shape w h; rw [e]; rfl

end World
end Poster

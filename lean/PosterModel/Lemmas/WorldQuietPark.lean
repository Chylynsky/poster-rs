/-
  Lemmas/WorldQuietPark.lean — `Inv NoE` follows (`Inv.of_own_park`) from `OwnInv` read contrapositively (the operation
  side: an operation that is not flagged is neither fresh nor waits on a settled oneshot) plus `Park`: the parking of
  the context future and of the streams, and the disjointness of subscription identifiers. The streams' half is
  `StrCore` of WorldOwnStream read contrapositively (`Park.of_core`); the context future's half, `CtxPark`, is walked
  through a poll here, through a script event in WorldQuietStep (`ctxPark_applied`).
-/
import PosterModel.Lemmas.WorldQuietCtx
import PosterModel.Lemmas.WorldOwnStream

namespace Poster
open Framing
namespace World

/-- what `Inv NoE` says beyond `OwnInv` -/
structure Park (w : World) : Prop where
  ctx : Task.ctx ∉ w.woken → TaskOk w .ctx
  st : ∀ id, Task.st id ∉ w.woken → TaskOk w (.st id)
  subp : ∀ id, SubId w id → id ∉ w.streams ∧ id ∉ w.rsps
  disj : ∀ id, id ∈ w.rsps → id ∉ w.streams

/-- `freshWoken`, `waitDone`, `waitReg` read contrapositively -/
theorem OwnInv.taskOk_op {w : World} (ho : OwnInv w) (id : Nat) (hn : Task.op id ∉ w.woken) : TaskOk w (.op id) := by
  intro st hst
  cases st with
  | fresh hd req => exact absurd (ho.freshWoken id hd req hst) hn
  | wait s k =>
    have he : w.slot s = some .empty := Classical.byContradiction fun hne => hn (ho.waitDone id s k hst hne)
    exact ⟨s, k, rfl, he, ho.waitReg id s k hst he⟩

theorem Inv.of_own_park {w : World} (ho : OwnInv w) (hp : Park w) : Inv NoE w where
  hasCtx := ho.ctl.task
  ok := fun t ht _ => by
    cases t with
    | ctx => exact hp.ctx ht
    | op id => exact ho.taskOk_op id ht
    | st id => exact hp.st id ht
  own := ho.slotOf
  slotEx := fun id s k hop _ => ho.slotSome id s k hop
  nodup := ho.nodup
  subp := hp.subp
  disj := hp.disj

theorem OpFrame.taskOk_ctx {id : Nat} {w w' : World} (f : OpFrame id w w')
    (hc : w.task ≠ .none → w.hasCtx = true) (hn : Task.ctx ∉ w'.woken) (h : TaskOk w .ctx) : TaskOk w' .ctx := by
  intro hne
  have hne0 : w.task ≠ .none := f.task ▸ hne
  obtain ⟨a1, a2, a3, a4⟩ := h hne0
  refine ⟨f.reader.trans a1, f.readerReg.trans a2, by rw [f.rx]; exact a3, ?_⟩
  rcases a4 with ⟨b1, b2, b3, b4⟩ | ⟨call, t, a, b1⟩
  · obtain ⟨c1, c2, c3⟩ := f.ctxKeep hn b3
    exact Or.inl ⟨f.task.trans b1, c1.trans b2, c2, c3 (hc hne0) b4⟩
  · exact Or.inr ⟨call, t, a, f.task.trans b1⟩

/-- the context future, if it is not flagged, is parked -/
def CtxPark (w : World) : Prop := Task.ctx ∉ w.woken → TaskOk w .ctx

theorem Park.of_core {w : World} (c : StrCore w) (hc : CtxPark w) : Park w where
  ctx := hc
  st := fun id hn hs ch hch => by
    obtain ⟨c0, e0, b⟩ := (c id).strOk hs
    cases e0.symm.trans hch
    obtain ⟨b1, b2, b3⟩ := b.resolve_left hn
    exact ⟨b1, b3, b2⟩
  subp := fun id => (c id).subp
  disj := fun id => (c id).disj

theorem OpFrame.ctxPark {id : Nat} {w w' : World} (f : OpFrame id w w') (ho : OwnInv w) (h : CtxPark w) : CtxPark w' :=
  fun hn => f.taskOk_ctx ho.ctl.task hn (h fun hm => hn (f.woken _ hm Task.noConfusion))

theorem ctxPark_pollTask {w : World} (ho : OwnInv w) (hr : Reach w.rx) (h : CtxPark w) (t : Task) :
    CtxPark (w.pollTask t) := by
  cases t with
  | ctx => exact (pollCtx_parked (w.unwake .ctx) (reach_ok hr)).resolve_left
  | op id => exact (own_pollOp_task w id ho).frame.ctxPark ho h
  | st id =>
    -- a poll of a stream touches nothing the context future reads, and takes no flag but the stream's
    intro hn
    have m := pollStream_userMove (w.unwake (.st id)) id
    have h0 := h fun hm => hn (m.woken _ ((mem_unwake_iff w _ _).2 ⟨hm, Task.noConfusion⟩))
    obtain ⟨_, _, _, _, e, _⟩ := pollStream_footprint (w.unwake (.st id)) id
    show TaskOk ((w.unwake (.st id)).pollStream id) .ctx
    rw [e]; exact h0

end World
end Poster

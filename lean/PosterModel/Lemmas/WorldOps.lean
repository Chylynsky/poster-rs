/-
  The invariants of the bookkeeping of handle operations, each kept by the moves of Lemmas/WorldOpsMove.lean: `OpsInv` (the
  shape of the table), `CountInv` (completions ≤ issues) and — for scripts that do not issue an id while the context still
  owns a oneshot of its earlier use (`Clean`, decidable) — `KInv`, `NoUnr`: what the context owns belongs to the operation
  that created it and has its kind, so the `unreachable!()` of the handle futures is dead (`Good`: these with `OpsInv`).
  After them: what a move does to the completion count of an operation and to a filled oneshot (read in
  Properties/C05World.lean), and in `W7` the form of `Good` that holds at every moment of an execution, with the logged
  ids as the issued ones.
-/
import PosterModel.Lemmas.WorldOpsMove


namespace Poster
open Framing
namespace World

/-- the model names the oneshots of operation `id` `2 * id` and — the second one of a QoS 2 publish, for its PUBCOMP —
    `2 * id + 1` -/
structure OpsInv (w : World) : Prop where
  nodup : (w.ops.map (·.1)).Nodup
  shape : ∀ id s k, (id, OpSt.wait s k) ∈ w.ops →
    (s = 2 * id ∧ k ≠ .pubcomp ∨ s = 2 * id + 1 ∧ k = .pubcomp) ∧ (w.slot s).isSome
  pid : PidOk w.pidCtr

theorem OpsInv.owner {w : World} (h : OpsInv w) {id s : Nat} {k : Wait} (hm : (id, OpSt.wait s k) ∈ w.ops) :
    s / 2 = id := by
  have := (h.shape id s k hm).1
  omega

theorem OpsInv.other_slot {w : World} (h : OpsInv w) {id j s : Nat} {st : OpSt} {k : Wait}
    (hst : w.opSt id = some st) (hj : j ≠ id) (hm : (j, OpSt.wait s k) ∈ w.ops) : ∀ k0, st ≠ .wait s k0 := by
  intro k0 e
  subst e
  have h1 := h.owner (mem_of_opSt hst)
  have h2 := h.owner hm
  omega

theorem OpsInv.send_slot {w : World} (h : OpsInv w) {id s : Nat} {st : OpSt} {k : Wait} (hst : w.opSt id = some st)
    (shape : (∃ h r, st = .fresh h r ∧ s = 2 * id ∧ k ≠ .pubcomp) ∨
      (∃ s0, st = .wait s0 .pubrec ∧ s = s0 + 1 ∧ k = .pubcomp)) :
    s = 2 * id ∧ k ≠ .pubcomp ∨ s = 2 * id + 1 ∧ k = .pubcomp := by
  rcases shape with ⟨hh, r, rfl, e1, e2⟩ | ⟨s0, rfl, e1, e2⟩
  · exact Or.inl ⟨e1, e2⟩
  · rcases (h.shape id s0 .pubrec (mem_of_opSt hst)).1 with ⟨a, _⟩ | ⟨_, b⟩
    · exact Or.inr ⟨by omega, e2⟩
    · cases b

/-- a step of the future of `id`: every other entry and its oneshot are untouched, its own entry — if it stays — waits
    on a new, empty oneshot -/
theorem Move.others {id : Nat} {w w' : World} (m : Move (some id) w w') (hi : OpsInv w) {j : Nat} {st' : OpSt}
    (hm : (j, st') ∈ w'.ops) :
    (j ≠ id ∧ (j, st') ∈ w.ops ∧ ∀ s k, st' = .wait s k → w'.slot s = w.slot s) ∨
    (j = id ∧ ∃ s k, st' = .wait s k ∧ w'.slot s = some .empty ∧
      (s = 2 * id ∧ k ≠ .pubcomp ∨ s = 2 * id + 1 ∧ k = .pubcomp)) := by
  cases m with
  | finish _ st hst ops queue aw pid slots out =>
    rw [ops] at hm
    have hj := eraseFirst_no_key _ _ hi.nodup _ hm
    have hm := (eraseFirst_sublist _ _).subset hm
    exact Or.inl ⟨hj, hm, fun s k e => slots s (hi.other_slot hst hj (e ▸ hm))⟩
  | send _ st m s k hst shape ops queue mslot aw pid slotNew slots out msgok =>
    rw [ops] at hm
    rcases mem_setAssoc_nodup id j _ st _ _ hi.nodup hst hm with ⟨rfl, e⟩ | ⟨hj, hm⟩
    · exact Or.inr ⟨rfl, s, k, e, slotNew, hi.send_slot hst shape⟩
    · refine Or.inl ⟨hj, hm, fun s' k' e => ?_⟩
      subst e
      have h1 := hi.owner hm
      have h2 := hi.send_slot hst shape
      exact slots s' (by omega) (hi.other_slot hst hj hm)

theorem OpsInv.init (cfg : Cfg) : OpsInv { cfg := cfg } := by
  refine ⟨by simp, ?_, ⟨Nat.le_refl 1, (by decide : (1 : Nat) ≤ 65535)⟩⟩
  intro id s k h
  cases h

theorem OpsInv.move {t : Option Nat} {w w' : World} (h : OpsInv w) (m : Move t w w') : OpsInv w' := by
  cases t with
  | none =>
    have f := m.ctx_frame
    refine ⟨by rw [f.ops]; exact h.nodup, ?_, by rw [f.pid]; exact h.pid⟩
    intro id s k hm
    rw [f.ops] at hm
    exact ⟨(h.shape id s k hm).1, slotRel_isSome f.slots s (h.shape id s k hm).2⟩
  | some id =>
    have hn : (w'.ops.map (·.1)).Nodup ∧ PidOk w'.pidCtr := by
      cases m with
      | finish _ st hst ops queue aw pid slots out =>
        exact ⟨by rw [ops]; exact eraseFirst_keys_nodup _ _ h.nodup, pid h.pid⟩
      | send _ st m s k hst shape ops queue mslot aw pid slotNew slots out msgok =>
        exact ⟨by rw [ops, keys_setAssoc_of_lookup id _ st _ hst]; exact h.nodup, pid h.pid⟩
    refine ⟨hn.1, fun j s k hm => ?_, hn.2⟩
    rcases m.others h hm with ⟨_, hm0, e⟩ | ⟨rfl, s', k', e, he, hs⟩
    · exact ⟨(h.shape j s k hm0).1, by rw [e s k rfl]; exact (h.shape j s k hm0).2⟩
    · cases e; exact ⟨hs, by rw [he]; rfl⟩

theorem OpsInv.addOp {w w' : World} {id hd : Nat} {req : Req} (h : OpsInv w) (a : AddOp id hd req w w') :
    OpsInv w' := by
  refine ⟨?_, ?_, by rw [a.pid]; exact h.pid⟩
  · rw [a.ops, List.map_append, List.nodup_append]
    refine ⟨h.nodup, by simp, ?_⟩
    intro x hx y hy
    simp only [List.map_cons, List.map_nil, List.mem_singleton] at hy
    subst hy
    intro e; subst e
    have := a.fresh
    unfold opSt at this
    rw [lookupFirst_none_iff] at this
    exact this hx
  · intro j s k hm
    rcases a.mem_ops.1 hm with hm | ⟨_, hm⟩
    · rw [a.slots]; exact h.shape j s k hm
    · cases hm

theorem OpsInv.moveInv : MoveInv OpsInv :=
  ⟨OpsInv.move, fun h a => (h.move (emit_ev_move _ _)).addOp a⟩

theorem OpsInv.moves {A : Option Nat → Prop} {w w' : World} (h : OpsInv w) (m : Moves A w w') : OpsInv w' :=
  OpsInv.moveInv.moves m h

theorem OpsInv.pollTask {w : World} (h : OpsInv w) (t : Task) : OpsInv (w.pollTask t) := h.moves (pollTask_moves w t)

theorem OpsInv.emit {w : World} (h : OpsInv w) (o : Obs) : OpsInv (w.emit o) := ⟨h.nodup, h.shape, h.pid⟩

theorem OpsInv.unwake {w : World} (h : OpsInv w) (t : Task) : OpsInv (w.unwake t) := ⟨h.nodup, h.shape, h.pid⟩

theorem OpsInv.apply {w : World} (h : OpsInv w) (e : Ev) : OpsInv (w.apply e) := by
  rcases apply_decomp w e with ⟨j, hd, req, _, ha⟩ | hm
  · exact h.addOp ha
  · exact h.moves hm

theorem OpsInv.step {w : World} (h : OpsInv w) (e : Ev) : OpsInv (w.step e) := OpsInv.moveInv.step h e

theorem OpsInv.steps {w : World} (h : OpsInv w) (evs : List Ev) : OpsInv (evs.foldl World.step w) :=
  OpsInv.moveInv.steps h evs

def isDone (id : Nat) : Obs → Bool
  | .done i _ => i == id
  | _ => false

def isOpEv (id : Nat) : Obs → Bool
  | .ev (.op i _ _) => i == id
  | _ => false

def doneCount (id : Nat) (out : List Obs) : Nat := out.countP (isDone id)
def opCount (id : Nat) (out : List Obs) : Nat := out.countP (isOpEv id)

def live (w : World) (id : Nat) : Nat := if id ∈ w.ops.map (·.1) then 1 else 0

def CountInv (w : World) : Prop := ∀ id, doneCount id w.out + live w id ≤ opCount id w.out

theorem countP_append_of_false {α} (p : α → Bool) (l added : List α) (h : ∀ o ∈ added, p o = false) :
    (l ++ added).countP p = l.countP p := by
  have : added.countP p = 0 := List.countP_eq_zero.2 fun o ho => by simp [h o ho]
  rw [List.countP_append, this, Nat.add_zero]

theorem doneCount_snoc (id : Nat) (out : List Obs) (o : Obs) :
    doneCount id (out ++ [o]) = doneCount id out + if isDone id o then 1 else 0 := by
  rw [doneCount, List.countP_append, List.countP_singleton]; rfl

theorem opCount_snoc (id : Nat) (out : List Obs) (o : Obs) :
    opCount id (out ++ [o]) = opCount id out + if isOpEv id o then 1 else 0 := by
  rw [opCount, List.countP_append, List.countP_singleton]; rfl

theorem countP_outExtP {P : Obs → Prop} {w w' : World} (h : OutExtP P w w') {p : Obs → Bool}
    (hp : ∀ o, P o → p o = false) (q : Obs → Bool) :
    w'.out.countP p = w.out.countP p ∧ w.out.countP q ≤ w'.out.countP q := by
  obtain ⟨added, e, hn⟩ := h
  rw [e]
  exact ⟨countP_append_of_false _ _ _ fun o ho => hp o (hn o ho), by rw [List.countP_append]; omega⟩

theorem doneCount_neutral {w w' : World} (h : OutExtP Neutral w w') (id : Nat) :
    doneCount id w'.out = doneCount id w.out ∧ opCount id w.out ≤ opCount id w'.out :=
  countP_outExtP h (p := isDone id) (fun o ho => by
    cases o with
    | done i r => exact absurd rfl (ho.1 i r)
    | _ => rfl) (isOpEv id)

theorem CountInv.of_neutral {w w' : World} (h : CountInv w) (ops : w'.ops = w.ops) (out : OutExtP Neutral w w') :
    CountInv w' := by
  intro id
  obtain ⟨a, b⟩ := doneCount_neutral out id
  have := h id
  rw [a, live, ops, ← live]
  omega

theorem CountInv.move {t : Option Nat} {w w' : World} (h : CountInv w) (hi : OpsInv w) (m : Move t w w') : CountInv w' := by
  cases t with
  | none => exact h.of_neutral m.ctx_frame.ops m.ctx_frame.out
  | some id =>
    intro j
    have hj := h j
    cases m with
    | finish _ st hst ops queue aw pid slots out =>
      -- the operation leaves the table: that pays for the `DONE id` line
      have hlive : live w id = 1 := by
        unfold live
        rw [if_pos (List.mem_map.2 ⟨_, mem_of_opSt hst, rfl⟩)]
      have hdead : live w' id = 0 := by
        unfold live
        rw [if_neg]
        rw [ops, mem_keys_iff]
        exact fun h => h (lookupFirst_eraseFirst_self id w.ops hi.nodup)
      have hmono : live w' j ≤ live w j := by
        unfold live
        rw [ops]
        split <;> split <;> first | omega | exact absurd (((eraseFirst_sublist id w.ops).map _).subset ‹_›) ‹_›
      rcases out with e | ⟨r, e⟩ | ⟨e, _⟩
      · rw [e]; omega
      · rw [e, doneCount_snoc, opCount_snoc]
        simp only [isDone, isOpEv, beq_iff_eq, Bool.false_eq_true, if_false, Nat.add_zero]
        by_cases hij : id = j
        · subst hij; rw [if_pos rfl]; omega
        · rw [if_neg hij]; omega
      · rw [e, doneCount_snoc, opCount_snoc]
        simp only [isDone, isOpEv, Bool.false_eq_true, if_false, Nat.add_zero]
        omega
    | send _ st m s k hst shape ops queue mslot aw pid slotNew slots out msgok =>
      have : live w' j = live w j := by
        unfold live
        rw [ops, keys_setAssoc_of_lookup id _ st _ hst]
      rw [out, this]; exact hj

theorem CountInv.addOp {w w' : World} {id hd : Nat} {req : Req} (h : CountInv w)
    (a : AddOp id hd req (w.emit (.ev (.op id hd req))) w') : CountInv w' := by
  intro j
  have hj := h j
  have ho : w'.out = w.out ++ [.ev (.op id hd req)] := by rw [a.out]; rfl
  have h3 : live w' j ≤ live w j + (if id = j then 1 else 0) := by
    unfold live
    rw [a.ops]
    simp only [emit_ops, List.map_append, List.map_cons, List.map_nil, List.mem_append, List.mem_singleton]
    by_cases hij : id = j
    · subst hij; simp only [↓reduceIte]; split <;> split <;> omega
    · have : ¬ j = id := fun e => hij e.symm
      simp only [this, or_false, hij, ↓reduceIte]; omega
  rw [ho, doneCount_snoc, opCount_snoc]
  simp only [isDone, isOpEv, beq_iff_eq, Bool.false_eq_true, if_false, Nat.add_zero]
  omega

theorem CountInv.init (cfg : Cfg) : CountInv { cfg := cfg } := by
  intro id; simp [doneCount, opCount, live]

theorem CountInv.moveInv : MoveInv fun w => OpsInv w ∧ CountInv w :=
  ⟨fun h m => ⟨h.1.move m, h.2.move h.1 m⟩, fun h a => ⟨OpsInv.moveInv.addOp h.1 a, h.2.addOp a⟩⟩

theorem CountInv.steps {w : World} (h : CountInv w) (hi : OpsInv w) (evs : List Ev) :
    CountInv (evs.foldl World.step w) :=
  (CountInv.moveInv.steps ⟨hi, h⟩ evs).2

/-- ownership and kinds, relative to the set `U` of operation ids issued so far: a oneshot the context owns (queued
    message or `awaiting_ack` entry) was created by the issued operation `s / 2` and has the kind that operation waits for -/
structure KInv (U : Nat → Prop) (w : World) : Prop where
  own : ∀ s ∈ ctxSlots w, U (s / 2) ∧ ∀ st, (s / 2, st) ∈ w.ops → ∃ s' k, st = .wait s' k ∧ s ≤ s'
  nodup : (ctxSlots w).Nodup
  qmsg : ∀ m ∈ w.queue, ∀ id k, (id, OpSt.wait m.slot k) ∈ w.ops → MsgOk m k
  awt : ∀ aid s, (aid, s) ∈ w.c.awaiting → ∀ id k, (id, OpSt.wait s k) ∈ w.ops → AidOk aid k
  full : ∀ id s k p, (id, OpSt.wait s k) ∈ w.ops → w.slot s = some (.full (.pkt p)) →
    Wait.accepts k p = true ∧ p.wf
  used : ∀ id st, (id, st) ∈ w.ops → U id

theorem KInv.mono {U V : Nat → Prop} {w : World} (h : KInv U w) (huv : ∀ x, U x → V x) : KInv V w :=
  ⟨fun s hs => ⟨huv _ (h.own s hs).1, (h.own s hs).2⟩, h.nodup, h.qmsg, h.awt, h.full,
    fun id st hm => huv _ (h.used id st hm)⟩

theorem KInv.init (U : Nat → Prop) (cfg : Cfg) : KInv U { cfg := cfg } := by
  refine ⟨?_, by simp [ctxSlots], ?_, ?_, ?_, ?_⟩
  · intro s hs; simp [ctxSlots] at hs
  · intro m hm; cases hm
  · intro aid s hm; cases hm
  · intro id s k p hm; cases hm
  · intro id st hm; cases hm

theorem mem_ctxSlots {w : World} {s : Nat} :
    s ∈ ctxSlots w ↔ (∃ m ∈ w.queue, m.slot = s) ∨ (∃ aid, (aid, s) ∈ w.c.awaiting) := by
  unfold ctxSlots
  simp only [List.mem_append, List.mem_map]
  constructor
  · rintro (⟨m, hm, rfl⟩ | ⟨⟨a, b⟩, hm, rfl⟩)
    · exact Or.inl ⟨m, hm, rfl⟩
    · exact Or.inr ⟨a, hm⟩
  · rintro (⟨m, hm, rfl⟩ | ⟨a, hm⟩)
    · exact Or.inl ⟨m, hm, rfl⟩
    · exact Or.inr ⟨(a, s), hm, rfl⟩

theorem KInv.shrink {U : Nat → Prop} {w w' : World} (h : KInv U w) (ops : w'.ops = w.ops)
    (hq : w'.queue.Sublist w.queue) (ha : w'.c.awaiting.Sublist w.c.awaiting)
    (full : ∀ id s k p, (id, OpSt.wait s k) ∈ w'.ops → w'.slot s = some (.full (.pkt p)) →
      Wait.accepts k p = true ∧ p.wf) : KInv U w' := by
  have hsub : (ctxSlots w').Sublist (ctxSlots w) := List.Sublist.append (hq.map _) (ha.map _)
  refine ⟨?_, hsub.nodup h.nodup, ?_, ?_, full, by rw [ops]; exact h.used⟩
  · intro s hs; rw [ops]; exact h.own s (hsub.subset hs)
  · intro m hm; rw [ops]; exact h.qmsg m (hq.subset hm)
  · intro aid s hm; rw [ops]; exact h.awt aid s (ha.subset hm)

theorem KInv.full_none {U : Nat → Prop} {w w' : World} (h : KInv U w) (m : Move none w w') :
    ∀ id s k p, (id, OpSt.wait s k) ∈ w'.ops → w'.slot s = some (.full (.pkt p)) → Wait.accepts k p = true ∧ p.wf := by
  intro id s k p hm hs
  rw [m.ctx_frame.ops] at hm
  rcases m.fills hs with h0 | ⟨_, h0 | ⟨p', aid, pre, post, e, wf, haid, haw, _⟩⟩
  · exact h.full id s k p hm h0
  · exact absurd rfl (h0 p)
  · cases e
    exact ⟨accepts_of_aidOk (h.awt aid s (by rw [haw]; simp) id k hm) haid wf, wf⟩

theorem KInv.move {U : Nat → Prop} {t : Option Nat} {w w' : World} (h : KInv U w) (hi : OpsInv w) (m : Move t w w') : KInv U w' := by
  have full : ∀ id s k p, (id, OpSt.wait s k) ∈ w'.ops → w'.slot s = some (.full (.pkt p)) →
      Wait.accepts k p = true ∧ p.wf := by
    cases t with
    | none => exact h.full_none m
    | some id =>
      intro j s k p hm hs
      rcases m.others hi hm with ⟨_, hm0, e⟩ | ⟨_, s', k', e, he, _⟩
      · exact h.full j s k p hm0 (e s k rfl ▸ hs)
      · cases e; rw [he] at hs; cases hs
  cases m with
  | cmsg m q hq queue ops pid out aw slots =>
    rcases aw with aw | ⟨aid, haid, aw⟩
    · exact h.shrink ops (by rw [queue, hq]; exact List.sublist_cons_self _ _) (by rw [aw]; exact List.Sublist.refl _) full
    · -- the message's waiter is registered: its oneshot moves from the queue to `awaiting`
      have hperm : (ctxSlots w').Perm (ctxSlots w) := by
        unfold ctxSlots
        rw [queue, aw, hq, List.map_cons, List.map_append, List.map_cons, List.map_nil, ← List.append_assoc]
        exact List.perm_append_singleton _ _
      have hmem : ∀ s, s ∈ ctxSlots w' → s ∈ ctxSlots w := fun s hs => hperm.subset hs
      refine ⟨?_, hperm.nodup_iff.2 h.nodup, ?_, ?_, full, by rw [ops]; exact h.used⟩
      · intro s hs; rw [ops]; exact h.own s (hmem s hs)
      · intro m' hm'; rw [ops]; exact h.qmsg m' (by rw [hq]; exact List.mem_cons_of_mem _ (queue ▸ hm'))
      · intro aid' s hm id k hop
        rw [ops] at hop
        rw [aw] at hm
        simp only [List.mem_append, List.mem_singleton, Prod.mk.injEq] at hm
        rcases hm with hm | ⟨rfl, rfl⟩
        · exact h.awt aid' s hm id k hop
        · have := h.qmsg m (by rw [hq]; exact List.mem_cons_self) id k hop
          unfold MsgOk at this
          rw [haid] at this
          exact this
  | cpkt p aid slot pre post wf haid haw hpre aw queue ops pid out slots =>
    exact h.shrink ops (by rw [queue]; exact List.Sublist.refl _)
      (by rw [aw, haw]; exact List.Sublist.append (List.Sublist.refl _) (List.sublist_cons_self _ _)) full
  | drop queue aw ops pid out slots => exact h.shrink ops queue aw full
  | finish id st hst ops queue aw pid slots out =>
    have hcs : ctxSlots w' = ctxSlots w := by unfold ctxSlots; rw [queue, aw]
    have hsub : ∀ x, x ∈ w'.ops → x ∈ w.ops := fun x hx => (eraseFirst_sublist id w.ops).subset (ops ▸ hx)
    refine ⟨?_, by rw [hcs]; exact h.nodup, ?_, ?_, full, fun j st' hm => h.used j st' (hsub _ hm)⟩
    · intro s hs
      rw [hcs] at hs
      exact ⟨(h.own s hs).1, fun st' hm => (h.own s hs).2 st' (hsub _ hm)⟩
    · intro m hm j k hop; rw [queue] at hm; exact h.qmsg m hm j k (hsub _ hop)
    · intro aid s hm j k hop; rw [aw] at hm; exact h.awt aid s hm j k (hsub _ hop)
  | send id st m s k hst shape ops queue mslot aw pid slotNew slots out msgok =>
    have hmem := mem_of_opSt hst
    have hs2 : s / 2 = id := by
      have := hi.send_slot hst shape
      omega
    -- the context owns nothing with the new oneshot
    have hfresh : s ∉ ctxSlots w := by
      intro hs
      obtain ⟨s', k', e, hle⟩ := (h.own s hs).2 st (hs2 ▸ hmem)
      rcases shape with ⟨hh, r, rfl, e1, e2⟩ | ⟨s0, rfl, e1, e2⟩
      · cases e
      · cases e; omega
    have hcs : (ctxSlots w').Perm (s :: ctxSlots w) := by
      unfold ctxSlots
      rw [queue, aw, List.map_append, List.map_cons, List.map_nil, mslot, List.append_assoc]
      exact List.perm_middle
    have hmemcs : ∀ t, t ∈ ctxSlots w' ↔ t = s ∨ t ∈ ctxSlots w := fun t => by
      rw [hcs.mem_iff, List.mem_cons]
    have hnew : ∀ j st', (j, st') ∈ w'.ops → (j = id ∧ st' = .wait s k) ∨ (j ≠ id ∧ (j, st') ∈ w.ops) := by
      intro j st' hm
      rw [ops] at hm
      exact mem_setAssoc_nodup id j _ st _ _ hi.nodup hst hm
    refine ⟨?_, ?_, ?_, ?_, full, ?_⟩
    · intro t ht
      rcases (hmemcs t).1 ht with rfl | ht
      · refine ⟨hs2 ▸ h.used id st hmem, ?_⟩
        intro st' hm
        rcases hnew _ _ hm with ⟨_, rfl⟩ | ⟨hne, _⟩
        · exact ⟨t, k, rfl, Nat.le_refl _⟩
        · exact absurd hs2 hne
      · refine ⟨(h.own t ht).1, ?_⟩
        intro st' hm
        rcases hnew _ _ hm with ⟨hj, rfl⟩ | ⟨_, hm⟩
        · refine ⟨s, k, rfl, ?_⟩
          obtain ⟨s', k', e, hle⟩ := (h.own t ht).2 st (hj ▸ hmem)
          rcases shape with ⟨hh, r, rfl, e1, e2⟩ | ⟨s0, rfl, e1, e2⟩
          · cases e
          · cases e; omega
        · exact (h.own t ht).2 st' hm
    · exact hcs.nodup_iff.2 (List.nodup_cons.2 ⟨hfresh, h.nodup⟩)
    · intro m' hm' j k' hop
      rw [queue] at hm'
      simp only [List.mem_append, List.mem_singleton] at hm'
      rcases hnew _ _ hop with ⟨rfl, e⟩ | ⟨hne, hop⟩
      · simp only [OpSt.wait.injEq] at e
        obtain ⟨e1, rfl⟩ := e
        rcases hm' with hm' | rfl
        · exact absurd (mem_ctxSlots.2 (Or.inl ⟨m', hm', e1⟩)) hfresh
        · exact msgok hi.pid (fun s0 k0 p e hs => by subst e; exact (h.full j s0 k0 p hmem hs).2)
      · rcases hm' with hm' | rfl
        · exact h.qmsg m' hm' j k' hop
        · have := hi.owner hop
          rw [mslot] at this
          exact absurd (this.symm.trans hs2) hne
    · intro aid t hm j k' hop
      rw [aw] at hm
      rcases hnew _ _ hop with ⟨rfl, e⟩ | ⟨hne, hop⟩
      · simp only [OpSt.wait.injEq] at e
        obtain ⟨rfl, rfl⟩ := e
        exact absurd (mem_ctxSlots.2 (Or.inr ⟨aid, hm⟩)) hfresh
      · exact h.awt aid t hm j k' hop
    · intro j st' hm
      rcases hnew _ _ hm with ⟨rfl, _⟩ | ⟨_, hm⟩
      · exact h.used j st hmem
      · exact h.used j st' hm

theorem KInv.not_own {U : Nat → Prop} {w : World} (h : KInv U w) {id : Nat} (hu : ¬ U id) :
    2 * id ∉ ctxSlots w ∧ 2 * id + 1 ∉ ctxSlots w := by
  constructor <;> intro hs <;> have := (h.own _ hs).1
  · rw [Nat.mul_div_cancel_left id (by decide : 0 < 2)] at this; exact hu this
  · rw [Nat.mul_add_div (by decide : 0 < 2), Nat.div_eq_of_lt (by decide : 1 < 2), Nat.add_zero] at this; exact hu this

theorem KInv.addOp_gen {U V : Nat → Prop} {w w' : World} {id hd : Nat} {req : Req} (h : KInv U w)
    (a : AddOp id hd req w w') (huv : ∀ x, U x → V x) (hv : V id)
    (h0 : 2 * id ∉ ctxSlots w) (h1 : 2 * id + 1 ∉ ctxSlots w) : KInv V w' := by
  have hcs : ctxSlots w' = ctxSlots w := by unfold ctxSlots; rw [a.queue, a.aw]
  have hold : ∀ j s k, (j, OpSt.wait s k) ∈ w'.ops → (j, OpSt.wait s k) ∈ w.ops :=
    fun j s k hm => (a.mem_ops.1 hm).resolve_right fun ⟨_, e⟩ => OpSt.noConfusion e
  refine ⟨?_, by rw [hcs]; exact h.nodup, ?_, ?_, ?_, ?_⟩
  · intro s hs
    rw [hcs] at hs
    refine ⟨huv _ (h.own s hs).1, ?_⟩
    intro st hm
    rcases a.mem_ops.1 hm with hm | ⟨e, _⟩
    · exact (h.own s hs).2 st hm
    · exfalso
      have : s = 2 * id ∨ s = 2 * id + 1 := by omega
      rcases this with rfl | rfl
      · exact h0 hs
      · exact h1 hs
  · intro m hm j k hop; rw [a.queue] at hm; exact h.qmsg m hm j k (hold _ _ _ hop)
  · intro aid s hm j k hop; rw [a.aw] at hm; exact h.awt aid s hm j k (hold _ _ _ hop)
  · intro j s k p hop hs; rw [a.slots] at hs; exact h.full j s k p (hold _ _ _ hop) hs
  · intro j st hm
    rcases a.mem_ops.1 hm with hm | ⟨e, _⟩
    · exact huv _ (h.used j st hm)
    · exact e ▸ hv

def NoUnr (w : World) : Prop := ∀ id, Obs.panic (.op id) "unreachable" ∉ w.out

theorem NoUnr.of_neutral {w w' : World} (h : NoUnr w) (out : OutExtP Neutral w w') : NoUnr w' := by
  obtain ⟨added, e, hn⟩ := out
  intro id hm
  rw [e] at hm
  rcases List.mem_append.1 hm with hm | hm
  · exact h id hm
  · exact (hn _ hm).2 id _ rfl

theorem NoUnr.move {U : Nat → Prop} {t : Option Nat} {w w' : World} (h : NoUnr w) (hk : KInv U w)
    (m : Move t w w') : NoUnr w' := by
  cases t with
  | none => exact h.of_neutral m.ctx_frame.out
  | some id =>
    cases m with
    | finish _ st hst ops queue aw pid slots out =>
      rcases out with e | ⟨r, e⟩ | ⟨e, s, k, p, rfl, hs, ha⟩
      · intro j; rw [e]; exact h j
      · intro j hm
        rw [e] at hm
        rcases List.mem_append.1 hm with hm | hm
        · exact h j hm
        · simp at hm
      · -- the oneshot of a waiting operation holds an accepted packet
        have := (hk.full id s k p (mem_of_opSt hst) hs).1
        rw [ha] at this; cases this
    | send _ st m s k hst shape ops queue mslot aw pid slotNew slots out msgok =>
      intro j; rw [out]; exact h j

/-- the script event `e` does not issue an operation id while the context still owns a oneshot of that id -/
def CleanAt (w : World) (e : Ev) : Prop :=
  ∀ id, evOpId e = some id → 2 * id ∉ ctxSlots w ∧ 2 * id + 1 ∉ ctxSlots w

def Clean (w : World) : List Ev → Prop
  | [] => True
  | e :: t => CleanAt w e ∧ Clean (w.step e) t

/-- `OpsInv`, `KInv U` and `NoUnr` together (`U`: the operation ids issued so far, as in `KInv`) -/
structure Good (U : Nat → Prop) (w : World) : Prop where
  ops : OpsInv w
  kind : KInv U w
  noUnr : NoUnr w

theorem Good.init (U : Nat → Prop) (cfg : Cfg) : Good U { cfg := cfg } :=
  ⟨OpsInv.init cfg, KInv.init U cfg, fun id hm => by cases hm⟩

theorem Good.move {U : Nat → Prop} {t : Option Nat} {w w' : World} (h : Good U w) (m : Move t w w') : Good U w' :=
  ⟨h.ops.move m, h.kind.move h.ops m, h.noUnr.move h.kind m⟩

theorem Good.moves {U : Nat → Prop} {A : Option Nat → Prop} {w w' : World} (h : Good U w) (m : Moves A w w') :
    Good U w' :=
  Moves.inv (fun _ _ _ hi hm => Good.move hi hm) m h

theorem Good.mono {U V : Nat → Prop} {w : World} (h : Good U w) (huv : ∀ x, U x → V x) : Good V w :=
  ⟨h.ops, h.kind.mono huv, h.noUnr⟩

theorem Good.cleanAt {U : Nat → Prop} {w : World} (h : Good U w) (e : Ev) (hu : ∀ id, evOpId e = some id → ¬ U id) :
    CleanAt w e :=
  fun id hid => h.kind.not_own (hu id hid)

theorem Good.addOp_gen {U V : Nat → Prop} {w w1 : World} {id hd : Nat} {req : Req} (h : Good U w)
    (ha : AddOp id hd req (w.emit (.ev (.op id hd req))) w1) (huv : ∀ x, U x → V x) (hv : V id)
    (hc : 2 * id ∉ ctxSlots w ∧ 2 * id + 1 ∉ ctxSlots w) : Good V w1 :=
  have h1 := h.move (emit_ev_move w (.op id hd req))
  ⟨h1.ops.addOp ha, h1.kind.addOp_gen ha huv hv hc.1 hc.2, fun j => by rw [ha.out]; exact h1.noUnr j⟩

theorem Good.stepAny_gen {U V : Nat → Prop} {w : World} {e : Ev} {w' : World} (h : Good U w) (hs : StepAny w e w')
    (huv : ∀ x, U x → V x) (hv : ∀ id, evOpId e = some id → V id) (hc : CleanAt w e) : Good V w' := by
  rcases stepAny_decomp hs with h0 | ⟨id, hd, req, w1, he, ha, hm⟩ | hm
  · rw [h0]; exact h.mono huv
  · subst he
    exact (h.addOp_gen ha huv (hv id rfl) (hc id rfl)).moves hm
  · exact ((h.move (emit_ev_move w e)).moves hm).mono huv

theorem Good.step_gen {U V : Nat → Prop} {w : World} (h : Good U w) (e : Ev) (huv : ∀ x, U x → V x)
    (hv : ∀ id, evOpId e = some id → V id) (hc : CleanAt w e) : Good V (w.step e) :=
  h.stepAny_gen (stepAny_step w e) huv hv hc

theorem Good.steps_clean {w : World} (h : Good (fun _ => True) w) (evs : List Ev) (hc : Clean w evs) :
    Good (fun _ => True) (evs.foldl World.step w) := by
  induction evs generalizing w with
  | nil => exact h
  | cons e t ih => exact ih (h.step_gen e (fun _ h => h) (fun _ _ => trivial) hc.1) hc.2

theorem Good.steps_fresh {U : Nat → Prop} {w : World} (h : Good U w) (evs : List Ev) (hn : (opIds evs).Nodup)
    (hu : ∀ id ∈ opIds evs, ¬ U id) :
    Clean w evs ∧ Good (fun x => U x ∨ x ∈ opIds evs) (evs.foldl World.step w) := by
  induction evs generalizing w U with
  | nil => exact ⟨trivial, h.mono fun _ hx => Or.inl hx⟩
  | cons e t ih =>
    obtain ⟨hfirst, hnt, hrest, hsub⟩ := filterMap_cons_fresh hn hu
    obtain ⟨hc, hg⟩ := ih (h.step_gen e (fun _ => Or.inl) (fun _ => Or.inr) (h.cleanAt e hfirst)) hnt hrest
    exact ⟨⟨h.cleanAt e hfirst, hc⟩, hg.mono hsub⟩

theorem Good.stepsAny {U : Nat → Prop} {w : World} {evs : List Ev} {w' : World} (h : Good U w)
    (hs : StepsAny w evs w') (hn : (opIds evs).Nodup) (hu : ∀ id ∈ opIds evs, ¬ U id) :
    Good (fun x => U x ∨ x ∈ opIds evs) w' := by
  induction hs generalizing U with
  | nil => exact h.mono fun _ => Or.inl
  | cons hstep _ ih =>
    obtain ⟨hfirst, hnt, hrest, hsub⟩ := filterMap_cons_fresh hn hu
    exact (ih (h.stepAny_gen hstep (fun _ => Or.inl) (fun _ => Or.inr) (h.cleanAt _ hfirst)) hnt hrest).mono hsub

theorem cleanAt_iff (w : World) (e : Ev) :
    CleanAt w e ↔ (match evOpId e with
      | none => True
      | some id => 2 * id ∉ ctxSlots w ∧ 2 * id + 1 ∉ ctxSlots w) := by
  unfold CleanAt
  cases evOpId e with
  | none => simp
  | some id =>
    constructor
    · intro h; exact h id rfl
    · intro h j hj; cases hj; exact h

instance (w : World) (e : Ev) : Decidable (CleanAt w e) :=
  have : Decidable (match evOpId e with
      | none => True
      | some id => 2 * id ∉ ctxSlots w ∧ 2 * id + 1 ∉ ctxSlots w) := by
    cases evOpId e with
    | none => exact isTrue True.intro
    | some id => exact inferInstanceAs (Decidable (2 * id ∉ ctxSlots w ∧ 2 * id + 1 ∉ ctxSlots w))
  decidable_of_iff _ (cleanAt_iff w e).symm

instance instDecidableClean : (w : World) → (evs : List Ev) → Decidable (Clean w evs)
  | _, [] => isTrue True.intro
  | w, e :: t =>
    have := instDecidableClean (w.step e) t
    inferInstanceAs (Decidable (CleanAt w e ∧ Clean (w.step e) t))

theorem Move.doneCount_other {t : Option Nat} {w w' : World} (m : Move t w w') (id : Nat) (h : t ≠ some id) :
    doneCount id w'.out = doneCount id w.out := by
  cases t with
  | none => exact (doneCount_neutral m.ctx_frame.out id).1
  | some j =>
    have hj : j ≠ id := fun e => h (by rw [e])
    cases m with
    | finish _ st hst ops queue aw pid slots out =>
      rcases out with e | ⟨r, e⟩ | ⟨e, _⟩
      · rw [e]
      · rw [e, doneCount_snoc]; simp [isDone, hj]
      · rw [e, doneCount_snoc]; rfl
    | send _ st m s k hst shape ops queue mslot aw pid slotNew slots out msgok => rw [out]

theorem Moves.doneCount_other {A : Option Nat → Prop} {w w' : World} (m : Moves A w w') (id : Nat)
    (h : ¬ A (some id)) : doneCount id w'.out = doneCount id w.out := by
  induction m with
  | refl => rfl
  | cons ht hm _ ih => rw [ih, hm.doneCount_other id (fun e => h (e ▸ ht))]

theorem Move.doneCount_own {w w' : World} {id : Nat} (m : Move (some id) w w') (hi : OpsInv w) :
    doneCount id w'.out = doneCount id w.out ∨
    (doneCount id w'.out = doneCount id w.out + 1 ∧ (w.opSt id).isSome ∧ w'.opSt id = none) := by
  cases m with
  | finish _ st hst ops queue aw pid slots out =>
    rcases out with e | ⟨r, e⟩ | ⟨e, _⟩
    · left; rw [e]
    · right
      refine ⟨by rw [e, doneCount_snoc]; simp [isDone], by rw [hst]; rfl, ?_⟩
      unfold opSt; rw [ops]; exact lookupFirst_eraseFirst_self id w.ops hi.nodup
    · left; rw [e, doneCount_snoc]; rfl
  | send _ st m s k hst shape ops queue mslot aw pid slotNew slots out msgok => left; rw [out]

theorem Move.slot_stable {w w' : World} (m : Move none w w') (s : Nat) (x : Slot) (hx : x ≠ .empty)
    (hs : w.slot s = some x) : w'.slot s = some x := by
  rcases m.ctx_frame.slots s with e | ⟨e, _⟩
  · rw [e]; exact hs
  · rw [hs] at e; simp only [Option.some.injEq] at e; exact absurd e hx

theorem Moves.slot_stable {A : Option Nat → Prop} (hA : ∀ t, A t → t = none) {w w' : World} (m : Moves A w w')
    (s : Nat) (x : Slot) (hx : x ≠ .empty) (hs : w.slot s = some x) : w'.slot s = some x := by
  induction m with
  | refl => exact hs
  | cons ht hm _ ih =>
    have := hA _ ht; subst this
    exact ih (hm.slot_stable s x hx hs)

theorem Moves.filled {A : Option Nat → Prop} (hA : ∀ t, A t → t = none) {w w' : World} (m : Moves A w w')
    (s : Nat) (p : RxPacket) (hs : w.slot s = some .empty) (hs' : w'.slot s = some (.full (.pkt p))) :
    ∃ w1 aid pre post, Moves A w w1 ∧ p.wf ∧ rxActionId p = some aid ∧
      w1.c.awaiting = pre ++ (aid, s) :: post ∧ aid ∉ pre.map (·.1) ∧ w1.slot s = some .empty := by
  induction m with
  | refl => rw [hs] at hs'; cases hs'
  | @cons t a b c ht hm hrest ih =>
    have := hA _ ht; subst this
    -- what does this move leave in the oneshot? Once it is not empty any more, it stays as it is.
    cases hb : b.slot s with
    | none =>
      have := slotRel_isSome hm.ctx_frame.slots s (by rw [hs]; rfl)
      rw [hb] at this; cases this
    | some x =>
      cases x with
      | empty =>
        obtain ⟨w1, aid, pre, post, h1, h2, h3, h4, h5, h6⟩ := ih hb hs'
        exact ⟨w1, aid, pre, post, .cons ht hm h1, h2, h3, h4, h5, h6⟩
      | closed =>
        have := Moves.slot_stable hA hrest s .closed (by intro e; cases e) hb
        rw [this] at hs'; cases hs'
      | full v =>
        have := Moves.slot_stable hA hrest s (.full v) (by intro e; cases e) hb
        rw [this] at hs'
        simp only [Option.some.injEq, Slot.full.injEq] at hs'
        subst hs'
        rcases hm.fills hb with h0 | ⟨_, h0 | ⟨p', aid, pre, post, e, wf, haid, haw, hpre⟩⟩
        · rw [hs] at h0; cases h0
        · exact absurd rfl (h0 p)
        · cases e; exact ⟨a, aid, pre, post, .refl a, wf, haid, haw, hpre, hs⟩

namespace W7

def FreshLogged (w : World) : Prop := ∀ id h req, (id, OpSt.fresh h req) ∈ w.ops → Obs.ev (.op id h req) ∈ w.out

theorem move_fresh {t : Option Nat} {w w' : World} (hm : Move t w w') {id h : Nat} {req : Req}
    (hmem : (id, OpSt.fresh h req) ∈ w'.ops) : (id, OpSt.fresh h req) ∈ w.ops := by
  cases t with
  | none => rw [hm.ctx_frame.ops] at hmem; exact hmem
  | some j =>
    cases hm with
    | finish _ st hst ops queue aw pid slots out =>
      rw [ops] at hmem; exact (eraseFirst_sublist j w.ops).subset hmem
    | send _ st m s k hst shape ops queue mslot aw pid slotNew slots out msgok =>
      rw [ops] at hmem
      rcases mem_setAssoc hmem with e | e
      · cases e
      · exact e

theorem moves_fresh {A : Option Nat → Prop} {w w' : World} (hm : Moves A w w') {id h : Nat} {req : Req}
    (hmem : (id, OpSt.fresh h req) ∈ w'.ops) : (id, OpSt.fresh h req) ∈ w.ops := by
  induction hm with
  | refl => exact hmem
  | cons _ hmv _ ih => exact move_fresh hmv (ih hmem)

theorem FreshLogged.moveInv : MoveInv FreshLogged where
  move h hm id hh req hmem := by
    obtain ⟨added, eo⟩ := hm.out_prefix
    rw [eo]; exact List.mem_append_left _ (h id hh req (move_fresh hm hmem))
  addOp h ha id hh req hmem := by
    rw [ha.out]
    rcases ha.mem_ops.1 hmem with hmem | ⟨rfl, e⟩
    · exact List.mem_append_left _ (h id hh req hmem)
    · cases e; simp

def loggedIds (out : List Obs) : List Nat := opIds (evLines out)

theorem loggedIds_append (a b : List Obs) : loggedIds (a ++ b) = loggedIds a ++ loggedIds b := by
  simp [loggedIds, opIds, evLines_append, List.filterMap_append]

-- declared in `W7`: this is `World.W7.Good.moveInv`, and `h.moveInv` does not find it from `h : World.Good U w`
theorem Good.moveInv : MoveInv fun w => (loggedIds w.out).Nodup → Good (· ∈ loggedIds w.out) w where
  move h hm hn := by
    obtain ⟨added, eo⟩ := hm.out_prefix
    rw [eo, loggedIds_append] at hn
    refine ((h (List.nodup_append.mp hn).1).move hm).mono fun x hx => ?_
    rw [eo, loggedIds_append]; exact List.mem_append_left _ hx
  addOp {id hh req w w'} h ha hn := by
    have eout : w'.out = w.out ++ [.ev (.op id hh req)] := by rw [ha.out]; rfl
    rw [eout, loggedIds_append] at hn ⊢
    have h0 := h (List.nodup_append.mp hn).1
    have hid : id ∈ loggedIds [.ev (.op id hh req)] := List.mem_singleton.2 rfl
    have hfresh : id ∉ loggedIds w.out := fun hx => (List.nodup_append.mp hn).2.2 id hx id hid rfl
    exact h0.addOp_gen ha (fun x hx => List.mem_append_left _ hx) (List.mem_append_right _ hid) (h0.kind.not_own hfresh)

end W7

end World
end Poster

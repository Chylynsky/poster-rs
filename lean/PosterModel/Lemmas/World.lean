/-
  What the frame lemmas of `WorldFrame` leave open: `runHandler` as one decision (can the transport take the write?)
  followed by the handler, and — the primed names — the field each small operation DOES set.
-/
import PosterModel.Lemmas.WorldFrame
import PosterModel.Lemmas.CtxApi

namespace Poster
open Framing

namespace Ctx

theorem sendsOf_dispatch (alive : Nat → Bool) (p : PublishRx) (sids : List Nat) (subs : List (Nat × Nat)) :
    sendsOf (dispatch alive p sids subs).2 = [] :=
  dispatch_sends alive p sids subs

@[simp] theorem writesOf_nil : writesOf [] = [] := rfl
@[simp] theorem writesOf_write_singleton (b : Bytes) : writesOf [.write b] = [b] := rfl

end Ctx

namespace World

/-- number of bytes a handler's effects write on the transport -/
def writeNeed (effs : List Eff) : Nat :=
  (effs.map fun e => match e with | .write bs => bs.length | _ => 0).sum

/-- `runHandler` decides one bit — can the transport take the write of `h true` — and then runs `h` on it -/
theorem runHandler_eq (w : World) (h : Bool → Ctx × List Eff × Flow) :
    w.runHandler h =
      (({ w with c := (h (w.canWrite (writeNeed (h true).2.1))).1 }).applyEffs
          (h (w.canWrite (writeNeed (h true).2.1))).2.1,
        (h (w.canWrite (writeNeed (h true).2.1))).2.2) := by
  show (let r := h true
        let r := if w.canWrite (writeNeed r.2.1) then r else h false
        (({ w with c := r.1 }).applyEffs r.2.1, r.2.2)) = _
  by_cases hc : w.canWrite (writeNeed (h true).2.1) = true
  · simp [hc]
  · simp only [Bool.not_eq_true] at hc; simp [hc]

@[simp] theorem slot_mk_slots (w : World) (l : List (Nat × Slot)) (s : Nat) :
    ({ w with slots := l } : World).slot s = lookupFirst s l := rfl

@[simp] theorem emit_out' (w : World) (o : Obs) : (w.emit o).out = w.out ++ [o] := rfl
@[simp] theorem finish_out' (w : World) (call : Call) (r : RetRes) :
    (w.finish call r).out = w.out ++ [.ret call r] := rfl
@[simp] theorem finish_task' (w : World) (call : Call) (r : RetRes) : (w.finish call r).task = .none := rfl
@[simp] theorem clearSlot_slots' (w : World) (s : Nat) : (w.clearSlot s).slots = eraseFirst s w.slots := rfl
@[simp] theorem clearSlot_slotReg' (w : World) (s : Nat) :
    (w.clearSlot s).slotReg = w.slotReg.filter (· ≠ s) := rfl
@[simp] theorem dropChanRx_chans' (w : World) (c : Nat) : (w.dropChanRx c).chans = eraseFirst c w.chans := rfl
@[simp] theorem setChan_chans' (w : World) (c : Nat) (v : Chan) :
    (w.setChan c v).chans = setAssoc c v w.chans := rfl
@[simp] theorem setSlot_slots' (w : World) (s : Nat) (v : Slot) :
    (w.setSlot s v).slots = setAssoc s v w.slots := rfl
@[simp] theorem awaitSlot_ops' (w : World) (id s : Nat) (k : Wait) :
    (w.awaitSlot id s k).ops = setAssoc id (.wait s k) w.ops := rfl
@[simp] theorem awaitSlot_slots' (w : World) (id s : Nat) (k : Wait) :
    (w.awaitSlot id s k).slots = setAssoc s Slot.empty w.slots := rfl
end World
end Poster

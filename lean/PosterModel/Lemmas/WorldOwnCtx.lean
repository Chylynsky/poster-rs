/-
  Lemmas/WorldOwnCtx.lean — the context never loses a sender silently. Every handler (`handleMsg`, `handlePkt`,
  the prelude `resume`) either keeps a oneshot sender it was given (in `awaiting`), or completes it (`Eff.send`),
  or drops it explicitly (`Eff.dropSlot`); likewise for subscription senders (`subs` / `Eff.dropChan`).
  `Hand w w'` lifts this to worlds: `w'` is `w` after some activity of the context task.
-/
import PosterModel.Lemmas.WorldOwnAct
import PosterModel.Lemmas.UserCtx


namespace Poster
open Framing

namespace Ctx

theorem complete_slots (c : Ctx) (aid : Nat) (p : RxPacket) (s : Nat) (h : ∃ e ∈ c.awaiting, e.2 = s) :
    (∃ e ∈ (c.complete aid p).1.awaiting, e.2 = s) ∨ Settles (c.complete aid p).2 s := by
  obtain ⟨⟨a, b⟩, he, rfl⟩ := h
  rw [complete_fst, complete_effs]
  rcases mem_eraseFirst_or aid a b c.awaiting he with h | ⟨_, h⟩
  · exact Or.inl ⟨(a, b), h, rfl⟩
  · right; rw [h]; exact Or.inl ⟨_, List.mem_singleton.mpr rfl⟩

theorem complete_noDropChan (c : Ctx) (aid : Nat) (p : RxPacket) (ch : Nat) :
    Eff.dropChan ch ∉ (c.complete aid p).2 := by
  rw [complete_effs]; split <;> simp

/-- a handler that either leaves the table `t` alone and is done with the sender it carries, or files that sender at the
    end of the table: every sender carried or filed is filed afterwards, or done with -/
theorem kept_or_done {car : Option Nat} {t t' : List (Nat × Nat)} {done : Nat → Prop}
    (h : (t' = t ∧ ∀ k, car = some k → done k) ∨ ∃ a k, car = some k ∧ t' = t ++ [(a, k)]) (k : Nat)
    (hk : car = some k ∨ ∃ e ∈ t, e.2 = k) : (∃ e ∈ t', e.2 = k) ∨ done k := by
  rcases h with ⟨e1, e2⟩ | ⟨a, k', hc, e1⟩ <;> rcases hk with hk | ⟨e, he, hs⟩
  · exact Or.inr (e2 k hk)
  · exact Or.inl ⟨e, e1 ▸ he, hs⟩
  · cases hc.symm.trans hk; exact Or.inl ⟨(a, k), by rw [e1]; simp, rfl⟩
  · exact Or.inl ⟨e, by rw [e1]; exact List.mem_append_left _ he, hs⟩

theorem handleMsg_awaiting (c : Ctx) (m : Msg) (wok : Bool) :
    ((c.handleMsg m wok).1.awaiting = c.awaiting ∧ Settles (c.handleMsg m wok).2.1 m.slot) ∨
    (∃ aid, (c.handleMsg m wok).1.awaiting = c.awaiting ++ [(aid, m.slot)]) := by
  cases m with
  | ff pkt slot =>
    rcases handleMsg_ff_cases c pkt slot wok with ⟨_, e⟩ | ⟨_, _, e⟩ | ⟨_, _, e⟩ <;> rw [e]
    · exact Or.inl ⟨rfl, Or.inl ⟨.errSize, List.mem_cons_self⟩⟩
    · exact Or.inl ⟨rfl, Or.inr (List.mem_cons_of_mem _ List.mem_cons_self)⟩
    · exact Or.inl ⟨rfl, Or.inl ⟨.unit, List.mem_cons_of_mem _ List.mem_cons_self⟩⟩
  | awaitAck aid pkt slot =>
    rcases handleMsg_awaitAck_cases c aid pkt slot wok with ⟨_, e⟩ | ⟨_, _, _, e⟩ | ⟨_, _, _, e⟩ | ⟨_, _, _, e⟩ <;>
      rw [e]
    · exact Or.inl ⟨rfl, Or.inl ⟨.errSize, List.mem_cons_self⟩⟩
    · exact Or.inl ⟨rfl, Or.inl ⟨.errQuota, List.mem_cons_self⟩⟩
    · exact Or.inl ⟨rfl, Or.inr (List.mem_cons_of_mem _ List.mem_cons_self)⟩
    · exact Or.inr ⟨_, rfl⟩
  | subscribe aid subId pkt slot chan =>
    rcases handleMsg_subscribe_cases c aid subId pkt slot chan wok with ⟨_, e⟩ | ⟨_, e⟩ <;> rw [e]
    · exact Or.inl ⟨rfl, Or.inl ⟨.errSize, List.mem_cons_self⟩⟩
    · exact Or.inr ⟨_, rfl⟩

theorem handleMsg_slots (c : Ctx) (m : Msg) (wok : Bool) (s : Nat)
    (h : m.slot = s ∨ ∃ e ∈ c.awaiting, e.2 = s) :
    (∃ e ∈ (c.handleMsg m wok).1.awaiting, e.2 = s) ∨ Settles (c.handleMsg m wok).2.1 s :=
  kept_or_done (car := some m.slot) ((handleMsg_awaiting c m wok).imp
    (fun x => ⟨x.1, fun _ hk => Option.some.inj hk ▸ x.2⟩) fun ⟨aid, e⟩ => ⟨aid, _, rfl, e⟩) s (h.imp_left (congrArg some))

/-- the subscription sender a message carries -/
def _root_.Poster.Msg.chan? : Msg → Option Nat
  | .subscribe _ _ _ _ ch => some ch
  | _ => none

theorem handleMsg_sender (c : Ctx) (m : Msg) (wok : Bool) :
    ((c.handleMsg m wok).1.subs = c.subs ∧ ∀ ch, m.chan? = some ch → Eff.dropChan ch ∈ (c.handleMsg m wok).2.1) ∨
    (∃ sid ch, m.chan? = some ch ∧ (c.handleMsg m wok).1.subs = c.subs ++ [(sid, ch)]) := by
  cases m with
  | ff | awaitAck => exact Or.inl ⟨(handleMsg_subs c _ wok).trans (List.append_nil _), nofun⟩
  | subscribe aid subId pkt slot chan =>
    rcases handleMsg_subscribe_cases c aid subId pkt slot chan wok with ⟨_, e⟩ | ⟨_, e⟩ <;> rw [e]
    · exact Or.inl ⟨rfl, fun ch h => by cases h; exact List.mem_cons_of_mem _ List.mem_cons_self⟩
    · exact Or.inr ⟨_, _, rfl, rfl⟩

theorem handleMsg_chans (c : Ctx) (m : Msg) (wok : Bool) (ch : Nat)
    (h : m.chan? = some ch ∨ ∃ e ∈ c.subs, e.2 = ch) :
    (∃ e ∈ (c.handleMsg m wok).1.subs, e.2 = ch) ∨ Eff.dropChan ch ∈ (c.handleMsg m wok).2.1 :=
  kept_or_done (handleMsg_sender c m wok) ch h

theorem dispatch_chans (alive : Nat → Bool) (p : PublishRx) (sids : List Nat) (subs : List (Nat × Nat)) (ch : Nat)
    (h : ∃ e ∈ subs, e.2 = ch) :
    (∃ e ∈ (dispatch alive p sids subs).1, e.2 = ch) ∨ Eff.dropChan ch ∈ (dispatch alive p sids subs).2 := by
  refine dispatch_induct (motive := fun _ subs r => (∃ e ∈ subs, e.2 = ch) →
    (∃ e ∈ r.1, e.2 = ch) ∨ Eff.dropChan ch ∈ r.2) ?_ ?_ ?_ ?_ sids subs h
  · exact fun _ h => Or.inl h
  · exact fun _ _ _ _ _ ih h => ih h
  · exact fun _ _ _ _ _ _ _ ih h => (ih h).imp_right (List.mem_cons_of_mem _)
  · rintro sid c0 _ subs _ hl _ ih ⟨⟨a, b⟩, he, rfl⟩
    rcases mem_eraseFirst_or sid a b subs he with h1 | ⟨_, h1⟩
    · exact (ih ⟨(a, b), h1, rfl⟩).imp_right (List.mem_cons_of_mem _)
    · rw [hl] at h1; cases h1
      exact Or.inr List.mem_cons_self

theorem handlePkt_publish_state (c : Ctx) (alive : Nat → Bool) (pb : PublishRx) (wok : Bool) :
    (c.handlePkt alive (.publish pb) wok).1.awaiting = c.awaiting ∧
    (((c.handlePkt alive (.publish pb) wok).1.subs = c.subs) ∨
     ((c.handlePkt alive (.publish pb) wok).1.subs = (dispatch alive pb pb.subIds c.subs).1 ∧
      ∀ e ∈ (dispatch alive pb pb.subIds c.subs).2, e ∈ (c.handlePkt alive (.publish pb) wok).2.1)) := by
  rw [handlePkt_publish_eq]
  refine ⟨rfl, ?_⟩
  by_cases hr : (pb.qos = 2 ∧ pb.packetId.getD 0 ∈ c.inQos2)
  · exact Or.inl (by simp only [hr, and_self, ↓reduceIte])
  · exact Or.inr ⟨by simp only [hr, ↓reduceIte], fun e he => by simp only [hr, ↓reduceIte]; exact List.mem_append_left _ he⟩

theorem handlePkt_other (c : Ctx) (alive : Nat → Bool) (p : RxPacket) (wok : Bool) (hp : ∀ pb, p ≠ .publish pb) :
    (c.handlePkt alive p wok).1.subs = c.subs ∧
    ((c.handlePkt alive p wok).1.awaiting = c.awaiting ∨
     ∃ aid, (c.handlePkt alive p wok).1.awaiting = eraseFirst aid c.awaiting ∧
       (c.handlePkt alive p wok).2.1 = (c.complete aid p).2) := by
  cases p.kind with
  | publish pb => exact absurd rfl (hp pb)
  | pubrel a | disconnect d => exact ⟨rfl, Or.inl rfl⟩
  | idle p _ _ hi => rw [hi]; exact ⟨rfl, Or.inl rfl⟩
  | ack p aid h hrel => rw [handlePkt_ack_eq c alive p wok aid h hrel]; exact ⟨rfl, Or.inr ⟨aid, rfl, rfl⟩⟩

theorem handlePkt_slots (c : Ctx) (alive : Nat → Bool) (p : RxPacket) (wok : Bool) (s : Nat)
    (h : ∃ e ∈ c.awaiting, e.2 = s) :
    (∃ e ∈ (c.handlePkt alive p wok).1.awaiting, e.2 = s) ∨ Settles (c.handlePkt alive p wok).2.1 s := by
  by_cases hp : ∃ pb, p = .publish pb
  · obtain ⟨pb, rfl⟩ := hp
    left; rw [(handlePkt_publish_state c alive pb wok).1]; exact h
  · rcases (handlePkt_other c alive p wok fun pb e => hp ⟨pb, e⟩).2 with e | ⟨aid, e1, e2⟩
    · left; rw [e]; exact h
    · have := complete_slots c aid p s h
      rw [complete_fst] at this
      rw [e1, e2]; exact this

theorem handlePkt_chans (c : Ctx) (alive : Nat → Bool) (p : RxPacket) (wok : Bool) (ch : Nat)
    (h : ∃ e ∈ c.subs, e.2 = ch) :
    (∃ e ∈ (c.handlePkt alive p wok).1.subs, e.2 = ch) ∨ Eff.dropChan ch ∈ (c.handlePkt alive p wok).2.1 := by
  by_cases hp : ∃ pb, p = .publish pb
  · obtain ⟨pb, rfl⟩ := hp
    rcases (handlePkt_publish_state c alive pb wok).2 with e | ⟨e1, e2⟩
    · left; rw [e]; exact h
    · rcases dispatch_chans alive pb pb.subIds c.subs ch h with hd | hd
      · left; rw [e1]; exact hd
      · exact Or.inr (e2 _ hd)
  · left; rw [(handlePkt_other c alive p wok fun pb e => hp ⟨pb, e⟩).1]; exact h

theorem resume_slots (c : Ctx) (s : Nat) (h : ∃ e ∈ c.awaiting, e.2 = s) :
    (∃ e ∈ c.resume.1.awaiting, e.2 = s) ∨ Settles c.resume.2.1 s := by
  rcases c.resume_cases with r | r | r <;> rw [r]
  · exact Or.inl h
  · exact Or.inl h
  · obtain ⟨e, he, hs⟩ := h
    exact Or.inr (Or.inr (List.mem_append_left _ (List.mem_map.2 ⟨e, he, by rw [hs]⟩)))

theorem resume_chans (c : Ctx) (ch : Nat) (h : ∃ e ∈ c.subs, e.2 = ch) :
    (∃ e ∈ c.resume.1.subs, e.2 = ch) ∨ Eff.dropChan ch ∈ c.resume.2.1 := by
  rcases c.resume_cases with r | r | r <;> rw [r]
  · exact Or.inl h
  · exact Or.inl h
  · obtain ⟨e, he, hs⟩ := h
    exact Or.inr (List.mem_append_right _ (List.mem_map.2 ⟨e, he, by rw [hs]⟩))

end Ctx

namespace World

/-- the sending half of channel `ch` is gone (or the channel no longer exists) -/
def TxGone (w : World) (ch : Nat) : Prop := ∀ c1, w.chan ch = some c1 → c1.txAlive = false

theorem ChanShut.txGone {w : World} {ch : Nat} (h : ChanShut w ch) : TxGone w ch := fun c1 hc1 => (h c1 hc1).1

theorem ActInv.txGone {w w' : World} (h : ActInv w w') (ch : Nat) (hg : TxGone w ch) : TxGone w' ch := by
  intro c1 hc1
  cases hv : w.chan ch with
  | none => rw [h.chanNone ch hv] at hc1; cases hc1
  | some c0 =>
    obtain ⟨c1', e1, t1, _⟩ := h.chanSome ch c0 hv
    rw [e1] at hc1; cases hc1
    exact t1 (hg c0 hv)

theorem applyEffs_txGone (w : World) (es : List Eff) (ch : Nat) (h : Eff.dropChan ch ∈ es) :
    TxGone (w.applyEffs es) ch := by
  obtain ⟨pre, post, _, e⟩ := applyEffs_of_mem h w
  rw [e]
  exact (actInv_applyEffs _ post).txGone ch (dropChanTx_chanShut _ ch).txGone

/-- `w'` is `w` after some activity of the context: the plumbing changed as `ActInv` allows, and every sender
    the context owned is still owned, or its oneshot is no longer `empty` / its channel's sending half is gone -/
structure Hand (w w' : World) : Prop where
  act : ActInv w w'
  slots : ∀ s, OwnsSlot w s → OwnsSlot w' s ∨ w'.slot s ≠ some .empty
  chans : ∀ ch, OwnsChan w ch → OwnsChan w' ch ∨ TxGone w' ch

theorem hand_refl (w : World) : Hand w w := ⟨actInv_refl w, fun _ h => Or.inl h, fun _ h => Or.inl h⟩

theorem hand_trans {a b c : World} (h1 : Hand a b) (h2 : Hand b c) : Hand a c where
  act := actInv_trans h1.act h2.act
  slots := fun s hs => (h1.slots s hs).elim (h2.slots s) fun h => Or.inr (by rw [h2.act.slot_ne_empty s h]; exact h)
  chans := fun ch hc => (h1.chans ch hc).elim (h2.chans ch) fun h => Or.inr (h2.act.txGone ch h)

theorem ownsSlot_congr {w w' : World} (hq : w'.queue = w.queue) (ha : w'.c.awaiting = w.c.awaiting) (s : Nat) :
    OwnsSlot w' s ↔ OwnsSlot w s := by
  unfold OwnsSlot; rw [hq, ha]

theorem ownsChan_congr {w w' : World} (hq : w'.queue = w.queue) (ha : w'.c.subs = w.c.subs) (ch : Nat) :
    OwnsChan w' ch ↔ OwnsChan w ch := by
  unfold OwnsChan; rw [hq, ha]

theorem ownsChan_iff (w : World) (ch : Nat) :
    OwnsChan w ch ↔ (∃ m ∈ w.queue, m.chan? = some ch) ∨ (∃ e ∈ w.c.subs, e.2 = ch) := by
  unfold OwnsChan
  constructor
  · rintro (⟨aid, sid, pkt, s, h⟩ | h)
    · exact Or.inl ⟨_, h, rfl⟩
    · exact Or.inr h
  · rintro (⟨m, hm, hc⟩ | h)
    · left
      cases m with
      | ff _ _ => simp [Msg.chan?] at hc
      | awaitAck _ _ _ => simp [Msg.chan?] at hc
      | subscribe aid sid pkt s c' =>
        simp only [Msg.chan?, Option.some.injEq] at hc; subst hc
        exact ⟨aid, sid, pkt, s, hm⟩
    · exact Or.inr h

theorem hand_applyEffs (w w0 : World) (es : List Eff) (hact : ActInv w w0)
    (hs : ∀ s, OwnsSlot w s → OwnsSlot w0 s ∨ Settles es s)
    (hc : ∀ ch, OwnsChan w ch → OwnsChan w0 ch ∨ Eff.dropChan ch ∈ es) :
    Hand w (w0.applyEffs es) :=
  ⟨actInv_trans hact (actInv_applyEffs _ _),
    fun s hown => (hs s hown).imp (ownsSlot_congr (by simp) (by simp) s).2 (applyEffs_settles _ _ s),
    fun ch hown => (hc ch hown).imp (ownsChan_congr (by simp) (by simp) ch).2 (applyEffs_txGone _ _ ch)⟩

/-- a sender in the queue `m :: q` or (`T`) in the table: `m` carries it or the table holds it, or it is still queued -/
theorem queue_cases {P : Msg → Prop} {m : Msg} {q : List Msg} {T : Prop} (h : (∃ m' ∈ m :: q, P m') ∨ T) :
    (P m ∨ T) ∨ ∃ m' ∈ q, P m' := by
  rcases h with ⟨m', hm', hp⟩ | h
  · rcases List.mem_cons.mp hm' with rfl | hm'
    · exact Or.inl (Or.inl hp)
    · exact Or.inr ⟨m', hm', hp⟩
  · exact Or.inl (Or.inr h)

theorem hand_msg (w : World) (m : Msg) (q : List Msg) (hq : w.queue = m :: q) :
    Hand w (({ w with queue := q } : World).runHandler (fun wok => w.c.handleMsg m wok)).1 := by
  rw [runHandler_eq]
  simp only
  generalize ({ w with queue := q } : World).canWrite _ = wok
  refine hand_applyEffs _ _ _ { actInv_refl w with } (fun s hown => ?_) fun ch hown => ?_
  · unfold OwnsSlot at hown; rw [hq] at hown
    rcases queue_cases hown with h | h
    · exact (Ctx.handleMsg_slots w.c m wok s h).imp_left Or.inr
    · exact Or.inl (Or.inl h)
  · rw [ownsChan_iff, hq] at hown
    rcases queue_cases hown with h | h
    · exact (Ctx.handleMsg_chans w.c m wok ch h).imp_left fun x => (ownsChan_iff _ ch).2 (Or.inr x)
    · exact Or.inl ((ownsChan_iff _ ch).2 (Or.inl h))

theorem hand_ofCtx (w w0 : World) (es : List Eff) (hact : ActInv w w0) (hq : w0.queue = w.queue)
    (hs : ∀ s, (∃ e ∈ w.c.awaiting, e.2 = s) → (∃ e ∈ w0.c.awaiting, e.2 = s) ∨ Settles es s)
    (hc : ∀ ch, (∃ e ∈ w.c.subs, e.2 = ch) → (∃ e ∈ w0.c.subs, e.2 = ch) ∨ Eff.dropChan ch ∈ es) :
    Hand w (w0.applyEffs es) :=
  hand_applyEffs w w0 es hact
    (fun s hown => hown.elim (fun h => Or.inl (Or.inl (hq ▸ h))) fun h => (hs s h).imp_left Or.inr)
    (fun ch hown => hown.elim (fun h => Or.inl (Or.inl (hq ▸ h))) fun h => (hc ch h).imp_left Or.inr)

theorem hand_pkt (w : World) (rx' : Rx) (rd' : List ReadEv) (p : RxPacket) (alive : Nat → Bool) :
    Hand w (({ w with rx := rx', reader := rd' } : World).runHandler (fun wok => w.c.handlePkt alive p wok)).1 := by
  rw [runHandler_eq]
  simp only
  generalize ({ w with rx := rx', reader := rd' } : World).canWrite _ = wok
  exact hand_ofCtx w _ _ { actInv_refl w with } rfl
    (Ctx.handlePkt_slots w.c alive p wok) (Ctx.handlePkt_chans w.c alive p wok)

theorem hand_inert {w w' : World} (i : CtxInert w w') : Hand w w' where
  act := actInv_of_eq i.hasCtx i.ctxDropped i.ops i.streams i.rsps i.held i.woken_mono i.slots i.slotReg i.chans i.bad
  slots := fun s hs => Or.inl ((ownsSlot_congr i.queue i.tables.2.1 s).2 hs)
  chans := fun ch hc => Or.inl ((ownsChan_congr i.queue i.tables.2.2.1 ch).2 hc)

theorem hand_emit (w : World) (o : Obs) : Hand w (w.emit o) :=
  { hand_refl w with act := { actInv_refl w with } }

theorem hand_wake (w : World) (t : Task) : Hand w (w.wake t) where
  act := actInv_of_eq (by simp) (by simp) (by simp) (by simp) (by simp) (by simp) (fun _ h => mem_wake_of_mem _ _ _ h)
    (by simp) (by simp) (by simp) (by simp)
  slots := fun s hs => Or.inl ((ownsSlot_congr (by simp) (by simp) s).2 hs)
  chans := fun ch hc => Or.inl ((ownsChan_congr (by simp) (by simp) ch).2 hc)

theorem hand_finish (w : World) (call : Call) (r : RetRes) : Hand w (w.finish call r) :=
  hand_trans (hand_inert (.priv w .none w.readerReg w.queueReg)) (hand_inert (.log _ _ (.inl ⟨call, r, rfl⟩)))

theorem hand_resume (w : World) :
    Hand w (({ w with c := w.c.resume.1, task := .running true } : World).applyEffs w.c.resume.2.1) :=
  hand_ofCtx w _ _ { actInv_refl w with } rfl (Ctx.resume_slots w.c) (Ctx.resume_chans w.c)

theorem hand_pollCtxS (sched : Nat → Bool) (w : World) : Hand w (w.pollCtxS sched) :=
  pollCtxS_via (R := Hand) hand_trans hand_inert hand_refl hand_msg (fun w rx' rd' _ p _ _ => hand_pkt w rx' rd' p _)
    hand_resume sched w

theorem hand_pollCtx (w : World) : Hand w w.pollCtx := pollCtxS_false w ▸ hand_pollCtxS _ w

theorem hand_runLoop (f : Nat) (w : World) : Hand w (runLoop f w) :=
  runLoop_via (R := Hand) hand_trans hand_inert hand_refl hand_msg (fun w rx' rd' _ p _ _ => hand_pkt w rx' rd' p _) f w

end World
end Poster

/-
  The retransmit queue as a function of the history (property C17). `unfinished` is a SPECIFICATION: it is computed from
  the observations of a history alone (what was asked, what was written, what was handled), never from `Ctx.retx`.
  `KeptFlow`: the three implications from a queued message to the entries it makes, under which the handlers keep
  predicates of the caller's choice on the entries of `awaiting` and `retx`.
-/
import PosterModel.Lemmas.CtxPkt

namespace Poster

/-- one observation's effect on the list of unfinished outbound handshakes `(action id, packet to re-send)`:
    * an accepted request awaiting an acknowledgement (the loop goes on) whose packet was written is appended if it is a
      PUBLISH (type 3; stored with DUP set) or a PUBREL (type 6; stored as it is);
    * a handled PUBACK / PUBREC (any reason code) / PUBCOMP erases the first entry addressed by it;
    * nothing else matters. -/
def retxStep (acc : List (Nat × Bytes)) : CObs → List (Nat × Bytes)
  | .msg (.awaitAck aid pkt _) effs flow =>
    if Eff.write pkt ∈ effs ∧ flow = .cont then
      if pktType pkt = 3 then acc ++ [(aid, setDup pkt)]
      else if pktType pkt = 6 then acc ++ [(aid, pkt)]
      else acc
    else acc
  | .pkt (.puback a) _ _ => eraseFirst (actionId 4 a.packetId) acc
  | .pkt (.pubrec a) _ _ => eraseFirst (actionId 5 a.packetId) acc
  | .pkt (.pubcomp a) _ _ => eraseFirst (actionId 7 a.packetId) acc
  | _ => acc

theorem retxStep_awaitAck (acc : List (Nat × Bytes)) (aid : Nat) (pkt : Bytes) (s : Nat) (effs : List Eff) (fl : Flow) :
    retxStep acc (.msg (.awaitAck aid pkt s) effs fl) =
      if Eff.write pkt ∈ effs ∧ fl = .cont then acc ++ Ctx.retxEntry aid pkt else acc := by
  simp only [retxStep, Ctx.retxEntry]
  by_cases h3 : pktType pkt = 3
  · simp [h3]
  · by_cases h6 : pktType pkt = 6 <;> simp [h3, h6]

theorem Ctx.mem_retxEntry {aid : Nat} {pkt : Bytes} {x : Nat × Bytes} :
    x ∈ Ctx.retxEntry aid pkt ↔ (pktType pkt = 3 ∧ x = (aid, setDup pkt)) ∨ (pktType pkt = 6 ∧ x = (aid, pkt)) := by
  unfold Ctx.retxEntry
  by_cases h3 : pktType pkt = 3
  · simp [h3]
  · by_cases h6 : pktType pkt = 6 <;> simp [h3, h6]

def unfinishedFrom (r0 : List (Nat × Bytes)) (t : List CObs) : List (Nat × Bytes) := t.foldl retxStep r0

def unfinished (t : List CObs) : List (Nat × Bytes) := unfinishedFrom [] t

theorem lor8_bits : ∀ n < 256, (n ||| 8) % 8 = n % 8 ∧ (n ||| 8) / 16 = n / 16 ∧ (n ||| 8) / 8 % 2 = 1 ∧ (n ||| 8) < 256 := by
  -- `|||` commutes with `% 2^k` and `/ 2^k`, and 8 is `2^3`
  intro n hn
  refine ⟨?_, ?_, ?_, Nat.or_lt_two_pow (n := 8) hn (by decide)⟩
  · rw [show 8 = 2 ^ 3 from rfl, Nat.or_mod_two_pow]; simp
  · rw [show 16 = 2 ^ 4 from rfl, Nat.or_div_two_pow]; simp
  · rw [show (8 : Nat) = 2 ^ 3 from rfl, Nat.or_div_two_pow, show 2 = 2 ^ 1 from rfl, Nat.or_mod_two_pow]
    rcases Nat.mod_two_eq_zero_or_one (n / 2 ^ 3) with h | h <;> simp [h]

theorem pktType_setDup (pkt : Bytes) : pktType (setDup pkt) = pktType pkt := by
  cases pkt with
  | nil => rfl
  | cons b t =>
    simp only [setDup, pktType]
    have hb : b.toNat < 256 := UInt8.toNat_lt b
    obtain ⟨_, h2, _, h4⟩ := lor8_bits b.toNat hb
    rw [UInt8.toNat_ofNat', Nat.mod_eq_of_lt h4, h2]

theorem step_retx (c : Ctx) (i : CIn) : (c.stepIn i).1.retx = retxStep c.retx (c.stepIn i).2 := by
  cases i with
  | msg m wok =>
    rw [Ctx.stepIn_msg]
    cases m with
    | ff pkt slot =>
      rcases Ctx.handleMsg_ff_cases c pkt slot wok with ⟨_, e⟩ | ⟨_, _, e⟩ | ⟨_, _, e⟩ <;> rw [e] <;> rfl
    | subscribe aid sid pkt slot chan =>
      rcases Ctx.handleMsg_subscribe_cases c aid sid pkt slot chan wok with ⟨_, e⟩ | ⟨_, e⟩ <;> rw [e] <;> rfl
    | awaitAck aid pkt slot =>
      -- only the accepted branch writes the packet and goes on; there `retxStep` appends `retxEntry aid pkt`
      rcases Ctx.handleMsg_awaitAck_cases c aid pkt slot wok with ⟨_, e⟩ | ⟨_, _, _, e⟩ | ⟨_, _, _, e⟩ | ⟨_, _, _, e⟩ <;>
        rw [e]
      · simp [retxStep]
      · simp [retxStep]
      · simp [retxStep]
      · rw [retxStep_awaitAck]; exact (if_pos ⟨List.mem_singleton_self _, rfl⟩).symm
  | pkt p dead wok =>
    rw [Ctx.stepIn_pkt, Ctx.handlePkt_retx]
    cases p <;> rfl

/-- how an entry moves from the message queue into the two tables when its message is handled: `Q` holds of the queued
    message, `A` of entries of `awaiting_ack`, `R` of entries of the retransmit queue -/
structure KeptFlow (Q : Msg → Prop) (A : Nat × Nat → Prop) (R : Nat × Bytes → Prop) : Prop where
  aw : ∀ m aid, Q m → m.aid = some aid → A (aid, m.slot)
  pub : ∀ aid pkt s, Q (.awaitAck aid pkt s) → pktType pkt = 3 → R (aid, setDup pkt)
  rel : ∀ aid pkt s, Q (.awaitAck aid pkt s) → pktType pkt = 6 → R (aid, pkt)

namespace Ctx
variable {Q : Msg → Prop} {A : Nat × Nat → Prop} {R : Nat × Bytes → Prop}

theorem handleMsg_kept (f : KeptFlow Q A R) (c : Ctx) (m : Msg) (wok : Bool) (hq : Q m)
    (ha : ∀ e ∈ c.awaiting, A e) (hr : ∀ x ∈ c.retx, R x) :
    (∀ e ∈ (c.handleMsg m wok).1.awaiting, A e) ∧ ∀ x ∈ (c.handleMsg m wok).1.retx, R x := by
  constructor
  · rcases awaiting_handleMsg c m wok with e | ⟨aid, h1, e⟩ <;> rw [e]
    · exact ha
    · exact List.forall_mem_append.2 ⟨ha, List.forall_mem_singleton.2 (f.aw m aid hq h1)⟩
  · rcases retx_handleMsg c m wok with e | ⟨aid, pkt, s, rfl, e⟩ <;> rw [e]
    · exact hr
    · refine List.forall_mem_append.2 ⟨hr, fun x h => ?_⟩
      rcases mem_retxEntry.1 h with ⟨h3, rfl⟩ | ⟨h6, rfl⟩
      · exact f.pub aid pkt s hq h3
      · exact f.rel aid pkt s hq h6

theorem handlePkt_kept (c : Ctx) (alive : Nat → Bool) (p : RxPacket) (wok : Bool)
    (ha : ∀ e ∈ c.awaiting, A e) (hr : ∀ x ∈ c.retx, R x) :
    (∀ e ∈ (c.handlePkt alive p wok).1.awaiting, A e) ∧ ∀ x ∈ (c.handlePkt alive p wok).1.retx, R x :=
  ⟨fun x hx => ha x ((handlePkt_awaiting_sublist c alive p wok).subset hx),
    fun x hx => hr x ((handlePkt_retx_sublist c alive p wok).subset hx)⟩

end Ctx

end Poster

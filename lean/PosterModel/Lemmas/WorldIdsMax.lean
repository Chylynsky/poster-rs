/-
  Where the Maximum Packet Size limit in force comes from (C12). The fold `maxStep` over the transcript tracks
  `c.maxPkt`: only the arrival of the first response of `connect()` / `authorize()` moves the limit, and it logs the
  CONNACK it took it from; everything else a poll or an event does keeps `maxPkt` and logs only lines `maxStep` ignores
  (dropping the context forgets the limit, and its `EV` line resets the fold). The one CONNACK that is handled but not
  logged is the one that makes `connect()` panic (`assert-subid`); after it the transcript no longer tells the limit.
-/
import PosterModel.Lemmas.WorldIds


namespace Poster
open Framing
namespace World
namespace W10
open W7

/-- how one line of the transcript changes the limit in force: a CONNACK — logged with the return of `connect()` /
    `authorize()`, accepted or refused — sets it to the Maximum Packet Size it carries, to none if it carries none;
    dropping the context forgets it; nothing else touches it (in particular not the `connect` event with the client's own
    CONNECT options) -/
def maxStep (acc : Option Nat) : Obs → Option Nat
  | .ret _ (.connack k) => k.maxPacketSize
  | .ret _ (.connectError k) => k.maxPacketSize
  | .ev .dropCtx => none
  | _ => acc

/-- **the limit in force according to the transcript**: the Maximum Packet Size of the most recent CONNACK (absent there =
    no limit) since the context was created -/
def announcedMax (out : List Obs) : Option Nat := out.foldl maxStep none

/-- the one line after which the transcript no longer tells the limit: the CONNACK that made `connect()` panic
    (subscription identifiers not available) was handled — `handle_connack` ran — but is not logged -/
def subidPanic : Obs := .panic .ctx "assert-subid"

def MaxNeutral (o : Obs) : Prop := ∀ acc, maxStep acc o = acc

theorem foldl_maxNeutral (l : List Obs) (h : ∀ o ∈ l, MaxNeutral o) (acc : Option Nat) : l.foldl maxStep acc = acc := by
  induction l generalizing acc with
  | nil => rfl
  | cons o t ih =>
    rw [List.foldl_cons, h o (by simp) acc]
    exact ih (fun o' ho' => h o' (by simp [ho'])) acc

theorem maxNeutral_wire (bs : Bytes) : MaxNeutral (.wire bs) ∧ MaxNeutral (.wraw bs) := ⟨fun _ => rfl, fun _ => rfl⟩

theorem maxNeutral_dull {o : Obs} (h : Dull o) : MaxNeutral o := by
  intro acc
  rcases h with rfl | rfl | ⟨bs, rfl⟩ | ⟨c, rfl⟩ <;> rfl

/-- what one transition does to the limit, as far as the transcript tells: the context object exists as before, a call is
    executing afterwards only if one was before, and — unless the transition logs the `assert-subid` panic — the limit
    afterwards is the limit before, updated by the lines the transition logged -/
structure MaxRel (w w' : World) : Prop where
  hasCtx : w'.hasCtx = w.hasCtx
  task : w'.task ≠ .none → w.task ≠ .none
  ext : ∃ added, w'.out = w.out ++ added ∧ (subidPanic ∉ added → w'.c.maxPkt = added.foldl maxStep w.c.maxPkt)

theorem MaxRel.refl (w : World) : MaxRel w w := ⟨rfl, id, [], by simp, fun _ => rfl⟩

theorem MaxRel.trans {a b c : World} (h1 : MaxRel a b) (h2 : MaxRel b c) : MaxRel a c := by
  obtain ⟨p1, e1, f1⟩ := h1.ext
  obtain ⟨p2, e2, f2⟩ := h2.ext
  refine ⟨h2.hasCtx.trans h1.hasCtx, fun h => h1.task (h2.task h), p1 ++ p2, by rw [e2, e1, List.append_assoc], ?_⟩
  intro hn
  rw [List.foldl_append, f2 (fun h => hn (List.mem_append_right _ h)), f1 (fun h => hn (List.mem_append_left _ h))]

theorem MaxRel.of_neutral {w w' : World} (hc : w'.hasCtx = w.hasCtx) (ht : w'.task ≠ .none → w.task ≠ .none)
    (added : List Obs) (ho : w'.out = w.out ++ added) (hn : ∀ o ∈ added, MaxNeutral o)
    (hm : w'.c.maxPkt = w.c.maxPkt) : MaxRel w w' :=
  ⟨hc, ht, added, ho, fun _ => by rw [foldl_maxNeutral added hn, hm]⟩

theorem MaxRel.of_outExt {w w' : World} (hc : w'.hasCtx = w.hasCtx) (ht : w'.task ≠ .none → w.task ≠ .none)
    (ho : OutExt w w') (hm : w'.c.maxPkt = w.c.maxPkt) : MaxRel w w' := by
  obtain ⟨pre, hq, e⟩ := ho
  exact .of_neutral hc ht pre e (hq.all maxNeutral_wire) hm

theorem handleConnack_maxPkt (c : Ctx) (k : ConnackRx) : (c.handleConnack k).maxPkt = k.maxPacketSize :=
  (maxPkt_from_connack c k).1

theorem firstEnd_maxRel {w r : World} {call : Call} {t : ConnectTx} {a : AuthTx} (h : FirstEnd w call t a r)
    (ht : w.task ≠ .none) : MaxRel w r := by
  have ret : ∀ (w0 : World) (res : RetRes), w0.hasCtx = w.hasCtx → w0.out = w.out → w0.c.maxPkt = w.c.maxPkt →
      MaxNeutral (.ret call res) → MaxRel w (w0.finish call res) := fun w0 res h1 h2 h3 h4 =>
    .of_neutral h1 (fun h => absurd rfl h) [.ret call res] (by simp [h2]) (List.forall_mem_singleton.2 h4) h3
  cases h with
  | connack rx' rd' fr k hp hd hk hs =>
    refine ⟨rfl, fun h => absurd rfl h, [.ret call (.connack k)], rfl, fun _ => ?_⟩
    simp only [finish_c, List.foldl_cons, List.foldl_nil, maxStep]
    exact handleConnack_maxPkt w.c k
  | refused rx' rd' fr k hp hd hk =>
    refine ⟨rfl, fun h => absurd rfl h, [.ret call (.connectError k)], rfl, fun _ => ?_⟩
    simp only [finish_c, List.foldl_cons, List.foldl_nil, maxStep]
    exact handleConnack_maxPkt w.c k
  | assertSubId rx' rd' fr k hp hd hk hs =>
    exact ⟨rfl, fun h => absurd rfl h, [subidPanic], rfl, fun h => absurd (by simp) h⟩
  | auth rx' rd' fr au hp hd => exact ret { w with rx := rx', reader := rd' } (.auth au) rfl rfl rfl (fun _ => rfl)
  | unexpected rx' rd' fr p hp hd h1 h2 =>
    exact ret { w with rx := rx', reader := rd' } (.err .codecError) rfl rfl rfl (fun _ => rfl)
  | codec rx' rd' fr hp hd => exact ret { w with rx := rx', reader := rd' } (.err .codecError) rfl rfl rfl (fun _ => rfl)
  | panic rx' rd' fr hp hd =>
    exact .of_neutral rfl (fun h => absurd rfl h) [.panic .ctx "other"] rfl (List.forall_mem_singleton.2 fun _ => rfl) rfl
  | sock rx' rd' hp => exact ret { w with rx := rx', reader := rd' } (.err .socketClosed) rfl rfl rfl (fun _ => rfl)
  | pending rx' rd' hp =>
    by_cases hrd : rd' = []
    · rw [if_pos hrd]; exact .of_neutral rfl (fun _ => ht) [] (by simp) (by simp) rfl
    · rw [if_neg hrd]; exact .of_neutral (by simp) (fun _ => ht) [] (by simp) (by simp) (by simp)

theorem pollRun_maxPkt (w : World) (s : Bool) : (w.pollRun s).c.maxPkt = w.c.maxPkt := by
  have hres : w.c.resume.1.maxPkt = w.c.maxPkt := by
    rcases Ctx.resume_fst_cases w.c with e | e | e <;> rw [e]
  cases s with
  | true => simp only [pollRun, ↓reduceIte]; exact world_poll_maxPkt _ w
  | false =>
    rw [pollRun_first_eq]
    split
    · rw [world_poll_maxPkt, resent_c, hres]
    · simp only [finish_c, writeBytes_c, resumed_c]; exact hres

theorem pollCtx_maxRel (w : World) : MaxRel w w.pollCtx := by
  -- the first response by `firstEnd_maxRel`; everything else is `MaxRel.of_neutral`, composed with it by `trans`
  cases ht : w.task with
  | none =>
    have e : w.pollCtx = w := pollCtx_none ht
    rw [e]; exact .refl w
  | connecting call t a started =>
    have e : w.pollCtx = w.pollConnect call t a started := pollCtx_connecting ht
    rw [e]
    have fe : ∀ (w0 : World), w0.task ≠ .none → MaxRel w0 (w0.awaitFirst call t a) :=
      fun w0 h0 => firstEnd_maxRel (awaitFirst_spec w0 call t a) h0
    have hne : w.task ≠ .none := by rw [ht]; exact fun h => by cases h
    cases started with
    | true => simp only [pollConnect, ↓reduceIte]; exact fe w hne
    | false =>
      have wr : ∀ (w0 : World) (pkt : Bytes), w0.hasCtx = w.hasCtx → w0.out = w.out → w0.c.maxPkt = w.c.maxPkt →
          MaxRel w (w0.writeBytes pkt) := by
        intro w0 pkt h1 h2 h3
        obtain ⟨pre, hq, e⟩ := writeBytes_outExt w0 pkt
        exact .of_neutral (by simp [h1]) (fun _ => hne) pre (by rw [e, h2]) (hq.all maxNeutral_wire) (by simp [h3])
      have fin : ∀ (w0 : World) (res : ErrKind), MaxRel w w0 → MaxRel w (w0.finish call (.err res)) := fun w0 res h0 =>
        h0.trans (.of_neutral rfl (fun h => absurd rfl h) [.ret call (.err res)] rfl
          (List.forall_mem_singleton.2 fun _ => rfl) rfl)
      obtain ⟨sCtx, sOut, sMax, sTask⟩ : (seiSet w call t).hasCtx = w.hasCtx ∧ (seiSet w call t).out = w.out ∧
          (seiSet w call t).c.maxPkt = w.c.maxPkt ∧ (seiSet w call t).task = w.task := by
        cases call <;> exact ⟨rfl, rfl, rfl, rfl⟩
      have hw := wr (seiSet w call t) (reqBytes call t a) sCtx sOut sMax
      rw [pollConnect_false_eq]
      cases reqValid call t a with
      | false => exact fin _ _ (.refl w)
      | true =>
        rw [Bool.not_true, if_neg Bool.false_ne_true]
        by_cases hc : w.canWrite (reqBytes call t a).length = true
        · rw [if_pos hc]
          exact hw.trans (fe _ (by rw [writeBytes_task, sTask]; exact hne))
        · rw [if_neg hc]
          exact fin _ _ hw
  | running s =>
    -- a poll of `run()` logs writes and at most the `RET` of `run()` or a panic: nothing `maxStep` reads
    have hne : w.task ≠ .none := by rw [ht]; exact fun h => by cases h
    obtain ⟨added, ho, hn⟩ := (pollCtx_outcome w).outExtP (P := MaxNeutral) maxNeutral_wire fun o ho => by
      rcases ho with ⟨c, r, _, rfl, hr⟩ | ⟨rfl, _⟩ | ⟨rfl, _⟩
      · rcases hr ⟨s, ht⟩ with rfl | ⟨d, rfl⟩ | rfl | rfl | rfl <;> exact fun _ => rfl
      · exact fun _ => rfl
      · exact fun _ => rfl
    exact .of_neutral (pollCtx_ctxFrame w).hasCtx (fun _ => hne) added ho hn
      (by rw [pollCtx_running ht]; exact pollRun_maxPkt w s)

/-- **the limit in force is the one the transcript tells**: without a context no limit is in force; and — as long as the
    transcript has no `assert-subid` panic — `remote_max_packet_size` is the Maximum Packet Size of the most recent logged
    CONNACK (none if it carried none, or there was none). That a call is executing only on an existing context is `CtlOk`. -/
structure MaxInv (w : World) : Prop where
  noCtx : w.hasCtx = false → w.c.maxPkt = none
  max : subidPanic ∉ w.out → w.c.maxPkt = announcedMax w.out

theorem MaxInv.init (cfg : Cfg) : MaxInv { cfg := cfg } := ⟨fun _ => rfl, fun _ => rfl⟩

theorem MaxInv.same {w w' : World} (h : MaxInv w) (hc : w'.c.maxPkt = w.c.maxPkt)
    (hh : w'.hasCtx = false → w.hasCtx = false)
    (added : List Obs) (ho : w'.out = w.out ++ added) (hn : ∀ o ∈ added, MaxNeutral o) : MaxInv w' := by
  refine ⟨fun h0 => by rw [hc]; exact h.noCtx (hh h0), fun hp => ?_⟩
  rw [ho] at hp
  rw [hc, h.max (fun hx => hp (List.mem_append_left _ hx)), ho, announcedMax, announcedMax, List.foldl_append,
    foldl_maxNeutral added hn]

/-- without a context no call executes (`CtlOk`), so a poll of the context task does nothing -/
theorem MaxInv.pollCtx {w : World} (h : MaxInv w) (c : CtlOk w) : MaxInv w.pollCtx := by
  have r := pollCtx_maxRel w
  obtain ⟨added, ho, hf⟩ := r.ext
  refine ⟨fun h0 => ?_, fun hp => ?_⟩
  · have h0' : w.hasCtx = false := r.hasCtx ▸ h0
    rw [pollCtx_none (c.noTask h0')]; exact h.noCtx h0'
  · rw [ho] at hp
    rw [hf (fun hx => hp (List.mem_append_right _ hx)), h.max (fun hx => hp (List.mem_append_left _ hx)), ho,
      announcedMax, announcedMax, List.foldl_append]

theorem maxNeutral_taskLine {t : Task} {o : Obs} (ht : t ≠ .ctx) (h : TaskLine t o) : MaxNeutral o :=
  h.user (P := MaxNeutral) ht (fun _ _ _ => rfl) (fun _ _ => rfl) (fun _ _ _ => rfl) (fun _ _ => rfl)

theorem maxNeutral_ev {e : Ev} (h : e ≠ .dropCtx) : MaxNeutral (.ev e) := by
  intro acc
  cases e with
  | dropCtx => exact absurd rfl h
  | _ => rfl

theorem MaxInv.uframe {w w' : World} (h : MaxInv w) (u : UserFrame w w') (added : List Obs) (ho : w'.out = w.out ++ added)
    (hn : ∀ o ∈ added, MaxNeutral o) : MaxInv w' :=
  h.same (by rw [u.c]) (fun h0 => by rw [← u.hasCtx]; exact h0) added ho hn

theorem MaxInv.flushRaw {w : World} (h : MaxInv w) : MaxInv w.flushRaw := by
  obtain ⟨added, ea, hd⟩ := flushRaw_dull w
  exact h.same (by rw [flushRaw_c]) (fun x => by rw [← flushRaw_hasCtx w]; exact x) added ea
    (fun o ho => maxNeutral_dull (hd o ho))

theorem MaxInv.line {w : World} (h : MaxInv w) (o : Obs) (ho : MaxNeutral o) : MaxInv (w.emit o) :=
  h.same rfl id [o] rfl (List.forall_mem_singleton.2 ho)

theorem MaxInv.applied {w w' : World} {e : Ev} (h : MaxInv w) (a : Applied w e w') (hp : ∀ t, e ≠ .poll t)
    (hd : e ≠ .dropCtx) : MaxInv w' := by
  have quiet : ∀ {w' : World}, w'.c.maxPkt = w.c.maxPkt → w'.hasCtx = w.hasCtx → w'.out = w.out → MaxInv w' :=
    fun a b d => h.same a (fun x => by rw [← b]; exact x) [] (by simp [d]) (by simp)
  cases a.norm with
  | bad => exact h.same rfl id [.badscript] rfl (List.forall_mem_singleton.2 fun _ => rfl)
  | same => exact h
  | poll t => exact absurd rfl (hp t)
  | newCtx _ _ hc =>
    exact h.same (show ({} : Ctx).maxPkt = _ from (h.noCtx hc).symm) (fun x => by cases x) [] (by simp) (by simp)
  | newConn ou wp e =>
    exact (e ▸ h.flushRaw : MaxInv { w with out := ou, wirePend := wp }).same rfl id [] (by simp) (by simp)
  | dropCtx | dropCtxNone => exact absurd rfl hd
  | snap => exact h.line (.state w.c) (fun _ => rfl)
  -- the other events set only fields the invariant does not read
  | _ => exact quiet rfl rfl rfl

/-- the world a script event other than a poll is applied to: the event was logged -/
theorem MaxInv.apply {w : World} (h : MaxInv w) (e : Ev) (he : ∀ t, e ≠ .poll t) :
    MaxInv ((w.emit (.ev e)).apply e) := by
  by_cases hd : e = .dropCtx
  · -- the context goes, and with it the limit; the `EV dropCtx` line resets the transcript's account
    subst hd
    have reset : ∀ {w' : World}, w'.c.maxPkt = none → w'.out = w.out ++ [.ev .dropCtx] → MaxInv w' := fun hc ho =>
      ⟨fun _ => hc, fun _ => by rw [hc, ho, announcedMax, List.foldl_append]; rfl⟩
    have a := (apply_spec (w.emit (.ev .dropCtx)) .dropCtx).norm
    generalize (w.emit (.ev .dropCtx)).apply .dropCtx = w' at a ⊢
    cases a with
    | bad _ hr | same _ hr => exact hr.elim
    | start _ tk hs | feed _ evs rd hs => cases hs
    | dropCtx => exact reset rfl rfl
    | dropCtxNone hc => exact reset (h.noCtx hc) rfl
  · exact (h.line (.ev e) (maxNeutral_ev hd)).applied (apply_spec _ e) he hd

theorem MaxInv.micro {w w' : World} (h : MaxInv w) (c : CtlOk w) (hm : Micro w w') : MaxInv w' := by
  cases hm with
  | ctx => exact h.pollCtx c
  | user t ht =>
    obtain ⟨u, added, ho, hu⟩ := pollTask_user w t ht
    exact h.uframe u added ho (fun o ho' => maxNeutral_taskLine ht (hu o ho'))
  | unwake t => exact h.same rfl id [] (by simp) (by simp)
  | ev e hp hb => exact h.apply e hp
  | logged t hb => exact h.line (.ev (.poll t)) (maxNeutral_ev (by simp))
  | stall => exact h.line .stall (fun _ => rfl)
  | flush => exact h.flushRaw

theorem during_maxInv {cfg : Cfg} {w : World} (h : During cfg w) : MaxInv w :=
  h.inv (MaxInv.init cfg) fun hd ih hm => ih.micro (during_ctlOk hd) hm


end W10
end World
end Poster

/-
  Executions as paths, the allocation window, uniqueness (C11). `Exec cfg ws`: `ws` is an execution under `cfg`, as the
  list of its moments, the most recent first; consecutive moments are one elementary transition (`World.W7.Micro`) apart.
  `WindowOk ws` makes precise "fewer than 65535 identifiers are allocated while any single operation is outstanding"; under
  it the outstanding identifiers are pairwise distinct at every moment. Then the count: allocations so far plus
  identifier-taking futures not yet polled stay below the identifier-taking `op` lines of the transcript
  (`exec_alloc_bound`), which the script bounds (`consObs_script`); and until the counter wraps the values handed out
  (`allocated`) are pairwise distinct values of `1 … n` (`exec_allocated_nodup`).
-/
import PosterModel.Lemmas.WorldIdsOut
import PosterModel.Properties.C11


namespace Poster
open Framing
namespace World
namespace W10
open W7

inductive Exec (cfg : Cfg) : List World → Prop
  | init : Exec cfg [{ cfg := cfg }]
  | next {w w' : World} {ws : List World} : Exec cfg (w :: ws) → Micro w w' → Exec cfg (w' :: w :: ws)

theorem Exec.during {cfg : Cfg} {ws : List World} (h : Exec cfg ws) : ∀ w ∈ ws, During cfg w := by
  induction h with
  | init => intro w hw; simp only [List.mem_singleton] at hw; subst hw; exact .init
  | @next w w' ws _ hm ih =>
    intro x hx
    rcases List.mem_cons.mp hx with rfl | hx
    · exact (ih w (by simp)).next hm
    · exact ih x hx

theorem Exec.head {cfg : Cfg} {w : World} {ws : List World} (h : Exec cfg (w :: ws)) : During cfg w :=
  h.during w (by simp)

theorem exec_of_during {cfg : Cfg} {w : World} (h : During cfg w) : ∃ ws, Exec cfg (w :: ws) := by
  induction h with
  | init => exact ⟨[], .init⟩
  | next _ hm ih =>
    obtain ⟨ws, he⟩ := ih
    exact ⟨_, he.next hm⟩

theorem Exec.tail {cfg : Cfg} {w w' : World} {ws : List World} (h : Exec cfg (w' :: w :: ws)) :
    Exec cfg (w :: ws) ∧ Micro w w' := by
  cases h with
  | next h hm => exact ⟨h, hm⟩

theorem Exec.induct {cfg : Cfg} {P : (w : World) → (ws : List World) → Exec cfg (w :: ws) → Prop}
    (init : P { cfg := cfg } [] .init)
    (next : ∀ {w w' : World} {ws : List World} (he : Exec cfg (w :: ws)) (hm : Micro w w'), P w ws he →
      P w' (w :: ws) (he.next hm))
    {w : World} {ws : List World} (h : Exec cfg (w :: ws)) : P w ws h := by
  have aux : ∀ l, Exec cfg l → ∀ w ws (h' : Exec cfg (w :: ws)), l = w :: ws → P w ws h' := by
    intro l hl
    induction hl with
    | init => intro w ws h' e; cases e; exact init
    | next he hm ih => intro w ws h' e; cases e; exact next he hm (ih _ _ he rfl)
  exact aux _ h w ws h rfl

/-- the number of identifiers allocated along the path: the number of transitions in which the counter moved -/
def allocCount : List World → Nat
  | w' :: w :: ws => (if w'.pidCtr = w.pidCtr then 0 else 1) + allocCount (w :: ws)
  | _ => 0

/-- the number of identifiers allocated since the value `p` was last handed out, that allocation included -/
def allocAge (p : Nat) : List World → Option Nat
  | w' :: w :: ws =>
    if w'.pidCtr = w.pidCtr then allocAge p (w :: ws)
    else if w.pidCtr = p then some 1
    else (allocAge p (w :: ws)).map (· + 1)
  | _ => none

/-- **the window hypothesis**: at every moment of the path, every outstanding identifier was handed out fewer than 65535
    allocations ago -/
def WindowOk : List World → Prop
  | [] => True
  | w :: ws => (∀ p ∈ Outstanding w, ∀ a, allocAge p (w :: ws) = some a → a < 65535) ∧ WindowOk ws

theorem allocAge_cons {p a : Nat} {w' w : World} {ws : List World} (h : allocAge p (w' :: w :: ws) = some a) :
    (w'.pidCtr = w.pidCtr ∧ allocAge p (w :: ws) = some a) ∨
    (w'.pidCtr ≠ w.pidCtr ∧ w.pidCtr = p ∧ a = 1) ∨
    (w'.pidCtr ≠ w.pidCtr ∧ ∃ a0, allocAge p (w :: ws) = some a0 ∧ a = a0 + 1) := by
  simp only [allocAge] at h
  split at h
  · exact Or.inl ⟨‹_›, h⟩
  · split at h
    · exact Or.inr (Or.inl ⟨‹_›, ‹_›, (Option.some.inj h).symm⟩)
    · obtain ⟨a0, h0, e⟩ := Option.map_eq_some_iff.1 h
      exact Or.inr (Or.inr ⟨‹_›, a0, h0, e.symm⟩)

theorem allocAge_le_count (p : Nat) (ws : List World) (a : Nat) (h : allocAge p ws = some a) : a ≤ allocCount ws := by
  induction ws using allocCount.induct generalizing a with
  | case1 w' w ws ih =>
    simp only [allocCount]
    rcases allocAge_cons h with ⟨he, h0⟩ | ⟨he, _, rfl⟩ | ⟨he, a0, h0, rfl⟩
    · rw [if_pos he]; have := ih a h0; omega
    · rw [if_neg he]; omega
    · rw [if_neg he]; have := ih a0 h0; omega
  | case2 ws hne =>
    unfold allocAge at h
    split at h
    · exact absurd rfl (hne _ _ _)
    · cases h

theorem allocCount_tail_le (w : World) (ws : List World) : allocCount ws ≤ allocCount (w :: ws) := by
  cases ws with
  | nil => simp [allocCount]
  | cons w0 ws => simp only [allocCount]; omega

theorem windowOk_of_count (ws : List World) (h : allocCount ws < 65535) : WindowOk ws := by
  induction ws with
  | nil => trivial
  | cons w ws ih =>
    refine ⟨fun p _ a ha => ?_, ih (Nat.lt_of_le_of_lt (allocCount_tail_le w ws) h)⟩
    have := allocAge_le_count p _ a ha
    omega

theorem Exec.opsInv {cfg : Cfg} {w : World} {ws : List World} (h : Exec cfg (w :: ws)) : OpsInv w :=
  during_opsInv h.head

theorem exec_outstanding_allocated {cfg : Cfg} {w : World} {ws : List World} (h : Exec cfg (w :: ws)) :
    ∀ p ∈ Outstanding w, ∃ a, allocAge p (w :: ws) = some a := by
  induction h using Exec.induct with
  | init => intro p hp; simp [Outstanding, qpids, apids, ppids] at hp
  | @next w w' ws he hm ih =>
    intro p hp
    have hstep := micro_idStep he.opsInv hm
    simp only [allocAge]
    rcases hstep.mem hp with h | ⟨h1, h2⟩
    · obtain ⟨a, ha⟩ := ih p h
      split
      · exact ⟨a, ha⟩
      · split
        · exact ⟨1, rfl⟩
        · exact ⟨a + 1, by rw [ha]; rfl⟩
    · rw [if_neg (by rw [h2]; exact nextPid_ne _), if_pos h1.symm]
      exact ⟨1, rfl⟩

theorem exec_age_counter {cfg : Cfg} {w : World} {ws : List World} (h : Exec cfg (w :: ws)) :
    ∀ p a, allocAge p (w :: ws) = some a → 1 ≤ a ∧ w.pidCtr = iter nextPid a p := by
  induction h using Exec.induct with
  | init => intro p a ha; simp [allocAge] at ha
  | @next w w' ws he hm ih =>
    intro p a ha
    have hn : w'.pidCtr ≠ w.pidCtr → w'.pidCtr = nextPid w.pidCtr := fun hc =>
      (micro_idStep he.opsInv hm).ctr.resolve_left hc
    rcases allocAge_cons ha with ⟨hc, h0⟩ | ⟨hc, hp, rfl⟩ | ⟨hc, a0, h0, rfl⟩
    · exact ⟨(ih p a h0).1, by rw [hc]; exact (ih p a h0).2⟩
    · exact ⟨Nat.le_refl 1, by rw [hn hc, hp]; rfl⟩
    · exact ⟨by omega, by rw [hn hc, (ih p a0 h0).2, User.iter_succ']⟩

theorem exec_unique {cfg : Cfg} {ws : List World} (h : Exec cfg ws) (hw : WindowOk ws) :
    ∀ w ∈ ws, (Outstanding w).Nodup := by
  induction h with
  | init =>
    intro w hm
    simp only [List.mem_singleton] at hm; subst hm
    simp [Outstanding, qpids, apids, ppids]
  | @next w w' ws he hm ih =>
    obtain ⟨_, hw1⟩ := hw
    have ih1 := ih hw1
    intro x hx
    rcases List.mem_cons.mp hx with rfl | hx
    · have hstep := micro_idStep he.opsInv hm
      have hnd : (Outstanding w).Nodup := ih1 w (by simp)
      by_cases hc : x.pidCtr = w.pidCtr
      · exact hstep.nodup hnd (Or.inl hc)
      · -- the counter's value is handed out: it is not outstanding, by the window hypothesis
        refine hstep.nodup hnd (Or.inr fun hmem => ?_)
        obtain ⟨a, ha⟩ := exec_outstanding_allocated he _ hmem
        have hlt := hw1.1 _ hmem a ha
        obtain ⟨h1a, hctr⟩ := exec_age_counter he _ a ha
        exact alloc_unique_window w.pidCtr 0 a he.opsInv.pid (by omega) (by omega) (by simpa [iter] using hctr)
    · exact ih1 x hx

theorem during_outstanding_range {cfg : Cfg} {w : World} (h : During cfg w) : ∀ p ∈ Outstanding w, 1 ≤ p ∧ p ≤ 65535 := by
  refine h.inv (I := fun w => ∀ p ∈ Outstanding w, 1 ≤ p ∧ p ≤ 65535)
    (fun p hp => by simp [Outstanding, qpids, apids, ppids] at hp) fun {w w'} hd ih hm p hp => ?_
  rcases (micro_idStep (during_opsInv hd) hm).mem hp with h | ⟨h, _⟩
  · exact ih p h
  · rw [h]; exact (during_opsInv hd).pid

/-- the `EV` line of an `op` event whose request takes a packet identifier (`consEv`, read off the transcript) -/
def consObs : Obs → Bool
  | .ev (.op _ _ req) => Req.consumes req
  | _ => false

/-- a future that has not been polled yet and whose request takes a packet identifier -/
def freshCons (e : Nat × OpSt) : Bool :=
  match e.2 with
  | .fresh _ req => Req.consumes req
  | _ => false

def freshC (w : World) : Nat := w.ops.countP freshCons

theorem pollOp_ctr_change (w : World) (id : Nat) (h : (w.pollOp id).pidCtr ≠ w.pidCtr) :
    ∃ hh req, w.opSt id = some (.fresh hh req) ∧ Req.consumes req = true := by
  rcases pollOp_sends w id with ⟨hc, _⟩ | ⟨hh, req, ho, hc, _⟩ | ⟨_, _, _, _, _, _, hc, _⟩
  · exact absurd hc h
  · refine ⟨hh, req, ho, ?_⟩
    rw [hc, allocFor_pidCtr] at h
    cases hcons : Req.consumes req with
    | true => rfl
    | false => rw [hcons] at h; exact absurd rfl h
  · exact absurd hc h

theorem pollOp_budget (w : World) (id : Nat) (hi : OpsInv w) :
    (if (w.pollOp id).pidCtr = w.pidCtr then 0 else 1) + freshC (w.pollOp id) ≤ freshC w := by
  have key : ∀ st, w.opSt id = some st →
      ((w.pollOp id).ops = eraseFirst id w.ops ∨ ∃ s k, (w.pollOp id).ops = setAssoc id (.wait s k) w.ops) →
      (if (w.pollOp id).pidCtr = w.pidCtr then 0 else 1) + freshC (w.pollOp id) ≤ freshC w := by
    intro st hst hops
    obtain ⟨pre, post, e, _, _, h3, h4⟩ := lookupFirst_split id st w.ops hi.nodup hst
    have hnew : freshC (w.pollOp id) = pre.countP freshCons + post.countP freshCons := by
      unfold freshC
      rcases hops with h | ⟨s, k, h⟩
      · rw [h, h3, List.countP_append]
      · rw [h, h4, List.countP_append, List.countP_cons]; simp [freshCons]
    have hold : freshC w = pre.countP freshCons + (if freshCons (id, st) then 1 else 0) + post.countP freshCons := by
      unfold freshC
      rw [e, List.countP_append, List.countP_cons]; omega
    rw [hnew, hold]
    split
    · omega
    · rename_i hc
      obtain ⟨hh, req, h1, h2⟩ := pollOp_ctr_change w id hc
      rw [hst] at h1
      simp only [Option.some.injEq] at h1
      subst h1
      have : freshCons (id, .fresh hh req) = true := h2
      rw [this]; simp only [if_true]; omega
  rcases pollOp_one w id with h | h | h
  · rw [h]; simp
  · rw [h.ctx_frame.pid]; simp [freshC, h.ctx_frame.ops]
  · cases h with
    | finish _ st hst ops queue aw pid slots out => exact key st hst (Or.inl ops)
    | send _ st m s k hst shape ops queue mslot aw pid slotNew slots out msgok => exact key st hst (Or.inr ⟨s, k, ops⟩)

theorem moves_ctx_ops {w w' : World} (m : Moves CtxTag w w') : w'.ops = w.ops ∧ w'.pidCtr = w.pidCtr := by
  induction m with
  | refl w => exact ⟨rfl, rfl⟩
  | @cons t a b c ht hm _ ih =>
    cases ht
    have this := hm.ctx_frame
    exact ⟨ih.1.trans this.ops, ih.2.trans this.pid⟩

/-- **one elementary transition**: an allocation is paid for by an identifier-taking future that leaves the "not yet
    polled" state, and such futures only come from logged `op` events -/
theorem micro_budget {w w' : World} (hi : OpsInv w) (hm : Micro w w') :
    (if w'.pidCtr = w.pidCtr then 0 else 1) + freshC w' + w.out.countP consObs ≤ freshC w + w'.out.countP consObs := by
  obtain ⟨added, eo⟩ := hm.out_prefix
  have hout : w.out.countP consObs ≤ w'.out.countP consObs := by
    rw [eo, List.countP_append]; exact Nat.le_add_right _ _
  have ctxlike : w'.ops = w.ops → w'.pidCtr = w.pidCtr →
      (if w'.pidCtr = w.pidCtr then 0 else 1) + freshC w' + w.out.countP consObs ≤ freshC w + w'.out.countP consObs := by
    intro h1 h2
    rw [if_pos h2]; simp only [freshC, h1]; omega
  cases hm with
  | ctx => exact ctxlike (moves_ctx_ops (pollCtx_moves w)).1 (moves_ctx_ops (pollCtx_moves w)).2
  | user t ht =>
    cases t with
    | ctx => exact absurd rfl ht
    | op id =>
      have := pollOp_budget (w.unwake (.op id)) id { hi with }
      have e1 : freshC (w.unwake (.op id)) = freshC w := rfl
      have e2 : (w.unwake (.op id)).pidCtr = w.pidCtr := rfl
      rw [e1, e2] at this
      show (if ((w.unwake (.op id)).pollOp id).pidCtr = w.pidCtr then 0 else 1) +
        freshC ((w.unwake (.op id)).pollOp id) + _ ≤ _
      omega
    | st id =>
      have h := moves_ctx_ops (pollStream_moves (w.unwake (.st id)) id)
      exact ctxlike h.1 h.2
  | ev e hp hb =>
    obtain ⟨e1, _, hops⟩ := applied_ctrs (apply_spec (w.emit (.ev e)) e) hp
    have e1 : ((w.emit (.ev e)).apply e).pidCtr = w.pidCtr := e1
    rw [if_pos e1]
    rcases hops with hsub | ⟨id, hh, req, rfl, e2, e3⟩
    · have hsub : ((w.emit (.ev e)).apply e).ops.Sublist w.ops := hsub
      have := hsub.countP_le (p := freshCons)
      unfold freshC
      omega
    · -- the new future, if it takes an identifier, is paid for by its own `EV` line
      unfold freshC
      rw [e2, e3, List.countP_append]
      cases hcr : Req.consumes req <;> simp [freshCons, emit, List.countP_append, consObs, hcr] <;> omega
  | unwake t | logged t hb | stall => exact ctxlike rfl rfl
  | flush =>
    have h := moves_ctx_ops (Moves.one (flushRaw_move w) : Moves CtxTag w w.flushRaw)
    exact ctxlike h.1 h.2

theorem exec_alloc_bound {cfg : Cfg} {w : World} {ws : List World} (h : Exec cfg (w :: ws)) :
    allocCount (w :: ws) + freshC w ≤ w.out.countP consObs := by
  induction h using Exec.induct with
  | init => simp [allocCount, freshC]
  | next he hm ih =>
    have h2 := micro_budget he.opsInv hm
    simp only [allocCount]
    omega

/-- the identifiers handed out along the path, the most recent first -/
def allocated : List World → List Nat
  | w' :: w :: ws => (if w'.pidCtr = w.pidCtr then [] else [w.pidCtr]) ++ allocated (w :: ws)
  | _ => []

/-- the next value of a counter that has handed out `1, …, n` -/
theorem nodup_cons_next {l : List Nat} {n : Nat} (h2 : l.Nodup) (h3 : ∀ p ∈ l, 1 ≤ p ∧ p ≤ n) :
    ((n + 1) :: l).Nodup ∧ ∀ p ∈ (n + 1) :: l, 1 ≤ p ∧ p ≤ n + 1 := by
  refine ⟨List.nodup_cons.2 ⟨fun hm => ?_, h2⟩, fun p hp => ?_⟩
  · have := (h3 _ hm).2; omega
  · rcases List.mem_cons.1 hp with rfl | hp
    · omega
    · have := h3 p hp; omega

theorem exec_allocated_nodup {cfg : Cfg} {w : World} {ws : List World} (h : Exec cfg (w :: ws))
    (hn : allocCount (w :: ws) < 65535) :
    w.pidCtr = allocCount (w :: ws) + 1 ∧ (allocated (w :: ws)).Nodup ∧
    (∀ p ∈ allocated (w :: ws), 1 ≤ p ∧ p ≤ allocCount (w :: ws)) ∧ ∀ p ∈ Outstanding w, p ∈ allocated (w :: ws) := by
  induction h using Exec.induct with
  | init => exact ⟨rfl, by simp [allocated], by simp [allocated], by simp [Outstanding, qpids, apids, ppids]⟩
  | @next w w' ws he hm ih =>
    have hn0 : allocCount (w :: ws) < 65535 := Nat.lt_of_le_of_lt (allocCount_tail_le w' (w :: ws)) hn
    obtain ⟨h1, h2, h3, h4⟩ := ih hn0
    have hstep := micro_idStep he.opsInv hm
    simp only [allocCount, allocated] at hn ⊢
    by_cases hc : w'.pidCtr = w.pidCtr
    · simp only [hc, if_true, Nat.zero_add, List.nil_append]
      refine ⟨h1, h2, h3, fun p hp => ?_⟩
      rcases hstep.mem hp with h | ⟨_, h⟩
      · exact h4 p h
      · rw [hc] at h; exact absurd h.symm (nextPid_ne _)
    · simp only [hc, if_false] at hn ⊢
      have hnx : w'.pidCtr = nextPid w.pidCtr := by
        rcases hstep.ctr with e | e
        · exact absurd e hc
        · exact e
      obtain ⟨n2, n3⟩ := nodup_cons_next h2 h3
      rw [← h1] at n2 n3
      refine ⟨?_, n2, fun p hp => ?_, fun p hp => ?_⟩
      · rw [hnx, nextPid_of_lt _ (by omega), h1]; omega
      · have := n3 p hp; omega
      · rcases hstep.mem hp with h | ⟨h, _⟩
        · exact List.mem_cons_of_mem _ (h4 p h)
        · exact h ▸ List.mem_cons_self ..

/-- an `op` event whose request takes a packet identifier -/
def consEv : Ev → Bool
  | .op _ _ req => Req.consumes req
  | _ => false

theorem consObs_ev (e : Ev) : consObs (.ev e) = consEv e := by cases e <;> rfl

theorem countP_consObs (out : List Obs) : out.countP consObs = (evLines out).countP consEv := by
  induction out with
  | nil => rfl
  | cons o t ih =>
    rw [List.countP_cons, ih]
    cases o with
    | ev e => rw [consObs_ev]; exact (List.countP_cons ..).symm
    | _ => rfl

theorem consObs_script (cfg : Cfg) (evs : List Ev) :
    (evs.foldl World.step { cfg := cfg }).out.countP consObs ≤ evs.countP consEv := by
  obtain ⟨l, h1, h2⟩ := evLines_steps evs { cfg := cfg }
  rw [countP_consObs, h1]
  simp only [evLines, List.filterMap_nil, List.nil_append]
  exact h2.countP_le

-- in this file for the matcher it shares with `allocCount` and `allocated`; its lemmas: Lemmas/WorldIdsSub.lean
/-- the subscription identifiers handed out along the path, the most recent first -/
def subAllocated : List World → List Nat
  | w' :: w :: ws => (if w'.subCtr = w.subCtr then [] else [w.subCtr]) ++ subAllocated (w :: ws)
  | _ => []

end W10
end World
end Poster

/-
  Lemmas/WorldWire.lean — the vocabulary of the wire invariant of whole executions: the domain of a script (requests
  MQTT 5 can represent) and where its requests come from, what a queued message, a transcript line and a pending
  `connect()` must satisfy, and `WInv`, what the invariant says when the transport is unlimited (the invariant carried
  through the executor is `XInv` of Lemmas/WorldWireLim.lean; `WInv` is read off it). With it, that what one handler call
  writes is of the class (`Ctx.handleMsg_wire`, `Ctx.handlePkt_wire`), and the packet a standard parser reads from the
  bytes of an accepted request in the domain (`Req.packet`, `Req.bytes_parse`).
-/
import PosterModel.Lemmas.WorldWirePkt
import PosterModel.Lemmas.WorldWireSent

namespace Poster
open Framing Spec

/-- the request, completed with ANY identifiers the library may assign (packet identifier 1..65535, subscription
    identifier 1..268435455), is a request MQTT 5 can represent (`XInDomain` of Spec/ClientOf.lean) -/
def ReqInDomain : Req → Prop
  | .publish t =>
    (t.qos = 0 → PublishInDomain t) ∧
    (t.qos ≠ 0 → ∀ pid, 1 ≤ pid → pid ≤ 65535 → PublishInDomain { t with packetId := some pid })
  | .subscribe t =>
    ∀ pid sid, 1 ≤ pid → pid ≤ 65535 → 1 ≤ sid → sid ≤ 268435455 →
      SubscribeInDomain { t with packetId := pid, subId := some sid }
  | .unsubscribe t => ∀ pid, 1 ≤ pid → pid ≤ 65535 → UnsubscribeInDomain { t with packetId := pid }
  | .ping => True
  | .disconnect t => DisconnectInDomain t

/-- the requests a script event carries are in the domain -/
def EvInDomain : Ev → Prop
  | .connect t => ConnectInDomain t
  | .authorize a => AuthInDomain a
  | .op _ _ req => ReqInDomain req
  | _ => True

/-- every request of the script (connect, authorize, publish, subscribe, unsubscribe, disconnect) is one MQTT 5 can
    represent -/
def ScriptInDomain (evs : List Ev) : Prop := ∀ e ∈ evs, EvInDomain e

/-- the requests a script carries -/
def srcOf (evs : List Ev) : Src where
  conn := fun t => Ev.connect t ∈ evs
  auth := fun a => Ev.authorize a ∈ evs
  req := fun r => ∃ id h, Ev.op id h r ∈ evs

def ReqOk (S : Src) (req : Req) : Prop := ReqInDomain req ∧ S.req req

def EvOk (S : Src) : Ev → Prop
  | .connect t => ConnectInDomain t ∧ S.conn t
  | .authorize a => AuthInDomain a ∧ S.auth a
  | .op _ _ req => ReqOk S req
  | _ => True

theorem evOk_srcOf (evs : List Ev) (hd : ScriptInDomain evs) : ∀ e ∈ evs, EvOk (srcOf evs) e := by
  intro e he
  have h := hd e he
  cases e with
  | connect t => exact ⟨h, he⟩
  | authorize a => exact ⟨h, he⟩
  | op id hh req => exact ⟨h, id, hh, he⟩
  | _ => trivial

variable {S : Src}

/-- a queued message carries a packet of the class; a PUBLISH travelling as `awaitAck` (QoS>0) also has a well-formed
    retransmission -/
def MsgWire (S : Src) : Msg → Prop
  | .ff p _ => WireOf S p
  | .awaitAck _ p _ => WireOf S p ∧ (pktType p = 3 → WireOf S (setDup p))
  | .subscribe _ _ p _ _ => WireOf S p

/-- a transcript line: a `W` line shows a packet of the class, there is no `WRAW` line -/
def ObsOk (S : Src) : Obs → Prop
  | .wire bs => WireOf S bs
  | .wraw _ => False
  | _ => True

/-- the request a pending `connect()` / `authorize()` holds is in the domain -/
def TaskOk (S : Src) : CtxTask → Prop
  | .connecting call t a _ =>
    (call = .connect → ConnectInDomain t ∧ S.conn t) ∧ (call ≠ .connect → AuthInDomain a ∧ S.auth a)
  | _ => True

namespace World

/-- the `W` lines of a transcript -/
def wires (out : List Obs) : List Bytes := out.filterMap fun o => match o with | .wire b => some b | _ => none

/-- the wire invariant on an unlimited transport: nothing is ever pending, no `WRAW` line -/
structure WInv (S : Src) (w : World) : Prop where
  lim : w.cfg.wlimit = none
  pend : w.wirePend = []
  out : ∀ o ∈ w.out, ObsOk S o
  queue : ∀ m ∈ w.queue, MsgWire S m
  retx : ∀ e ∈ w.c.retx, WireOf S e.2
  ops : ∀ id h req, (id, OpSt.fresh h req) ∈ w.ops → ReqOk S req
  task : TaskOk S w.task
  pid : 1 ≤ w.pidCtr ∧ w.pidCtr ≤ 65535
  sub : 1 ≤ w.subCtr ∧ w.subCtr ≤ 268435455
  slots : ∀ s p, (s, Slot.full (.pkt p)) ∈ w.slots → p.wf

end World


theorem MsgWire.pkt {m : Msg} (hm : MsgWire S m) : WireOf S m.pkt := by
  cases m with
  | ff p s => exact hm
  | awaitAck aid p s => exact hm.1
  | subscribe aid sid p s ch => exact hm

namespace Ctx

theorem wireFlow : KeptFlow (MsgWire S) (fun _ => True) (fun e => WireOf S e.2) :=
  ⟨fun _ _ _ _ => trivial, fun _ _ _ hm h3 => hm.2 h3, fun _ _ _ hm _ => hm.1⟩

theorem handleMsg_wire (c : Ctx) (m : Msg) (wok : Bool) (hm : MsgWire S m) :
    (∀ p ∈ writesOf (c.handleMsg m wok).2.1, WireOf S p) ∧
    (∀ s p, Eff.send s (.pkt p) ∉ (c.handleMsg m wok).2.1) := by
  refine ⟨?_, fun s p h => ?_⟩
  · rcases handleMsg_writes c m wok with e | e <;> rw [e]
    · intro p hp; cases hp
    · exact fun p hp => List.mem_singleton.mp hp ▸ hm.pkt
  · rcases (msg_replies_only_to_its_own_slot c m wok s _ (mem_sendsOf.2 h)).2.1 with e | e | e <;> cases e

theorem handlePkt_sends_pkt (c : Ctx) (alive : Nat → Bool) (p : RxPacket) (wok : Bool) {s : Nat} {q : RxPacket}
    (h : Eff.send s (.pkt q) ∈ (c.handlePkt alive p wok).2.1) : q = p :=
  SlotVal.pkt.inj ((only_own_ack_completes c alive p wok).2.2 s _ (mem_sendsOf.2 h)).1

theorem handlePkt_wire (c : Ctx) (alive : Nat → Bool) (p : RxPacket) (wok : Bool) (hp : p.wf) :
    ∀ q ∈ writesOf (c.handlePkt alive p wok).2.1, WireOf S q := by
  rw [handlePkt_writes]
  cases p with
  | publish pb =>
    cases hpid : pb.packetId with
    | none => simp [hpid]
    | some pid =>
      intro q hq
      simp only [hpid, List.mem_singleton] at hq
      rw [hq]
      by_cases h1 : pb.qos = 1
      · rw [if_pos h1]
        exact .ackOf (Or.inl rfl) (hp.2.2 pid hpid)
      · rw [if_neg h1]
        exact .ackOf (Or.inr (Or.inl rfl)) (hp.2.2 pid hpid)
  | pubrel a =>
    intro q hq
    rw [List.mem_singleton.mp hq]
    exact .ackOf (Or.inr (Or.inr (Or.inr rfl))) hp
  | _ => intro q hq; cases hq

end Ctx

namespace World

theorem flatMap_obsBytes_of_ok (out : List Obs) (h : ∀ o ∈ out, ObsOk S o) :
    out.flatMap obsBytes = (wires out).flatten := by
  induction out with
  | nil => rfl
  | cons o t ih =>
    rw [List.flatMap_cons, ih fun o' ho' => h o' (List.mem_cons_of_mem _ ho')]
    cases o with
    | wraw b => exact (h _ List.mem_cons_self).elim
    | _ => rfl

theorem WInv.sent_eq {w : World} (hw : WInv S w) : w.sent = (wires w.out).flatten := by
  simp [sent, hw.pend, flatMap_obsBytes_of_ok w.out hw.out]

theorem WInv.wires_ok {w : World} (hw : WInv S w) : ∀ p ∈ wires w.out, WireOf S p := by
  intro p hp
  simp only [wires, List.mem_filterMap] at hp
  obtain ⟨o, ho, h⟩ := hp
  cases o <;> simp at h
  subst h
  exact hw.out _ ho

theorem WInv.run_eq {cfg : Cfg} {evs : List Ev} (hw : WInv S (evs.foldl step { cfg := cfg })) :
    run cfg evs = (evs.foldl step { cfg := cfg }).out := by
  simp [run, finishScript, flushRaw, hw.pend]

end World

/-- the packet a standard decoder is expected to see for the (completed) request -/
def Req.packet : Req → ClientPacket
  | .publish t => ofPublish t
  | .subscribe t => ofSubscribe t
  | .unsubscribe t => ofUnsubscribe t
  | .ping => .pingreq
  | .disconnect t => ofDisconnect t

/-- the (completed) request is one MQTT 5 can represent -/
def Req.inDomain : Req → Prop
  | .publish t => PublishInDomain t
  | .subscribe t => SubscribeInDomain t
  | .unsubscribe t => UnsubscribeInDomain t
  | .ping => True
  | .disconnect t => DisconnectInDomain t

theorem Req.bytes_parse (r : Req) (hv : r.accepted = true) (hd : r.inDomain) (rest : Bytes) :
    parseClient (r.bytes ++ rest) = some (r.packet, rest) := by
  cases r with
  | publish t => exact enc_publish_parses t hv hd rest
  | subscribe t => exact enc_subscribe_parses t hv hd rest
  | unsubscribe t => exact enc_unsubscribe_parses t hv hd rest
  | ping => exact enc_pingreq_parses rest
  | disconnect t => exact enc_disconnect_parses t hd rest

theorem completeReq_inDomain (w : World) (req : Req) (hd : ReqInDomain req)
    (hp : 1 ≤ w.pidCtr ∧ w.pidCtr ≤ 65535) (hs : 1 ≤ w.subCtr ∧ w.subCtr ≤ 268435455) :
    (w.completeReq req).inDomain := by
  cases req with
  | publish t =>
    by_cases hq : t.qos = 0
    · simp only [World.completeReq, hq, ↓reduceIte]; exact hd.1 hq
    · simp only [World.completeReq, hq, ↓reduceIte]; exact hd.2 hq _ hp.1 hp.2
  | subscribe t => exact hd _ _ hp.1 hp.2 hs.1 hs.2
  | unsubscribe t => exact hd _ hp.1 hp.2
  | ping => trivial
  | disconnect t => exact hd

end Poster

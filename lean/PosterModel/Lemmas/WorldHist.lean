/-
  The history of the context over a WHOLE script. Ghost functions run in parallel with `pollCtx`, `pollTask`, `drain`,
  `sweep`, `apply`, `step` and list, in order, everything that ever touches the context —

    `HEv.handler c i`      `handle_message` / `handle_packet` is called in context state `c` on the input `i`
    `HEv.resume c`         the prelude of `run()` (first poll of a `run()` call) in context state `c`
    `HEv.connack c k`      `handle_connack` in state `c` (`connect()` / `authorize()` got its CONNACK)
    `HEv.request c sei p`  `connect()` / `authorize()` first polled with an encodable request: the packet `p` is handed to the
                           transport; `connect()` also records the session expiry interval it asks for (`sei`)
    `HEv.disc c n`         the caller records the disconnection time (`markDisc`)
    `HEv.dropCtx q c`      the context is dropped in state `c`, and the message queue `q` with it
    `HEv.fresh`            `setup` creates the context

  `script_tracks`: every script is tracked by its history (`Tracks`); `scriptEvs_sent`: with an unlimited transport the bytes
  handed to the transport are the packets of the events. Both are instances of `CtxMoves`: a relation between two worlds and
  a list of events that the moves of a poll respect, each with the events it stands for, holds between `w`, `w.pollCtx` and
  `w.ctxEvs` (the labelled walk of Lemmas/WorldWalk.lean).
-/
import PosterModel.Lemmas.WorldDuring
import PosterModel.Lemmas.WorldTweak
import PosterModel.Lemmas.CtxHist

namespace Poster
open Framing

namespace World
open W7

/-- the event of the wait for the first response of `connect()` / `authorize()`: a CONNACK is handled -/
def firstEvs (w : World) : List HEv :=
  match pollNext w.rx w.reader with
  | (_, _, .item fr) =>
    (match decodeRx fr with
     | .ok (.connack k) => [.connack w.c k]
     | _ => [])
  | _ => []

/-- the session expiry interval `connect()` records (nothing for `authorize()`) -/
def reqSei (call : Call) (t : ConnectTx) : Option Nat :=
  match call with
  | .connect => some (t.sessionExpiry.getD 0)
  | _ => none

def ctxEvs (w : World) : List HEv :=
  match w.task with
  | .none => []
  | .connecting call t a started =>
    if started then w.firstEvs else
    if !reqValid call t a then [] else
      .request w.c (reqSei call t) (reqBytes call t a) ::
        (if w.canWrite (reqBytes call t a).length then ((seiSet w call t).writeBytes (reqBytes call t a)).firstEvs
         else [])
  | .running started =>
    if started then histEvs w.c (loopHist w.loopFuel w)
    else .resume w.c ::
      (if w.resumed.canWrite ((w.c.resume.2.2.map List.length).sum) then
         histEvs w.c.resume.1 (loopHist w.resent.loopFuel w.resent)
       else [])

/-- the events of one poll of a task: only the context task touches the context -/
def taskEvs (w : World) : Task → List HEv
  | .ctx => (w.unwake .ctx).ctxEvs
  | _ => []

def drainEvs : Nat → World → List HEv
  | 0, _ => []
  | f+1, w =>
    match w.pick with
    | none => []
    | some t => w.taskEvs t ++ drainEvs f (w.pollTask t)

def sweepListEvs : List Task → World → List HEv
  | [], _ => []
  | t :: l, w =>
    if w.taskLive t ∧ t ∉ w.woken ∧ t ∉ w.held then w.taskEvs t ++ sweepListEvs l (w.pollTask t)
    else sweepListEvs l w

def sweepEvs (w : World) : List HEv := sweepListEvs w.sweepTasks w

def applyEvs (w : World) : Ev → List HEv
  | .poll t => if w.taskLive t then w.taskEvs t else []
  | .setup =>
    if w.task ≠ .none ∨ w.ctxDropped then [] else
    if !w.hasCtx then (if w.handles ≠ [] ∨ w.ops ≠ [] then [] else [.fresh]) else []
  | .dropCtx => if w.hasCtx then [.dropCtx w.queue w.c] else []
  | .markDisc secs => if !w.hasCtx ∨ w.task ≠ .none then [] else [.disc w.c secs]
  | _ => []

def stepEvs (w : World) (e : Ev) : List HEv :=
  if w.bad then [] else
  let w0 := w.emit (.ev e)
  let w1 := w0.apply e
  w0.applyEvs e ++
    (if w1.bad then [] else
      let w2 := drain w1.drainFuel w1
      drainEvs w1.drainFuel w1 ++
        (if w2.cfg.sweep then w2.sweepEvs ++ drainEvs w2.sweep.drainFuel w2.sweep else []))

def scriptEvs : World → List Ev → List HEv
  | _, [] => []
  | w, e :: es => w.stepEvs e ++ scriptEvs (w.step e) es

/-- **the history of the context over the script `evs`**: everything that touches the context, in order -/
def history (cfg : Cfg) (evs : List Ev) : List HEv := scriptEvs { cfg := cfg } evs

theorem ctxEvs_running (w : World) (started : Bool) (ht : w.task = .running started) :
    w.ctxEvs =
      if started then histEvs w.c (loopHist w.loopFuel w)
      else .resume w.c ::
        (if w.resumed.canWrite ((w.c.resume.2.2.map List.length).sum) then
           histEvs w.c.resume.1 (loopHist w.resent.loopFuel w.resent)
         else []) := by
  simp [ctxEvs, ht]

def settleEvs (w : World) : List HEv :=
  if w.bad then [] else
  let w2 := drain w.drainFuel w
  drainEvs w.drainFuel w ++ (if w2.cfg.sweep then w2.sweepEvs ++ drainEvs w2.sweep.drainFuel w2.sweep else [])

theorem stepEvs_eq_settle (w : World) (e : Ev) :
    w.stepEvs e = if w.bad then [] else (w.emit (.ev e)).applyEvs e ++ ((w.emit (.ev e)).apply e).settleEvs := rfl

theorem drainEvs_eq (f : Nat) (w : World) : drainEvs f w = drainAcc [] (· ++ ·) taskEvs f w := by
  induction f generalizing w with
  | zero => rfl
  | succ f ih => simp only [drainEvs, drainAcc, ih]; rfl

theorem sweepListEvs_eq (l : List Task) (w : World) : sweepListEvs l w = sweepListAcc [] (· ++ ·) taskEvs l w := by
  induction l generalizing w with
  | nil => rfl
  | cons t l ih => simp only [sweepListEvs, sweepListAcc, ih]

theorem settleEvs_eq (w : World) : w.settleEvs = settleAcc [] (· ++ ·) taskEvs w := by
  simp only [settleEvs, settleAcc, drainedAcc, sweepEvs, sweepAcc, drainEvs_eq, sweepListEvs_eq]

theorem stepEvs_eq_stepAcc (w : World) (e : Ev) : w.stepEvs e = stepAcc [] (· ++ ·) taskEvs applyEvs w e := by
  simp only [stepEvs_eq_settle, stepAcc, settleEvs_eq]

theorem scriptEvs_eq (w : World) (evs : List Ev) : scriptEvs w evs = scriptAcc [] (· ++ ·) taskEvs applyEvs w evs := by
  induction evs generalizing w with
  | nil => rfl
  | cons e es ih => simp only [scriptEvs, scriptAcc, ih, stepEvs_eq_stepAcc]

theorem scriptEvs_append (a b : List Ev) (w : World) :
    scriptEvs w (a ++ b) = scriptEvs w a ++ scriptEvs (a.foldl step w) b := by
  simp only [scriptEvs_eq]
  exact scriptAcc_append List.nil_append List.append_assoc a b w

section EvsLift
variable {R : World → World → List HEv → Prop} (nil : ∀ w, R w w [])
  (trans : ∀ {a b c : World} {h1 h2 : List HEv}, R a b h1 → R b c h2 → R a c (h1 ++ h2))
  (poll : ∀ w t, w.taskLive t = true → t ∉ w.held → R w (w.pollTask t) (w.taskEvs t))
include nil trans poll

theorem settleEvs_lift (stall : ∀ w, R w (w.emit .stall) []) (w : World) : R w w.settle w.settleEvs :=
  settleEvs_eq w ▸ settleAcc_lift nil trans poll List.append_nil stall w

theorem scriptEvs_lift (evs : List Ev) (emit : ∀ w o, (∃ e ∈ evs, o = .ev e) ∨ o = .stall → R w (w.emit o) [])
    (apply : ∀ e ∈ evs, ∀ w, R w (w.apply e) (w.applyEvs e)) (w : World) :
    R w (evs.foldl step w) (scriptEvs w evs) :=
  scriptEvs_eq w evs ▸ scriptAcc_lift nil trans poll List.append_nil List.nil_append evs emit apply w

end EvsLift

theorem loopAccS_false (f : Nat) (w : World) :
    loopAccS [] (· ++ ·) (fun c i => [HEv.handler c i]) (fun _ => false) f w = histEvs w.c (loopHist f w) := by
  induction f generalizing w with
  | zero => rfl
  | succ f ih =>
    rw [loopAccS_succ, loopHist_succ, runIterS_false]
    show (match w.iterIn with | none => [] | some i => _) = _
    cases hi : w.iterIn with
    | none => rfl
    | some i =>
      cases hr : runIter w with
      | inr r => rfl
      | inl w1 =>
        obtain ⟨j, hj, _, hst⟩ := runCont_iter (runIter_inl hr)
        rw [hi] at hj; cases hj
        show _ :: loopAccS _ _ _ _ f w1 = _ :: histEvs _ (loopHist f w1)
        rw [ih w1, hst.c_eq]

theorem firstAcc_evs (w : World) : firstAcc [] (fun c k => [HEv.connack c k]) w = w.firstEvs := by
  unfold firstAcc firstEvs
  rcases pollNext w.rx w.reader with ⟨rx', rd', o⟩
  cases o with
  | item fr =>
    simp only
    cases decodeRx fr with
    | ok p => cases p <;> rfl
    | _ => rfl
  | _ => rfl

theorem ctxAccS_evs (w : World) :
    ctxAccS [] (· ++ ·) (fun c i => [HEv.handler c i]) (fun c => [.resume c])
      (fun c call t a => [.request c (reqSei call t) (reqBytes call t a)]) (fun c k => [.connack c k]) (fun _ => false) w =
    w.ctxEvs := by
  unfold ctxAccS ctxEvs
  cases w.task with
  | none => rfl
  | connecting call t a started => simp only [connAcc, firstAcc_evs, List.singleton_append]
  | running started =>
    simp only [runAccS, loopAccS_false, resent_c, List.singleton_append]

/-- the moves a poll of the context task is made of (in the model's own order of `select!`), each with the events it stands for and
    with what is known when it happens: those of the loop, those of `connect()` / `authorize()`, the prelude of `run()`
    (the session is resumed and the retransmit queue re-sent, or the transport fails inside the re-sent packets) -/
structure CtxMoves (R : World → World → List HEv → Prop) : Prop where
  loop : LoopAcc [] (· ++ ·) (fun c i => [HEv.handler c i]) (fun _ => false) R
  conn : ConnAcc [] (· ++ ·) (fun c call t a => [HEv.request c (reqSei call t) (reqBytes call t a)])
    (fun c k => [HEv.connack c k]) R
  resent : ∀ w : World, w.task ≠ .none → R w w.resent [.resume w.c]
  resentFail : ∀ w : World, w.task ≠ .none → w.resumed.canWrite ((w.c.resume.2.2.map List.length).sum) = false →
    R w (w.resumed.writeBytes w.c.resume.2.2.flatten) [.resume w.c]

/-- for a relation that does not care what the task knows, the two handlers, a CONNACK, the request, the prelude of
    `run()` and the primitive moves are enough -/
theorem CtxMoves.of_prims {R : World → World → List HEv → Prop} (nil : ∀ w, R w w [])
    (trans : ∀ {a b c : World} {h1 h2 : List HEv}, R a b h1 → R b c h2 → R a c (h1 ++ h2))
    (priv : ∀ (w : World) task readerReg queueReg,
      R w { w with task := task, readerReg := readerReg, queueReg := queueReg } [])
    (read : ∀ (w : World) rx' rd' o, pollNext w.rx w.reader = (rx', rd', o) → R w { w with rx := rx', reader := rd' } [])
    (wake : ∀ w : World, R w (w.wake .ctx) [])
    (log : ∀ (w : World) o, (∃ c r, o = .ret c r) ∨ (∃ cls, o = .panic .ctx cls) → R w (w.emit o) [])
    (msg : ∀ (w : World) m q, w.queue = m :: q →
      R w (({ w with queue := q, c := (w.c.stepIn (w.inMsg m)).1 } : World).applyEffs (w.c.stepIn (w.inMsg m)).2.effs)
        [.handler w.c (w.inMsg m)])
    (pkt : ∀ (w : World) rx' rd' fr p, w.queue = [] →
      pollNext w.rx w.reader = (rx', rd', .item fr) → decodeRx fr = .ok p →
      R w (({ w with rx := rx', reader := rd', c := (w.c.stepIn (w.inPkt p)).1 } : World).applyEffs
        (w.c.stepIn (w.inPkt p)).2.effs) [.handler w.c (w.inPkt p)])
    (connack : ∀ (w : World) k, R w { w with c := w.c.handleConnack k } [.connack w.c k])
    (request : ∀ (w : World) call t a,
      R w ((seiSet w call t).writeBytes (reqBytes call t a)) [.request w.c (reqSei call t) (reqBytes call t a)])
    (resent : ∀ w : World, R w w.resent [.resume w.c])
    (resentFail : ∀ w : World, w.resumed.canWrite ((w.c.resume.2.2.map List.length).sum) = false →
      R w (w.resumed.writeBytes w.c.resume.2.2.flatten) [.resume w.c]) : CtxMoves R where
  loop := LoopAcc.of_prims ⟨nil, trans, List.append_nil, List.nil_append⟩ (fun w a b c _ => priv w a b c) read wake log
    (fun w m q hq => by rw [runHandler_eq_stepIn_msg]; exact msg w m q hq)
    (fun w rx' rd' fr p hq hp hd => by
      rw [runHandler_eq_stepIn_pkt]
      exact pkt w rx' rd' fr p (hq.resolve_right fun ⟨_, h⟩ => Bool.noConfusion h) hp hd)
  conn := ConnAcc.of_prims ⟨nil, trans, List.append_nil, List.nil_append⟩ (fun w a b c _ => priv w a b c) read wake log
    connack (fun w call t a _ _ => request w call t a)
  resent := fun w _ => resent w
  resentFail := fun w _ => resentFail w

namespace CtxMoves
variable {R : World → World → List HEv → Prop} (M : CtxMoves R)
include M

theorem pollCtx (w : World) : R w w.pollCtx w.ctxEvs :=
  pollCtxS_false w ▸ ctxAccS_evs w ▸ M.loop.pollCtxS M.conn M.resent M.resentFail w

theorem pollTask (unwake : ∀ w t, R w (w.unwake t) []) (op : ∀ w id, R w (w.pollOp id) [])
    (st : ∀ w id, R w (w.pollStream id) []) (w : World) (t : Task) : R w (w.pollTask t) (w.taskEvs t) := by
  cases t with
  | ctx => exact M.loop.trans (unwake w .ctx) (M.pollCtx _)
  | op id => exact M.loop.trans (unwake w _) (op _ id)
  | st id => exact M.loop.trans (unwake w _) (st _ id)

end CtxMoves

/-- the events `h` account for the move of the context from `w` to `w'` -/
structure Tracks (w w' : World) (h : List HEv) : Prop where
  chained : Chained w.c h
  c_eq : w'.c = lastCtx w.c h
  ok : ∀ e ∈ h, e.ok

theorem Tracks.nil {w w' : World} (h : w'.c = w.c) : Tracks w w' [] := ⟨trivial, h, by simp⟩

theorem Tracks.trans {a b c : World} {h1 h2 : List HEv} (t1 : Tracks a b h1) (t2 : Tracks b c h2) :
    Tracks a c (h1 ++ h2) where
  chained := (chained_append _ _ _).mpr ⟨t1.chained, by rw [← t1.c_eq]; exact t2.chained⟩
  c_eq := by rw [lastCtx_append, ← t1.c_eq]; exact t2.c_eq
  ok := by
    intro e he
    rcases List.mem_append.mp he with h | h
    · exact t1.ok e h
    · exact t2.ok e h

theorem Tracks.congr_right {a b b' : World} {h : List HEv} (t : Tracks a b h) (hc : b'.c = b.c) : Tracks a b' h :=
  ⟨t.chained, by rw [hc]; exact t.c_eq, t.ok⟩

theorem Tracks.one {w w' : World} (e : HEv) (hb : ∀ b, e.before = some b → b = w.c) (ha : w'.c = e.after)
    (hok : e.ok) : Tracks w w' [e] :=
  ⟨⟨hb, trivial⟩, ha, by simpa using hok⟩

theorem firstEvs_congr {w w' : World} (h1 : w'.rx = w.rx) (h2 : w'.reader = w.reader) (h3 : w'.c = w.c) :
    w'.firstEvs = w.firstEvs := by
  simp only [firstEvs, h1, h2, h3]

theorem tracksMoves : CtxMoves Tracks := .of_prims
  (nil := fun _ => .nil rfl)
  (trans := Tracks.trans)
  (priv := fun _ _ _ _ => .nil rfl)
  (read := fun _ _ _ _ _ => .nil rfl)
  (wake := fun _ => .nil (wake_c _ _))
  (log := fun _ _ _ => .nil rfl)
  (msg := fun w m q _ => .one _ (fun b hb => by cases hb; rfl) (by simp [HEv.after]) trivial)
  (pkt := fun w rx' rd' fr p _ _ hd =>
    .one _ (fun b hb => by cases hb; rfl) (by simp [HEv.after]) (decodeRx_wf_aux fr p hd))
  (connack := fun w k => .one _ (fun b hb => by cases hb; rfl) rfl trivial)
  (request := fun w call t a => .one _ (fun b hb => by cases hb; rfl) (by rw [writeBytes_c]; cases call <;> rfl) trivial)
  (resent := fun w => .one _ (fun b hb => by cases hb; rfl) (resent_c w) trivial)
  (resentFail := fun w _ => .one _ (fun b hb => by cases hb; rfl) (by rw [writeBytes_c, resumed_c]; rfl) trivial)


theorem pollTask_tracks (w : World) (t : Task) : Tracks w (w.pollTask t) (w.taskEvs t) :=
  tracksMoves.pollTask (fun _ _ => .nil (by simp)) (fun w id => .nil (pollOp_c w id))
    (fun w id => .nil (pollStream_c w id)) w t

theorem applyEvs_nil {w : World} {e : Ev}
    (h : w.rejects e ∨ w.ignores e ∨ (∃ tk, W7.startTask e = some tk) ∨ ∃ evs, feedOf e = some evs) :
    w.applyEvs e = [] := by
  cases e with
  | setup =>
    rcases h with (h | ⟨hc, h⟩) | h | ⟨_, h⟩ | ⟨_, h⟩
    · exact if_pos h
    · simp only [applyEvs, hc, Bool.not_false, if_true]; rw [if_pos h, ite_self]
    all_goals cases h
  | markDisc secs =>
    exact h.elim (fun h => if_pos (by simpa [rejects] using h)) (by rintro (h | ⟨_, h⟩ | ⟨_, h⟩) <;> cases h)
  | poll t =>
    rcases h with h | h | ⟨_, h⟩ | ⟨_, h⟩
    · exact h.elim
    · exact if_neg (by rw [show w.taskLive t = false from h]; exact Bool.false_ne_true)
    all_goals cases h
  | dropCtx => rcases h with h | h | ⟨_, h⟩ | ⟨_, h⟩ <;> cases h
  | _ => rfl

theorem applyEvs_poll {w : World} {t : Task} (ht : w.taskLive t = true) : w.applyEvs (.poll t) = w.taskEvs t :=
  if_pos ht

theorem applyEvs_newCtx {w : World} (ht : w.task = .none) (hd : w.ctxDropped = false) (hc : w.hasCtx = false)
    (hh : w.handles = []) (ho : w.ops = []) : w.applyEvs .setup = [.fresh] := by
  simp [applyEvs, ht, hd, hc, hh, ho]

theorem applyEvs_newConn {w : World} (ht : w.task = .none) (hd : w.ctxDropped = false) (hc : w.hasCtx = true) :
    w.applyEvs .setup = [] := by
  simp [applyEvs, ht, hd, hc]

theorem applyEvs_markDisc {w : World} (secs : Nat) (hc : w.hasCtx = true) (ht : w.task = .none) :
    w.applyEvs (.markDisc secs) = [.disc w.c secs] :=
  if_neg (by simp [hc, ht])

theorem applied_tracks {w w' : World} {e : Ev} (h : Applied w e w') : Tracks w w' (w.applyEvs e) := by
  -- every outcome is one record update (`Applied.norm`): where it does not set `c`, the context is that of `w` by `rfl`
  cases h.norm with
  | bad e hr => rw [applyEvs_nil (.inl hr)]; exact .nil rfl
  | same e hg => rw [applyEvs_nil (.inr (.inl hg))]; exact .nil rfl
  | poll t ht => rw [applyEvs_poll ht]; exact pollTask_tracks w t
  | newCtx ht hd hc hh ho =>
    rw [applyEvs_newCtx ht hd hc hh ho]
    exact .one _ (fun b hb => by cases hb) rfl trivial
  | newConn ou wp _ ht hd hc => rw [applyEvs_newConn ht hd hc]; exact .nil rfl
  | start e tk he => rw [applyEvs_nil (.inr (.inr (.inl ⟨_, he⟩)))]; exact .nil rfl
  | dropCtx sl sr ch wk _ hc =>
    rw [show w.applyEvs .dropCtx = [.dropCtx w.queue w.c] from if_pos hc]
    exact .one _ (fun b hb => by cases hb; rfl) rfl trivial
  | dropCtxNone hc =>
    rw [show w.applyEvs .dropCtx = [] from if_neg (by simp [hc])]
    exact .nil rfl
  | markDisc secs hc ht =>
    rw [applyEvs_markDisc secs hc ht]
    exact .one _ (fun b hb => by cases hb; rfl) rfl trivial
  | feed e evs rd he => rw [applyEvs_nil (.inr (.inr (.inr ⟨_, he⟩)))]; exact .nil rfl
  | _ => exact .nil rfl

theorem scriptEvs_tracks (evs : List Ev) (w : World) : Tracks w (evs.foldl step w) (scriptEvs w evs) :=
  scriptEvs_lift (R := Tracks) (fun _ => .nil rfl) Tracks.trans (fun w t _ _ => pollTask_tracks w t) evs
    (fun _ _ _ => .nil rfl) (fun e _ w => applied_tracks (apply_spec w e)) w

theorem script_tracks (cfg : Cfg) (evs : List Ev) :
    Tracks { cfg := cfg } (evs.foldl step { cfg := cfg }) (history cfg evs) :=
  scriptEvs_tracks evs _

/-- with an unlimited transport, the move from `w` to `w'` hands exactly the packets of the events `h` to the transport
    (every move does: `sendsMoves`) -/
def Sends (w w' : World) (h : List HEv) : Prop :=
  w.cfg.wlimit = none → w'.cfg = w.cfg ∧ w'.sent = w.sent ++ (evPkts h).flatten

theorem Sends.silent {w w' : World} (hc : w'.cfg = w.cfg) (hs : w'.sent = w.sent) : Sends w w' [] :=
  fun _ => ⟨hc, by simp [hs]⟩

theorem Sends.effs {w w0 : World} {c : Ctx} {i : CIn} (es : List Eff) (hc : w0.cfg = w.cfg) (hs : w0.sent = w.sent)
    (he : es = (c.stepIn i).2.effs := by rfl) : Sends w (w0.applyEffs es) [.handler c i] := fun hl =>
  ⟨by simp [hc], by rw [sent_applyEffs _ _ (canWrite_unlimited _ (hc ▸ hl) _), hs, he]; simp [HEv.pkts]⟩

theorem sendsMoves : CtxMoves Sends := .of_prims
  (nil := fun _ => .silent rfl rfl)
  (trans := fun {a b c h1 h2} f g hl => by
    obtain ⟨c1, s1⟩ := f hl
    obtain ⟨c2, s2⟩ := g (c1 ▸ hl)
    exact ⟨c2.trans c1, by rw [s2, s1, evPkts_append, List.flatten_append, List.append_assoc]⟩)
  (priv := fun _ _ _ _ => .silent rfl (sent_congr rfl rfl))
  (read := fun _ _ _ _ _ => .silent rfl (sent_congr rfl rfl))
  (wake := fun w => .silent (by simp) (sent_congr (by simp) (by simp)))
  (log := fun w o ho => .silent rfl (sent_emit w o (by rcases ho with ⟨c, r, rfl⟩ | ⟨cls, rfl⟩ <;> rfl)))
  (msg := fun w m q _ => .effs _ rfl (sent_congr rfl rfl))
  (pkt := fun w rx' rd' fr p _ _ _ => .effs _ rfl (sent_congr rfl rfl))
  (connack := fun w k => .silent rfl (sent_congr rfl rfl))
  (request := fun w call t a hl => by
    have hc : (seiSet w call t).cfg = w.cfg := by cases call <;> rfl
    refine ⟨by simp [hc], ?_⟩
    rw [(sent_writeBytes _ _ (canWrite_unlimited _ (hc ▸ hl) _)).1, (seiSet_facts w call t).2.2.1]
    simp [HEv.pkts])
  (resent := fun w hl => ⟨resent_cfg w, by
    rw [resent_sent w (canWrite_unlimited _ (by rw [resumed_cfg]; exact hl) _)]; simp [HEv.pkts]⟩)
  (resentFail := fun w hc hl => by
    rw [canWrite_unlimited _ (by rw [resumed_cfg]; exact hl) _] at hc; cases hc)

theorem evPkts_applyEvs {w : World} {e : Ev} (hne : ∀ t, e ≠ .poll t) : evPkts (w.applyEvs e) = [] := by
  cases e with
  | poll t => exact absurd rfl (hne t)
  | _ => simp only [applyEvs]; (repeat' split) <;> rfl

theorem pollTask_sends (w : World) (t : Task) : Sends w (w.pollTask t) (w.taskEvs t) :=
  sendsMoves.pollTask (fun _ _ => .silent (by simp) (sent_congr (by simp) (by simp)))
    (fun w id => .silent (pollOp_userFrame w id).cfg (pollOp_sent w id))
    (fun w id => .silent (pollStream_userFrame w id).cfg (pollStream_sent w id)) w t

theorem apply_sends (w : World) (e : Ev) : Sends w (w.apply e) (w.applyEvs e) := by
  by_cases hp : ∃ t, e = .poll t
  · obtain ⟨t, rfl⟩ := hp
    simp only [World.apply, applyEvs]
    split
    · exact pollTask_sends w t
    · exact .silent rfl rfl
  · have hne : ∀ t, e ≠ .poll t := fun t h => hp ⟨t, h⟩
    intro _
    rw [evPkts_applyEvs hne]
    exact ⟨apply_cfg w e, by simp [applied_sent (apply_spec w e) hne]⟩

theorem scriptEvs_sent (evs : List Ev) (w : World) (hl : w.cfg.wlimit = none) :
    (evs.foldl step w).sent = w.sent ++ (evPkts (scriptEvs w evs)).flatten :=
  (scriptEvs_lift (R := Sends) sendsMoves.loop.refl sendsMoves.loop.trans (fun w t _ _ => pollTask_sends w t) evs
    (fun w o ho => .silent rfl (sent_emit w o (by rcases ho with ⟨e, _, rfl⟩ | rfl <;> rfl)))
    (fun e _ w => apply_sends w e) w hl).2

theorem loopHist_one_msg (f : Nat) (w : World) (m : Msg) (hq : w.queue = [m]) (hrx : w.rx = {}) (hrd : w.reader = []) :
    loopHist (f + 2) w = [w.inMsg m] := by
  have hi : w.iterIn = some (w.inMsg m) := by simp [iterIn, hq]
  rw [loopHist_succ, hi]
  simp only
  cases h : runIter w with
  | inr r => rfl
  | inl w1 =>
    simp only
    have hc := runIter_inl h
    have h1 : w1.queue = [] ∧ w1.rx = {} ∧ w1.reader = [] := by
      cases hc with
      | msg m' q w1 hq' hr =>
        rw [hq] at hq'
        cases hq'
        have e : w1 = (World.runHandler { w with queue := [] } (fun wok => w.c.handleMsg m wok)).1 := by rw [hr]
        rw [e]
        exact ⟨by simp, by simp [hrx], by simp [hrd]⟩
      | pkt rx' rd' fr' p' w1 hq' hs' hp' hd' hr => rw [hq] at hq'; cases hq'
    have : w1.iterIn = none := by
      simp [iterIn, h1.1, h1.2.1, h1.2.2, pollNext_idle_nil]
    rw [loopHist_succ, this]

end World

end Poster

/-
  Facts the property files C05–C07 share that are not handler equations (those are in Lemmas/CtxApi.lean): the first byte
  of the packets the client builds, a handle future resumed by the acknowledgement that ends it (`resumeOp_*`), channels
  and their senders (`noSender_*`), and the keys of `awaiting` other than the shared PINGREQ key (`nonPingKeys`).
-/
import PosterModel.Lemmas.CtxApi
import PosterModel.Lemmas.WorldShape
import PosterModel.Lemmas.PrimFacts

namespace Poster

/-- the keys of `awaiting` other than the one all pings share -/
def nonPingKeys (l : List (Nat × Nat)) : List Nat := (l.map (·.1)).filter (· ≠ actionId 13 0)

namespace User

theorem filterMap_congr' {α β} {f g : α → Option β} {l : List α} (h : ∀ x ∈ l, f x = g x) :
    l.filterMap f = l.filterMap g := by
  induction l with
  | nil => rfl
  | cons a t ih =>
    simp only [List.filterMap_cons, h a List.mem_cons_self, ih fun x hx => h x (List.mem_cons_of_mem _ hx)]

@[simp] theorem sendsOf_nil : sendsOf [] = [] := rfl
@[simp] theorem sendsOf_cons_send (s v) (t : List Eff) : sendsOf (.send s v :: t) = (s, v) :: sendsOf t := rfl
@[simp] theorem sendsOf_cons_write (b) (t : List Eff) : sendsOf (.write b :: t) = sendsOf t := rfl
@[simp] theorem sendsOf_cons_dropSlot (s) (t : List Eff) : sendsOf (.dropSlot s :: t) = sendsOf t := rfl
@[simp] theorem sendsOf_cons_deliver (c p) (t : List Eff) : sendsOf (.deliver c p :: t) = sendsOf t := rfl
@[simp] theorem sendsOf_cons_dropChan (c) (t : List Eff) : sendsOf (.dropChan c :: t) = sendsOf t := rfl

@[simp] theorem deliversOf_nil : deliversOf [] = [] := rfl
@[simp] theorem deliversOf_cons_deliver (c p) (t : List Eff) :
    deliversOf (.deliver c p :: t) = (c, p) :: deliversOf t := rfl
@[simp] theorem deliversOf_cons_send (s v) (t : List Eff) : deliversOf (.send s v :: t) = deliversOf t := rfl
@[simp] theorem deliversOf_cons_write (b) (t : List Eff) : deliversOf (.write b :: t) = deliversOf t := rfl
@[simp] theorem deliversOf_cons_dropSlot (s) (t : List Eff) : deliversOf (.dropSlot s :: t) = deliversOf t := rfl
@[simp] theorem deliversOf_cons_dropChan (c) (t : List Eff) : deliversOf (.dropChan c :: t) = deliversOf t := rfl

@[simp] theorem writesOf_nil : writesOf [] = [] := rfl
@[simp] theorem writesOf_cons_write (b) (t : List Eff) : writesOf (.write b :: t) = b :: writesOf t := rfl
@[simp] theorem writesOf_cons_send (s v) (t : List Eff) : writesOf (.send s v :: t) = writesOf t := rfl
@[simp] theorem writesOf_cons_dropSlot (s) (t : List Eff) : writesOf (.dropSlot s :: t) = writesOf t := rfl
@[simp] theorem writesOf_cons_deliver (c p) (t : List Eff) : writesOf (.deliver c p :: t) = writesOf t := rfl
@[simp] theorem writesOf_cons_dropChan (c) (t : List Eff) : writesOf (.dropChan c :: t) = writesOf t := rfl

@[simp] theorem pktType_encU8_append (n : Nat) (rest : Bytes) : pktType (encU8 n ++ rest) = n % 256 / 16 := by
  simp [pktType, encU8, UInt8.toNat_ofNat']

theorem ackBytes_head (hdr pid : Nat) : ∃ rest, ackBytes hdr pid = UInt8.ofNat hdr :: rest := ⟨_, rfl⟩

theorem pktType_ackBytes (hdr pid : Nat) : pktType (ackBytes hdr pid) = hdr % 256 / 16 := by
  obtain ⟨rest, e⟩ := ackBytes_head hdr pid
  simp [e, pktType, UInt8.toNat_ofNat']

theorem publish_encode_head (t : PublishTx) : ∃ rest, t.encode = UInt8.ofNat t.fixedHdr :: rest := by
  unfold PublishTx.encode
  simp only [List.append_assoc]
  exact ⟨_, rfl⟩

/-- the header byte is 48 + 8·dup + 2·qos + retain: with a QoS of the enum it stays below 64 -/
theorem pktType_publish_encode (t : PublishTx) (hq : t.qos ≤ 2) : pktType t.encode = 3 := by
  have := b2n_le t.retain
  have := b2n_le t.dup
  simp only [PublishTx.encode, List.append_assoc, pktType_encU8_append, PublishTx.fixedHdr]
  omega

theorem pktType_bytes_ne_pubrel (r : Req) (hq : ∀ t, r = .publish t → t.qos ≤ 2) : pktType r.bytes ≠ 6 := by
  cases r with
  | publish t => rw [Req.bytes, pktType_publish_encode t (hq t rfl)]; decide
  | subscribe t => simp [Req.bytes, SubscribeTx.encode]
  | unsubscribe t => simp [Req.bytes, UnsubscribeTx.encode]
  | ping => simp [Req.bytes, pingreqBytes, pktType]
  | disconnect t => simp [Req.bytes, DisconnectTx.encode]

theorem completeReq_qos (w : World) (r : Req) (t : PublishTx) (e : w.completeReq r = .publish t) :
    ∃ t0, r = .publish t0 ∧ t.qos = t0.qos := by
  cases r with
  | publish t0 =>
    simp only [World.completeReq, Req.publish.injEq] at e
    subst e; exact ⟨t0, rfl, by split <;> rfl⟩
  | _ => cases e

theorem reqMsg_ne_pubrel (w : World) (id : Nat) (req : Req) (hq : ∀ t, req = .publish t → t.qos ≤ 2) :
    pktType (w.reqMsg id req).pkt ≠ 6 := by
  rw [World.reqMsg_pkt]
  refine pktType_bytes_ne_pubrel _ fun t e => ?_
  obtain ⟨t0, e0, hq0⟩ := completeReq_qos w req t e
  rw [hq0]; exact hq t0 e0

open Ctx

theorem complete_none (c : Ctx) (aid : Nat) (p : RxPacket) (h : removeFirst aid c.awaiting = none) :
    c.complete aid p = (c, []) := by
  simp [complete, h]

theorem dispatch_nil (alive : Nat → Bool) (p : PublishRx) (subs : List (Nat × Nat)) :
    dispatch alive p [] subs = (subs, []) := rfl

theorem eraseFirst_filter_alive (alive : Nat → Bool) (sid ch : Nat) (subs : List (Nat × Nat))
    (h : lookupFirst sid subs = some ch) (ha : alive ch = false) :
    (eraseFirst sid subs).filter (fun e => alive e.2) = subs.filter (fun e => alive e.2) := by
  obtain ⟨pre, post, rfl, hpre⟩ := (lookupFirst_some_iff _ _ _).1 h
  rw [eraseFirst_of_removeFirst (removeFirst_append_of_not_mem sid ch pre post hpre)]
  simp [ha]

open World

/-! ### a future resumed with the acknowledgement that ends it (SUBACK, UNSUBACK and PINGRESP do so by `rfl`) -/

theorem resumeOp_puback (w : World) (id s : Nat) (a : AckRx) :
    w.resumeOp id s .puback (.pkt (.puback a)) =
      (w.clearSlot s).finishOp id (if a.reason ≥ 128 then ackErr .pubackError a else .ok) := by
  simp only [resumeOp]; split <;> rfl

theorem resumeOp_pubcomp (w : World) (id s : Nat) (a : AckRx) :
    w.resumeOp id s .pubcomp (.pkt (.pubcomp a)) =
      (w.clearSlot s).finishOp id (if a.reason ≥ 128 then ackErr .pubcompError a else .ok) := by
  simp only [resumeOp]; split <;> rfl

theorem resumeOp_pubrec_refused (w : World) (id s : Nat) (a : AckRx) (h : a.reason ≥ 128) :
    w.resumeOp id s .pubrec (.pkt (.pubrec a)) = (w.clearSlot s).finishOp id (ackErr .pubrecError a) := by
  simp only [resumeOp, h, if_true]

theorem resumeOp_pubrec_accepted (w : World) (id s : Nat) (a : AckRx) (h : a.reason < 128) :
    w.resumeOp id s .pubrec (.pkt (.pubrec a)) = (w.clearSlot s).sendAwait
      (.awaitAck (actionId 7 a.packetId) (ackBytes 0x62 a.packetId) (s + 1)) id (s + 1) .pubcomp := by
  have hn : ¬ a.reason ≥ 128 := by omega
  simp only [resumeOp, hn, if_false]; rfl

theorem noSender_of_sublist {w w' : World} {ch : Nat} (h : w'.chans.Sublist w.chans) :
    noSender w' ch → noSender w ch :=
  fun ⟨c1, hm, ht⟩ => ⟨c1, h.subset hm, ht⟩

theorem noSender_of_setAssoc {w w' : World} {ch k : Nat} {v : Chan} (hw : w'.chans = setAssoc k v w.chans)
    (hv : v.txAlive = false → ∃ c0, (k, c0) ∈ w.chans ∧ c0.txAlive = false) :
    noSender w' ch → noSender w ch := by
  rintro ⟨c1, hm, ht⟩
  rw [hw] at hm
  rcases mem_setAssoc hm with h | h
  · cases h; exact hv ht
  · exact ⟨c1, h, ht⟩

theorem nonPingKeys_append (a b : List (Nat × Nat)) : nonPingKeys (a ++ b) = nonPingKeys a ++ nonPingKeys b := by
  simp [nonPingKeys]

theorem nonPingKeys_sublist {a b : List (Nat × Nat)} (h : a.Sublist b) : (nonPingKeys a).Sublist (nonPingKeys b) :=
  (h.map _).filter _

theorem once_of_filter_nodup {β} {p : Nat → Bool} {l : List (Nat × β)} (hn : ((l.map (·.1)).filter p).Nodup)
    {k : Nat} {v : β} (hk : p k = true) (h : (k, v) ∈ l) :
    ∃ pre post, l = pre ++ (k, v) :: post ∧ k ∉ pre.map (·.1) ∧ k ∉ post.map (·.1) := by
  obtain ⟨pre, post, rfl⟩ := List.append_of_mem h
  rw [List.map_append, List.map_cons, List.filter_append, List.filter_cons_of_pos hk, List.nodup_append,
    List.nodup_cons] at hn
  exact ⟨pre, post, rfl, fun hm => hn.2.2 k (List.mem_filter.2 ⟨hm, hk⟩) k (.head _) rfl,
    fun hm => hn.2.1.1 (List.mem_filter.2 ⟨hm, hk⟩)⟩

end User
end Poster

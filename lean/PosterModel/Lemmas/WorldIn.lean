/-
  Lemmas/WorldIn.lean — names for what the model's functions compute on the way: the `Ctx`-level input (`CIn`) an iteration
  of the `select!` loop of `run()` hands to a handler (`inMsg`, `inPkt`, `iterIn`), the worlds after the session-resumption
  prelude of `run()` (`resumed`, `resent`), the request `connect()` / `authorize()` write when first polled and the session
  expiry interval `connect()` records (`W7.reqBytes`, `W7.seiSet`). The definitions only.
-/
import PosterModel.Lemmas.World

namespace Poster
open Framing
namespace World

/-- the channels registered in the context's subscription table whose receiving end (the caller's stream or
    its not-yet-converted response) is gone -/
def deadOf (w : World) : List Nat := (w.c.subs.map (·.2)).filter (fun ch => !w.chanRxAlive ch)

/-- the `wok` bit `runHandler` picks for the message `m`: can the transport take the write of the handler -/
def wokMsg (w : World) (m : Msg) : Bool := w.canWrite (writeNeed (w.c.handleMsg m true).2.1)
/-- the `wok` bit `runHandler` picks for the inbound packet `p` -/
def wokPkt (w : World) (p : RxPacket) : Bool := w.canWrite (writeNeed (w.c.handlePkt w.chanRxAlive p true).2.1)

/-- the `Ctx`-level input a message taken from the queue is -/
def inMsg (w : World) (m : Msg) : CIn := .msg m (w.wokMsg m)
/-- the `Ctx`-level input a decoded inbound packet is -/
def inPkt (w : World) (p : RxPacket) : CIn := .pkt p w.deadOf (w.wokPkt p)

/-- the `Ctx`-level input the next iteration of the loop hands to a handler (`none`: the iteration ends the poll
    before any handler is called — nothing queued and no sender left, no complete frame, a frame that does not decode) -/
def iterIn (w : World) : Option CIn :=
  match w.queue with
  | m :: _ => some (w.inMsg m)
  | [] =>
    if w.senders = 0 then none else
    match pollNext w.rx w.reader with
    | (_, _, .item fr) =>
      (match decodeRx fr with
       | .ok p => some (w.inPkt p)
       | _ => none)
    | _ => none

/-- the world after the session-resumption prelude of `run()` (context resumed, the senders of a reset session dropped),
    before anything is re-sent -/
def resumed (w : World) : World :=
  ({ w with c := w.c.resume.1, task := .running true } : World).applyEffs w.c.resume.2.1

/-- … and after the unfinished handshakes were re-sent -/
def resent (w : World) : World := w.c.resume.2.2.foldl (fun w p => w.writeBytes p) w.resumed

namespace W7

/-- the request `connect()` resp. `authorize()` writes: the encoded CONNECT resp. AUTH packet -/
def reqBytes (call : Call) (t : ConnectTx) (a : AuthTx) : Bytes :=
  match call with
  | .connect => t.encode
  | _ => a.encode

/-- `connect()` records the session expiry interval it asks for before writing -/
def seiSet (w : World) (call : Call) (t : ConnectTx) : World :=
  match call with
  | .connect => { w with c := { w.c with sei := t.sessionExpiry.getD 0 } }
  | _ => w

end W7
end World
end Poster

/-
  Lemmas/WorldQuietFuel.lean — the side condition `stepOk` of Lemmas/WorldQuiet.lean without its `evOk` part: the drain
  fuel sufficed at every step. (That it always does is `W5.stepsFuelOk_script`, Lemmas/WorldFuelScript.lean.)
-/
import PosterModel.Lemmas.WorldQuiet

namespace Poster
open Framing
namespace World

/-- after the drain no flagged live task that is not held is left -/
def stepFuelOk (w : World) (e : Ev) : Bool :=
  w.bad || ((w.emit (.ev e)).apply e).bad ||
    (World.drain ((w.emit (.ev e)).apply e).drainFuel ((w.emit (.ev e)).apply e)).pick.isNone

def stepsFuelOk : World → List Ev → Bool
  | _, [] => true
  | w, e :: es => stepFuelOk w e && stepsFuelOk (w.step e) es

theorem stepsOk_of_evsOk_fuelOk : ∀ (evs : List Ev) (w : World), evsOk w evs = true → stepsFuelOk w evs = true →
    stepsOk w evs = true
  | [], _, _, _ => rfl
  | e :: es, w, h1, h2 => by
    simp only [evsOk, Bool.and_eq_true] at h1
    simp only [stepsFuelOk, Bool.and_eq_true] at h2
    simp only [stepsOk, stepOk, Bool.and_eq_true]
    exact ⟨⟨h1.1, h2.1⟩, stepsOk_of_evsOk_fuelOk es _ h1.2 h2.2⟩

end World
end Poster

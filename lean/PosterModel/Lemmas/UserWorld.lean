/-
  What the building blocks of the user side (`finishOp`, `sendMsg`, `startOp` for publish / subscribe / unsubscribe,
  `deliver`, `sendSlot`, `pollStream` case by case, and `sendAwait`, defined here) do to the record: the new value of every
  field a caller computes with (queue, operation table, slots, channels, log).
-/
import PosterModel.CtxRun
import PosterModel.Lemmas.WorldFrame

namespace Poster

namespace World

/-- the common tail of every `ContextHandle` method: `sender.unbounded_send(msg)?; receiver.await` -/
def sendAwait (w : World) (m : Msg) (id s : Nat) (k : Wait) : World :=
  match w.sendMsg m with
  | none => w.finishOp id (.err .contextExited)
  | some w => w.awaitSlot id s k

theorem sendAwait_eq (w : World) (m : Msg) (id s : Nat) (k : Wait) : w.sendAwait m id s k = if w.hasCtx then
    { w with queue := w.queue ++ [m], ops := setAssoc id (.wait s k) w.ops, slots := setAssoc s Slot.empty w.slots,
             slotReg := if s ∈ w.slotReg then w.slotReg else w.slotReg ++ [s],
             woken := if w.queueReg then (w.wake .ctx).woken else w.woken, queueReg := false && w.queueReg }
  else w.finishOp id (.err .contextExited) := by rw [sendAwait, sendMsg_eq]; cases w.hasCtx <;> rfl

/-- channel `ch` has an entry whose sending half is gone -/
def noSender (w : World) (ch : Nat) : Prop := ∃ c0, (ch, c0) ∈ w.chans ∧ c0.txAlive = false

def pollStreamN (w : World) (id : Nat) : Nat → World
  | 0 => w
  | n+1 => pollStreamN (w.pollStream id) id n

theorem pollOp_of_none {w : World} {id : Nat} (h : w.opSt id = none) : w.pollOp id = w := by
  unfold pollOp; rw [h]

theorem dropOp_of_none {w : World} {id : Nat} (h : w.opSt id = none) : w.dropOp id = w := by
  unfold dropOp; rw [h]

theorem pollOp_of_fresh {w : World} {id h : Nat} {req : Req} (ho : w.opSt id = some (.fresh h req)) :
    w.pollOp id = w.startOp id req := by
  unfold pollOp; rw [ho]

theorem pollOp_of_full {w : World} {id s : Nat} {k : Wait} {v : SlotVal} (ho : w.opSt id = some (.wait s k))
    (hs : w.slot s = some (.full v)) : w.pollOp id = w.resumeOp id s k v := by
  unfold pollOp; rw [ho]; simp only [hs]

theorem pollOp_of_closed {w : World} {id s : Nat} {k : Wait} (ho : w.opSt id = some (.wait s k))
    (hs : w.slot s = some .closed) : w.pollOp id = (w.clearSlot s).finishOp id (.err .contextExited) := by
  unfold pollOp; rw [ho]; simp only [hs]

theorem pollOp_of_empty {w : World} {id s : Nat} {k : Wait} (ho : w.opSt id = some (.wait s k))
    (hs : w.slot s = none ∨ w.slot s = some .empty) :
    w.pollOp id = { w with slotReg := if s ∈ w.slotReg then w.slotReg else w.slotReg ++ [s] } := by
  unfold pollOp; rw [ho]; rcases hs with hs | hs <;> simp only [hs]


end World

namespace User
open World

theorem sendMsg_none (w : World) (m : Msg) (h : w.hasCtx = false) : w.sendMsg m = none := by
  rw [sendMsg_eq, h]; rfl

theorem sendMsg_shape (w : World) (m : Msg) (h : w.hasCtx = true) :
    ∃ wk qr, w.sendMsg m = some { w with queue := w.queue ++ [m], woken := wk, queueReg := qr } :=
  ⟨_, _, by rw [sendMsg_eq, if_pos h]⟩

theorem sendAwait_no_ctx (w : World) (m : Msg) (id s : Nat) (k : Wait) (h : w.hasCtx = false) :
    w.sendAwait m id s k = w.finishOp id (.err .contextExited) := by
  rw [sendAwait_eq, h]; rfl

theorem sendAwait_ctx (w : World) (m : Msg) (id s : Nat) (k : Wait) (h : w.hasCtx = true) :
    ∃ wk qr, w.sendAwait m id s k =
      { w with queue := w.queue ++ [m], ops := setAssoc id (.wait s k) w.ops,
               slots := setAssoc s Slot.empty w.slots,
               slotReg := if s ∈ w.slotReg then w.slotReg else w.slotReg ++ [s],
               woken := wk, queueReg := qr } :=
  ⟨_, _, by rw [sendAwait_eq, if_pos h]⟩

theorem sendAwait_frame (w : World) (m : Msg) (id s : Nat) (k : Wait) :
    ∃ q o sl sr wk qr ou, w.sendAwait m id s k =
      { w with queue := q, ops := o, slots := sl, slotReg := sr, woken := wk, queueReg := qr, out := ou } := by
  rw [sendAwait_eq]; split
  · exact ⟨_, _, _, _, _, _, w.out, rfl⟩
  · obtain ⟨wk, qr, e⟩ := finishOp_shape w id (.err .contextExited)
    exact ⟨w.queue, _, w.slots, w.slotReg, wk, qr, _, e⟩

@[simp] theorem finishOp_out (w : World) (id r) : (w.finishOp id r).out = w.out ++ [.done id r] := by
  obtain ⟨_, _, e⟩ := finishOp_shape w id r; rw [e]
@[simp] theorem finishOp_ops (w : World) (id r) : (w.finishOp id r).ops = eraseFirst id w.ops := by
  obtain ⟨_, _, e⟩ := finishOp_shape w id r; rw [e]
@[simp] theorem finishOp_slots (w : World) (id r) : (w.finishOp id r).slots = w.slots := World.finishOp_slots w id r
@[simp] theorem sendAwait_pidCtr (w : World) (m id s k) : (w.sendAwait m id s k).pidCtr = w.pidCtr := by
  obtain ⟨_, _, _, _, _, _, _, e⟩ := sendAwait_frame w m id s k; rw [e]
@[simp] theorem sendAwait_subCtr (w : World) (m id s k) : (w.sendAwait m id s k).subCtr = w.subCtr := by
  obtain ⟨_, _, _, _, _, _, _, e⟩ := sendAwait_frame w m id s k; rw [e]
@[simp] theorem sendAwait_chans (w : World) (m id s k) : (w.sendAwait m id s k).chans = w.chans := by
  obtain ⟨_, _, _, _, _, _, _, e⟩ := sendAwait_frame w m id s k; rw [e]
@[simp] theorem sendAwait_c (w : World) (m id s k) : (w.sendAwait m id s k).c = w.c := by
  obtain ⟨_, _, _, _, _, _, _, e⟩ := sendAwait_frame w m id s k; rw [e]

theorem startOp_publish0 (w : World) (id : Nat) (t : PublishTx) (hq : t.qos = 0) :
    w.startOp id (.publish t) =
      if !t.valid then w.finishOp id (.err .codecError) else w.sendAwait (.ff t.encode (2 * id)) id (2 * id) .ff := by
  simp only [startOp, hq, if_true]; rfl

theorem startOp_publish12 (w : World) (id : Nat) (t : PublishTx) (hq : t.qos ≠ 0) :
    w.startOp id (.publish t) =
      if !({ t with packetId := some w.pidCtr } : PublishTx).valid then
        (w.allocPid.2).finishOp id (.err .codecError)
      else (w.allocPid.2).sendAwait
        (.awaitAck (actionId (if t.qos = 1 then 4 else 5) w.pidCtr) ({ t with packetId := some w.pidCtr } : PublishTx).encode (2 * id))
        id (2 * id) (if t.qos = 1 then .puback else .pubrec) := by
  simp only [startOp, hq, if_false]; rfl

theorem startOp_subscribe (w : World) (id : Nat) (t : SubscribeTx) :
    w.startOp id (.subscribe t) =
      let w1 := (w.allocPid.2).allocSub.2
      let t' : SubscribeTx := { t with packetId := w.pidCtr, subId := some w.subCtr }
      if !t'.valid then w1.finishOp id (.err .codecError) else
      match (w1.setChan id {}).sendMsg (.subscribe (actionId 9 w.pidCtr) w.subCtr t'.encode (2 * id) id) with
      | none => ((w1.setChan id {}).dropChanRx id).finishOp id (.err .contextExited)
      | some w => w.awaitSlot id (2 * id) .suback := rfl

theorem startOp_unsubscribe (w : World) (id : Nat) (t : UnsubscribeTx) :
    w.startOp id (.unsubscribe t) =
      if !({ t with packetId := w.pidCtr } : UnsubscribeTx).valid then (w.allocPid.2).finishOp id (.err .codecError)
      else (w.allocPid.2).sendAwait
        (.awaitAck (actionId 11 w.pidCtr) ({ t with packetId := w.pidCtr } : UnsubscribeTx).encode (2 * id))
        id (2 * id) .unsuback := rfl

theorem deliver_none (w : World) (c : Nat) (p : PublishRx) (h : w.chan c = none) : w.deliver c p = w := by
  rw [deliver_eq, onChan_none h]

theorem deliver_of_some (w : World) (c : Nat) (p : PublishRx) (ch : Chan) (h : w.chan c = some ch) :
    ∃ wk, w.deliver c p =
      { w with chans := setAssoc c { ch with buf := ch.buf ++ [p], reg := false } w.chans, woken := wk } := by
  rw [deliver_eq, onChan_some h]; exact ⟨_, rfl⟩

theorem dropChanTx_none (w : World) (c : Nat) (h : w.chan c = none) : w.dropChanTx c = w := by
  rw [dropChanTx_eq, onChan_none h]

theorem dropChanTx_of_some (w : World) (c : Nat) (ch : Chan) (h : w.chan c = some ch) :
    ∃ wk, w.dropChanTx c =
      { w with chans := setAssoc c { ch with txAlive := false, reg := false } w.chans, woken := wk } := by
  rw [dropChanTx_eq, onChan_some h]; exact ⟨_, rfl⟩

theorem sendSlot_of_empty (w : World) (s : Nat) (v : SlotVal) (h : w.slot s = some .empty) :
    ∃ wk sr, w.sendSlot s v = { w with slots := setAssoc s (.full v) w.slots, woken := wk, slotReg := sr } := by
  rw [sendSlot_eq, if_pos h]; exact ⟨_, _, rfl⟩

theorem sendSlot_noop (w : World) (s : Nat) (v : SlotVal) (h : w.slot s ≠ some .empty) : w.sendSlot s v = w := by
  rw [sendSlot_eq, if_neg h]

theorem pollStream_noop (w : World) (id : Nat) (h : id ∉ w.streams ∨ w.chan id = none) : w.pollStream id = w := by
  unfold pollStream
  rcases h with h | h
  · simp [h]
  · split
    · rfl
    · simp [h]

theorem pollStream_item (w : World) (id : Nat) (ch : Chan) (p : PublishRx) (rest : List PublishRx)
    (hs : id ∈ w.streams) (hc : w.chan id = some ch) (hb : ch.buf = p :: rest) : w.pollStream id =
      { w with chans := setAssoc id { ch with buf := rest } w.chans, out := w.out ++ [.item id p],
               woken := if Task.st id ∈ w.woken then w.woken else w.woken ++ [.st id] } := by
  simp only [pollStream, hs, not_true_eq_false, if_false, hc, hb]
  rw [wake_eq]; rfl

theorem pollStream_pending (w : World) (id : Nat) (ch : Chan)
    (hs : id ∈ w.streams) (hc : w.chan id = some ch) (hb : ch.buf = []) (ht : ch.txAlive = true) :
    w.pollStream id = { w with chans := setAssoc id { ch with reg := true } w.chans } := by
  simp only [pollStream, hs, not_true_eq_false, if_false, hc, hb, ht, if_true]; rfl

theorem pollStream_end (w : World) (id : Nat) (ch : Chan)
    (hs : id ∈ w.streams) (hc : w.chan id = some ch) (hb : ch.buf = []) (ht : ch.txAlive = false) :
    w.pollStream id = { w with streams := w.streams.filter (· ≠ id), chans := eraseFirst id w.chans,
                               out := w.out ++ [.endStream id] } := by
  simp only [pollStream, hs, not_true_eq_false, if_false, hc, hb, ht, Bool.false_eq_true]; rfl

theorem pollStreamN_succ (w : World) (id n : Nat) : pollStreamN w id (n + 1) = (pollStreamN w id n).pollStream id := by
  induction n generalizing w with
  | zero => rfl
  | succ n ih => exact ih (w.pollStream id)

/-- **`n` polls of a stream whose channel holds at least `n` messages** yield the first `n`, in arrival order, and leave the
    rest in the buffer; the stream is still there -/
theorem pollStreamN_take (w : World) (id : Nat) (c0 : Chan) (hs : id ∈ w.streams) (hc : w.chan id = some c0)
    (n : Nat) (hn : n ≤ c0.buf.length) :
    id ∈ (pollStreamN w id n).streams ∧
    (pollStreamN w id n).out = w.out ++ (c0.buf.take n).map (Obs.item id) ∧
    (pollStreamN w id n).chan id = some { c0 with buf := c0.buf.drop n } := by
  induction n generalizing w c0 with
  | zero => exact ⟨hs, by simp [pollStreamN], by simpa [pollStreamN] using hc⟩
  | succ n ih =>
    cases hb : c0.buf with
    | nil => rw [hb] at hn; cases hn
    | cons q rest =>
      have e := pollStream_item w id c0 q rest hs hc hb
      have hc' : (w.pollStream id).chan id = some { c0 with buf := rest } := by
        rw [e]; exact lookupFirst_setAssoc_self _ _ _
      obtain ⟨h1, h2, h3⟩ := ih (w.pollStream id) { c0 with buf := rest } (by rw [e]; exact hs) hc'
        (by rw [hb] at hn; exact Nat.le_of_succ_le_succ hn)
      refine ⟨h1, ?_, ?_⟩
      · show (pollStreamN (w.pollStream id) id n).out = _
        rw [h2, e]; simp
      · show (pollStreamN (w.pollStream id) id n).chan id = _
        rw [h3]; simp

end User
end Poster

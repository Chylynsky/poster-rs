/-
  Lemmas/TxSubscribe.lean — SUBSCRIBE and UNSUBSCRIBE: lengths, layout, and the body parses to the caller's values.
-/
import PosterModel.Lemmas.CodecTx

namespace Poster
open Spec

theorem unsubscribe_propertyLen_eq (t : UnsubscribeTx) : t.propertyLen = (encProps (userPs t.userProps)).length := by
  rw [← propsLen_eq_length _ (by rw [forall_mem_userPs]; simp [TypeOk])]
  simp only [UnsubscribeTx.propertyLen, propsLen_userPs]

def unsubscribeBody (t : UnsubscribeTx) : Bytes :=
  encU16 t.packetId ++ (encVar (encProps (userPs t.userProps)).length ++ (encProps (userPs t.userProps)
    ++ (t.filters.map encStr).flatten))

theorem unsubscribe_encode_eq (t : UnsubscribeTx) :
    t.encode = UInt8.ofNat 162 :: (encVar t.remainingLen ++ unsubscribeBody t) := by
  simp only [UnsubscribeTx.encode, unsubscribeBody, unsubscribe_propertyLen_eq, encProps_userPs, encU8,
    List.append_assoc, List.cons_append, List.nil_append]

theorem unsubscribe_remainingLen_eq (t : UnsubscribeTx) : t.remainingLen = (unsubscribeBody t).length := by
  simp only [UnsubscribeTx.remainingLen, unsubscribeBody, List.length_append, unsubscribe_propertyLen_eq, varLen_eq,
    sum_eq_length_flatten t.filters fun f _ => strLen_eq_length f]
  simp [encU16]; omega

theorem unsubscribe_layout (t : UnsubscribeTx) : Layout 162 t.remainingLen t.encode (unsubscribeBody t) :=
  ⟨unsubscribe_encode_eq t, unsubscribe_remainingLen_eq t⟩

theorem unsubscribeProps_legal (t : UnsubscribeTx) : propsLegal unsubscribePropIds (userPs t.userProps) = true := by
  apply propsLegal_of
  · rw [forall_mem_userPs]; simp [unsubscribePropIds]
  · simp [unsubscribePropIds]

theorem unsubscribe_body_parses (t : UnsubscribeTx) (hv : t.valid = true) (hd : UnsubscribeInDomain t) :
    parseBody 10 2 (unsubscribeBody t) = some (ofUnsubscribe t) := by
  obtain ⟨hp1, hp2⟩ := hd.packetId
  have hp0 : ¬ t.packetId = 0 := by omega
  have hl : (encProps (userPs t.userProps)).length < 268435456 := by
    have := hd.size; rw [unsubscribe_remainingLen_eq] at this
    simp only [unsubscribeBody, List.length_append] at this; omega
  have hb := pPropBlock_enc _ (PropWF_userPs hd.userProps) hl ((t.filters.map encStr).flatten)
  have hf : pMany Spec.pStr ((t.filters.map encStr).flatten) = some (t.filters.map id) :=
    pMany_enc Spec.pStr encStr id t.filters
      (fun f hf r => pStr_enc f (hd.filters f hf) r)
      (fun f _ => by simp [encStr, encU16])
  have hne : ¬ t.filters = [] := by simpa [UnsubscribeTx.valid] using hv
  simp [parseBody, parseUnsubscribe, unsubscribeBody, pPacketId, pU16_enc _ (show t.packetId < 65536 by omega), hp0,
    hb, unsubscribeProps_legal, hf, hne, ofUnsubscribe]

theorem subscribe_propertyLen_eq (t : SubscribeTx) : t.propertyLen = (encProps (subscribeProps t)).length := by
  rw [← propsLen_eq_length _ (by unfold subscribeProps; props_fields; simp [TypeOk, subIdVal, varLen_eq_varSize])]
  simp only [SubscribeTx.propertyLen, subscribeProps, propsLen_append, propsLen_optP, propsLen_userPs, pSubId, subIdVal,
    varLen_eq_varSize]

/-- one topic filter with its options byte, as `encode` writes it -/
def encSubFilter (fo : Bytes × SubOpts) : Bytes := encStr fo.1 ++ encU8 fo.2.byte

def subscribeBody (t : SubscribeTx) : Bytes :=
  encU16 t.packetId ++ (encVar (encProps (subscribeProps t)).length ++ (encProps (subscribeProps t)
    ++ (t.filters.map encSubFilter).flatten))

theorem subscribe_encode_eq (t : SubscribeTx) :
    t.encode = UInt8.ofNat 130 :: (encVar t.remainingLen ++ subscribeBody t) := by
  simp only [SubscribeTx.encode, subscribeBody, subscribe_propertyLen_eq, subscribeProps, encProps_append, encProps_optP,
    encProps_userPs, pSubId, subIdVal, varLen_eq_varSize, encU8, List.append_assoc, List.cons_append, List.nil_append]
  rfl

theorem subscribe_remainingLen_eq (t : SubscribeTx) : t.remainingLen = (subscribeBody t).length := by
  have hf := sum_eq_length_flatten (f := fun (f, _) => strLen f + 1) (g := encSubFilter) t.filters fun fo _ => by
    simp only [encSubFilter, strLen_eq_length, List.length_append, encU8, List.length_singleton]
  simp only [SubscribeTx.remainingLen, subscribeBody, List.length_append, subscribe_propertyLen_eq, varLen_eq, hf]
  simp [encU16]; omega

theorem subscribe_layout (t : SubscribeTx) : Layout 130 t.remainingLen t.encode (subscribeBody t) :=
  ⟨subscribe_encode_eq t, subscribe_remainingLen_eq t⟩

theorem subscribeProps_wf (t : SubscribeTx) (hd : SubscribeInDomain t) : ∀ p ∈ subscribeProps t, PropWF p := by
  simp only [subscribeProps, List.forall_mem_append]
  exact ⟨PropWF_optP_subId hd.subId, PropWF_userPs hd.userProps⟩

theorem subscribeProps_legal (t : SubscribeTx) : propsLegal subscribePropIds (subscribeProps t) = true :=
  OnceIn.optP 11 subIdVal t.subId |>.legal (by decide)

/-- the options byte carries the four fields at the bit positions of §3.8.3.1 -/
theorem subOpts_bits (q rh : Nat) (nl rap : Bool) (hq : q ≤ 2) (hrh : rh ≤ 2) :
    let o := q + b2n nl * 4 + b2n rap * 8 + rh * 16
    o < 256 ∧ o / 64 = 0 ∧ o % 4 = q ∧ (o / 4 % 2 == 1) = nl ∧ (o / 8 % 2 == 1) = rap ∧ o / 16 % 4 = rh := by
  intro o
  have hnl := b2n_le nl; have hrap := b2n_le rap
  have hlt : o < 256 := by omega
  have hrh4 : rh < 4 := Nat.lt_succ_of_le (Nat.le_succ_of_le hrh)
  have hH : o = ((rh * 2 + b2n rap) * 2 + b2n nl) * 4 + q := by omega
  clear_value o
  obtain ⟨d4, m4⟩ : o / 4 = _ ∧ o % 4 = q := hH ▸ div_mod_field (Nat.lt_succ_of_le (Nat.le_succ_of_le hq))
  obtain ⟨d8, m8⟩ := field_step (m := 4) d4 (Nat.lt_succ_of_le hnl)
  obtain ⟨d16, m16⟩ := field_step (m := 8) d8 (Nat.lt_succ_of_le hrap)
  obtain ⟨d64, m64⟩ := field_step (m := 16) (a := 0) (k := 4) (d16.trans (Nat.zero_add rh).symm) hrh4
  exact ⟨hlt, d64, m4, beq_one_of_eq_b2n m8, beq_one_of_eq_b2n m16, m64⟩

theorem pSubFilter_enc (fo : Bytes × SubOpts) (hs : StrOk fo.1) (hq : fo.2.maxQos ≤ 2) (hrh : fo.2.retainHandling ≤ 2)
    (r : Bytes) :
    pSubFilter (encSubFilter fo ++ r) =
      some ({ filter := fo.1, maxQos := fo.2.maxQos, noLocal := fo.2.noLocal,
              retainAsPublished := fo.2.retainAsPublished, retainHandling := fo.2.retainHandling }, r) := by
  obtain ⟨f, o⟩ := fo
  simp only at hs hq hrh
  obtain ⟨h256, h64, hq', hnl, hrap, hrh'⟩ := subOpts_bits o.maxQos o.retainHandling o.noLocal o.retainAsPublished hq hrh
  have hq3 : ¬ o.maxQos = 3 := by omega
  have hrh3 : ¬ o.retainHandling = 3 := by omega
  simp [pSubFilter, encSubFilter, List.append_assoc, pStr_enc _ hs, SubOpts.byte, pU8_enc _ h256, h64, hq', hnl, hrap,
    hrh', hq3, hrh3]

theorem subscribe_body_parses (t : SubscribeTx) (hv : t.valid = true) (hd : SubscribeInDomain t) :
    parseBody 8 2 (subscribeBody t) = some (ofSubscribe t) := by
  obtain ⟨hp1, hp2⟩ := hd.packetId
  have hp0 : ¬ t.packetId = 0 := by omega
  have hl : (encProps (subscribeProps t)).length < 268435456 := by
    have := hd.size; rw [subscribe_remainingLen_eq] at this
    simp only [subscribeBody, List.length_append] at this; omega
  have hb := pPropBlock_enc _ (subscribeProps_wf t hd) hl ((t.filters.map encSubFilter).flatten)
  have hf := pMany_enc pSubFilter encSubFilter
      (fun fo => { filter := fo.1, maxQos := fo.2.maxQos, noLocal := fo.2.noLocal,
                   retainAsPublished := fo.2.retainAsPublished, retainHandling := fo.2.retainHandling })
      t.filters
      (fun fo hfo r => pSubFilter_enc fo (hd.filters fo hfo).1 (hd.filters fo hfo).2.1 (hd.filters fo hfo).2.2 r)
      (fun fo _ => by simp [encSubFilter, encU8])
  have hne : ¬ t.filters = [] := by simpa [SubscribeTx.valid] using hv
  simp [parseBody, parseSubscribe, subscribeBody, pPacketId, pU16_enc _ (show t.packetId < 65536 by omega), hp0,
    hb, subscribeProps_legal, hf, hne, ofSubscribe]

end Poster

/-
  One call of `handle_packet` / `handle_message`, case by case, in the form the property files use: what is written,
  which components of the state change. Also the two history projections of C08 (`pktWrites`, `pktOwed`).
-/
import PosterModel.Lemmas.CtxBasic

namespace Poster

/-- what was written while handling one inbound packet (nothing is counted for an application request) -/
def obsWrites : CObs → List Bytes
  | .pkt _ effs _ => writesOf effs
  | .msg _ _ _ => []

/-- the acknowledgement owed for one handled inbound packet -/
def obsOwed : CObs → List Bytes
  | .pkt p _ _ => ackOwed p
  | .msg _ _ _ => []

/-- everything written while handling inbound packets, in order -/
def pktWrites (t : List CObs) : List Bytes := t.flatMap obsWrites

/-- every acknowledgement owed for the inbound packets handled, in arrival order -/
def pktOwed (t : List CObs) : List Bytes := t.flatMap obsOwed

theorem ackOwed_publish (pb : PublishRx) (h : pb.wf) :
    ackOwed (.publish pb) =
      match pb.packetId with
      | none => []
      | some pid => [ackBytes (if pb.qos = 1 then 0x40 else 0x50) pid] := by
  obtain ⟨hq, hiff, -⟩ := h
  simp only [ackOwed]
  cases hp : pb.packetId with
  | none => simp
  | some pid =>
    have h0 : pb.qos ≠ 0 := fun h0 => by rw [hiff.1 h0] at hp; cases hp
    have h12 : pb.qos = 1 ∨ pb.qos = 2 := by omega
    rcases h12 with h | h <;> simp [h]

/-- two readings of a history that satisfies C08 observation by observation agree if they agree on requests and, for a
    packet, whenever what was written is what was owed -/
theorem flatMap_of_acks {f g : CObs → List Bytes} (hm : ∀ m effs fl, f (.msg m effs fl) = g (.msg m effs fl))
    (hp : ∀ p effs fl, writesOf effs = ackOwed p → f (.pkt p effs fl) = g (.pkt p effs fl)) (t : List CObs)
    (h : P_C08 t = true) : t.flatMap f = t.flatMap g := by
  induction t with
  | nil => rfl
  | cons o t ih =>
    simp only [P_C08, List.all_cons, Bool.and_eq_true] at h
    rw [List.flatMap_cons, List.flatMap_cons, ih h.2]
    cases o with
    | msg m effs fl => rw [hm]
    | pkt p effs fl => rw [hp p effs fl (eq_of_beq h.1)]

theorem pktWrites_eq_pktOwed (t : List CObs) (h : P_C08 t = true) : pktWrites t = pktOwed t :=
  flatMap_of_acks (f := obsWrites) (g := obsOwed) (fun _ _ _ => rfl) (fun _ _ _ e => e) t h

theorem handleMsg_writes (c : Ctx) (m : Msg) (wok : Bool) :
    writesOf (c.handleMsg m wok).2.1 = [] ∨ writesOf (c.handleMsg m wok).2.1 = [m.pkt] := by
  cases m with
  | ff pkt s =>
    rcases Ctx.handleMsg_ff_cases c pkt s wok with ⟨_, e⟩ | ⟨_, _, e⟩ | ⟨_, _, e⟩ <;> rw [e]
    · exact Or.inl rfl
    · exact Or.inr rfl
    · exact Or.inr rfl
  | awaitAck aid pkt s =>
    rcases Ctx.handleMsg_awaitAck_cases c aid pkt s wok with ⟨_, e⟩ | ⟨_, _, _, e⟩ | ⟨_, _, _, e⟩ | ⟨_, _, _, e⟩ <;>
      rw [e]
    · exact Or.inl rfl
    · exact Or.inl rfl
    · exact Or.inr rfl
    · exact Or.inr rfl
  | subscribe aid sid pkt s ch =>
    rcases Ctx.handleMsg_subscribe_cases c aid sid pkt s ch wok with ⟨_, e⟩ | ⟨_, e⟩ <;> rw [e]
    · exact Or.inl rfl
    · exact Or.inr rfl

namespace Ctx

theorem handlePkt_writes (c : Ctx) (alive : Nat → Bool) (p : RxPacket) (wok : Bool) :
    writesOf (c.handlePkt alive p wok).2.1 =
      match p with
      | .publish pb =>
        (match pb.packetId with
         | none => []
         | some pid => [ackBytes (if pb.qos = 1 then 0x40 else 0x50) pid])
      | .pubrel a => [ackBytes 0x70 a.packetId]
      | _ => [] := by
  cases p with
  | publish pb => simp only [handlePkt_publish_eq]; split <;> cases pb.packetId <;> simp
  | _ => simp [handlePkt]

theorem handlePkt_retx (c : Ctx) (alive : Nat → Bool) (p : RxPacket) (wok : Bool) :
    (c.handlePkt alive p wok).1.retx =
      match p with
      | .puback a => eraseFirst (actionId 4 a.packetId) c.retx
      | .pubrec a => eraseFirst (actionId 5 a.packetId) c.retx
      | .pubcomp a => eraseFirst (actionId 7 a.packetId) c.retx
      | _ => c.retx := by
  cases p with
  | publish pb => rw [handlePkt_publish_eq]
  | pubrec a => simp only [handlePkt, complete_fst]; split <;> simp
  | _ => simp [handlePkt, complete_fst]

theorem handlePkt_retx_cases (c : Ctx) (alive : Nat → Bool) (p : RxPacket) (wok : Bool) :
    (c.handlePkt alive p wok).1.retx = c.retx ∨
    ∃ aid, rxActionId p = some aid ∧ (c.handlePkt alive p wok).1.retx = eraseFirst aid c.retx := by
  rw [handlePkt_retx]
  cases p with
  | puback a | pubrec a | pubcomp a => exact Or.inr ⟨_, rfl, rfl⟩
  | _ => exact Or.inl rfl

theorem handlePkt_awaiting_sublist (c : Ctx) (alive : Nat → Bool) (p : RxPacket) (wok : Bool) :
    (c.handlePkt alive p wok).1.awaiting.Sublist c.awaiting := by
  cases p.kind with
  | publish pb => rw [handlePkt_publish_eq]; exact .refl _
  | pubrel a | disconnect d => exact .refl _
  | idle p _ _ hi => rw [hi]; exact .refl _
  | ack p aid h hrel => rw [handlePkt_ack_eq c alive p wok aid h hrel]; exact eraseFirst_sublist _ _

theorem handlePkt_retx_sublist (c : Ctx) (alive : Nat → Bool) (p : RxPacket) (wok : Bool) :
    (c.handlePkt alive p wok).1.retx.Sublist c.retx := by
  rcases handlePkt_retx_cases c alive p wok with e | ⟨aid, _, e⟩ <;> rw [e]
  · exact List.Sublist.refl _
  · exact eraseFirst_sublist _ _

theorem handlePkt_frame (c : Ctx) (alive : Nat → Bool) (p : RxPacket) (wok : Bool) :
    (c.handlePkt alive p wok).1.recvMax = c.recvMax ∧ (c.handlePkt alive p wok).1.maxPkt = c.maxPkt := by
  cases p.kind with
  | publish pb => rw [handlePkt_publish_eq]; exact ⟨rfl, rfl⟩
  | pubrel a | disconnect d => exact ⟨rfl, rfl⟩
  | idle p _ _ hi => rw [hi]; exact ⟨rfl, rfl⟩
  | ack p aid h hrel => rw [handlePkt_ack_eq c alive p wok aid h hrel]; exact ⟨rfl, rfl⟩

theorem handlePkt_quota (c : Ctx) (alive : Nat → Bool) (p : RxPacket) (wok : Bool) :
    (c.handlePkt alive p wok).1.quota = if World.W11.freesSlot p then c.bump.quota else c.quota := by
  cases p.kind with
  | publish pb => rw [handlePkt_publish_eq]; rfl
  | pubrel a | disconnect d => rfl
  | idle p h _ hi => rw [hi]; cases p <;> first | rfl | cases h
  | ack p aid h hrel => rw [handlePkt_ack_eq c alive p wok aid h hrel]

theorem handlePkt_inQos2 (c : Ctx) (alive : Nat → Bool) (p : RxPacket) (wok : Bool) :
    (c.handlePkt alive p wok).1.inQos2 =
      match p with
      | .publish pb =>
        if pb.qos = 2 ∧ pb.packetId.getD 0 ∉ c.inQos2 then c.inQos2 ++ [pb.packetId.getD 0] else c.inQos2
      | .pubrel a => c.inQos2.filter (· ≠ a.packetId)
      | _ => c.inQos2 := by
  cases p with
  | publish pb => by_cases h2 : pb.qos = 2 <;> simp [handlePkt_publish_eq, h2]
  | pubrec a => simp only [handlePkt, complete_fst]; split <;> simp
  | _ => simp [handlePkt, complete_fst]

theorem handlePkt_subs (c : Ctx) (alive : Nat → Bool) (p : RxPacket) (wok : Bool) :
    (c.handlePkt alive p wok).1.subs =
      match p with
      | .publish pb =>
        if pb.qos = 2 ∧ pb.packetId.getD 0 ∈ c.inQos2 then c.subs else (dispatch alive pb pb.subIds c.subs).1
      | _ => c.subs := by
  cases p with
  | publish pb => simp only [handlePkt_publish_eq]; split <;> rfl
  | pubrec a => simp only [handlePkt, complete_fst]; split <;> simp
  | _ => simp [handlePkt, complete_fst]

theorem handlePkt_subs_other (c : Ctx) (alive : Nat → Bool) (p : RxPacket) (wok : Bool) (hp : ∀ pb, p ≠ .publish pb) :
    (c.handlePkt alive p wok).1.subs = c.subs := by
  rw [handlePkt_subs]
  cases p with
  | publish pb => exact absurd rfl (hp pb)
  | _ => rfl

theorem handlePkt_subs_sublist (c : Ctx) (alive : Nat → Bool) (p : RxPacket) (wok : Bool) :
    (c.handlePkt alive p wok).1.subs.Sublist c.subs := by
  rw [handlePkt_subs]
  split
  · split
    · exact List.Sublist.refl _
    · exact dispatch_sublist _ _ _ _
  · exact List.Sublist.refl _

theorem handleMsg_frame (c : Ctx) (m : Msg) (wok : Bool) :
    (c.handleMsg m wok).1.recvMax = c.recvMax ∧ (c.handleMsg m wok).1.maxPkt = c.maxPkt ∧
    (c.handleMsg m wok).1.inQos2 = c.inQos2 := by
  rw [handleMsg_eq_delta]; exact ⟨rfl, rfl, rfl⟩

theorem handleMsg_quota_le (c : Ctx) (m : Msg) (wok : Bool) : (c.handleMsg m wok).1.quota ≤ c.quota := by
  rw [handleMsg_eq_delta]; exact Nat.sub_le _ _

theorem stepIn_inQos2_cases (c : Ctx) (i : CIn) :
    (c.stepIn i).1.inQos2 = c.inQos2 ∨
    (∃ pb dead wok, i = .pkt (.publish pb) dead wok ∧ pb.qos = 2 ∧ pb.packetId.getD 0 ∉ c.inQos2 ∧
      (c.stepIn i).1.inQos2 = c.inQos2 ++ [pb.packetId.getD 0]) ∨
    ∃ a, (c.stepIn i).1.inQos2 = c.inQos2.filter (· ≠ a) := by
  cases i with
  | msg m wok => exact Or.inl (handleMsg_frame c m wok).2.2
  | pkt p dead wok =>
    simp only [stepIn]
    rw [handlePkt_inQos2]
    cases p with
    | publish pb =>
      by_cases h : pb.qos = 2 ∧ pb.packetId.getD 0 ∉ c.inQos2
      · exact Or.inr (Or.inl ⟨pb, dead, wok, rfl, h.1, h.2, if_pos h⟩)
      · exact Or.inl (if_neg h)
    | pubrel a => exact Or.inr (Or.inr ⟨a.packetId, rfl⟩)
    | _ => exact Or.inl rfl

end Ctx

theorem step_inQos2_nodup (c : Ctx) (i : CIn) (h : c.inQos2.Nodup) : (c.stepIn i).1.inQos2.Nodup := by
  rcases c.stepIn_inQos2_cases i with e | ⟨pb, _, _, _, _, hn, e⟩ | ⟨a, e⟩ <;> rw [e]
  · exact h
  · exact List.nodup_append.mpr ⟨h, by simp, fun a ha b hb => by
      rw [List.mem_singleton.mp hb]; exact fun hab => hn (hab ▸ ha)⟩
  · exact h.filter _

theorem step_inQos2_range (c : Ctx) (i : CIn) (hi : i.wf) (h : ∀ x ∈ c.inQos2, 0 < x ∧ x < 65536) :
    ∀ x ∈ (c.stepIn i).1.inQos2, 0 < x ∧ x < 65536 := by
  rcases c.stepIn_inQos2_cases i with e | ⟨pb, _, _, rfl, hq, _, e⟩ | ⟨a, e⟩ <;> rw [e]
  · exact h
  · obtain ⟨_, hiff, hrange⟩ : pb.wf := hi
    intro x hx
    rcases List.mem_append.mp hx with hx | hx
    · exact h x hx
    · rw [List.mem_singleton.mp hx]
      cases hp : pb.packetId with
      | none => have := hiff.mpr hp; omega
      | some pid => exact hrange pid hp
  · exact fun x hx => h x (List.mem_filter.mp hx).1

end Poster

/-
  Lemmas/WorldSelectCommute.lean — when the order in which `select!` hands a queued message and a ready inbound
  packet to their handlers does not matter (`Ctx.handle_commute`).

  `handle_message` changes the context by a *delta* that depends on the context only through the packet-size limit
  and "is the send quota 0" (`msgDelta`, `handleMsg_eq_delta`, Lemmas/CtxMsg.lean): it takes at most one quota slot and appends at most
  one entry to `awaiting`, `retx`, `subs`. `handle_packet` commutes with such a delta (`handlePkt_app`) unless
    * the packet is addressed to the very action identifier the message registers (the answer overtakes the request:
      impossible with a real broker, which has not seen the request yet), or is a PUBLISH for the very subscription
      identifier the message registers;
    * the packet frees a quota slot (PUBACK, PUBCOMP, refusing PUBREC) while the message needs one and the quota is at
      one of its ends (0: the one real race; Receive Maximum: a duplicate acknowledgement — not a conformant broker).
  `Ctx.Indep` excludes these for a delta, `Ctx.NoRace` for a message (`NoRace.indep`).
-/
import PosterModel.Lemmas.WorldCtx
import PosterModel.Lemmas.WorldOwnAct
import PosterModel.Lemmas.UserCtx

namespace Poster

/-- an inbound packet that leaves the send quota alone: not PUBACK, PUBCOMP, or a PUBREC that refuses
    (the negation of `World.W11.freesSlot`: `neutral_eq`) -/
def RxPacket.neutral : RxPacket → Bool
  | .puback _ => false
  | .pubcomp _ => false
  | .pubrec a => decide (a.reason < 128)
  | _ => true

theorem RxPacket.neutral_eq (p : RxPacket) : p.neutral = !World.W11.freesSlot p := by
  cases p with
  | pubrec a => by_cases h : a.reason ≥ 128 <;> simp [RxPacket.neutral, World.W11.freesSlot, h] <;> omega
  | _ => rfl

namespace Ctx

theorem dispatch_append (alive : Nat → Bool) (pb : PublishRx) (sids : List Nat) (subs a : List (Nat × Nat))
    (h : ∀ sid ∈ sids, sid ∉ a.map (·.1)) :
    dispatch alive pb sids (subs ++ a) = ((dispatch alive pb sids subs).1 ++ a, (dispatch alive pb sids subs).2) := by
  refine dispatch_induct (motive := fun sids subs r => (∀ sid ∈ sids, sid ∉ a.map (·.1)) →
    dispatch alive pb sids (subs ++ a) = (r.1 ++ a, r.2)) ?_ ?_ ?_ ?_ sids subs h
  · exact fun _ _ => rfl
  · intro sid rest subs r hl ih h
    rw [dispatch_cons_absent _ _ _ _ _ ((lookupFirst_append_absent sid subs a (h sid List.mem_cons_self)).trans hl)]
    exact ih fun s hs => h s (List.mem_cons_of_mem _ hs)
  · intro sid ch rest subs r hl ha ih h
    rw [dispatch_cons_alive _ _ _ _ _ _ ((lookupFirst_append_absent sid subs a (h sid List.mem_cons_self)).trans hl) ha,
      ih fun s hs => h s (List.mem_cons_of_mem _ hs)]
  · intro sid ch rest subs r hl ha ih h
    have h1 := h sid List.mem_cons_self
    rw [dispatch_cons_dead _ _ _ _ _ _ ((lookupFirst_append_absent sid subs a h1).trans hl) ha,
      eraseFirst_append_absent sid subs a h1, ih fun s hs => h s (List.mem_cons_of_mem _ hs)]

theorem app_bump (d : MsgDelta) (c : Ctx) (h : d.dq = 0 ∨ (d.dq = 1 ∧ 0 < c.quota ∧ c.quota < c.recvMax)) :
    (d.app c).bump = d.app c.bump := by
  have hq : (if c.quota - d.dq ≠ c.recvMax then c.quota - d.dq + 1 else c.quota - d.dq) =
      (if c.quota ≠ c.recvMax then c.quota + 1 else c.quota) - d.dq := by
    rcases h with h | ⟨h, h1, h2⟩
    · rw [h]; rfl
    · rw [h, if_pos (Nat.ne_of_lt (Nat.lt_of_le_of_lt (Nat.sub_le _ _) h2)), if_pos (Nat.ne_of_lt h2)]
      exact Nat.sub_add_cancel h1
  rw [bump_eq, bump_eq]
  exact congrArg (fun q => ({ c with quota := q, awaiting := c.awaiting ++ d.aw, retx := c.retx ++ d.rt,
                                     subs := c.subs ++ d.sb } : Ctx)) hq

theorem app_complete (d : MsgDelta) (c : Ctx) (aid : Nat) (p : RxPacket) (h : aid ∉ d.aw.map (·.1)) :
    (d.app c).complete aid p = (d.app (c.complete aid p).1, (c.complete aid p).2) := by
  unfold complete
  have : (d.app c).awaiting = c.awaiting ++ d.aw := rfl
  rw [this, removeFirst_append_absent aid c.awaiting d.aw h]
  cases removeFirst aid c.awaiting with
  | none => rfl
  | some x => obtain ⟨s, rest⟩ := x; rfl

theorem app_retx (d : MsgDelta) (c : Ctx) (id : Nat) (h : id ∉ d.rt.map (·.1)) :
    ({ d.app c with retx := eraseFirst id (d.app c).retx } : Ctx) = d.app { c with retx := eraseFirst id c.retx } := by
  have : (d.app c).retx = c.retx ++ d.rt := rfl
  rw [this, eraseFirst_append_absent id c.retx d.rt h]
  rfl

/-- the packet does not interfere with the delta `d` applied to `c` -/
structure Indep (d : MsgDelta) (c : Ctx) (p : RxPacket) : Prop where
  aw : ∀ id, rxActionId p = some id → id ∉ d.aw.map (·.1)
  rt : ∀ id, rxActionId p = some id → id ∉ d.rt.map (·.1)
  sb : ∀ pb, p = .publish pb → ∀ sid ∈ pb.subIds, sid ∉ d.sb.map (·.1)
  quota : d.dq = 0 ∨ p.neutral = true ∨ (d.dq = 1 ∧ 0 < c.quota ∧ c.quota < c.recvMax)

theorem Indep.slot {d : MsgDelta} {c : Ctx} {p : RxPacket} (h : Indep d c p) (hn : p.neutral = false) :
    d.dq = 0 ∨ (d.dq = 1 ∧ 0 < c.quota ∧ c.quota < c.recvMax) := by
  rcases h.quota with h1 | h1 | h1
  · exact Or.inl h1
  · rw [hn] at h1; cases h1
  · exact Or.inr h1

-- not `app_retx d c.bump`, and not the refusing-PUBREC arm of `handlePkt_app` either: `handle_packet` reads `retx` BEFORE the
-- bump for PUBACK / PUBCOMP and AFTER it for PUBREC, and the two shapes differ by `bump_retx` under a structure literal
theorem app_ack (d : MsgDelta) (c : Ctx) (id : Nat) (p : RxPacket)
    (hq : d.dq = 0 ∨ (d.dq = 1 ∧ 0 < c.quota ∧ c.quota < c.recvMax)) (hrt : id ∉ d.rt.map (·.1))
    (haw : id ∉ d.aw.map (·.1)) :
    ({ (d.app c).bump with retx := eraseFirst id (d.app c).retx } : Ctx).complete id p =
      (d.app (({ c.bump with retx := eraseFirst id c.retx } : Ctx).complete id p).1,
        (({ c.bump with retx := eraseFirst id c.retx } : Ctx).complete id p).2) := by
  rw [app_bump d c hq,
    show ({ d.app c.bump with retx := eraseFirst id (d.app c).retx } : Ctx) =
        d.app { c.bump with retx := eraseFirst id c.retx } from by
      rw [show (d.app c).retx = c.retx ++ d.rt from rfl, eraseFirst_append_absent _ c.retx d.rt hrt]; rfl]
  exact app_complete d _ _ _ haw

theorem handlePkt_app (d : MsgDelta) (c : Ctx) (alive : Nat → Bool) (p : RxPacket) (wok : Bool) (h : Indep d c p) :
    (d.app c).handlePkt alive p wok = (d.app (c.handlePkt alive p wok).1, (c.handlePkt alive p wok).2) := by
  cases p with
  | connack _ | auth _ | disconnect _ | pubrel _ => rfl
  | suback a | unsuback a | pingresp => simp only [handlePkt]; rw [app_complete d c _ _ (h.aw _ rfl)]
  | puback a | pubcomp a => simp only [handlePkt]; rw [app_ack d c _ _ (h.slot rfl) (h.rt _ rfl) (h.aw _ rfl)]
  | pubrec a =>
    simp only [handlePkt]
    by_cases hr : a.reason ≥ 128
    · simp only [hr, ↓reduceIte]
      rw [app_bump d c (h.slot (by simp only [RxPacket.neutral, decide_eq_false_iff_not]; omega)),
        app_retx d c.bump _ (h.rt _ rfl), app_complete d _ _ _ (h.aw _ rfl)]
    · simp only [hr, ↓reduceIte]
      rw [app_retx d c _ (h.rt _ rfl), app_complete d _ _ _ (h.aw _ rfl)]
  | publish pb =>
    -- the dispatch loop finds the same subscriptions, with the delta's entries behind them
    have hD : ∀ redel : Prop, [Decidable redel] →
        (if redel then ((d.app c).subs, []) else dispatch alive pb pb.subIds (d.app c).subs) =
          ((if redel then (c.subs, []) else dispatch alive pb pb.subIds c.subs).1 ++ d.sb,
           (if redel then (c.subs, []) else dispatch alive pb pb.subIds c.subs).2) := by
      intro redel _
      by_cases hr : redel
      · rw [if_pos hr, if_pos hr]; rfl
      · rw [if_neg hr, if_neg hr]; exact dispatch_append alive pb pb.subIds c.subs d.sb (h.sb pb rfl)
    rw [handlePkt_publish_eq, handlePkt_publish_eq]
    simp only [show (d.app c).inQos2 = c.inQos2 from rfl, hD]
    rfl

/-- the message `m` and the inbound packet `p` do not race in the context `c`: the packet is not the answer to this
    very request, is not a PUBLISH for the subscription this request creates, and — if the request is a QoS>0 PUBLISH —
    the packet leaves the send quota alone or the quota is strictly between 0 and Receive Maximum -/
structure NoRace (c : Ctx) (m : Msg) (p : RxPacket) : Prop where
  aid : ∀ id, m.aid = some id → rxActionId p ≠ some id
  sub : ∀ sid pb, m.subId? = some sid → p = .publish pb → sid ∉ pb.subIds
  quota : m.isPub = true → p.neutral = true ∨ (0 < c.quota ∧ c.quota < c.recvMax)

theorem NoRace.indep {c : Ctx} {m : Msg} {p : RxPacket} (h : NoRace c m p) (mp : Bytes → Bool) (qz wok : Bool) :
    Indep (msgDelta mp qz m wok).1 c p := by
  have k := msgDelta_keys mp qz m wok
  refine ⟨fun id hid hm => h.aid id (k.aw_key id hm) hid, fun id hid hm => h.aid id (k.rt_key id hm) hid,
    fun pb hp sid hs hm => h.sub sid pb (k.sb_key sid hm) hp hs, ?_⟩
  by_cases h0 : (msgDelta mp qz m wok).1.dq = 0
  · exact Or.inl h0
  · have h1 : (msgDelta mp qz m wok).1.dq = 1 := by have := k.dq_le; omega
    rcases h.quota (k.dq_pub h1).1 with hn | hn
    · exact Or.inr (Or.inl hn)
    · exact Or.inr (Or.inr ⟨h1, hn⟩)

theorem bump_quota_ge (c : Ctx) : c.quota ≤ c.bump.quota := by unfold bump; split <;> simp

theorem handlePkt_view (c : Ctx) (alive : Nat → Bool) (p : RxPacket) (wok : Bool)
    (h : p.neutral = true ∨ 0 < c.quota) :
    decide ((c.handlePkt alive p wok).1.quota = 0) = decide (c.quota = 0) := by
  have key : p.neutral = false → decide (c.bump.quota = 0) = decide (c.quota = 0) := by
    intro hn
    have h0 : 0 < c.quota := h.resolve_left (by rw [hn]; nofun)
    have hb := bump_quota_ge c
    rw [decide_eq_false (by omega : ¬ c.bump.quota = 0), decide_eq_false (by omega : ¬ c.quota = 0)]
  rw [handlePkt_quota]
  cases hf : World.W11.freesSlot p
  · rfl
  · exact key (by rw [RxPacket.neutral_eq, hf]; rfl)

theorem handle_commute (c : Ctx) (m : Msg) (p : RxPacket) (alive : Nat → Bool) (wm wp : Bool) (h : NoRace c m p) :
    ((c.handleMsg m wm).1.handlePkt alive p wp).1 = ((c.handlePkt alive p wp).1.handleMsg m wm).1 ∧
    (c.handleMsg m wm).2 = ((c.handlePkt alive p wp).1.handleMsg m wm).2 ∧
    ((c.handleMsg m wm).1.handlePkt alive p wp).2 = (c.handlePkt alive p wp).2 := by
  rw [handleMsg_eq_delta c m wm, handleMsg_eq_delta (c.handlePkt alive p wp).1 m wm]
  simp only
  -- the message's delta is the same before and after the packet
  have hd : msgDelta (c.handlePkt alive p wp).1.sizeOk (decide ((c.handlePkt alive p wp).1.quota = 0)) m wm =
      msgDelta c.sizeOk (decide (c.quota = 0)) m wm :=
    msgDelta_congr m wm (handlePkt_frame c alive p wp).2 fun hp =>
      decide_eq_decide.mp (handlePkt_view c alive p wp ((h.quota hp).imp id (·.1)))
  rw [hd, handlePkt_app _ c alive p wp (h.indep _ _ _)]
  exact ⟨rfl, rfl, rfl⟩

end Ctx
end Poster

/-
  Lemmas/WorldCancelVeilInv.lean — the side conditions under which `veil id` commutes with the executor and the script
  events, and their preservation: stream `id` is frozen and no operation is named `id`; no queued request registers
  channel `id`; the subscription identifiers in flight are pairwise distinct; no `subscribe()` future is waiting for its
  first poll (so no new subscription identifier is allocated — the identifiers in flight can only disappear).
-/
import PosterModel.Lemmas.WorldCancelVeilUser
import PosterModel.Lemmas.WorldStreamStep

namespace Poster
open Framing
namespace World
namespace W11

/-- no `subscribe()` future is waiting for its first poll -/
def NoFreshSub (w : World) : Prop := ∀ j h t, (j, OpSt.fresh h (.subscribe t)) ∉ w.ops

def isSubEv : Ev → Bool
  | .op _ _ (.subscribe _) => true
  | _ => false

/-- what the commutation of `veil id` needs of a world -/
structure SideV (id : Nat) (w : World) : Prop where
  frozen : FrozenSt id w
  noMsg : NoMsgFor id w
  nodup : (psids w).Nodup
  noSub : NoFreshSub w

theorem SideV.ctxOK {id : Nat} {w : World} (h : SideV id w) : CtxOK id w := ⟨h.noMsg, h.nodup⟩

theorem strace_subFrame {tr : List SLab} {w w' : World} (t : STrace w tr w') (h : ∀ l ∈ tr, l.started = none) :
    SubFrame w w' := by
  induction t with
  | refl => exact subFrame_refl _
  | @cons a b c l tr' m _ ih =>
    have hl : l.started = none := h l (by simp)
    rcases m.subRel with ⟨_, sf⟩ | ⟨hne, _⟩
    · exact subFrame_trans sf (ih (fun l' hl' => h l' (by simp [hl'])))
    · exact absurd hl hne

theorem pollCtx_subFrame (w : World) : SubFrame w w.pollCtx := by
  obtain ⟨tr, st, hl⟩ := (pollCtx_tr w).dec
  refine strace_subFrame st (fun l hm => ?_)
  rcases hl l hm with rfl | ⟨src, rfl⟩ <;> rfl

theorem pollOp_streams (w : World) (id : Nat) : (w.pollOp id).streams = w.streams :=
  pollOp_steps (R := fun w w' => w'.streams = w.streams) (fun _ => rfl) (fun h1 h2 => h2.trans h1)
    (fun _ _ _ _ _ => rfl) (fun _ hp => by cases hp <;> rfl)
    (fun {_ _ w0} o _ _ _ => by obtain ⟨wk, qr, e⟩ := endOp_shape w0 id o; rw [e])
    (fun {_ _ w0} m s k _ _ _ hc => by obtain ⟨wk, qr, e⟩ := User.sendAwait_ctx w0 m id s k hc; rw [e]) w

theorem pollTask_streams_sub (w : World) (t : Task) (n : Nat) (h : n ∈ (w.pollTask t).streams) : n ∈ w.streams := by
  cases t with
  | ctx => exact (pollCtx_ctxFrame (w.unwake .ctx)).streams ▸ h
  | op id => exact pollOp_streams (w.unwake (.op id)) id ▸ h
  | st id =>
    have h' : n ∈ ((w.unwake (.st id)).pollStream id).streams := h
    obtain ⟨_, _, _, _, e, hst⟩ := pollStream_footprint (w.unwake (.st id)) id
    rw [e] at h'; exact hst n h'

theorem kept_pollTask {Q : Msg → Prop} {A : Nat × Nat → Prop} {R : Nat × Bytes → Prop} (f : KeptFlow Q A R) (w : World)
    (t : Task) (h : W7.Kept Q A R w) (start : ∀ id hd req, w.opSt id = some (.fresh hd req) → Q (w.reqMsg id req))
    (rel : ∀ id s a, w.opSt id = some (.wait s .pubrec) → w.slot s = some (.full (.pkt (.pubrec a))) →
      a.reason < 128 → Q (W7.pubrelMsg a.packetId (s + 1))) : W7.Kept Q A R (w.pollTask t) := by
  cases t with
  | ctx => exact W7.Kept.pollCtx f (w.unwake .ctx) (h.congr rfl rfl rfl)
  | op j => exact W7.Kept.micro f (.user w (.op j) nofun) h start rel
  | st j => exact W7.Kept.micro f (.user w (.st j) nofun) h start rel

theorem reqMsg_nosub (w : World) (j : Nat) (req : Req) (hr : ∀ t, req ≠ .subscribe t) (id : Nat) :
    isSubFor id (w.reqMsg j req) = false := by
  cases req with
  | publish t => simp only [reqMsg]; split <;> rfl
  | subscribe t => exact absurd rfl (hr t)
  | _ => rfl

theorem NoFreshSub.opSt {w : World} (h : NoFreshSub w) (j hd : Nat) (t : SubscribeTx) :
    w.opSt j ≠ some (.fresh hd (.subscribe t)) := fun e => h j hd t (mem_of_opSt e)

theorem SideV.pollTask {id : Nat} {w : World} (h : SideV id w) (t : Task) (ht : t ≠ .st id) (ho : t ≠ .op id) :
    SideV id (w.pollTask t) := by
  -- no queued request registers channel `id`: a future's first message is that of its request, which is no `subscribe()`
  have kept : W7.Kept (fun m => isSubFor id m = false) (fun _ => True) (fun _ => True) (w.pollTask t) := by
    refine kept_pollTask ⟨fun _ _ _ _ => trivial, fun _ _ _ _ _ => trivial, fun _ _ _ _ _ => trivial⟩ w t
      ⟨h.noMsg, fun _ _ => trivial, fun _ _ => trivial⟩ (fun j hd req hst => reqMsg_nosub w j req (fun tx e => h.noSub.opSt j hd tx (e ▸ hst)) id)
      (fun _ _ _ _ _ _ => rfl)
  have hfr : FrozenSt id (w.pollTask t) := by
    refine ⟨by rw [pollTask_opSt_ne w t id ho]; exact h.frozen.noOp, ?_⟩
    rcases h.frozen.st with hs | hs
    · exact Or.inl (fun hm => hs (pollTask_streams_sub w t id hm))
    · exact Or.inr (by rw [(pollTask_pollFrame _ _).held]; exact hs)
  have hns : NoFreshSub (w.pollTask t) := fun j hd tx hm => h.noSub j hd tx (W7.moves_fresh (pollTask_moves w t) hm)
  refine ⟨hfr, kept.queue, ?_, hns⟩
  cases t with
  | ctx => exact (pollCtx_subFrame (w.unwake .ctx)).2.1 h.nodup
  | op j =>
    show (psids ((w.unwake (.op j)).pollOp j)).Nodup
    rw [psids_pollOp (w.unwake (.op j)) j (fun hd tx => h.noSub.opSt j hd tx)]
    exact h.nodup
  | st j =>
    have hq : (w.pollTask (.st j)).queue = w.queue := W7.pollStream_queue (w.unwake (.st j)) j
    have hc : (w.pollTask (.st j)).c = w.c := pollStream_c (w.unwake (.st j)) j
    unfold psids; rw [hq, hc]; exact h.nodup

theorem SideV.emit {id : Nat} {w : World} (h : SideV id w) (o : Obs) : SideV id (w.emit o) :=
  ⟨⟨h.frozen.noOp, h.frozen.st⟩, h.noMsg, h.nodup, h.noSub⟩

theorem applied_streams_sub {id : Nat} {w w' : World} {e : Ev} (a : Applied w e w') (hm : mineStEv id e = false)
    (h : id ∈ w'.streams) : id ∈ w.streams := by
  cases a.norm with
  | stream j _ =>
    have hj : j ≠ id := by simpa [mineStEv] using hm
    exact (List.mem_append.mp h).resolve_right fun h' => hj (List.mem_singleton.mp h').symm
  | poll t _ => exact pollTask_streams_sub w t id h
  | dropStream j _ => exact (List.mem_filter.mp h).1
  | _ => exact h

theorem psids_congr {w w' : World} (hq : w'.queue = w.queue) (hs : w'.c.subs = w.c.subs) : psids w' = psids w := by
  unfold psids; rw [hq, hs]

/-- a script event other than `poll` allocates no subscription identifier: those in flight can only disappear -/
theorem applied_psids_sublist {w w' : World} {e : Ev} (a : Applied w e w') (hp : ∀ t, e ≠ .poll t) :
    (psids w').Sublist (psids w) := by
  cases a.norm with
  | poll t _ => exact absurd rfl (hp t)
  | newCtx _ _ _ _ _ =>
    show (w.queue.filterMap Msg.sid? ++ []).Sublist _
    rw [List.append_nil]; exact List.sublist_append_left _ _
  | dropCtx _ => exact List.nil_sublist _
  | _ => exact List.Sublist.refl _

theorem apply_noFreshSub (w : World) (e : Ev) (hs : isSubEv e = false) (h : NoFreshSub w) : NoFreshSub (w.apply e) := by
  rcases apply_decomp w e with ⟨j, hd, req, rfl, ha⟩ | hmv
  · intro j' hd' t hm
    rw [ha.ops] at hm
    rcases List.mem_append.mp hm with hm | hm
    · exact h j' hd' t hm
    · simp only [List.mem_singleton, Prod.mk.injEq, OpSt.fresh.injEq] at hm
      obtain ⟨_, _, e3⟩ := hm
      subst e3
      simp [isSubEv] at hs
  · exact fun j hd t hm => h j hd t (W7.moves_fresh hmv hm)

theorem SideV.apply {id : Nat} {w : World} (h : SideV id w) (e : Ev) (hm : mineEv id e = false)
    (hms : mineStEv id e = false) (hs : isSubEv e = false) : SideV id (w.apply e) := by
  by_cases hp : ∃ t, e = .poll t
  · obtain ⟨t, rfl⟩ := hp
    have ht : t ≠ .st id := by intro e'; subst e'; simp [mineStEv] at hms
    have ho : t ≠ .op id := mineEv_task hm rfl
    simp only [World.apply]
    split
    · exact h.pollTask t ht ho
    · exact h
  · have hp' : ∀ t, e ≠ .poll t := fun t e' => hp ⟨t, e'⟩
    refine ⟨⟨apply_opSt_none id w e hm h.frozen.noOp, ?_⟩, (W7.Kept.applied (A := fun _ => True) (R := fun _ => True) ⟨h.noMsg, fun _ _ => trivial, fun _ _ => trivial⟩
        (apply_spec w e) hp').queue,
      (applied_psids_sublist (apply_spec w e) hp').nodup h.nodup, apply_noFreshSub w e hs h.noSub⟩
    rcases h.frozen.st with hst | hst
    · exact Or.inl (fun hmem => hst (applied_streams_sub (apply_spec w e) hms hmem))
    · refine Or.inr (apply_held_mem_task (.st id) w e ?_ hst)
      intro e'; subst e'; simp [mineStEv] at hms

end W11
end World
end Poster

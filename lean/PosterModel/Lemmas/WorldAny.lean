/-
  Lemmas/WorldAny.lean — whole scripts executed with EVERY poll of `run()` resolved by an arbitrary scheduler:
  `DrainAny`, `SweepAny`, `ApplyAny`, `StepAny`, `StepsAny` mirror `World.drain`, `World.sweep`, `World.apply`,
  `World.step` and `List.foldl World.step`, except that a poll of a task is any `PollTaskAny`. `World.step` is one
  resolution (`stepAny_step`, `stepsAny_foldl`), so whatever holds along every `StepsAny` holds along every script.
  `AnyInv I` is the list of obligations — every possible poll of a live task, `apply`, `emit` — under which `I` holds at
  every grain; its `poll` is met through `pollTaskAny_cases` (the context task under some scheduler: `pollCtxS_via`,
  Lemmas/WorldWalk.lean; any other task: `pollTask_userMove`). Also here: what a line of a log can be under every resolution
  (`stepsAny_line`) and, for the model's own run, that the `EV` lines of a transcript are a sublist of the script
  (`W7.evLines_steps`, `W7.run_ev_lines`).
-/
import PosterModel.Lemmas.WorldWalk
import PosterModel.Lemmas.WorldApplied
import PosterModel.Lemmas.WorldOutcome

namespace Poster
open Framing
namespace World

theorem runLoopAny_runLoop (w : World) : RunLoopAny w (runLoop w.loopFuel w) :=
  ⟨fun _ => false, (runLoop_is_a_resolution _ _).symm⟩

theorem pollCtxAny_pollCtx (w : World) : PollCtxAny w w.pollCtx := ⟨fun _ => false, (pollCtxS_false w).symm⟩

theorem pollTaskAny_cases {w : World} {t : Task} {w' : World} (h : PollTaskAny w t w') :
    (t = .ctx ∧ ∃ sched, w' = (w.unwake .ctx).pollCtxS sched) ∨ (t ≠ .ctx ∧ w' = w.pollTask t) := by
  obtain ⟨sched, rfl⟩ := h
  cases t with
  | ctx => exact Or.inl ⟨rfl, sched, rfl⟩
  | op n => exact Or.inr ⟨nofun, rfl⟩
  | st n => exact Or.inr ⟨nofun, rfl⟩

inductive DrainAny : Nat → World → World → Prop
  | zero (w : World) : DrainAny 0 w w
  | idle (f : Nat) (w : World) : w.pick = none → DrainAny (f + 1) w w
  | poll (f : Nat) {w w1 w2 : World} (t : Task) : w.pick = some t → PollTaskAny w t w1 → DrainAny f w1 w2 →
      DrainAny (f + 1) w w2

/-- `exec=sweep` over a list of tasks -/
inductive SweepListAny : List Task → World → World → Prop
  | nil (w : World) : SweepListAny [] w w
  | poll {t : Task} {l : List Task} {w w1 w2 : World} : (w.taskLive t ∧ t ∉ w.woken ∧ t ∉ w.held) →
      PollTaskAny w t w1 → SweepListAny l w1 w2 → SweepListAny (t :: l) w w2
  | skip {t : Task} {l : List Task} {w w2 : World} : ¬ (w.taskLive t ∧ t ∉ w.woken ∧ t ∉ w.held) →
      SweepListAny l w w2 → SweepListAny (t :: l) w w2

/-- the tasks `sweep` goes through: `World.sweepTasks` (Lemmas/WorldLift.lean) -/
def selSweepTasks (w : World) : List Task :=
  [Task.ctx] ++ (sortNat (w.ops.map (·.1))).map Task.op ++ (sortNat w.streams).map Task.st

def SweepAny (w w' : World) : Prop := SweepListAny (selSweepTasks w) w w'

/-- a script event: only `poll` polls a task -/
def ApplyAny (w : World) (e : Ev) (w' : World) : Prop :=
  match e with
  | .poll t => if w.taskLive t then PollTaskAny w t w' else w' = w
  | _ => w' = w.apply e

/-- one script event: apply it, drain, (sweep, drain), stall check — as `World.step` -/
def StepAny (w : World) (e : Ev) (w' : World) : Prop :=
  if w.bad then w' = w else
  ∃ w1, ApplyAny (w.emit (.ev e)) e w1 ∧
    if w1.bad then w' = w1 else
    ∃ w2, DrainAny w1.drainFuel w1 w2 ∧
    ∃ w3, (if w2.cfg.sweep then ∃ ws, SweepAny w2 ws ∧ DrainAny ws.drainFuel ws w3 else w3 = w2) ∧
      w' = if w3.task ≠ .none ∧ w3.reader ≠ [] then w3.emit .stall else w3

inductive StepsAny : World → List Ev → World → Prop
  | nil (w : World) : StepsAny w [] w
  | cons {w w1 w2 : World} {e : Ev} {es : List Ev} : StepAny w e w1 → StepsAny w1 es w2 → StepsAny w (e :: es) w2

/-- `out` is a possible transcript of the script under some resolution of every `select!` -/
def RunAny (cfg : Cfg) (evs : List Ev) (out : List Obs) : Prop :=
  ∃ w, StepsAny { cfg := cfg } evs w ∧ out = w.finishScript.out

theorem drainAny_drain (f : Nat) (w : World) : DrainAny f w (drain f w) := by
  induction f generalizing w with
  | zero => exact .zero w
  | succ f ih =>
    simp only [drain]
    cases hp : w.pick with
    | none => exact .idle f w hp
    | some t => exact .poll f t hp (pollTaskAny_pollTask w t) (ih _)

theorem sweepAny_sweep (w : World) : SweepAny w w.sweep := by
  show SweepListAny w.sweepTasks w w.sweep
  rw [sweep_eq_fold]
  generalize w.sweepTasks = tasks
  induction tasks generalizing w with
  | nil => exact .nil w
  | cons t rest ih =>
    rw [List.foldl_cons, sweepF]
    by_cases hc : w.taskLive t ∧ t ∉ w.woken ∧ t ∉ w.held
    · rw [if_pos hc]; exact .poll hc (pollTaskAny_pollTask w t) (ih _)
    · rw [if_neg hc]; exact .skip hc (ih _)

theorem applyAny_apply (w : World) (e : Ev) : ApplyAny w e (w.apply e) := by
  cases e with
  | poll t =>
    show if w.taskLive t then PollTaskAny w t (if w.taskLive t then w.pollTask t else w) else (if w.taskLive t then w.pollTask t else w) = w
    by_cases hl : w.taskLive t = true
    · rw [if_pos hl, if_pos hl]; exact pollTaskAny_pollTask w t
    · rw [if_neg hl, if_neg hl]
  | _ => exact rfl

theorem ApplyAny.cases {w : World} {e : Ev} {w' : World} (h : ApplyAny w e w') :
    (∃ t, e = .poll t ∧ w.taskLive t = true ∧ PollTaskAny w t w') ∨ w' = w.apply e := by
  cases e with
  | poll t =>
    have h : if w.taskLive t then PollTaskAny w t w' else w' = w := h
    by_cases hl : w.taskLive t = true
    · rw [if_pos hl] at h; exact Or.inl ⟨t, rfl, hl, h⟩
    · rw [if_neg hl] at h; exact Or.inr (h.trans (if_neg hl).symm)
  | _ => exact Or.inr h

def ExecAny (w1 w3 : World) : Prop :=
  ∃ w2, DrainAny w1.drainFuel w1 w2 ∧
    (if w2.cfg.sweep then ∃ ws, SweepAny w2 ws ∧ DrainAny ws.drainFuel ws w3 else w3 = w2)

theorem execAny_drained (w : World) : ExecAny w (drained w) := by
  refine ⟨_, drainAny_drain _ w, ?_⟩
  unfold drained
  by_cases hs : (drain w.drainFuel w).cfg.sweep = true
  · simp only [if_pos hs]; exact ⟨_, sweepAny_sweep _, drainAny_drain _ _⟩
  · simp only [if_neg hs]

theorem stepAny_step (w : World) (e : Ev) : StepAny w e (w.step e) := by
  rw [step_eq_settle]
  unfold StepAny
  by_cases hb : w.bad = true
  · rw [if_pos hb, if_pos hb]
  · rw [if_neg hb, if_neg hb]
    refine ⟨_, applyAny_apply _ e, ?_⟩
    generalize (w.emit (.ev e)).apply e = w1
    rw [settle_eq]
    by_cases hb1 : w1.bad = true
    · rw [if_pos hb1, if_pos hb1]
    · rw [if_neg hb1, if_neg hb1]
      obtain ⟨w2, hd, hs⟩ := execAny_drained w1
      exact ⟨w2, hd, _, hs, rfl⟩

theorem stepsAny_foldl (evs : List Ev) (w : World) : StepsAny w evs (evs.foldl step w) := by
  induction evs generalizing w with
  | nil => exact .nil w
  | cons e t ih => exact .cons (stepAny_step w e) (ih _)

theorem runAny_run (cfg : Cfg) (evs : List Ev) : RunAny cfg evs (World.run cfg evs) :=
  ⟨_, stepsAny_foldl evs _, rfl⟩

theorem StepAny.cases {w : World} {e : Ev} {w' : World} (h : StepAny w e w') :
    (w.bad = true ∧ w' = w) ∨
    (w.bad = false ∧ ∃ w1, ApplyAny (w.emit (.ev e)) e w1 ∧
      ((w1.bad = true ∧ w' = w1) ∨
       (w1.bad = false ∧ ∃ w3, ExecAny w1 w3 ∧
          (w' = w3 ∨ (w3.task ≠ .none ∧ w3.reader ≠ [] ∧ w' = w3.emit .stall))))) := by
  unfold StepAny at h
  cases hb : w.bad with
  | true => rw [if_pos hb] at h; exact Or.inl ⟨rfl, h⟩
  | false =>
    rw [if_neg (by rw [hb]; nofun)] at h
    obtain ⟨w1, ha, h⟩ := h
    refine Or.inr ⟨rfl, w1, ha, ?_⟩
    cases hb1 : w1.bad with
    | true => rw [if_pos hb1] at h; exact Or.inl ⟨rfl, h⟩
    | false =>
      rw [if_neg (by rw [hb1]; nofun)] at h
      obtain ⟨w2, hd, w3, hs, rfl⟩ := h
      refine Or.inr ⟨rfl, w3, ⟨w2, hd, hs⟩, ?_⟩
      by_cases hc : w3.task ≠ .none ∧ w3.reader ≠ []
      · rw [if_pos hc]; exact Or.inr ⟨hc.1, hc.2, rfl⟩
      · rw [if_neg hc]; exact Or.inl rfl

/-! As `drain_lift` … `settle_lift` (Lemmas/WorldLift.lean). The executor polls only live tasks the script does not hold; a
`poll` event polls a live task, held or not. -/

section Lift
variable {R : World → World → Prop} (refl : ∀ w, R w w) (trans : ∀ {a b c}, R a b → R b c → R a c)
include refl trans

theorem DrainAny.lift (poll : ∀ {w t w'}, w.pick = some t → PollTaskAny w t w' → R w w') {f : Nat} {w w' : World}
    (h : DrainAny f w w') : R w w' := by
  induction h with
  | zero => exact refl _
  | idle => exact refl _
  | poll f t hp hpoll _ ih => exact trans (poll hp hpoll) ih

theorem SweepListAny.lift (poll : ∀ {w t w'}, (w.taskLive t ∧ t ∉ w.woken ∧ t ∉ w.held) → PollTaskAny w t w' → R w w')
    {l : List Task} {w w' : World} (h : SweepListAny l w w') : R w w' := by
  induction h with
  | nil => exact refl _
  | poll hc hp _ ih => exact trans (poll hc hp) ih
  | skip _ _ ih => exact ih

variable (poll : ∀ {w t w'}, w.taskLive t = true → t ∉ w.held → PollTaskAny w t w' → R w w')
include poll

theorem ExecAny.lift {w1 w3 : World} (h : ExecAny w1 w3) : R w1 w3 := by
  have hd : ∀ {f a b}, DrainAny f a b → R a b := fun h =>
    DrainAny.lift refl @trans (fun hp => poll (pick_some_spec _ _ hp).2.1 (pick_some_spec _ _ hp).2.2) h
  obtain ⟨w2, h1, hs⟩ := h
  split at hs
  · obtain ⟨ws, hs1, hs2⟩ := hs
    exact trans (hd h1) (trans (SweepListAny.lift refl @trans (fun hc => poll hc.1 hc.2.2) hs1) (hd hs2))
  · rw [hs]; exact hd h1

omit refl trans poll in
theorem ApplyAny.lift {w : World} {e : Ev} {w' : World} (poll : ∀ {t}, w.taskLive t = true → PollTaskAny w t w' → R w w')
    (apply : R w (w.apply e)) (h : ApplyAny w e w') : R w w' := by
  rcases h.cases with ⟨t, _, hl, hp⟩ | rfl
  · exact poll hl hp
  · exact apply

end Lift

theorem StepsAny.ind {I : World → Prop} {evs : List Ev} (step : ∀ {w e w'}, e ∈ evs → StepAny w e w' → I w → I w')
    {w w' : World} (h : StepsAny w evs w') (hi : I w) : I w' := by
  induction h with
  | nil => exact hi
  | cons hs _ ih => exact ih (fun he => step (List.mem_cons_of_mem _ he)) (step List.mem_cons_self hs hi)

/-- `emit` is asked only for the lines a step logs itself (the `EV` line, the stall marker): relations that speak of the
    log (`Safe`, `PanicDoc`) do not survive an arbitrary line -/
theorem StepsAny.rel {R : World → World → Prop} {evs : List Ev} (refl : ∀ w, R w w)
    (trans : ∀ {a b c}, R a b → R b c → R a c)
    (poll : ∀ {w t w'}, w.taskLive t = true → PollTaskAny w t w' → R w w') (apply : ∀ e ∈ evs, ∀ w, R w (w.apply e))
    (emit : ∀ w o, (∃ e ∈ evs, o = Obs.ev e) ∨ o = Obs.stall → R w (w.emit o)) {w w' : World}
    (h : StepsAny w evs w') : R w w' := by
  induction h with
  | nil => exact refl _
  | @cons w w1 _ e _ hs _ ih =>
    refine trans ?_ (ih (fun e he => apply e (List.mem_cons_of_mem _ he))
      fun w o ho => emit w o (ho.imp_left fun ⟨e, he, h⟩ => ⟨e, List.mem_cons_of_mem _ he, h⟩))
    rcases hs.cases with ⟨_, rfl⟩ | ⟨_, wa, ha, h⟩
    · exact refl _
    have h1 : R w wa := trans (emit w _ (Or.inl ⟨e, List.mem_cons_self, rfl⟩))
      (ApplyAny.lift poll (apply e List.mem_cons_self _) ha)
    rcases h with ⟨_, rfl⟩ | ⟨_, w3, hx, h⟩
    · exact h1
    have h3 : R w w3 := trans h1 (ExecAny.lift refl @trans (fun hl _ hp => poll hl hp) hx)
    rcases h with rfl | ⟨_, _, rfl⟩
    · exact h3
    · exact trans h3 (emit w3 _ (Or.inr rfl))

theorem RunAny.of_outExtP {P : Obs → Prop} {cfg : Cfg} {evs : List Ev} {out : List Obs} (h : RunAny cfg evs out)
    (hs : ∀ {w}, StepsAny { cfg := cfg } evs w → OutExtP P { cfg := cfg } w) (hr : ∀ bs, P (.wraw bs)) :
    ∀ o ∈ out, P o := by
  obtain ⟨w, hw, rfl⟩ := h
  exact finish_outExtP (hs hw) hr

/-- the lines logged by script events themselves and by the stall check -/
def W7.Dull (o : Obs) : Prop := o = .badscript ∨ o = .stall ∨ (∃ bs, o = .wraw bs) ∨ (∃ c, o = .state c)

def AnyLine (o : Obs) : Prop := (∃ e, o = .ev e) ∨ W7.Dull o ∨ ∃ t, TaskLine t o

def EvLine (e : Ev) (o : Obs) : Prop := W7.Dull o ∨ ∃ t, e = .poll t ∧ TaskLine t o

theorem applied_line {w w' : World} {e : Ev} (h : Applied w e w') : OutExtP (EvLine e) w w' := by
  cases h.norm with
  | bad e => exact outExtP_one .badscript rfl (Or.inl (Or.inl rfl))
  | poll t => exact outExtP_mono (pollTask_line w t) fun _ h => Or.inr ⟨t, rfl, h⟩
  | newConn ou wp ef =>
    have hd := flushRaw_outExtP (P := EvLine .setup) w (Or.inl (Or.inr (Or.inr (Or.inl ⟨_, rfl⟩))))
    rw [ef] at hd
    exact hd
  | snap => exact outExtP_one _ rfl (Or.inl (Or.inr (Or.inr (Or.inr ⟨_, rfl⟩))))
  | _ => exact outExtP_of_eq rfl
theorem apply_line (w : World) (e : Ev) : OutExtP (EvLine e) w (w.apply e) := applied_line (apply_spec w e)

theorem stepsAny_line {w : World} {evs : List Ev} {w' : World} (h : StepsAny w evs w') : OutExtP AnyLine w w' :=
  StepsAny.rel (outExtP_refl _) outExtP_trans (fun _ hp => outExtP_mono (pollTaskAny_line hp) fun _ h => Or.inr (Or.inr ⟨_, h⟩))
    (fun e _ w => outExtP_mono (apply_line w e) fun _ h => Or.inr (h.imp_right fun ⟨t, _, h⟩ => ⟨t, h⟩))
    (fun _ o ho => outExtP_one o rfl
      (ho.elim (fun ⟨e, _, h⟩ => Or.inl ⟨e, h⟩) fun e => Or.inr (Or.inl (Or.inr (Or.inl e))))) h

namespace W7

def NoEv (o : Obs) : Prop := ∀ e', o ≠ .ev e'

theorem noEv_of_dull {o : Obs} (h : Dull o) : NoEv o := by
  rcases h with rfl | rfl | ⟨_, rfl⟩ | ⟨_, rfl⟩ <;> (intro e h; cases h)

theorem noEv_of_taskLine {t : Task} {o : Obs} (h : TaskLine t o) : NoEv o := by
  intro e he
  subst he
  cases t with
  | ctx => rcases h with ⟨_, h | h⟩ | ⟨_, _, h⟩ | ⟨_, h⟩ <;> cases h
  | op => rcases h with h | ⟨_, h⟩ <;> cases h
  | st => rcases h with ⟨_, h⟩ | h <;> cases h

theorem apply_noEv (w : World) (e : Ev) : OutExtP NoEv w (w.apply e) :=
  outExtP_mono (apply_line w e) fun _ h => h.elim noEv_of_dull fun ⟨_, _, h⟩ => noEv_of_taskLine h

theorem step_out_shape (w : World) (e : Ev) :
    (w.step e).out = w.out ∨ ∃ rest, (w.step e).out = w.out ++ .ev e :: rest ∧ ∀ o ∈ rest, NoEv o := by
  rw [step_eq_settle]
  split
  · exact Or.inl rfl
  · right
    obtain ⟨added, eo, hP⟩ := outExtP_trans (apply_noEv (w.emit (.ev e)) e)
      (settle_lift (outExtP_refl NoEv) outExtP_trans (fun w t _ _ => outExtP_mono (pollTask_line w t) fun _ => noEv_of_taskLine)
        (fun w => outExtP_one _ rfl (by intro e' h; cases h)) _)
    exact ⟨added, by rw [eo]; simp, hP⟩

def evLines (out : List Obs) : List Ev := out.filterMap fun o => match o with | .ev e => some e | _ => none

theorem evLines_append (a b : List Obs) : evLines (a ++ b) = evLines a ++ evLines b := by
  simp [evLines, List.filterMap_append]

theorem evLines_noEv {l : List Obs} (h : ∀ o ∈ l, NoEv o) : evLines l = [] := by
  unfold evLines
  rw [List.filterMap_eq_nil_iff]
  intro o ho
  cases o with
  | ev e => exact absurd rfl (h _ ho e)
  | _ => rfl

theorem evLines_steps (evs : List Ev) (w : World) :
    ∃ l, evLines (evs.foldl World.step w).out = evLines w.out ++ l ∧ l.Sublist evs := by
  induction evs generalizing w with
  | nil => exact ⟨[], by simp, List.Sublist.refl _⟩
  | cons e t ih =>
    simp only [List.foldl_cons]
    obtain ⟨l, h1, h2⟩ := ih (w.step e)
    rcases step_out_shape w e with h | ⟨rest, h, hr⟩
    · exact ⟨l, by rw [h1, h], h2.trans (List.sublist_cons_self _ _)⟩
    · refine ⟨e :: l, ?_, h2.cons_cons e⟩
      rw [h1, h, evLines_append]
      have : evLines (Obs.ev e :: rest) = [e] := by
        have e1 : evLines (Obs.ev e :: rest) = evLines [Obs.ev e] ++ evLines rest := by
          rw [← evLines_append]; rfl
        rw [e1, evLines_noEv hr]; rfl
      rw [this, List.append_assoc]; rfl

theorem mem_evLines {out : List Obs} {e : Ev} : e ∈ evLines out ↔ Obs.ev e ∈ out := by
  unfold evLines
  rw [List.mem_filterMap]
  constructor
  · rintro ⟨o, ho, h⟩
    cases o <;> cases h
    exact ho
  · exact fun h => ⟨_, h, rfl⟩

theorem steps_ev_lines (evs : List Ev) (w : World) (e' : Ev) (h : Obs.ev e' ∈ (evs.foldl World.step w).out) :
    Obs.ev e' ∈ w.out ∨ e' ∈ evs := by
  obtain ⟨l, h1, h2⟩ := evLines_steps evs w
  rcases List.mem_append.1 (h1 ▸ mem_evLines.2 h) with h | h
  · exact Or.inl (mem_evLines.1 h)
  · exact Or.inr (h2.subset h)

theorem run_ev_lines (cfg : Cfg) (evs : List Ev) (e : Ev) (h : Obs.ev e ∈ World.run cfg evs) : e ∈ evs :=
  finish_outExtP (P := fun o => ∀ e, o = .ev e → e ∈ evs) (cfg := cfg)
    ⟨_, (List.nil_append _).symm, fun _ ho e he => (steps_ev_lines evs _ e (he ▸ ho)).resolve_left (by simp)⟩
    (fun _ _ h => nomatch h) _ h e rfl

end W7

/-- one list per invariant, read at every grain — a script event, the executor, a step, a script — under every
    resolution of the `select!`, hence (`stepAny_step`) along `World.step` -/
structure AnyInv (I : World → Prop) : Prop where
  poll : ∀ {w t w'}, w.taskLive t = true → I w → PollTaskAny w t w' → I w'
  apply : ∀ w e, I w → I (w.apply e)
  emit : ∀ w o, I w → I (w.emit o)

namespace AnyInv
variable {I : World → Prop} (A : AnyInv I)
include A

theorem applyAny {w : World} {e : Ev} {w' : World} (h : ApplyAny w e w') (hi : I w) : I w' :=
  ApplyAny.lift (R := fun w w' => I w → I w') (fun hl hp hi => A.poll hl hi hp) (A.apply w e) h hi

theorem drainAny {f : Nat} {w w' : World} (h : DrainAny f w w') (hi : I w) : I w' :=
  DrainAny.lift (R := fun w w' => I w → I w') (fun _ h => h) (fun h1 h2 h => h2 (h1 h))
    (fun hp hpoll hi => A.poll (pick_some_spec _ _ hp).2.1 hi hpoll) h hi

theorem sweepAny {w w' : World} (h : SweepAny w w') (hi : I w) : I w' :=
  SweepListAny.lift (R := fun w w' => I w → I w') (fun _ h => h) (fun h1 h2 h => h2 (h1 h))
    (fun hc hpoll hi => A.poll hc.1 hi hpoll) (h : SweepListAny _ w w') hi

theorem stepsAny {w : World} {evs : List Ev} {w' : World} (h : StepsAny w evs w') (hi : I w) : I w' :=
  StepsAny.rel (R := fun w w' => I w → I w') (fun _ h => h) (fun h1 h2 h => h2 (h1 h))
    (fun hl hp hi => A.poll hl hi hp) (fun e _ w => A.apply w e) (fun w o _ => A.emit w o) h hi

theorem stepAny {w : World} {e : Ev} {w' : World} (h : StepAny w e w') (hi : I w) : I w' :=
  A.stepsAny (.cons h (.nil _)) hi

theorem step (w : World) (e : Ev) (hi : I w) : I (w.step e) := A.stepAny (stepAny_step w e) hi

theorem steps (evs : List Ev) (w : World) (hi : I w) : I (evs.foldl World.step w) := A.stepsAny (stepsAny_foldl evs w) hi

end AnyInv

end World
end Poster

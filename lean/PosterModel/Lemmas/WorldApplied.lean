/-
  Lemmas/WorldApplied.lean — what a script event does to the world in which it was already logged: `Applied w e w'`, one
  constructor per outcome with the guards the event passed (or failed) as hypotheses (`apply_spec`), and its normal form
  `AppliedN`, in which every outcome is a record update of `w` (`Applied.norm`).
-/
import PosterModel.Lemmas.WorldShape
import PosterModel.Lemmas.WorldDrop

namespace Poster
open Framing
namespace World

namespace W7
/-- the context task a `connect` / `authorize` / `run` script event installs -/
def startTask : Ev → Option CtxTask
  | .connect t => some (.connecting .connect t {} false)
  | .authorize a => some (.connecting .authorize {} a false)
  | .run => some (.running false)
  | _ => none
end W7

/-- the reader events a `FEED` / `FEEDEOF` / `FEEDERR` script event appends -/
def feedOf : Ev → Option (List ReadEv)
  | .feed chunks => some (chunks.map ReadEv.data)
  | .feedEof => some [.eof]
  | .feedErr => some [.err]
  | _ => none

/-- the guard of the event fails: the script is refused (`BADSCRIPT`) -/
def rejects (w : World) : Ev → Prop
  | .setup => (w.task ≠ .none ∨ w.ctxDropped = true) ∨ (w.hasCtx = false ∧ (w.handles ≠ [] ∨ w.ops ≠ []))
  | .connect _ | .authorize _ | .run | .markDisc _ | .snap => w.hasCtx = false ∨ w.task ≠ .none
  | .feed _ | .feedEof | .feedErr => w.hasCtx = false
  | .op id h _ => h ∉ w.handles ∨ (w.opSt id).isSome = true
  | .stream id => id ∉ w.rsps
  | .clone h h2 => h ∉ w.handles ∨ h2 ∈ w.handles
  | .dropHandle h => h ∉ w.handles
  | _ => False

/-- the event has nothing to act on and changes nothing -/
def ignores (w : World) : Ev → Prop
  | .poll t => w.taskLive t = false
  | .hold t => t ∈ w.held
  | .drop .ctx => True
  | .drop (.st id) => id ∉ w.streams
  | .dropRsp id => id ∉ w.rsps
  | _ => False

inductive Applied (w : World) : Ev → World → Prop
  | bad (e : Ev) : w.rejects e → Applied w e w.badScript
  | same (e : Ev) : w.ignores e → Applied w e w
  | poll (t : Task) : w.taskLive t = true → Applied w (.poll t) (w.pollTask t)
  | newCtx : w.task = .none → w.ctxDropped = false → w.hasCtx = false → w.handles = [] → w.ops = [] → Applied w .setup
      { w with hasCtx := true, handles := [0], c := {}, rx := {}, reader := [], readerReg := false, written := 0 }
  | newConn : w.task = .none → w.ctxDropped = false → w.hasCtx = true → Applied w .setup
      { w.flushRaw with rx := {}, reader := [], readerReg := false, written := 0 }
  | start (e : Ev) (tk : CtxTask) : W7.startTask e = some tk → w.hasCtx = true → w.task = .none →
      Applied w e (({ w with task := tk }).wake .ctx)
  | dropFut : Applied w .dropFut { w with task := .none }
  | dropCtx : w.hasCtx = true → Applied w .dropCtx { dropCtxClosed w with queue := [], c := {} }
  | dropCtxNone : w.hasCtx = false → Applied w .dropCtx { w with task := .none }
  | markDisc (secs : Nat) : w.hasCtx = true → w.task = .none →
      Applied w (.markDisc secs) { w with c := { w.c with disc := some secs } }
  | snap : w.hasCtx = true → w.task = .none → Applied w .snap (w.emit (.state w.c))
  | feed (e : Ev) (evs : List ReadEv) : feedOf e = some evs → w.hasCtx = true → Applied w e (w.feedEvents evs)
  | op (id h : Nat) (req : Req) : h ∈ w.handles → w.opSt id = none →
      Applied w (.op id h req) (({ w with ops := w.ops ++ [(id, OpSt.fresh h req)] }).wake (.op id))
  | hold (t : Task) : t ∉ w.held → Applied w (.hold t) { w with held := w.held ++ [t] }
  | release (t : Task) : Applied w (.release t) { w with held := w.held.filter (· ≠ t) }
  | dropOp (id : Nat) : Applied w (.drop (.op id)) (w.dropOp id)
  | dropStream (id : Nat) : id ∈ w.streams →
      Applied w (.drop (.st id)) (({ w with streams := w.streams.filter (· ≠ id) }).dropChanRx id)
  | dropRsp (id : Nat) : id ∈ w.rsps → Applied w (.dropRsp id) (({ w with rsps := w.rsps.filter (· ≠ id) }).dropChanRx id)
  | stream (id : Nat) : id ∈ w.rsps →
      Applied w (.stream id) (({ w with rsps := w.rsps.filter (· ≠ id), streams := w.streams ++ [id] }).wake (.st id))
  | clone (h h2 : Nat) : h ∈ w.handles → h2 ∉ w.handles → Applied w (.clone h h2) { w with handles := w.handles ++ [h2] }
  | dropHandle (h : Nat) : h ∈ w.handles →
      Applied w (.dropHandle h) (({ w with handles := w.handles.filter (· ≠ h) }).senderGone)

theorem apply_spec (w : World) (e : Ev) : Applied w e (w.apply e) := by
  -- an outcome for each branch of an `if` of `apply`
  have onIf : ∀ {c : Prop} [Decidable c] {a b : World}, (c → Applied w e a) → (¬ c → Applied w e b) →
      Applied w e (if c then a else b) := by
    intro c _ a b ha hb
    split
    · exact ha ‹_›
    · exact hb ‹_›
  -- the guard `!w.hasCtx ∨ w.task ≠ .none` shared by connect / authorize / run / markDisc / snap
  have guard : ∀ {w' : World}, (w.rejects e ↔ (w.hasCtx = false ∨ w.task ≠ .none)) →
      (w.hasCtx = true → w.task = .none → Applied w e w') →
      Applied w e (if (!w.hasCtx) = true ∨ w.task ≠ .none then w.badScript else w') := fun hr h =>
    onIf (fun hg => .bad e (hr.2 (by simpa using hg)))
      fun hg => h (by simpa using fun h => hg (Or.inl h)) (by simpa using fun h => hg (Or.inr h))
  have fed : ∀ evs, feedOf e = some evs → (w.rejects e ↔ w.hasCtx = false) →
      Applied w e (if (!w.hasCtx) = true then w.badScript else w.feedEvents evs) := fun evs he hr =>
    onIf (fun hg => .bad e (hr.2 (by simpa using hg))) fun hg => .feed e evs he (by simpa using hg)
  cases e with
  | setup =>
    refine onIf (fun h1 => .bad _ (Or.inl (by simpa using h1))) fun h1 => ?_
    have ht : w.task = .none := by simpa using fun h => h1 (Or.inl h)
    have hd : w.ctxDropped = false := by simpa using fun h => h1 (Or.inr h)
    refine onIf (fun hc => ?_) fun hc => .newConn ht hd (by simpa using hc)
    have hc : w.hasCtx = false := by simpa using hc
    exact onIf (fun h2 => .bad _ (Or.inr ⟨hc, h2⟩))
      fun h2 => .newCtx ht hd hc (by simpa using fun h => h2 (Or.inl h)) (by simpa using fun h => h2 (Or.inr h))
  | connect t => exact guard Iff.rfl fun hc ht => .start _ _ rfl hc ht
  | authorize a => exact guard Iff.rfl fun hc ht => .start _ _ rfl hc ht
  | run => exact guard Iff.rfl fun hc ht => .start _ _ rfl hc ht
  | dropFut => exact .dropFut
  | dropCtx =>
    cases hc : w.hasCtx
    · have e : w.apply .dropCtx = { w with task := .none } := if_pos (by simp [hc])
      rw [e]; exact .dropCtxNone hc
    · rw [apply_dropCtx w hc]; exact .dropCtx hc
  | markDisc secs => exact guard Iff.rfl fun hc ht => .markDisc secs hc ht
  | snap => exact guard Iff.rfl fun hc ht => .snap hc ht
  | feed chunks => exact fed _ rfl Iff.rfl
  | feedEof => exact fed _ rfl Iff.rfl
  | feedErr => exact fed _ rfl Iff.rfl
  | op id h req =>
    exact onIf (fun hg => .bad _ hg) fun hg =>
      .op id h req (by simpa using fun h => hg (Or.inl h)) (by simpa using fun h => hg (Or.inr h))
  | poll t => exact onIf (.poll t) fun h => .same _ (by simpa [ignores] using h)
  | hold t => exact onIf (fun h => .same _ h) (.hold t)
  | release t => exact .release t
  | drop t =>
    cases t with
    | ctx => exact .same _ trivial
    | op id => exact .dropOp id
    | st id => exact onIf (.dropStream id) fun h => .same _ h
  | dropRsp id => exact onIf (.dropRsp id) fun h => .same _ h
  | stream id => exact onIf (fun hg => .bad _ hg) fun h => .stream id (by simpa using h)
  | clone h h2 =>
    exact onIf (fun hg => .bad _ hg) fun hg =>
      .clone h h2 (by simpa using fun h => hg (Or.inl h)) (by simpa using fun h => hg (Or.inr h))
  | dropHandle h => exact onIf (fun hg => .bad _ hg) fun hg => .dropHandle h (by simpa using hg)

/-- `Applied` with every outcome written as ONE record update of `w` (the values a compound primitive computes are
    arguments, with the equation that defines them): a projection of the result at a field the event does not set is
    that field of `w` by `rfl` -/
inductive AppliedN (w : World) : Ev → World → Prop
  | bad (e : Ev) : w.rejects e → AppliedN w e { w with out := w.out ++ [.badscript], bad := true }
  | same (e : Ev) : w.ignores e → AppliedN w e w
  | poll (t : Task) : w.taskLive t = true → AppliedN w (.poll t) (w.pollTask t)
  | newCtx : w.task = .none → w.ctxDropped = false → w.hasCtx = false → w.handles = [] → w.ops = [] → AppliedN w .setup
      { w with hasCtx := true, handles := [0], c := {}, rx := {}, reader := [], readerReg := false, written := 0 }
  | newConn (ou : List Obs) (wp : Bytes) : w.flushRaw = { w with out := ou, wirePend := wp } →
      w.task = .none → w.ctxDropped = false → w.hasCtx = true → AppliedN w .setup
      { w with out := ou, wirePend := wp, rx := {}, reader := [], readerReg := false, written := 0 }
  | start (e : Ev) (tk : CtxTask) : W7.startTask e = some tk → w.hasCtx = true → w.task = .none →
      AppliedN w e { w with task := tk, woken := (if Task.ctx ∈ w.woken then w.woken else w.woken ++ [.ctx]) }
  | dropFut : AppliedN w .dropFut { w with task := .none }
  | dropCtx (sl : List (Nat × Slot)) (sr : List Nat) (ch : List (Nat × Chan)) (wk : List Task) :
      dropCtxClosed w = { dropCtxStart w with slots := sl, slotReg := sr, chans := ch, woken := wk } →
      w.hasCtx = true → AppliedN w .dropCtx
      { w with task := .none, hasCtx := false, ctxDropped := true, reader := [], queue := [], c := {}, slots := sl,
               slotReg := sr, chans := ch, woken := wk }
  | dropCtxNone : w.hasCtx = false → AppliedN w .dropCtx { w with task := .none }
  | markDisc (secs : Nat) : w.hasCtx = true → w.task = .none →
      AppliedN w (.markDisc secs) { w with c := { w.c with disc := some secs } }
  | snap : w.hasCtx = true → w.task = .none → AppliedN w .snap { w with out := w.out ++ [.state w.c] }
  | feed (e : Ev) (evs : List ReadEv) (rd : List ReadEv) : feedOf e = some evs → w.hasCtx = true →
      AppliedN w e { w with reader := rd, readerReg := false,
                            woken := if w.readerReg then (w.wake .ctx).woken else w.woken }
  | op (id h : Nat) (req : Req) : h ∈ w.handles → w.opSt id = none →
      AppliedN w (.op id h req)
        { w with woken := (if Task.op id ∈ w.woken then w.woken else w.woken ++ [.op id]),
                 ops := w.ops ++ [(id, OpSt.fresh h req)] }
  | hold (t : Task) : t ∉ w.held → AppliedN w (.hold t) { w with held := w.held ++ [t] }
  | release (t : Task) : AppliedN w (.release t) { w with held := w.held.filter (· ≠ t) }
  | dropOp (id : Nat) (o : List (Nat × OpSt)) (sl : List (Nat × Slot)) (sr : List Nat) (ch : List (Nat × Chan))
      (wk : List Task) (qr : Bool) :
      w.dropOp id = { w with ops := o, slots := sl, slotReg := sr, chans := ch, woken := wk, queueReg := qr } →
      AppliedN w (.drop (.op id))
        { w with ops := o, slots := sl, slotReg := sr, chans := ch, woken := wk, queueReg := qr }
  | dropStream (id : Nat) : id ∈ w.streams →
      AppliedN w (.drop (.st id)) { w with streams := w.streams.filter (· ≠ id), chans := eraseFirst id w.chans }
  | dropRsp (id : Nat) : id ∈ w.rsps →
      AppliedN w (.dropRsp id) { w with rsps := w.rsps.filter (· ≠ id), chans := eraseFirst id w.chans }
  | stream (id : Nat) : id ∈ w.rsps → AppliedN w (.stream id)
      { w with rsps := w.rsps.filter (· ≠ id), streams := w.streams ++ [id],
               woken := (if Task.st id ∈ w.woken then w.woken else w.woken ++ [.st id]) }
  | clone (h h2 : Nat) : h ∈ w.handles → h2 ∉ w.handles → AppliedN w (.clone h h2) { w with handles := w.handles ++ [h2] }
  | dropHandle (h : Nat) (wk : List Task) (qr : Bool) : h ∈ w.handles →
      (({ w with handles := w.handles.filter (· ≠ h) } : World).senderGone =
        { w with handles := w.handles.filter (· ≠ h), woken := wk, queueReg := qr }) →
      AppliedN w (.dropHandle h) { w with handles := w.handles.filter (· ≠ h), woken := wk, queueReg := qr }

theorem Applied.norm {w w' : World} {e : Ev} (a : Applied w e w') : AppliedN w e w' := by
  cases a with
  | bad e h => exact .bad e h
  | same e h => exact .same e h
  | poll t h => exact .poll t h
  | newCtx h1 h2 h3 h4 h5 => exact .newCtx h1 h2 h3 h4 h5
  | newConn h1 h2 h3 =>
    obtain ⟨ou, wp, e⟩ := flushRaw_frame w
    rw [e]; exact .newConn ou wp e h1 h2 h3
  | start e tk h1 h2 h3 => rw [wake_eq]; exact .start e tk h1 h2 h3
  | dropFut => exact .dropFut
  | dropCtx h =>
    have e := (dropCtxClosed_inv w).frame
    rw [e]; exact .dropCtx _ _ _ _ e h
  | dropCtxNone h => exact .dropCtxNone h
  | markDisc secs h1 h2 => exact .markDisc secs h1 h2
  | snap h1 h2 => exact .snap h1 h2
  | feed e evs h1 h2 =>
    obtain ⟨rd, e'⟩ := feedEvents_shape w evs
    rw [e']; exact .feed e evs rd h1 h2
  | op id h req h1 h2 => rw [wake_eq]; exact .op id h req h1 h2
  | hold t h => exact .hold t h
  | release t => exact .release t
  | dropOp id =>
    obtain ⟨o, sl, sr, ch, wk, qr, e⟩ := dropOp_footprint w id
    rw [e]; exact .dropOp id o sl sr ch wk qr e
  | dropStream id h => exact .dropStream id h
  | dropRsp id h => exact .dropRsp id h
  | stream id h => rw [wake_eq]; exact .stream id h
  | clone h h2 h1 h3 => exact .clone h h2 h1 h3
  | dropHandle h h1 =>
    obtain ⟨wk, qr, e⟩ := senderGone_shape ({ w with handles := w.handles.filter (· ≠ h) } : World)
    rw [e]; exact .dropHandle h wk qr h1 e

theorem Applied.to {w w1 w2 : World} {e : Ev} (h : w1 = w2) (a : Applied w e w1) : Applied w e w2 := h ▸ a

theorem Applied.eq {w w' : World} {e : Ev} (h : Applied w e w') : w' = w.apply e := by
  cases h with
  | bad e hr =>
    cases e with
    | setup =>
      rcases hr with hr | ⟨hc, hr⟩
      · exact (if_pos (by simpa using hr)).symm
      · by_cases h1 : w.task ≠ .none ∨ w.ctxDropped = true
        · exact (if_pos h1).symm
        · exact ((if_neg h1).trans ((if_pos (by simp [hc])).trans (if_pos hr))).symm
    | connect | authorize | run | markDisc | snap | feed | feedEof | feedErr | op | stream | clone | dropHandle =>
      exact (if_pos (by simpa [rejects] using hr)).symm
    | _ => exact False.elim hr
  | same e hi =>
    cases e with
    | poll t => exact (if_neg (by simpa [ignores] using hi)).symm
    | hold t => exact (if_pos hi).symm
    | drop t =>
      cases t with
      | ctx => rfl
      | op n => exact False.elim hi
      | st n => exact (if_neg hi).symm
    | dropRsp id => exact (if_neg hi).symm
    | _ => exact False.elim hi
  | poll t h => exact (if_pos h).symm
  | newCtx ht hd hc hh ho =>
    exact ((if_neg (by simp [ht, hd])).trans ((if_pos (by simp [hc])).trans (if_neg (by simp [hh, ho])))).symm
  | newConn ht hd hc => exact ((if_neg (by simp [ht, hd])).trans (if_neg (by simp [hc]))).symm
  | start e tk hs hc ht =>
    cases e with
    | connect | authorize | run => cases hs; exact (if_neg (by simp [hc, ht])).symm
    | _ => cases hs
  | dropFut => rfl
  | dropCtx hc => exact (apply_dropCtx w hc).symm
  | dropCtxNone hc => exact (if_pos (by simp [hc])).symm
  | markDisc secs hc ht => exact (if_neg (by simp [hc, ht])).symm
  | snap hc ht => exact (if_neg (by simp [hc, ht])).symm
  | feed e evs he hc =>
    cases e with
    | feed | feedEof | feedErr => cases he; exact (if_neg (by simp [hc])).symm
    | _ => cases he
  | op id h req hh ho => exact (if_neg (by simp [hh, ho])).symm
  | hold t h => exact (if_neg h).symm
  | release t => rfl
  | dropOp id => rfl
  | dropStream id h => exact (if_pos h).symm
  | dropRsp id h => exact (if_pos h).symm
  | stream id h => exact (if_neg (by simpa using h)).symm
  | clone h h2 hh h2' => exact (if_neg (by simp [hh, h2'])).symm
  | dropHandle h hh => exact (if_neg (by simpa using hh)).symm
end World
end Poster

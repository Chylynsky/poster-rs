/-
  Lemmas/TxPublish.lean — PUBLISH: lengths, layout, and the body parses to the caller's values.
-/
import PosterModel.Lemmas.CodecTx

namespace Poster
open Spec

theorem publish_propertyLen_eq (t : PublishTx) : t.propertyLen = (encProps (publishProps t)).length := by
  rw [← propsLen_eq_length _ (by unfold publishProps; props_fields; simp [TypeOk])]
  simp only [PublishTx.propertyLen, publishProps, propsLen_append, propsLen_optP, propsLen_userPs, pNum, pBool,
    Poster.pStr]

def publishBody (t : PublishTx) : Bytes :=
  encStr t.topicBytes ++ (oEnc encU16 t.packetId ++ (encVar (encProps (publishProps t)).length
    ++ (encProps (publishProps t) ++ oEnc id t.payload)))

theorem publish_encode_eq (t : PublishTx) :
    t.encode = UInt8.ofNat t.fixedHdr :: (encVar t.remainingLen ++ publishBody t) := by
  simp only [PublishTx.encode, publishBody, publish_propertyLen_eq, publishProps, encProps_append, encProps_optP,
    encProps_userPs, pNum, pBool, Poster.pStr, encU8, List.append_assoc, List.cons_append, List.nil_append]

theorem publish_remainingLen_eq (t : PublishTx) : t.remainingLen = (publishBody t).length := by
  have hpid := oLen_eq_length (f := fun _ => 2) (g := encU16) (fun _ => rfl) t.packetId
  have hpay := oLen_eq_length (f := List.length) (g := id) (fun _ => rfl) t.payload
  simp only [PublishTx.remainingLen, publishBody, List.length_append, publish_propertyLen_eq, varLen_eq, strLen_eq_length,
    hpid, hpay]
  omega

theorem publish_layout (t : PublishTx) : Layout t.fixedHdr t.remainingLen t.encode (publishBody t) :=
  ⟨publish_encode_eq t, publish_remainingLen_eq t⟩

theorem publishProps_wf (t : PublishTx) (hd : PublishInDomain t) : ∀ p ∈ publishProps t, PropWF p := by
  simp only [publishProps, List.forall_mem_append, and_assoc]
  exact ⟨PropWF_optP_bool rfl (by decide), PropWF_optP_nznum (.inl ⟨rfl, rfl⟩) hd.topicAlias,
    PropWF_optP_num (.inr ⟨rfl, rfl⟩) rfl hd.mei,
    PropWF_optP_bytes (.inr rfl) hd.correlationData, PropWF_optP_bytes (.inl rfl) hd.responseTopic,
    PropWF_optP_bytes (.inl rfl) hd.contentType, PropWF_userPs hd.userProps⟩

theorem publishProps_legal (t : PublishTx) : propsLegal publishPropIds (publishProps t) = true :=
  OnceIn.optP 1 .bool t.pfi |>.append_optP (by decide) |>.append_optP (by decide) |>.append_optP (by decide)
    |>.append_optP (by decide) |>.append_optP (by decide) |>.legal (by decide)

theorem publish_flags (d r : Bool) (q : Nat) (hq : q ≤ 2) :
    (48 + b2n d * 8 + q * 2 + b2n r) / 16 = 3 ∧
    (48 + b2n d * 8 + q * 2 + b2n r) % 16 / 2 % 4 = q ∧
    ((48 + b2n d * 8 + q * 2 + b2n r) % 16 / 8 % 2 == 1) = d ∧
    ((48 + b2n d * 8 + q * 2 + b2n r) % 16 % 2 == 1) = r := by
  have hd := b2n_le d; have hr := b2n_le r
  have h16 : (48 + b2n d * 8 + q * 2 + b2n r) % 16 = ((0 * 2 + b2n d) * 4 + q) * 2 + b2n r := by omega
  rw [h16]
  obtain ⟨d2, m2⟩ := div_mod_field (a := (0 * 2 + b2n d) * 4 + q) (Nat.lt_succ_of_le hr)
  obtain ⟨d8, m8⟩ := field_step (m := 2) d2 (Nat.lt_succ_of_le (Nat.le_succ_of_le hq))
  obtain ⟨-, m16⟩ := field_step (m := 8) d8 (Nat.lt_succ_of_le hd)
  exact ⟨by omega, m8, beq_one_of_eq_b2n m16, beq_one_of_eq_b2n m2⟩

theorem publish_body_parses (t : PublishTx) (hv : t.valid = true) (hd : PublishInDomain t) :
    parseBody (t.fixedHdr / 16) (t.fixedHdr % 16) (publishBody t) = some (ofPublish t) := by
  obtain ⟨h16, hq, hdup, hret⟩ := publish_flags t.dup t.retain t.qos hd.qos
  have hq2 := hd.qos
  have hpl : (encProps (publishProps t)).length < 268435456 := by
    have := hd.size; rw [publish_remainingLen_eq] at this
    simp only [publishBody, List.length_append] at this; omega
  have hq3 : ¬ t.qos = 3 := by omega
  have hblock := pPropBlock_enc _ (publishProps_wf t hd) hpl (t.payload.getD [])
  simp only [PublishTx.valid, Bool.and_eq_true, Bool.or_eq_true, beq_iff_eq] at hv
  obtain ⟨htop, hpid⟩ := hv
  obtain ⟨topic, htopic⟩ := Option.isSome_iff_exists.mp htop
  simp only [PublishTx.fixedHdr] at h16 hq hdup hret ⊢
  simp only [Nat.reduceMul] at h16 hq hdup hret ⊢
  simp only [h16, parseBody, parsePublish, hq, hdup, hret, hq3, ↓reduceIte, publishBody, PublishTx.topicBytes, htopic,
    Option.getD_some, pStr_enc _ (hd.topic topic htopic), oEnc_id]
  cases hp : t.packetId with
  | none =>
    have hq0 : t.qos = 0 := by simpa [hp] using hpid
    have hd0 := hd.dup hq0
    simp [hq0, hd0, hblock, publishProps_legal, ofPublish, htopic, hp]
  | some p =>
    obtain ⟨hp1, hp2, hq0⟩ := hd.packetId p hp
    have hp0 : ¬ p = 0 := by omega
    simp [hq0, pPacketId, pU16_enc p (by omega), hp0, hblock, publishProps_legal, ofPublish, htopic, hp]

end Poster

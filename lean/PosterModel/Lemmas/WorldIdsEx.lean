/-
  A concrete script, evaluated stage by stage (`Framing.pollNext` is opaque to `decide`), in which the broker announces
  Maximum Packet Size 4 in its CONNACK and a QoS 1 publish is then refused for its size: behind the examples of
  Properties/C12World.lean. At the end, `C11Ex`: the script and the two worlds of the examples of Properties/C11World.lean.
-/
import PosterModel.Lemmas.WorldOpsEx
import PosterModel.Lemmas.WorldHistEx


namespace Poster
open Framing World World.W7 World.W10
namespace C12Ex

/-- CONNACK, reason 0, Maximum Packet Size = 4 -/
def connackMax4 : Bytes := [0x20, 8, 0, 0, 5, 0x27, 0, 0, 0, 4]
def kMax4 : ConnackRx := { sessionPresent := false, reason := 0, maxPacketSize := some 4 }
theorem dec_connackMax4 : decodeRx connackMax4 = .ok (.connack kMax4) := by decide
theorem pn_connackMax4 : pollNext {} [.data connackMax4] = ({}, [], .item connackMax4) :=
  Ex.pollNext_whole _ (by decide) (by decide) (by decide)

def connectBytes : Bytes := [16, 13, 0, 4, 77, 81, 84, 84, 5, 0, 0, 0, 0, 0, 0]
def pubBig : Req := .publish { topic := some [0x61], qos := 1, payload := some [1, 2, 3] }

def scrBig : List Ev := [.setup, .connect {}, .feed [connackMax4], .run, .op 1 0 pubBig]

def l2 : World :=
  { World.s1 with task := .connecting .connect {} {} true, readerReg := true, written := 15,
                  out := World.s1.out ++ [.ev (.connect {}), .wire connectBytes] }
def l3 : World :=
  { l2 with task := .none, c := { maxPkt := some 4 }, readerReg := false,
            out := l2.out ++ [.ev (.feed [connackMax4]), .ret .connect (.connack kMax4)] }
def l4 : World := { l3 with task := .running true, readerReg := true, queueReg := true, out := l3.out ++ [.ev .run] }
def l5 : World :=
  { l4 with pidCtr := 2, out := l4.out ++ [.ev (.op 1 0 pubBig), .done 1 (.err .maximumPacketSizeExceeded)] }

theorem lstage2 : World.s1.step (.connect {}) = l2 := HistEx.cst2.1

theorem lstage3 : l2.step (.feed [connackMax4]) = l3 := by
  refine step_eq l2 _ l3 (by decide) (by decide) ?_ (by decide) (by decide)
  rw [drain_pick _ _ .ctx (by decide) (by decide),
    pollTask_ctx_connect_resp _ .connect {} {} connackMax4 kMax4 (by decide) pn_connackMax4 dec_connackMax4 (by decide)
      (by decide)]
  rw [drain_none _ _ (by decide)]
  decide +kernel

theorem lstage4 : l3.step .run = l4 := by
  refine step_eq l3 .run l4 (by decide) (by decide) ?_ (by decide) (by decide)
  rw [drain_pick _ _ .ctx (by decide) (by decide),
    pollTask_ctx_start _ (by decide) (by decide) (by decide),
    runLoop_idle _ _ (by decide) (by decide) (by decide) (by decide) (by decide)]
  rw [drain_none _ _ (by decide)]
  decide +kernel

theorem lstage5 : l4.step (.op 1 0 pubBig) = l5 := by
  refine step_eq l4 _ l5 (by decide) (by decide) ?_ (by decide) (by decide)
  rw [drain_pick _ _ (.op 1) (by decide) (by decide), drain_pick _ _ .ctx (by decide) (by decide),
    pollTask_ctx_msg _ (.awaitAck (actionId 4 1) [50, 9, 0, 1, 97, 0, 1, 0, 1, 2, 3] 2) (by decide) (by decide) (by decide)
      (by decide) (by decide) (by decide),
    drain_pick _ _ (.op 1) (by decide) (by decide)]
  rw [drain_none _ _ (by decide)]
  decide +kernel

theorem scrBig_foldl : scrBig.foldl World.step {} = l5 := by
  simp only [scrBig, List.foldl_cons, List.foldl_nil]
  rw [World.stage1, lstage2, lstage3, lstage4, lstage5]

theorem scrBig_run : World.run {} scrBig = l5.out := by
  unfold World.run
  rw [scrBig_foldl]
  decide +kernel

/-- a serving world with the limit `M = 4` in force, a 5-byte request at the head of the queue (oneshot 2, operation 1
    waiting on it) -/
def wBig : World :=
  { hasCtx := true, task := .running true, handles := [0], c := { maxPkt := some 4 },
    queue := [.ff [0xC0, 3, 0, 0, 0] 2], ops := [(1, .wait 2 .ff)], slots := [(2, .empty)] }

/-- a script without inbound traffic: a QoS 1 publish and a DISCONNECT issued before `run()`; no limit is ever announced -/
def scrNoLimit : List Ev :=
  [.setup, .op 1 0 (.publish { topic := some [0x61], qos := 1, payload := some [1, 2, 3] }), .op 2 0 (.disconnect {}),
   .run]


end C12Ex

namespace C11Ex

/-- three identifier-taking operations from two clones of the handle (handles 0 and 7), a ping in between -/
def scrIds : List Ev :=
  [.setup, .clone 0 7, .op 1 0 (.publish { topic := some [0x61], qos := 1 }), .op 2 7 .ping,
   .op 3 7 (.subscribe { packetId := 0, filters := [([0x61], {})] }),
   .op 4 0 (.publish { topic := some [0x62], qos := 2 })]

/-- a world whose counter stands at 65535 with the identifier 1 still outstanding (queued), and an UNSUBSCRIBE future not
    yet polled -/
def wWrap : World :=
  { hasCtx := true, handles := [0], pidCtr := 65535, queue := [.awaitAck (actionId 4 1) [0x32, 0] 2],
    ops := [(1, .wait 2 .puback), (9, .fresh 0 (.unsubscribe { packetId := 0, filters := [[0x61]] }))],
    slots := [(2, .empty)] }

/-- a QoS 2 publish between PUBREC and PUBREL -/
def wGap : World :=
  { hasCtx := true, handles := [0], pidCtr := 8, ops := [(1, .wait 2 .pubrec)],
    slots := [(2, .full (.pkt (.pubrec { packetId := 7 })))] }


end C11Ex
end Poster

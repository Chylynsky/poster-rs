/-
  Which fields of the world each primitive operation of `World` leaves alone, and what it does to the others. A plain
  record update (`emit`, `setSlot`, `clearSlot`, `allocPid`, …) is read off by `rfl` / `unfold`. A compound primitive has
  a shape lemma `f_shape` (the world it returns as a record update of its argument, the computed values existential):
  `obtain ⟨…, e⟩ := f_shape …; rw [e]` gives every field at once; `wake`, `sendSlot`, `dropSlotTx`, `deliver`, `dropChanTx`,
  `sendMsg`, `senderGone`, where one normal form says everything, also have an equation `f_eq`. Behind them, primitive by
  primitive, the field lemmas `f_field`, most of them `@[simp]`.
-/
import PosterModel.World
import PosterModel.Lemmas.Assoc
import PosterModel.Lemmas.WorldLift

namespace Poster
namespace World
open Framing

theorem wake_eq (w : World) (t : Task) :
    w.wake t = { w with woken := if t ∈ w.woken then w.woken else w.woken ++ [t] } := by
  unfold wake; split <;> simp [*]

theorem wake_woken (w : World) (t : Task) : (w.wake t).woken = if t ∈ w.woken then w.woken else w.woken ++ [t] := by
  rw [wake_eq]

theorem mem_wake_iff (w : World) (t u : Task) : u ∈ (w.wake t).woken ↔ u = t ∨ u ∈ w.woken := by
  rw [wake_eq]; simp only; split
  · constructor
    · exact Or.inr
    · rintro (rfl | h) <;> assumption
  · simp [or_comm]

theorem mem_wake_self (w : World) (t : Task) : t ∈ (w.wake t).woken := (mem_wake_iff w t t).2 (.inl rfl)

theorem mem_wake_of_mem (w : World) (t u : Task) (h : u ∈ w.woken) : u ∈ (w.wake t).woken :=
  (mem_wake_iff w t u).2 (.inr h)

/-- the `woken` of every primitive that consumes a registered waker: `fillSlot`, `putChan`, `sendMsg`, `senderGone`,
    `feedEvents` -/
theorem mem_wakeIf_iff {c : Prop} [Decidable c] (w : World) (u t : Task) :
    t ∈ (if c then (w.wake u).woken else w.woken) ↔ (c ∧ t = u) ∨ t ∈ w.woken := by
  split <;> simp [mem_wake_iff, *]

theorem mem_wakeIf {w : World} {c : Prop} [Decidable c] {u t : Task} (h : t ∈ w.woken) :
    t ∈ (if c then (w.wake u).woken else w.woken) := (mem_wakeIf_iff w u t).2 (.inr h)

theorem mem_wakeIf_self {w : World} {c : Prop} [Decidable c] {u : Task} (hc : c) :
    u ∈ (if c then (w.wake u).woken else w.woken) := (mem_wakeIf_iff w u u).2 (.inl ⟨hc, rfl⟩)

/-- a receiver registers its waker: `slotReg` after `awaitSlot` and after a pending poll -/
theorem mem_register_iff {s s' : Nat} {l : List Nat} : s' ∈ (if s ∈ l then l else l ++ [s]) ↔ s' = s ∨ s' ∈ l := by
  split
  · exact ⟨Or.inr, fun h => h.elim (fun e => e ▸ ‹s ∈ l›) id⟩
  · simp [or_comm]

theorem mem_unwake_iff (w : World) (t u : Task) : u ∈ (w.unwake t).woken ↔ u ∈ w.woken ∧ u ≠ t := by
  show u ∈ w.woken.filter (· ≠ t) ↔ _
  simp [List.mem_filter]

theorem unwake_of_not_mem (w : World) (t : Task) (h : t ∉ w.woken) : w.unwake t = w := by
  have : w.woken.filter (· ≠ t) = w.woken := by
    rw [List.filter_eq_self]
    intro a ha
    simp only [ne_eq, decide_not, Bool.not_eq_eq_eq_not, Bool.not_true, decide_eq_false_iff_not]
    intro e; subst e; exact h ha
  simp only [unwake, this]

/-! `sendSlot` / `dropSlotTx` are `fillSlot` on an empty oneshot, `deliver` / `dropChanTx` are `putChan` on an existing
channel: what the four do to oneshots, channels and flags is said of these two. -/

/-- the oneshot `s` gets the state `x` (`sendSlot`, `dropSlotTx` do this to an empty one: a value, `closed`); the
    registered waker of the receiving future, if any, is consumed and the future flagged -/
def fillSlot (w : World) (s : Nat) (x : Slot) : World :=
  { w with slots := setAssoc s x w.slots,
           slotReg := if s ∈ w.slotReg then w.slotReg.filter (· ≠ s) else w.slotReg,
           woken := if s ∈ w.slotReg then (w.wake (.op (s / 2))).woken else w.woken }

/-- the entry `ch` of channel `c` is replaced by `c1`; the stream is flagged if its waker was registered in `ch` -/
def putChan (w : World) (c : Nat) (ch c1 : Chan) : World :=
  { w with chans := setAssoc c c1 w.chans, woken := if ch.reg then (w.wake (.st c)).woken else w.woken }

/-- what `deliver` and `dropChanTx` have in common: an existing channel `c` gets the state `f ch` -/
def onChan (w : World) (c : Nat) (f : Chan → Chan) : World :=
  match w.chan c with
  | some ch => putChan w c ch (f ch)
  | none => w

theorem sendSlot_eq (w : World) (s : Nat) (v : SlotVal) :
    w.sendSlot s v = if w.slot s = some .empty then w.fillSlot s (.full v) else w := by
  by_cases he : w.slot s = some .empty
  · by_cases hr : s ∈ w.slotReg <;> simp [sendSlot, he, hr, setSlot, wake_eq, fillSlot]
  · rw [if_neg he]
    unfold sendSlot
    split
    · rename_i h; exact absurd h he
    · rfl

theorem dropSlotTx_eq (w : World) (s : Nat) :
    w.dropSlotTx s = if w.slot s = some .empty then w.fillSlot s .closed else w := by
  by_cases he : w.slot s = some .empty
  · by_cases hr : s ∈ w.slotReg <;> simp [dropSlotTx, he, hr, setSlot, wake_eq, fillSlot]
  · rw [if_neg he]
    unfold dropSlotTx
    split
    · rename_i h; exact absurd h he
    · rfl

theorem deliver_eq (w : World) (c : Nat) (p : PublishRx) :
    w.deliver c p = w.onChan c fun ch => { ch with buf := ch.buf ++ [p], reg := false } := by
  unfold deliver onChan
  cases w.chan c with
  | none => rfl
  | some ch => by_cases hr : ch.reg = true <;> simp [hr, setChan, wake_eq, putChan]

theorem dropChanTx_eq (w : World) (c : Nat) :
    w.dropChanTx c = w.onChan c fun ch => { ch with txAlive := false, reg := false } := by
  unfold dropChanTx onChan
  cases w.chan c with
  | none => rfl
  | some ch => by_cases hr : ch.reg = true <;> simp [hr, setChan, wake_eq, putChan]

theorem onChan_none {w : World} {c : Nat} (h : w.chan c = none) (f : Chan → Chan) : w.onChan c f = w := by
  unfold onChan; rw [h]

theorem onChan_some {w : World} {c : Nat} {ch : Chan} (h : w.chan c = some ch) (f : Chan → Chan) :
    w.onChan c f = w.putChan c ch (f ch) := by
  unfold onChan; rw [h]

theorem fillSlot_slot (w : World) (s : Nat) (x : Slot) (s' : Nat) :
    (w.fillSlot s x).slot s' = if s' = s then some x else w.slot s' := by
  show lookupFirst s' (setAssoc s x w.slots) = _
  by_cases h : s' = s
  · subst h; rw [if_pos rfl, lookupFirst_setAssoc_self]
  · rw [if_neg h, lookupFirst_setAssoc_of_ne h]; rfl

theorem slot_fillSlot_if (w : World) (s : Nat) (x : Slot) (s' : Nat) :
    (if w.slot s = some .empty then w.fillSlot s x else w).slot s' =
      if s' = s ∧ w.slot s = some .empty then some x else w.slot s' := by
  by_cases he : w.slot s = some .empty
  · rw [if_pos he, fillSlot_slot]; by_cases h : s' = s <;> simp [h, he]
  · rw [if_neg he]; simp [he]

theorem fillSlot_slotReg_ne (w : World) (s : Nat) (x : Slot) {s' : Nat} (h : s' ≠ s) :
    s' ∈ (w.fillSlot s x).slotReg ↔ s' ∈ w.slotReg := by
  show s' ∈ (if s ∈ w.slotReg then w.slotReg.filter (· ≠ s) else w.slotReg) ↔ _
  split <;> simp [h]

theorem fillSlot_woken_mono (w : World) (s : Nat) (x : Slot) {t : Task} (h : t ∈ w.woken) :
    t ∈ (w.fillSlot s x).woken := mem_wakeIf h

theorem fillSlot_wakes (w : World) (s : Nat) (x : Slot) (hr : s ∈ w.slotReg) : .op (s / 2) ∈ (w.fillSlot s x).woken :=
  mem_wakeIf_self hr

theorem putChan_chan (w : World) (c : Nat) (ch c1 : Chan) (c' : Nat) :
    (w.putChan c ch c1).chan c' = if c' = c then some c1 else w.chan c' := by
  show lookupFirst c' (setAssoc c c1 w.chans) = _
  by_cases h : c' = c
  · subst h; rw [if_pos rfl, lookupFirst_setAssoc_self]
  · rw [if_neg h, lookupFirst_setAssoc_of_ne h]; rfl

theorem putChan_woken_mono (w : World) (c : Nat) (ch c1 : Chan) {t : Task} (h : t ∈ w.woken) :
    t ∈ (w.putChan c ch c1).woken := mem_wakeIf h

theorem putChan_wakes (w : World) (c : Nat) (ch c1 : Chan) (hr : ch.reg = true) : .st c ∈ (w.putChan c ch c1).woken :=
  mem_wakeIf_self hr

theorem sendMsg_eq (w : World) (m : Msg) :
    w.sendMsg m = if w.hasCtx then
      some { w with queue := w.queue ++ [m],
                    woken := if w.queueReg then (w.wake .ctx).woken else w.woken,
                    queueReg := false && w.queueReg } else none := by
  unfold sendMsg
  cases hc : w.hasCtx
  · simp
  · cases hq : w.queueReg <;> simp [hq, wake_eq]

theorem senderGone_eq (w : World) :
    w.senderGone =
      { w with woken := if w.senders = 0 ∧ w.hasCtx = true ∧ w.queueReg = true then (w.wake .ctx).woken else w.woken,
               queueReg := if w.senders = 0 ∧ w.hasCtx = true ∧ w.queueReg = true then false else w.queueReg } := by
  unfold senderGone
  split
  · rw [wake_eq]
  · rfl

theorem senders_ne_zero_of_handles {w : World} (h : w.handles ≠ []) : w.senders ≠ 0 := by
  unfold senders
  cases hh : w.handles with
  | nil => exact absurd hh h
  | cons a t => simp

theorem senderGone_of_pos (w : World) (h : w.senders ≠ 0) : w.senderGone = w := by
  simp [senderGone, h]

theorem senderGone_woken_mono (w : World) (t : Task) (h : t ∈ w.woken) : t ∈ w.senderGone.woken := by
  rw [senderGone_eq]; exact mem_wakeIf h

theorem senderGone_shape (w : World) : ∃ wk qr, w.senderGone = { w with woken := wk, queueReg := qr } :=
  ⟨_, _, senderGone_eq w⟩

theorem flushWire_shape (w : World) : ∃ o p, w.flushWire = { w with out := o, wirePend := p } := by
  unfold flushWire; split <;> exact ⟨_, _, rfl⟩
theorem writeBytes_shape (w : World) (bs : Bytes) :
    ∃ wr o p, w.writeBytes bs = { w with written := wr, out := o, wirePend := p } := by
  unfold writeBytes; split <;> exact (flushWire_shape _).elim fun o h => h.elim fun p e => ⟨_, o, p, e⟩
theorem onChan_shape (w : World) (c : Nat) (f : Chan → Chan) :
    ∃ ch wk, w.onChan c f = { w with chans := ch, woken := wk } := by
  unfold onChan; split <;> exact ⟨_, _, rfl⟩

theorem sendSlot_shape (w : World) (s : Nat) (v : SlotVal) :
    ∃ sl sr wk, w.sendSlot s v = { w with slots := sl, slotReg := sr, woken := wk } := by
  rw [sendSlot_eq]; split <;> exact ⟨_, _, _, rfl⟩
theorem dropSlotTx_shape (w : World) (s : Nat) :
    ∃ sl sr wk, w.dropSlotTx s = { w with slots := sl, slotReg := sr, woken := wk } := by
  rw [dropSlotTx_eq]; split <;> exact ⟨_, _, _, rfl⟩
theorem deliver_shape (w : World) (c : Nat) (p : PublishRx) :
    ∃ ch wk, w.deliver c p = { w with chans := ch, woken := wk } := by
  rw [deliver_eq]; exact onChan_shape w c _
theorem dropChanTx_shape (w : World) (c : Nat) :
    ∃ ch wk, w.dropChanTx c = { w with chans := ch, woken := wk } := by
  rw [dropChanTx_eq]; exact onChan_shape w c _
theorem applyEff_shape (w : World) (e : Eff) :
    ∃ sl sr ch wk wr o p, w.applyEff e =
      { w with slots := sl, slotReg := sr, chans := ch, woken := wk, written := wr, out := o, wirePend := p } := by
  cases e with
  | write bs => obtain ⟨wr, o, p, e⟩ := writeBytes_shape w bs; exact ⟨_, _, _, _, wr, o, p, e⟩
  | send s v => obtain ⟨sl, sr, wk, e⟩ := sendSlot_shape w s v; exact ⟨sl, sr, _, wk, _, _, _, e⟩
  | dropSlot s => obtain ⟨sl, sr, wk, e⟩ := dropSlotTx_shape w s; exact ⟨sl, sr, _, wk, _, _, _, e⟩
  | deliver c p => obtain ⟨ch, wk, e⟩ := deliver_shape w c p; exact ⟨_, _, ch, wk, _, _, _, e⟩
  | dropChan c => obtain ⟨ch, wk, e⟩ := dropChanTx_shape w c; exact ⟨_, _, ch, wk, _, _, _, e⟩
theorem applyEffs_shape (w : World) (es : List Eff) :
    ∃ sl sr ch wk wr o p, w.applyEffs es =
      { w with slots := sl, slotReg := sr, chans := ch, woken := wk, written := wr, out := o, wirePend := p } := by
  refine applyEffs_lift (R := fun w w' => ∃ sl sr ch wk wr o p, w' =
      { w with slots := sl, slotReg := sr, chans := ch, woken := wk, written := wr, out := o, wirePend := p })
    (fun _ => ⟨_, _, _, _, _, _, _, rfl⟩) ?_ (fun w e _ => applyEff_shape w e) w
  rintro a b c ⟨_, _, _, _, _, _, _, e1⟩ ⟨sl, sr, ch, wk, wr, o, p, e2⟩
  exact ⟨sl, sr, ch, wk, wr, o, p, by rw [e2, e1]⟩
theorem finishOp_shape (w : World) (id : Nat) (r : DoneRes) :
    ∃ wk qr, w.finishOp id r =
      { w with ops := eraseFirst id w.ops, out := w.out ++ [.done id r], woken := wk, queueReg := qr } := by
  obtain ⟨wk, qr, e⟩ := senderGone_shape (({ w with ops := eraseFirst id w.ops }).emit (.done id r))
  exact ⟨wk, qr, by rw [finishOp, e]; rfl⟩

theorem feedEvents_shape (w : World) (evs : List ReadEv) :
    ∃ rd, w.feedEvents evs =
      { w with reader := rd, readerReg := false,
               woken := if w.readerReg then (w.wake .ctx).woken else w.woken } := by
  refine ⟨(if w.cfg.fill then mergeRuns (w.reader ++ (if w.cfg.rdp then evs.flatMap fun e => [ReadEv.pending, e]
      else evs)) else w.reader ++ (if w.cfg.rdp then evs.flatMap fun e => [ReadEv.pending, e] else evs)), ?_⟩
  unfold feedEvents
  simp only
  by_cases hr : w.readerReg = true
  · simp [hr, wake_eq]
  · simp only [hr, Bool.false_eq_true, ↓reduceIte]

theorem flushRaw_frame (w : World) : ∃ ou wp, w.flushRaw = { w with out := ou, wirePend := wp } := by
  unfold flushRaw; split <;> exact ⟨_, _, rfl⟩

@[simp] theorem emit_cfg (w : World) (o : Obs) : (w.emit o).cfg = w.cfg := by rfl
@[simp] theorem emit_hasCtx (w : World) (o : Obs) : (w.emit o).hasCtx = w.hasCtx := by rfl
@[simp] theorem emit_ctxDropped (w : World) (o : Obs) : (w.emit o).ctxDropped = w.ctxDropped := by rfl
@[simp] theorem emit_task (w : World) (o : Obs) : (w.emit o).task = w.task := by rfl
@[simp] theorem emit_c (w : World) (o : Obs) : (w.emit o).c = w.c := by rfl
@[simp] theorem emit_rx (w : World) (o : Obs) : (w.emit o).rx = w.rx := by rfl
@[simp] theorem emit_reader (w : World) (o : Obs) : (w.emit o).reader = w.reader := by rfl
@[simp] theorem emit_readerReg (w : World) (o : Obs) : (w.emit o).readerReg = w.readerReg := by rfl
@[simp] theorem emit_queue (w : World) (o : Obs) : (w.emit o).queue = w.queue := by rfl
@[simp] theorem emit_queueReg (w : World) (o : Obs) : (w.emit o).queueReg = w.queueReg := by rfl
@[simp] theorem emit_handles (w : World) (o : Obs) : (w.emit o).handles = w.handles := by rfl
@[simp] theorem emit_ops (w : World) (o : Obs) : (w.emit o).ops = w.ops := by rfl
@[simp] theorem emit_slots (w : World) (o : Obs) : (w.emit o).slots = w.slots := by rfl
@[simp] theorem emit_slotReg (w : World) (o : Obs) : (w.emit o).slotReg = w.slotReg := by rfl
@[simp] theorem emit_chans (w : World) (o : Obs) : (w.emit o).chans = w.chans := by rfl
@[simp] theorem emit_rsps (w : World) (o : Obs) : (w.emit o).rsps = w.rsps := by rfl
@[simp] theorem emit_streams (w : World) (o : Obs) : (w.emit o).streams = w.streams := by rfl
@[simp] theorem emit_pidCtr (w : World) (o : Obs) : (w.emit o).pidCtr = w.pidCtr := by rfl
@[simp] theorem emit_subCtr (w : World) (o : Obs) : (w.emit o).subCtr = w.subCtr := by rfl
@[simp] theorem emit_woken (w : World) (o : Obs) : (w.emit o).woken = w.woken := by rfl
@[simp] theorem emit_held (w : World) (o : Obs) : (w.emit o).held = w.held := by rfl
@[simp] theorem emit_written (w : World) (o : Obs) : (w.emit o).written = w.written := by rfl
@[simp] theorem emit_wirePend (w : World) (o : Obs) : (w.emit o).wirePend = w.wirePend := by rfl
@[simp] theorem emit_bad (w : World) (o : Obs) : (w.emit o).bad = w.bad := by rfl
@[simp] theorem emit_slot (w : World) (o : Obs) (s0 : Nat) : (w.emit o).slot s0 = w.slot s0 := by rfl
@[simp] theorem emit_senders (w : World) (o : Obs)  : (w.emit o).senders = w.senders := by rfl
@[simp] theorem emit_canWrite (w : World) (o : Obs) (n0 : Nat) : (w.emit o).canWrite n0 = w.canWrite n0 := by rfl
@[simp] theorem emit_chanRxAlive (w : World) (o : Obs) (c0 : Nat) : (w.emit o).chanRxAlive c0 = w.chanRxAlive c0 := by rfl
@[simp] theorem wake_cfg (w : World) (t : Task) : (w.wake t).cfg = w.cfg := by
  rw [wake_eq]
@[simp] theorem wake_hasCtx (w : World) (t : Task) : (w.wake t).hasCtx = w.hasCtx := by
  rw [wake_eq]
@[simp] theorem wake_ctxDropped (w : World) (t : Task) : (w.wake t).ctxDropped = w.ctxDropped := by
  rw [wake_eq]
@[simp] theorem wake_task (w : World) (t : Task) : (w.wake t).task = w.task := by
  rw [wake_eq]
@[simp] theorem wake_c (w : World) (t : Task) : (w.wake t).c = w.c := by
  rw [wake_eq]
@[simp] theorem wake_rx (w : World) (t : Task) : (w.wake t).rx = w.rx := by
  rw [wake_eq]
@[simp] theorem wake_reader (w : World) (t : Task) : (w.wake t).reader = w.reader := by
  rw [wake_eq]
@[simp] theorem wake_queue (w : World) (t : Task) : (w.wake t).queue = w.queue := by
  rw [wake_eq]
@[simp] theorem wake_handles (w : World) (t : Task) : (w.wake t).handles = w.handles := by
  rw [wake_eq]
@[simp] theorem wake_ops (w : World) (t : Task) : (w.wake t).ops = w.ops := by
  rw [wake_eq]
@[simp] theorem wake_slots (w : World) (t : Task) : (w.wake t).slots = w.slots := by
  rw [wake_eq]
@[simp] theorem wake_slotReg (w : World) (t : Task) : (w.wake t).slotReg = w.slotReg := by
  rw [wake_eq]
@[simp] theorem wake_chans (w : World) (t : Task) : (w.wake t).chans = w.chans := by
  rw [wake_eq]
@[simp] theorem wake_rsps (w : World) (t : Task) : (w.wake t).rsps = w.rsps := by
  rw [wake_eq]
@[simp] theorem wake_streams (w : World) (t : Task) : (w.wake t).streams = w.streams := by
  rw [wake_eq]
@[simp] theorem wake_pidCtr (w : World) (t : Task) : (w.wake t).pidCtr = w.pidCtr := by
  rw [wake_eq]
@[simp] theorem wake_subCtr (w : World) (t : Task) : (w.wake t).subCtr = w.subCtr := by
  rw [wake_eq]
@[simp] theorem wake_held (w : World) (t : Task) : (w.wake t).held = w.held := by
  rw [wake_eq]
@[simp] theorem wake_wirePend (w : World) (t : Task) : (w.wake t).wirePend = w.wirePend := by
  rw [wake_eq]
@[simp] theorem wake_out (w : World) (t : Task) : (w.wake t).out = w.out := by
  rw [wake_eq]
@[simp] theorem wake_bad (w : World) (t : Task) : (w.wake t).bad = w.bad := by
  rw [wake_eq]
@[simp] theorem wake_opSt (w : World) (t : Task) (i0 : Nat) : (w.wake t).opSt i0 = w.opSt i0 := by
  rw [wake_eq]; rfl
@[simp] theorem wake_senders (w : World) (t : Task)  : (w.wake t).senders = w.senders := by
  rw [wake_eq]; rfl
@[simp] theorem wake_canWrite (w : World) (t : Task) (n0 : Nat) : (w.wake t).canWrite n0 = w.canWrite n0 := by
  rw [wake_eq]; rfl
@[simp] theorem wake_chanRxAlive (w : World) (t : Task) (c0 : Nat) : (w.wake t).chanRxAlive c0 = w.chanRxAlive c0 := by
  rw [wake_eq]; rfl
@[simp] theorem unwake_cfg (w : World) (t : Task) : (w.unwake t).cfg = w.cfg := by rfl
@[simp] theorem unwake_task (w : World) (t : Task) : (w.unwake t).task = w.task := by rfl
@[simp] theorem unwake_c (w : World) (t : Task) : (w.unwake t).c = w.c := by rfl
@[simp] theorem unwake_rx (w : World) (t : Task) : (w.unwake t).rx = w.rx := by rfl
@[simp] theorem unwake_reader (w : World) (t : Task) : (w.unwake t).reader = w.reader := by rfl
@[simp] theorem unwake_ops (w : World) (t : Task) : (w.unwake t).ops = w.ops := by rfl
@[simp] theorem unwake_chans (w : World) (t : Task) : (w.unwake t).chans = w.chans := by rfl
@[simp] theorem unwake_streams (w : World) (t : Task) : (w.unwake t).streams = w.streams := by rfl
@[simp] theorem unwake_wirePend (w : World) (t : Task) : (w.unwake t).wirePend = w.wirePend := by rfl
@[simp] theorem unwake_out (w : World) (t : Task) : (w.unwake t).out = w.out := by rfl
@[simp] theorem unwake_slot (w : World) (t : Task) (s0 : Nat) : (w.unwake t).slot s0 = w.slot s0 := by rfl
@[simp] theorem unwake_opSt (w : World) (t : Task) (i0 : Nat) : (w.unwake t).opSt i0 = w.opSt i0 := by rfl
@[simp] theorem unwake_senders (w : World) (t : Task)  : (w.unwake t).senders = w.senders := by rfl
@[simp] theorem unwake_canWrite (w : World) (t : Task) (n0 : Nat) : (w.unwake t).canWrite n0 = w.canWrite n0 := by rfl
@[simp] theorem unwake_chanRxAlive (w : World) (t : Task) (c0 : Nat) : (w.unwake t).chanRxAlive c0 = w.chanRxAlive c0 := by rfl
@[simp] theorem setSlot_hasCtx (w : World) (s : Nat) (v : Slot) : (w.setSlot s v).hasCtx = w.hasCtx := by rfl
@[simp] theorem setSlot_ctxDropped (w : World) (s : Nat) (v : Slot) : (w.setSlot s v).ctxDropped = w.ctxDropped := by rfl
@[simp] theorem setSlot_task (w : World) (s : Nat) (v : Slot) : (w.setSlot s v).task = w.task := by rfl
@[simp] theorem setSlot_c (w : World) (s : Nat) (v : Slot) : (w.setSlot s v).c = w.c := by rfl
@[simp] theorem setSlot_rx (w : World) (s : Nat) (v : Slot) : (w.setSlot s v).rx = w.rx := by rfl
@[simp] theorem setSlot_reader (w : World) (s : Nat) (v : Slot) : (w.setSlot s v).reader = w.reader := by rfl
@[simp] theorem setSlot_readerReg (w : World) (s : Nat) (v : Slot) : (w.setSlot s v).readerReg = w.readerReg := by rfl
@[simp] theorem setSlot_queue (w : World) (s : Nat) (v : Slot) : (w.setSlot s v).queue = w.queue := by rfl
@[simp] theorem setSlot_queueReg (w : World) (s : Nat) (v : Slot) : (w.setSlot s v).queueReg = w.queueReg := by rfl
@[simp] theorem setSlot_slotReg (w : World) (s : Nat) (v : Slot) : (w.setSlot s v).slotReg = w.slotReg := by rfl
@[simp] theorem setSlot_rsps (w : World) (s : Nat) (v : Slot) : (w.setSlot s v).rsps = w.rsps := by rfl
@[simp] theorem setSlot_streams (w : World) (s : Nat) (v : Slot) : (w.setSlot s v).streams = w.streams := by rfl
@[simp] theorem setSlot_pidCtr (w : World) (s : Nat) (v : Slot) : (w.setSlot s v).pidCtr = w.pidCtr := by rfl
@[simp] theorem setSlot_subCtr (w : World) (s : Nat) (v : Slot) : (w.setSlot s v).subCtr = w.subCtr := by rfl
@[simp] theorem setSlot_woken (w : World) (s : Nat) (v : Slot) : (w.setSlot s v).woken = w.woken := by rfl
@[simp] theorem setSlot_held (w : World) (s : Nat) (v : Slot) : (w.setSlot s v).held = w.held := by rfl
@[simp] theorem setSlot_wirePend (w : World) (s : Nat) (v : Slot) : (w.setSlot s v).wirePend = w.wirePend := by rfl
@[simp] theorem setSlot_out (w : World) (s : Nat) (v : Slot) : (w.setSlot s v).out = w.out := by rfl
@[simp] theorem setSlot_bad (w : World) (s : Nat) (v : Slot) : (w.setSlot s v).bad = w.bad := by rfl
@[simp] theorem setSlot_opSt (w : World) (s : Nat) (v : Slot) (i0 : Nat) : (w.setSlot s v).opSt i0 = w.opSt i0 := by rfl
@[simp] theorem setSlot_senders (w : World) (s : Nat) (v : Slot)  : (w.setSlot s v).senders = w.senders := by rfl
@[simp] theorem setSlot_canWrite (w : World) (s : Nat) (v : Slot) (n0 : Nat) : (w.setSlot s v).canWrite n0 = w.canWrite n0 := by rfl
@[simp] theorem setSlot_chanRxAlive (w : World) (s : Nat) (v : Slot) (c0 : Nat) : (w.setSlot s v).chanRxAlive c0 = w.chanRxAlive c0 := by rfl
@[simp] theorem setChan_opSt (w : World) (c : Nat) (v : Chan) (i0 : Nat) : (w.setChan c v).opSt i0 = w.opSt i0 := by rfl
@[simp] theorem setChan_senders (w : World) (c : Nat) (v : Chan)  : (w.setChan c v).senders = w.senders := by rfl
@[simp] theorem setChan_canWrite (w : World) (c : Nat) (v : Chan) (n0 : Nat) : (w.setChan c v).canWrite n0 = w.canWrite n0 := by rfl
@[simp] theorem dropChanRx_out (w : World) (c : Nat) : (w.dropChanRx c).out = w.out := by rfl
@[simp] theorem dropChanRx_opSt (w : World) (c : Nat) (i0 : Nat) : (w.dropChanRx c).opSt i0 = w.opSt i0 := by rfl
@[simp] theorem dropChanRx_senders (w : World) (c : Nat)  : (w.dropChanRx c).senders = w.senders := by rfl
@[simp] theorem dropChanRx_canWrite (w : World) (c : Nat) (n0 : Nat) : (w.dropChanRx c).canWrite n0 = w.canWrite n0 := by rfl
@[simp] theorem clearSlot_hasCtx (w : World) (s : Nat) : (w.clearSlot s).hasCtx = w.hasCtx := by rfl
@[simp] theorem clearSlot_ops (w : World) (s : Nat) : (w.clearSlot s).ops = w.ops := by rfl
@[simp] theorem clearSlot_out (w : World) (s : Nat) : (w.clearSlot s).out = w.out := by rfl
@[simp] theorem clearSlot_opSt (w : World) (s : Nat) (i0 : Nat) : (w.clearSlot s).opSt i0 = w.opSt i0 := by rfl
@[simp] theorem clearSlot_senders (w : World) (s : Nat)  : (w.clearSlot s).senders = w.senders := by rfl
@[simp] theorem clearSlot_canWrite (w : World) (s : Nat) (n0 : Nat) : (w.clearSlot s).canWrite n0 = w.canWrite n0 := by rfl
@[simp] theorem clearSlot_chanRxAlive (w : World) (s : Nat) (c0 : Nat) : (w.clearSlot s).chanRxAlive c0 = w.chanRxAlive c0 := by rfl
@[simp] theorem senderGone_cfg (w : World)  : w.senderGone.cfg = w.cfg := by
  obtain ⟨_, _, e⟩ := senderGone_shape w; rw [e]
@[simp] theorem senderGone_hasCtx (w : World)  : w.senderGone.hasCtx = w.hasCtx := by
  obtain ⟨_, _, e⟩ := senderGone_shape w; rw [e]
@[simp] theorem senderGone_ctxDropped (w : World)  : w.senderGone.ctxDropped = w.ctxDropped := by
  obtain ⟨_, _, e⟩ := senderGone_shape w; rw [e]
@[simp] theorem senderGone_task (w : World)  : w.senderGone.task = w.task := by
  obtain ⟨_, _, e⟩ := senderGone_shape w; rw [e]
@[simp] theorem senderGone_c (w : World)  : w.senderGone.c = w.c := by
  obtain ⟨_, _, e⟩ := senderGone_shape w; rw [e]
@[simp] theorem senderGone_rx (w : World)  : w.senderGone.rx = w.rx := by
  obtain ⟨_, _, e⟩ := senderGone_shape w; rw [e]
@[simp] theorem senderGone_reader (w : World)  : w.senderGone.reader = w.reader := by
  obtain ⟨_, _, e⟩ := senderGone_shape w; rw [e]
@[simp] theorem senderGone_readerReg (w : World)  : w.senderGone.readerReg = w.readerReg := by
  obtain ⟨_, _, e⟩ := senderGone_shape w; rw [e]
@[simp] theorem senderGone_queue (w : World)  : w.senderGone.queue = w.queue := by
  obtain ⟨_, _, e⟩ := senderGone_shape w; rw [e]
@[simp] theorem senderGone_handles (w : World)  : w.senderGone.handles = w.handles := by
  obtain ⟨_, _, e⟩ := senderGone_shape w; rw [e]
@[simp] theorem senderGone_ops (w : World)  : w.senderGone.ops = w.ops := by
  obtain ⟨_, _, e⟩ := senderGone_shape w; rw [e]
@[simp] theorem senderGone_slots (w : World)  : w.senderGone.slots = w.slots := by
  obtain ⟨_, _, e⟩ := senderGone_shape w; rw [e]
@[simp] theorem senderGone_slotReg (w : World)  : w.senderGone.slotReg = w.slotReg := by
  obtain ⟨_, _, e⟩ := senderGone_shape w; rw [e]
@[simp] theorem senderGone_chans (w : World)  : w.senderGone.chans = w.chans := by
  obtain ⟨_, _, e⟩ := senderGone_shape w; rw [e]
@[simp] theorem senderGone_rsps (w : World)  : w.senderGone.rsps = w.rsps := by
  obtain ⟨_, _, e⟩ := senderGone_shape w; rw [e]
@[simp] theorem senderGone_streams (w : World)  : w.senderGone.streams = w.streams := by
  obtain ⟨_, _, e⟩ := senderGone_shape w; rw [e]
@[simp] theorem senderGone_pidCtr (w : World)  : w.senderGone.pidCtr = w.pidCtr := by
  obtain ⟨_, _, e⟩ := senderGone_shape w; rw [e]
@[simp] theorem senderGone_out (w : World)  : w.senderGone.out = w.out := by
  obtain ⟨_, _, e⟩ := senderGone_shape w; rw [e]
@[simp] theorem senderGone_slot (w : World)  (s0 : Nat) : w.senderGone.slot s0 = w.slot s0 := by
  obtain ⟨_, _, e⟩ := senderGone_shape w; rw [e]; rfl
@[simp] theorem senderGone_opSt (w : World)  (i0 : Nat) : w.senderGone.opSt i0 = w.opSt i0 := by
  obtain ⟨_, _, e⟩ := senderGone_shape w; rw [e]; rfl
@[simp] theorem senderGone_senders (w : World)   : w.senderGone.senders = w.senders := by
  obtain ⟨_, _, e⟩ := senderGone_shape w; rw [e]; rfl
@[simp] theorem senderGone_canWrite (w : World)  (n0 : Nat) : w.senderGone.canWrite n0 = w.canWrite n0 := by
  obtain ⟨_, _, e⟩ := senderGone_shape w; rw [e]; rfl
@[simp] theorem senderGone_chanRxAlive (w : World)  (c0 : Nat) : w.senderGone.chanRxAlive c0 = w.chanRxAlive c0 := by
  obtain ⟨_, _, e⟩ := senderGone_shape w; rw [e]; rfl
@[simp] theorem flushWire_written (w : World)  : w.flushWire.written = w.written := by
  obtain ⟨_, _, e⟩ := flushWire_shape w; rw [e]
@[simp] theorem flushWire_slot (w : World)  (s0 : Nat) : w.flushWire.slot s0 = w.slot s0 := by
  obtain ⟨_, _, e⟩ := flushWire_shape w; rw [e]; rfl
@[simp] theorem flushWire_opSt (w : World)  (i0 : Nat) : w.flushWire.opSt i0 = w.opSt i0 := by
  obtain ⟨_, _, e⟩ := flushWire_shape w; rw [e]; rfl
@[simp] theorem flushWire_senders (w : World)   : w.flushWire.senders = w.senders := by
  obtain ⟨_, _, e⟩ := flushWire_shape w; rw [e]; rfl
@[simp] theorem flushWire_canWrite (w : World)  (n0 : Nat) : w.flushWire.canWrite n0 = w.canWrite n0 := by
  obtain ⟨_, _, e⟩ := flushWire_shape w; rw [e]; rfl
@[simp] theorem flushWire_chanRxAlive (w : World)  (c0 : Nat) : w.flushWire.chanRxAlive c0 = w.chanRxAlive c0 := by
  obtain ⟨_, _, e⟩ := flushWire_shape w; rw [e]; rfl
@[simp] theorem writeBytes_cfg (w : World) (bs : Bytes) : (w.writeBytes bs).cfg = w.cfg := by
  obtain ⟨_, _, _, e⟩ := writeBytes_shape w bs; rw [e]
@[simp] theorem writeBytes_hasCtx (w : World) (bs : Bytes) : (w.writeBytes bs).hasCtx = w.hasCtx := by
  obtain ⟨_, _, _, e⟩ := writeBytes_shape w bs; rw [e]
@[simp] theorem writeBytes_ctxDropped (w : World) (bs : Bytes) : (w.writeBytes bs).ctxDropped = w.ctxDropped := by
  obtain ⟨_, _, _, e⟩ := writeBytes_shape w bs; rw [e]
@[simp] theorem writeBytes_task (w : World) (bs : Bytes) : (w.writeBytes bs).task = w.task := by
  obtain ⟨_, _, _, e⟩ := writeBytes_shape w bs; rw [e]
@[simp] theorem writeBytes_c (w : World) (bs : Bytes) : (w.writeBytes bs).c = w.c := by
  obtain ⟨_, _, _, e⟩ := writeBytes_shape w bs; rw [e]
@[simp] theorem writeBytes_rx (w : World) (bs : Bytes) : (w.writeBytes bs).rx = w.rx := by
  obtain ⟨_, _, _, e⟩ := writeBytes_shape w bs; rw [e]
@[simp] theorem writeBytes_reader (w : World) (bs : Bytes) : (w.writeBytes bs).reader = w.reader := by
  obtain ⟨_, _, _, e⟩ := writeBytes_shape w bs; rw [e]
@[simp] theorem writeBytes_queue (w : World) (bs : Bytes) : (w.writeBytes bs).queue = w.queue := by
  obtain ⟨_, _, _, e⟩ := writeBytes_shape w bs; rw [e]
@[simp] theorem writeBytes_ops (w : World) (bs : Bytes) : (w.writeBytes bs).ops = w.ops := by
  obtain ⟨_, _, _, e⟩ := writeBytes_shape w bs; rw [e]
@[simp] theorem writeBytes_slots (w : World) (bs : Bytes) : (w.writeBytes bs).slots = w.slots := by
  obtain ⟨_, _, _, e⟩ := writeBytes_shape w bs; rw [e]
@[simp] theorem writeBytes_chans (w : World) (bs : Bytes) : (w.writeBytes bs).chans = w.chans := by
  obtain ⟨_, _, _, e⟩ := writeBytes_shape w bs; rw [e]
@[simp] theorem writeBytes_subCtr (w : World) (bs : Bytes) : (w.writeBytes bs).subCtr = w.subCtr := by
  obtain ⟨_, _, _, e⟩ := writeBytes_shape w bs; rw [e]
@[simp] theorem writeBytes_slot (w : World) (bs : Bytes) (s0 : Nat) : (w.writeBytes bs).slot s0 = w.slot s0 := by
  obtain ⟨_, _, _, e⟩ := writeBytes_shape w bs; rw [e]; rfl
@[simp] theorem writeBytes_opSt (w : World) (bs : Bytes) (i0 : Nat) : (w.writeBytes bs).opSt i0 = w.opSt i0 := by
  obtain ⟨_, _, _, e⟩ := writeBytes_shape w bs; rw [e]; rfl
@[simp] theorem writeBytes_senders (w : World) (bs : Bytes)  : (w.writeBytes bs).senders = w.senders := by
  obtain ⟨_, _, _, e⟩ := writeBytes_shape w bs; rw [e]; rfl
@[simp] theorem writeBytes_chanRxAlive (w : World) (bs : Bytes) (c0 : Nat) : (w.writeBytes bs).chanRxAlive c0 = w.chanRxAlive c0 := by
  obtain ⟨_, _, _, e⟩ := writeBytes_shape w bs; rw [e]; rfl
@[simp] theorem sendSlot_written (w : World) (s : Nat) (v : SlotVal) : (w.sendSlot s v).written = w.written := by
  obtain ⟨_, _, _, e⟩ := sendSlot_shape w s v; rw [e]
@[simp] theorem sendSlot_wirePend (w : World) (s : Nat) (v : SlotVal) : (w.sendSlot s v).wirePend = w.wirePend := by
  obtain ⟨_, _, _, e⟩ := sendSlot_shape w s v; rw [e]
@[simp] theorem sendSlot_out (w : World) (s : Nat) (v : SlotVal) : (w.sendSlot s v).out = w.out := by
  obtain ⟨_, _, _, e⟩ := sendSlot_shape w s v; rw [e]
theorem sendSlot_chans (w : World) (s : Nat) (v : SlotVal) : (w.sendSlot s v).chans = w.chans := by
  obtain ⟨_, _, _, e⟩ := sendSlot_shape w s v; rw [e]
@[simp] theorem sendSlot_opSt (w : World) (s : Nat) (v : SlotVal) (i0 : Nat) : (w.sendSlot s v).opSt i0 = w.opSt i0 := by
  obtain ⟨_, _, _, e⟩ := sendSlot_shape w s v; rw [e]; rfl
@[simp] theorem sendSlot_senders (w : World) (s : Nat) (v : SlotVal)  : (w.sendSlot s v).senders = w.senders := by
  obtain ⟨_, _, _, e⟩ := sendSlot_shape w s v; rw [e]; rfl
@[simp] theorem sendSlot_canWrite (w : World) (s : Nat) (v : SlotVal) (n0 : Nat) : (w.sendSlot s v).canWrite n0 = w.canWrite n0 := by
  obtain ⟨_, _, _, e⟩ := sendSlot_shape w s v; rw [e]; rfl
@[simp] theorem sendSlot_chanRxAlive (w : World) (s : Nat) (v : SlotVal) (c0 : Nat) : (w.sendSlot s v).chanRxAlive c0 = w.chanRxAlive c0 := by
  obtain ⟨_, _, _, e⟩ := sendSlot_shape w s v; rw [e]; rfl
@[simp] theorem dropSlotTx_written (w : World) (s : Nat) : (w.dropSlotTx s).written = w.written := by
  obtain ⟨_, _, _, e⟩ := dropSlotTx_shape w s; rw [e]
@[simp] theorem dropSlotTx_wirePend (w : World) (s : Nat) : (w.dropSlotTx s).wirePend = w.wirePend := by
  obtain ⟨_, _, _, e⟩ := dropSlotTx_shape w s; rw [e]
@[simp] theorem dropSlotTx_out (w : World) (s : Nat) : (w.dropSlotTx s).out = w.out := by
  obtain ⟨_, _, _, e⟩ := dropSlotTx_shape w s; rw [e]
theorem dropSlotTx_chans (w : World) (s : Nat) : (w.dropSlotTx s).chans = w.chans := by
  obtain ⟨_, _, _, e⟩ := dropSlotTx_shape w s; rw [e]
@[simp] theorem dropSlotTx_chan (w : World) (s : Nat) (c0 : Nat) : (w.dropSlotTx s).chan c0 = w.chan c0 := by
  obtain ⟨_, _, _, e⟩ := dropSlotTx_shape w s; rw [e]; rfl
@[simp] theorem dropSlotTx_opSt (w : World) (s : Nat) (i0 : Nat) : (w.dropSlotTx s).opSt i0 = w.opSt i0 := by
  obtain ⟨_, _, _, e⟩ := dropSlotTx_shape w s; rw [e]; rfl
@[simp] theorem dropSlotTx_senders (w : World) (s : Nat)  : (w.dropSlotTx s).senders = w.senders := by
  obtain ⟨_, _, _, e⟩ := dropSlotTx_shape w s; rw [e]; rfl
@[simp] theorem dropSlotTx_canWrite (w : World) (s : Nat) (n0 : Nat) : (w.dropSlotTx s).canWrite n0 = w.canWrite n0 := by
  obtain ⟨_, _, _, e⟩ := dropSlotTx_shape w s; rw [e]; rfl
@[simp] theorem dropSlotTx_chanRxAlive (w : World) (s : Nat) (c0 : Nat) : (w.dropSlotTx s).chanRxAlive c0 = w.chanRxAlive c0 := by
  obtain ⟨_, _, _, e⟩ := dropSlotTx_shape w s; rw [e]; rfl
@[simp] theorem deliver_slots (w : World) (c : Nat) (p : PublishRx) : (w.deliver c p).slots = w.slots := by
  obtain ⟨_, _, e⟩ := deliver_shape w c p; rw [e]
@[simp] theorem deliver_written (w : World) (c : Nat) (p : PublishRx) : (w.deliver c p).written = w.written := by
  obtain ⟨_, _, e⟩ := deliver_shape w c p; rw [e]
@[simp] theorem deliver_wirePend (w : World) (c : Nat) (p : PublishRx) : (w.deliver c p).wirePend = w.wirePend := by
  obtain ⟨_, _, e⟩ := deliver_shape w c p; rw [e]
@[simp] theorem deliver_out (w : World) (c : Nat) (p : PublishRx) : (w.deliver c p).out = w.out := by
  obtain ⟨_, _, e⟩ := deliver_shape w c p; rw [e]
@[simp] theorem deliver_slot (w : World) (c : Nat) (p : PublishRx) (s0 : Nat) : (w.deliver c p).slot s0 = w.slot s0 := by
  obtain ⟨_, _, e⟩ := deliver_shape w c p; rw [e]; rfl
@[simp] theorem deliver_opSt (w : World) (c : Nat) (p : PublishRx) (i0 : Nat) : (w.deliver c p).opSt i0 = w.opSt i0 := by
  obtain ⟨_, _, e⟩ := deliver_shape w c p; rw [e]; rfl
@[simp] theorem deliver_senders (w : World) (c : Nat) (p : PublishRx)  : (w.deliver c p).senders = w.senders := by
  obtain ⟨_, _, e⟩ := deliver_shape w c p; rw [e]; rfl
@[simp] theorem deliver_canWrite (w : World) (c : Nat) (p : PublishRx) (n0 : Nat) : (w.deliver c p).canWrite n0 = w.canWrite n0 := by
  obtain ⟨_, _, e⟩ := deliver_shape w c p; rw [e]; rfl
@[simp] theorem dropChanTx_slots (w : World) (c : Nat) : (w.dropChanTx c).slots = w.slots := by
  obtain ⟨_, _, e⟩ := dropChanTx_shape w c; rw [e]
@[simp] theorem dropChanTx_slotReg (w : World) (c : Nat) : (w.dropChanTx c).slotReg = w.slotReg := by
  obtain ⟨_, _, e⟩ := dropChanTx_shape w c; rw [e]
@[simp] theorem dropChanTx_written (w : World) (c : Nat) : (w.dropChanTx c).written = w.written := by
  obtain ⟨_, _, e⟩ := dropChanTx_shape w c; rw [e]
@[simp] theorem dropChanTx_wirePend (w : World) (c : Nat) : (w.dropChanTx c).wirePend = w.wirePend := by
  obtain ⟨_, _, e⟩ := dropChanTx_shape w c; rw [e]
@[simp] theorem dropChanTx_out (w : World) (c : Nat) : (w.dropChanTx c).out = w.out := by
  obtain ⟨_, _, e⟩ := dropChanTx_shape w c; rw [e]
@[simp] theorem dropChanTx_slot (w : World) (c : Nat) (s0 : Nat) : (w.dropChanTx c).slot s0 = w.slot s0 := by
  obtain ⟨_, _, e⟩ := dropChanTx_shape w c; rw [e]; rfl
@[simp] theorem dropChanTx_opSt (w : World) (c : Nat) (i0 : Nat) : (w.dropChanTx c).opSt i0 = w.opSt i0 := by
  obtain ⟨_, _, e⟩ := dropChanTx_shape w c; rw [e]; rfl
@[simp] theorem dropChanTx_senders (w : World) (c : Nat)  : (w.dropChanTx c).senders = w.senders := by
  obtain ⟨_, _, e⟩ := dropChanTx_shape w c; rw [e]; rfl
@[simp] theorem dropChanTx_canWrite (w : World) (c : Nat) (n0 : Nat) : (w.dropChanTx c).canWrite n0 = w.canWrite n0 := by
  obtain ⟨_, _, e⟩ := dropChanTx_shape w c; rw [e]; rfl
@[simp] theorem applyEff_cfg (w : World) (e : Eff) : (w.applyEff e).cfg = w.cfg := by
  obtain ⟨_, _, _, _, _, _, _, e⟩ := applyEff_shape w e; rw [e]
@[simp] theorem applyEff_opSt (w : World) (e : Eff) (i0 : Nat) : (w.applyEff e).opSt i0 = w.opSt i0 := by
  obtain ⟨_, _, _, _, _, _, _, e⟩ := applyEff_shape w e; rw [e]; rfl
@[simp] theorem applyEff_senders (w : World) (e : Eff)  : (w.applyEff e).senders = w.senders := by
  obtain ⟨_, _, _, _, _, _, _, e⟩ := applyEff_shape w e; rw [e]; rfl
@[simp] theorem applyEffs_cfg (w : World) (es : List Eff) : (w.applyEffs es).cfg = w.cfg := by
  obtain ⟨_, _, _, _, _, _, _, e⟩ := applyEffs_shape w es; rw [e]
@[simp] theorem applyEffs_hasCtx (w : World) (es : List Eff) : (w.applyEffs es).hasCtx = w.hasCtx := by
  obtain ⟨_, _, _, _, _, _, _, e⟩ := applyEffs_shape w es; rw [e]
@[simp] theorem applyEffs_ctxDropped (w : World) (es : List Eff) : (w.applyEffs es).ctxDropped = w.ctxDropped := by
  obtain ⟨_, _, _, _, _, _, _, e⟩ := applyEffs_shape w es; rw [e]
@[simp] theorem applyEffs_task (w : World) (es : List Eff) : (w.applyEffs es).task = w.task := by
  obtain ⟨_, _, _, _, _, _, _, e⟩ := applyEffs_shape w es; rw [e]
@[simp] theorem applyEffs_c (w : World) (es : List Eff) : (w.applyEffs es).c = w.c := by
  obtain ⟨_, _, _, _, _, _, _, e⟩ := applyEffs_shape w es; rw [e]
@[simp] theorem applyEffs_rx (w : World) (es : List Eff) : (w.applyEffs es).rx = w.rx := by
  obtain ⟨_, _, _, _, _, _, _, e⟩ := applyEffs_shape w es; rw [e]
@[simp] theorem applyEffs_reader (w : World) (es : List Eff) : (w.applyEffs es).reader = w.reader := by
  obtain ⟨_, _, _, _, _, _, _, e⟩ := applyEffs_shape w es; rw [e]
@[simp] theorem applyEffs_readerReg (w : World) (es : List Eff) : (w.applyEffs es).readerReg = w.readerReg := by
  obtain ⟨_, _, _, _, _, _, _, e⟩ := applyEffs_shape w es; rw [e]
@[simp] theorem applyEffs_queue (w : World) (es : List Eff) : (w.applyEffs es).queue = w.queue := by
  obtain ⟨_, _, _, _, _, _, _, e⟩ := applyEffs_shape w es; rw [e]
@[simp] theorem applyEffs_queueReg (w : World) (es : List Eff) : (w.applyEffs es).queueReg = w.queueReg := by
  obtain ⟨_, _, _, _, _, _, _, e⟩ := applyEffs_shape w es; rw [e]
@[simp] theorem applyEffs_handles (w : World) (es : List Eff) : (w.applyEffs es).handles = w.handles := by
  obtain ⟨_, _, _, _, _, _, _, e⟩ := applyEffs_shape w es; rw [e]
@[simp] theorem applyEffs_ops (w : World) (es : List Eff) : (w.applyEffs es).ops = w.ops := by
  obtain ⟨_, _, _, _, _, _, _, e⟩ := applyEffs_shape w es; rw [e]
@[simp] theorem applyEffs_rsps (w : World) (es : List Eff) : (w.applyEffs es).rsps = w.rsps := by
  obtain ⟨_, _, _, _, _, _, _, e⟩ := applyEffs_shape w es; rw [e]
@[simp] theorem applyEffs_streams (w : World) (es : List Eff) : (w.applyEffs es).streams = w.streams := by
  obtain ⟨_, _, _, _, _, _, _, e⟩ := applyEffs_shape w es; rw [e]
@[simp] theorem applyEffs_pidCtr (w : World) (es : List Eff) : (w.applyEffs es).pidCtr = w.pidCtr := by
  obtain ⟨_, _, _, _, _, _, _, e⟩ := applyEffs_shape w es; rw [e]
@[simp] theorem applyEffs_subCtr (w : World) (es : List Eff) : (w.applyEffs es).subCtr = w.subCtr := by
  obtain ⟨_, _, _, _, _, _, _, e⟩ := applyEffs_shape w es; rw [e]
@[simp] theorem applyEffs_held (w : World) (es : List Eff) : (w.applyEffs es).held = w.held := by
  obtain ⟨_, _, _, _, _, _, _, e⟩ := applyEffs_shape w es; rw [e]
@[simp] theorem applyEffs_bad (w : World) (es : List Eff) : (w.applyEffs es).bad = w.bad := by
  obtain ⟨_, _, _, _, _, _, _, e⟩ := applyEffs_shape w es; rw [e]
@[simp] theorem applyEffs_opSt (w : World) (es : List Eff) (i0 : Nat) : (w.applyEffs es).opSt i0 = w.opSt i0 := by
  obtain ⟨_, _, _, _, _, _, _, e⟩ := applyEffs_shape w es; rw [e]; rfl
@[simp] theorem applyEffs_senders (w : World) (es : List Eff)  : (w.applyEffs es).senders = w.senders := by
  obtain ⟨_, _, _, _, _, _, _, e⟩ := applyEffs_shape w es; rw [e]; rfl
@[simp] theorem finish_c (w : World) (call : Call) (r : RetRes) : (w.finish call r).c = w.c := by rfl
@[simp] theorem finish_rx (w : World) (call : Call) (r : RetRes) : (w.finish call r).rx = w.rx := by rfl
@[simp] theorem finish_reader (w : World) (call : Call) (r : RetRes) : (w.finish call r).reader = w.reader := by rfl
@[simp] theorem finish_readerReg (w : World) (call : Call) (r : RetRes) : (w.finish call r).readerReg = w.readerReg := by rfl
@[simp] theorem finish_queueReg (w : World) (call : Call) (r : RetRes) : (w.finish call r).queueReg = w.queueReg := by rfl
@[simp] theorem finish_slots (w : World) (call : Call) (r : RetRes) : (w.finish call r).slots = w.slots := by rfl
@[simp] theorem finish_slotReg (w : World) (call : Call) (r : RetRes) : (w.finish call r).slotReg = w.slotReg := by rfl
@[simp] theorem finish_pidCtr (w : World) (call : Call) (r : RetRes) : (w.finish call r).pidCtr = w.pidCtr := by rfl
@[simp] theorem finish_subCtr (w : World) (call : Call) (r : RetRes) : (w.finish call r).subCtr = w.subCtr := by rfl
@[simp] theorem finish_held (w : World) (call : Call) (r : RetRes) : (w.finish call r).held = w.held := by rfl
@[simp] theorem finish_wirePend (w : World) (call : Call) (r : RetRes) : (w.finish call r).wirePend = w.wirePend := by rfl
@[simp] theorem finish_bad (w : World) (call : Call) (r : RetRes) : (w.finish call r).bad = w.bad := by rfl
@[simp] theorem finish_opSt (w : World) (call : Call) (r : RetRes) (i0 : Nat) : (w.finish call r).opSt i0 = w.opSt i0 := by rfl
@[simp] theorem finish_senders (w : World) (call : Call) (r : RetRes)  : (w.finish call r).senders = w.senders := by rfl
@[simp] theorem finish_canWrite (w : World) (call : Call) (r : RetRes) (n0 : Nat) : (w.finish call r).canWrite n0 = w.canWrite n0 := by rfl
@[simp] theorem finish_chanRxAlive (w : World) (call : Call) (r : RetRes) (c0 : Nat) : (w.finish call r).chanRxAlive c0 = w.chanRxAlive c0 := by rfl
@[simp] theorem finishOp_c (w : World) (id : Nat) (r : DoneRes) : (w.finishOp id r).c = w.c := by
  obtain ⟨_, _, e⟩ := finishOp_shape w id r; rw [e]
@[simp] theorem finishOp_queue (w : World) (id : Nat) (r : DoneRes) : (w.finishOp id r).queue = w.queue := by
  obtain ⟨_, _, e⟩ := finishOp_shape w id r; rw [e]
@[simp] theorem finishOp_slots (w : World) (id : Nat) (r : DoneRes) : (w.finishOp id r).slots = w.slots := by
  obtain ⟨_, _, e⟩ := finishOp_shape w id r; rw [e]
@[simp] theorem finishOp_chans (w : World) (id : Nat) (r : DoneRes) : (w.finishOp id r).chans = w.chans := by
  obtain ⟨_, _, e⟩ := finishOp_shape w id r; rw [e]
@[simp] theorem finishOp_pidCtr (w : World) (id : Nat) (r : DoneRes) : (w.finishOp id r).pidCtr = w.pidCtr := by
  obtain ⟨_, _, e⟩ := finishOp_shape w id r; rw [e]
@[simp] theorem finishOp_subCtr (w : World) (id : Nat) (r : DoneRes) : (w.finishOp id r).subCtr = w.subCtr := by
  obtain ⟨_, _, e⟩ := finishOp_shape w id r; rw [e]
@[simp] theorem finishOp_slot (w : World) (id : Nat) (r : DoneRes) (s0 : Nat) : (w.finishOp id r).slot s0 = w.slot s0 := by
  obtain ⟨_, _, e⟩ := finishOp_shape w id r; rw [e]; rfl
@[simp] theorem finishOp_canWrite (w : World) (id : Nat) (r : DoneRes) (n0 : Nat) : (w.finishOp id r).canWrite n0 = w.canWrite n0 := by
  obtain ⟨_, _, e⟩ := finishOp_shape w id r; rw [e]; rfl
@[simp] theorem finishOp_chanRxAlive (w : World) (id : Nat) (r : DoneRes) (c0 : Nat) : (w.finishOp id r).chanRxAlive c0 = w.chanRxAlive c0 := by
  obtain ⟨_, _, e⟩ := finishOp_shape w id r; rw [e]; rfl
@[simp] theorem awaitSlot_hasCtx (w : World) (id s : Nat) (k : Wait) : (w.awaitSlot id s k).hasCtx = w.hasCtx := by rfl
@[simp] theorem awaitSlot_ctxDropped (w : World) (id s : Nat) (k : Wait) : (w.awaitSlot id s k).ctxDropped = w.ctxDropped := by rfl
@[simp] theorem awaitSlot_reader (w : World) (id s : Nat) (k : Wait) : (w.awaitSlot id s k).reader = w.reader := by rfl
@[simp] theorem awaitSlot_readerReg (w : World) (id s : Nat) (k : Wait) : (w.awaitSlot id s k).readerReg = w.readerReg := by rfl
@[simp] theorem awaitSlot_queue (w : World) (id s : Nat) (k : Wait) : (w.awaitSlot id s k).queue = w.queue := by rfl
@[simp] theorem awaitSlot_queueReg (w : World) (id s : Nat) (k : Wait) : (w.awaitSlot id s k).queueReg = w.queueReg := by rfl
@[simp] theorem awaitSlot_woken (w : World) (id s : Nat) (k : Wait) : (w.awaitSlot id s k).woken = w.woken := by rfl
@[simp] theorem awaitSlot_bad (w : World) (id s : Nat) (k : Wait) : (w.awaitSlot id s k).bad = w.bad := by rfl
@[simp] theorem awaitSlot_chan (w : World) (id s : Nat) (k : Wait) (c0 : Nat) : (w.awaitSlot id s k).chan c0 = w.chan c0 := by rfl
@[simp] theorem awaitSlot_canWrite (w : World) (id s : Nat) (k : Wait) (n0 : Nat) : (w.awaitSlot id s k).canWrite n0 = w.canWrite n0 := by rfl
@[simp] theorem awaitSlot_chanRxAlive (w : World) (id s : Nat) (k : Wait) (c0 : Nat) : (w.awaitSlot id s k).chanRxAlive c0 = w.chanRxAlive c0 := by rfl
theorem flushRaw_c (w : World) : w.flushRaw.c = w.c := by
  obtain ⟨ou, wp, e⟩ := flushRaw_frame w; rw [e]
theorem flushRaw_queue (w : World) : w.flushRaw.queue = w.queue := by
  obtain ⟨ou, wp, e⟩ := flushRaw_frame w; rw [e]
theorem flushRaw_task (w : World) : w.flushRaw.task = w.task := by
  obtain ⟨ou, wp, e⟩ := flushRaw_frame w; rw [e]
theorem flushRaw_hasCtx (w : World) : w.flushRaw.hasCtx = w.hasCtx := by
  obtain ⟨ou, wp, e⟩ := flushRaw_frame w; rw [e]

@[simp] theorem allocPid_cfg (w : World) : w.allocPid.2.cfg = w.cfg := rfl
@[simp] theorem allocPid_hasCtx (w : World) : w.allocPid.2.hasCtx = w.hasCtx := rfl
@[simp] theorem allocPid_ctxDropped (w : World) : w.allocPid.2.ctxDropped = w.ctxDropped := rfl
@[simp] theorem allocPid_task (w : World) : w.allocPid.2.task = w.task := rfl
@[simp] theorem allocPid_c (w : World) : w.allocPid.2.c = w.c := rfl
@[simp] theorem allocPid_rx (w : World) : w.allocPid.2.rx = w.rx := rfl
@[simp] theorem allocPid_reader (w : World) : w.allocPid.2.reader = w.reader := rfl
@[simp] theorem allocPid_readerReg (w : World) : w.allocPid.2.readerReg = w.readerReg := rfl
@[simp] theorem allocPid_queue (w : World) : w.allocPid.2.queue = w.queue := rfl
@[simp] theorem allocPid_queueReg (w : World) : w.allocPid.2.queueReg = w.queueReg := rfl
@[simp] theorem allocPid_handles (w : World) : w.allocPid.2.handles = w.handles := rfl
@[simp] theorem allocPid_ops (w : World) : w.allocPid.2.ops = w.ops := rfl
@[simp] theorem allocPid_slots (w : World) : w.allocPid.2.slots = w.slots := rfl
@[simp] theorem allocPid_slotReg (w : World) : w.allocPid.2.slotReg = w.slotReg := rfl
@[simp] theorem allocPid_chans (w : World) : w.allocPid.2.chans = w.chans := rfl
@[simp] theorem allocPid_rsps (w : World) : w.allocPid.2.rsps = w.rsps := rfl
@[simp] theorem allocPid_streams (w : World) : w.allocPid.2.streams = w.streams := rfl
@[simp] theorem allocPid_subCtr (w : World) : w.allocPid.2.subCtr = w.subCtr := rfl
@[simp] theorem allocPid_woken (w : World) : w.allocPid.2.woken = w.woken := rfl
@[simp] theorem allocPid_held (w : World) : w.allocPid.2.held = w.held := rfl
@[simp] theorem allocPid_written (w : World) : w.allocPid.2.written = w.written := rfl
@[simp] theorem allocPid_wirePend (w : World) : w.allocPid.2.wirePend = w.wirePend := rfl
@[simp] theorem allocPid_out (w : World) : w.allocPid.2.out = w.out := rfl
@[simp] theorem allocPid_bad (w : World) : w.allocPid.2.bad = w.bad := rfl
@[simp] theorem allocPid_slot (w : World) (s0 : Nat) : w.allocPid.2.slot s0 = w.slot s0 := rfl
@[simp] theorem allocPid_chan (w : World) (c0 : Nat) : w.allocPid.2.chan c0 = w.chan c0 := rfl
@[simp] theorem allocPid_opSt (w : World) (i0 : Nat) : w.allocPid.2.opSt i0 = w.opSt i0 := rfl
@[simp] theorem allocPid_senders (w : World)  : w.allocPid.2.senders = w.senders := rfl
@[simp] theorem allocPid_canWrite (w : World) (n0 : Nat) : w.allocPid.2.canWrite n0 = w.canWrite n0 := rfl
@[simp] theorem allocPid_chanRxAlive (w : World) (c0 : Nat) : w.allocPid.2.chanRxAlive c0 = w.chanRxAlive c0 := rfl
@[simp] theorem allocSub_cfg (w : World) : w.allocSub.2.cfg = w.cfg := rfl
@[simp] theorem allocSub_hasCtx (w : World) : w.allocSub.2.hasCtx = w.hasCtx := rfl
@[simp] theorem allocSub_ctxDropped (w : World) : w.allocSub.2.ctxDropped = w.ctxDropped := rfl
@[simp] theorem allocSub_task (w : World) : w.allocSub.2.task = w.task := rfl
@[simp] theorem allocSub_c (w : World) : w.allocSub.2.c = w.c := rfl
@[simp] theorem allocSub_rx (w : World) : w.allocSub.2.rx = w.rx := rfl
@[simp] theorem allocSub_reader (w : World) : w.allocSub.2.reader = w.reader := rfl
@[simp] theorem allocSub_readerReg (w : World) : w.allocSub.2.readerReg = w.readerReg := rfl
@[simp] theorem allocSub_queue (w : World) : w.allocSub.2.queue = w.queue := rfl
@[simp] theorem allocSub_queueReg (w : World) : w.allocSub.2.queueReg = w.queueReg := rfl
@[simp] theorem allocSub_handles (w : World) : w.allocSub.2.handles = w.handles := rfl
@[simp] theorem allocSub_ops (w : World) : w.allocSub.2.ops = w.ops := rfl
@[simp] theorem allocSub_slots (w : World) : w.allocSub.2.slots = w.slots := rfl
@[simp] theorem allocSub_slotReg (w : World) : w.allocSub.2.slotReg = w.slotReg := rfl
@[simp] theorem allocSub_chans (w : World) : w.allocSub.2.chans = w.chans := rfl
@[simp] theorem allocSub_rsps (w : World) : w.allocSub.2.rsps = w.rsps := rfl
@[simp] theorem allocSub_streams (w : World) : w.allocSub.2.streams = w.streams := rfl
@[simp] theorem allocSub_pidCtr (w : World) : w.allocSub.2.pidCtr = w.pidCtr := rfl
@[simp] theorem allocSub_woken (w : World) : w.allocSub.2.woken = w.woken := rfl
@[simp] theorem allocSub_held (w : World) : w.allocSub.2.held = w.held := rfl
@[simp] theorem allocSub_written (w : World) : w.allocSub.2.written = w.written := rfl
@[simp] theorem allocSub_wirePend (w : World) : w.allocSub.2.wirePend = w.wirePend := rfl
@[simp] theorem allocSub_out (w : World) : w.allocSub.2.out = w.out := rfl
@[simp] theorem allocSub_bad (w : World) : w.allocSub.2.bad = w.bad := rfl
@[simp] theorem allocSub_slot (w : World) (s0 : Nat) : w.allocSub.2.slot s0 = w.slot s0 := rfl
@[simp] theorem allocSub_chan (w : World) (c0 : Nat) : w.allocSub.2.chan c0 = w.chan c0 := rfl
@[simp] theorem allocSub_opSt (w : World) (i0 : Nat) : w.allocSub.2.opSt i0 = w.opSt i0 := rfl
@[simp] theorem allocSub_senders (w : World)  : w.allocSub.2.senders = w.senders := rfl
@[simp] theorem allocSub_canWrite (w : World) (n0 : Nat) : w.allocSub.2.canWrite n0 = w.canWrite n0 := rfl
@[simp] theorem allocSub_chanRxAlive (w : World) (c0 : Nat) : w.allocSub.2.chanRxAlive c0 = w.chanRxAlive c0 := rfl

end World
end Poster

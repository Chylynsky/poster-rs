/-
  Lemmas/WorldEraScript.lean — erasures (Lemmas/WorldEra.lean) against the executor and the script events. An erasure
  commutes with the poll of a task of which it keeps enough (`Sees t`); if under a side condition it keeps every task the
  executor can pick and commutes with its poll (`Polls`), it commutes with `pick`, `drain` and `sweep` (the erased world
  sweeps the kept tasks in the same order). An event does the same in the erased world (`apply_app`) if the erasure keeps
  the task it addresses (`Ev.task?`, `SeesEv`); what that needs of the particular erasure is in `EvWf`.
-/
import PosterModel.Lemmas.WorldEra
import PosterModel.Lemmas.WorldApplied

namespace Poster
open Framing
namespace World

namespace Era
variable {E : Era}

theorem taskLive_app (w : World) (t : Task)
    (h : E.kTask t = true) : (E.app w).taskLive t = w.taskLive t := by
  cases t with
  | ctx => rfl
  | op n => exact congrArg Option.isSome (opSt_app w n h)
  | st n =>
    have hk : E.kChan n = true := h
    simp [taskLive, app, hk]

theorem sweepTasks_app (hw : E.Wf) (w : World) : (E.app w).sweepTasks = w.sweepTasks.filter E.kTask := by
  unfold sweepTasks
  simp only [List.filter_append, List.filter_map, ← sortNat_filter]
  rw [List.filter_cons_of_pos hw.ctx]; rfl

/-- what the erasure must keep of a task for its poll to commute -/
def Sees (E : Era) : Task → Prop
  | .ctx => True
  | .op j => E.SeesOp j
  | .st j => E.kChan j = true ∧ ∀ o, TaskLine (.st j) o → E.kObs o = true

theorem pollTask_app {S : World → Prop} (hw : E.Wf) (hc : E.CtxSide S) (w : World) (t : Task) (ht : E.Sees t)
    (s : S (w.unwake t)) (hs : E.Snd w)
    (ho : E.KeepsSlots w) : (E.app w).pollTask t = E.app (w.pollTask t) := by
  cases t with
  | ctx => simp only [pollTask, unwake_app]; exact pollCtx_app hw hc _ s
  | op n =>
    simp only [pollTask, unwake_app]
    exact pollOp_app hw _ n ht hs ho
  | st n => simp only [pollTask, unwake_app]; exact pollStream_app _ n ht.1 ht.2

/-- what is left to show of an erasure for it to commute with the executor under a side condition `S`: the tasks it
    removes are never polled in the full world either (dead or held), a poll of any other task commutes with it and keeps
    `S` (`W13.Polls`, Lemmas/WorldResume.lean, is another notion: a chain of polls) -/
structure Polls (E : Era) (S : World → Prop) : Prop where
  wf : E.Wf
  frozen : ∀ w t, S w → E.kTask t = false → ¬ (w.taskLive t = true ∧ t ∉ w.held)
  poll : ∀ w t, S w → E.kTask t = true → w.taskLive t = true → t ∉ w.held →
    (E.app w).pollTask t = E.app (w.pollTask t) ∧ S (w.pollTask t)

section Polls
variable {S : World → Prop} (P : E.Polls S)
include P

theorem Polls.kept_of_live {w : World} (s : S w) {t : Task} (hl : w.taskLive t = true) (hh : t ∉ w.held) :
    E.kTask t = true := by
  cases hk : E.kTask t
  · exact absurd ⟨hl, hh⟩ (P.frozen w t s hk)
  · rfl

theorem Polls.pick (w : World) (s : S w) : (E.app w).pick = w.pick := by
  have key : (E.app w).woken.filter (fun t => (E.app w).taskLive t ∧ t ∉ (E.app w).held) =
      w.woken.filter (fun t => w.taskLive t ∧ t ∉ w.held) := by
    show (w.woken.filter E.kTask).filter _ = _
    simp only [List.filter_filter]
    apply List.filter_congr
    intro t _
    cases ht : E.kTask t
    · have := P.frozen w t s ht
      simp [this]
    · have hm := mem_held_app w ht
      simp [taskLive_app w t ht, hm]
  unfold World.pick
  simp only [key]

theorem Polls.drain (f : Nat) (w : World) (s : S w) : drain f (E.app w) = E.app (drain f w) ∧ S (drain f w) := by
  induction f generalizing w with
  | zero => exact ⟨rfl, s⟩
  | succ f ih =>
    rw [World.drain, World.drain, P.pick w s]
    cases hp : w.pick with
    | none => exact ⟨rfl, s⟩
    | some t =>
      obtain ⟨_, hl, hh⟩ := pick_some_spec w t hp
      obtain ⟨e, s'⟩ := P.poll w t s (P.kept_of_live s hl hh) hl hh
      simp only
      rw [e]
      exact ih _ s'

/-- the erased world sweeps the kept tasks in the same order; an erased task is skipped in the full world as well -/
theorem Polls.sweep (w : World) (s : S w) : (E.app w).sweep = E.app w.sweep ∧ S w.sweep := by
  rw [sweep_eq_fold, sweep_eq_fold, sweepTasks_app P.wf]
  generalize w.sweepTasks = ts
  induction ts generalizing w with
  | nil => exact ⟨rfl, s⟩
  | cons t ts ih =>
    cases hk : E.kTask t
    · have skip : sweepF w t = w := if_neg fun c => P.frozen w t s hk ⟨c.1, c.2.2⟩
      simp only [List.filter_cons, hk, Bool.false_eq_true, ↓reduceIte, List.foldl_cons, skip]
      exact ih w s
    · have e : sweepF (E.app w) t = E.app (sweepF w t) ∧ S (sweepF w t) := by
        unfold sweepF
        simp only [taskLive_app w t hk, mem_woken_app w hk, mem_held_app w hk]
        by_cases hc : w.taskLive t = true ∧ t ∉ w.woken ∧ t ∉ w.held
        · rw [if_pos hc, if_pos hc]; exact P.poll w t s hk hc.1 hc.2.2
        · rw [if_neg hc, if_neg hc]; exact ⟨rfl, s⟩
      simp only [List.filter_cons, hk, ↓reduceIte, List.foldl_cons, e.1]
      exact ih _ e.2

end Polls

theorem dropOp_app (hw : E.Wf) (w : World) (j : Nat) (h : E.SeesOp j) (hs : E.Snd w)
    (own : E.KeepsSlots w) :
    (E.app w).dropOp j = E.app (w.dropOp j) := by
  have ho := opSt_app w j h.op
  cases hst : w.opSt j with
  | none => unfold dropOp; rw [ho, hst]
  | some st =>
    cases st with
    | fresh hd req => rw [dropOp_fresh_eq hst, dropOp_fresh_eq (ho.trans hst)]; exact eraseOp_app hw w j h.op hs
    | wait s k =>
      rw [dropOp_wait_eq hst, dropOp_wait_eq (ho.trans hst), clearSlot_app w s (own j s k hst h.op).1]
      split
      · rw [dropChanRx_app _ j h.chan]; exact eraseOp_app hw _ j h.op hs
      · exact eraseOp_app hw _ j h.op hs

theorem dropCtxClosed_app (hw : E.Wf) (hc : ∀ c, E.c c = c) (w : World) :
    dropCtxClosed (E.app w) = E.app (dropCtxClosed w) := by
  rw [dropCtxClosed_eq, dropCtxClosed_eq, show (E.app w).c = w.c from hc _, show (E.app w).queue = w.queue from rfl,
    ← applyEffs_app hw]
  rfl

/-- what a script event needs of the erasure beyond `Wf`: the transport switches of the configuration, the `BADSCRIPT`
    line, and the three places where an event writes the session -/
structure EvWf (E : Era) : Prop where
  rdp : ∀ c, (E.cfg c).rdp = c.rdp
  fill : ∀ c, (E.cfg c).fill = c.fill
  bad : E.kObs .badscript = true
  init : E.c {} = {}
  disc : ∀ c s, ({ E.c c with disc := s } : Ctx) = E.c { c with disc := s }
  close : ∀ w, dropCtxClosed (E.app w) = E.app (dropCtxClosed w)

theorem feedEvents_app (hw : E.Wf) (he : E.EvWf) (w : World) (evs : List ReadEv) :
    (E.app w).feedEvents evs = E.app (w.feedEvents evs) := by
  unfold feedEvents
  simp only [E.app_fields, he.rdp, he.fill]
  simp only [E.mk_app]
  by_cases hr : w.readerReg = true
  · simp only [hr, ↓reduceIte]
    rw [wake_app _ _ hw.ctx]; rfl
  · simp only [hr, Bool.false_eq_true, ↓reduceIte]

theorem flushRaw_app (hw : E.Wf) (w : World) : (E.app w).flushRaw = E.app w.flushRaw := by
  unfold flushRaw
  simp only [E.app_fields]
  by_cases hp : w.wirePend = []
  · simp only [hp, ↓reduceIte]
  · simp only [hp, ↓reduceIte]
    rw [emit_app w _ (hw.line _ (.wraw _))]; rfl

theorem badScript_app (he : E.EvWf) (w : World) : (E.app w).badScript = E.app w.badScript := by
  unfold badScript
  rw [emit_app w _ he.bad]; rfl

/-- the task a script event addresses: by name, the future of the operation it issues, the stream of the response it
    takes or drops -/
def _root_.Poster.Ev.task? : Ev → Option Task
  | .poll t | .hold t | .release t | .drop t => some t
  | .op j _ _ => some (.op j)
  | .stream j | .dropRsp j => some (.st j)
  | _ => none

/-- what the erasure must keep for the event to do the same in the erased world: the task the event addresses, the future
    it drops with its channel and log lines, and — for a snapshot — the session as it is -/
structure SeesEv (E : Era) (e : Ev) : Prop where
  task : ∀ t, e.task? = some t → E.kTask t = true
  dropOp : ∀ j, e = .drop (.op j) → E.SeesOp j
  snap : e = .snap → ∀ c, E.kObs (.state c) = true ∧ E.c c = c

theorem rejects_app {w : World} {e : Ev} (hv : E.SeesEv e) (hs : E.Snd w) (h : w.rejects e) :
    (E.app w).rejects e := by
  cases e with
  | setup =>
    refine h.elim Or.inl fun h => Or.inr ⟨h.1, ?_⟩
    rcases hs with hs | hs
    · exact Or.inl hs
    · exact h.2.imp id fun ho => by rwa [show (E.app w).ops = w.ops from List.filter_eq_self.mpr fun x _ => hs x.1]
  | op j hd req => rw [rejects, opSt_app w j (hv.task _ rfl)]; exact h
  | _ => exact h

theorem ignores_app {w : World} {e : Ev} (hv : E.SeesEv e)
    (h : w.ignores e) : (E.app w).ignores e := by
  cases e with
  | poll t => exact (taskLive_app w t (hv.task t rfl)).trans h
  | hold t => exact List.mem_filter.mpr ⟨h, hv.task t rfl⟩
  | drop t =>
    cases t with
    | st j => exact fun hm => h (List.mem_filter.mp hm).1
    | _ => exact h
  | _ => exact h

theorem applied_app (hw : E.Wf) (he : E.EvWf) {w w' : World} {e : Ev}
    (a : Applied w e w') (hv : E.SeesEv e) (hs : E.Snd w) (hs' : E.Snd w')
    (poll : ∀ t, e = .poll t → (E.app w).pollTask t = E.app (w.pollTask t))
    (own : E.KeepsSlots w) :
    Applied (E.app w) e (E.app w') := by
  cases a with
  | bad e hr => exact .to (badScript_app he w) (.bad e (rejects_app hv hs hr))
  | same e hi => exact .same e (ignores_app hv hi)
  | poll t hl => exact .to (poll t rfl) (.poll t ((taskLive_app w t (hv.task t rfl)).trans hl))
  | newCtx ht hd hc hh ho =>
    exact .to (congrArg (fun c => ({ E.app w with
        hasCtx := true, handles := [0], c := c, rx := {}, reader := [], readerReg := false, written := 0 } : World))
        he.init.symm)
      (.newCtx (w := E.app w) ht hd hc hh (by rw [show (E.app w).ops = w.ops.filter _ from rfl, ho]; rfl))
  | newConn ht hd hc =>
    exact .to (congrArg (fun x : World => { x with rx := {}, reader := [], readerReg := false, written := 0 })
      (flushRaw_app hw w)) (.newConn ht hd hc)
  | start e tk hst hc ht => exact .to (wake_app { w with task := tk } .ctx hw.ctx) (.start e tk hst hc ht)
  | dropFut => exact .dropFut
  | dropCtx hc =>
    exact .to ((congrArg (fun x : World => ({ x with queue := [], c := {} } : World)) (he.close w)).trans
      (congrArg (fun c => ({ E.app (dropCtxClosed w) with queue := [], c := c } : World)) he.init.symm)) (.dropCtx hc)
  | dropCtxNone hc => exact .dropCtxNone hc
  | markDisc secs hc ht =>
    exact .to (congrArg (fun c => ({ E.app w with c := c } : World)) (he.disc w.c (some secs))) (.markDisc secs hc ht)
  | snap hc ht =>
    have e1 : (E.app w).emit (.state (E.app w).c) = E.app (w.emit (.state w.c)) := by
      rw [show (E.app w).c = w.c from (hv.snap rfl w.c).2]; exact emit_app w _ (hv.snap rfl _).1
    exact .to e1 (.snap hc ht)
  | feed e evs hf hc => exact .to (feedEvents_app hw he w evs) (.feed e evs hf hc)
  | op j hd req hin hnone =>
    have e1 : ({ E.app w with ops := (E.app w).ops ++ [(j, OpSt.fresh hd req)] } : World) =
        E.app { w with ops := w.ops ++ [(j, OpSt.fresh hd req)] } :=
      congrArg (fun l => ({ E.app w with ops := l } : World))
        (filter_snoc_keep (fun x : Nat × OpSt => E.kOp x.1) w.ops (j, .fresh hd req) (hv.task _ rfl)).symm
    exact .to ((congrArg (·.wake (.op j)) e1).trans (wake_app _ _ (hv.task _ rfl)))
      (.op (w := E.app w) j hd req hin ((opSt_app w j (hv.task _ rfl)).trans hnone))
  | hold t hnot =>
    exact .to (congrArg (fun l => ({ E.app w with held := l } : World)) (filter_snoc_keep E.kTask w.held t (hv.task t rfl)).symm)
      (.hold t fun hm => hnot (List.mem_filter.mp hm).1)
  | release t =>
    exact .to (congrArg (fun l => ({ E.app w with held := l } : World)) (filter_filter_comm _ _ _)) (.release t)
  | dropOp j => exact .to (dropOp_app hw w j (hv.dropOp j rfl) hs own) (.dropOp j)
  | dropStream j hin =>
    exact .to (dropStream_app w j (hv.task _ rfl))
      (.dropStream j (List.mem_filter.mpr ⟨hin, hv.task _ rfl⟩))
  | dropRsp j hin => exact .to (dropChanRx_app { w with rsps := w.rsps.filter (· ≠ j) } j (hv.task _ rfl)) (.dropRsp j hin)
  | stream j hin =>
    have e1 : ({ E.app w with rsps := w.rsps.filter (· ≠ j), streams := (E.app w).streams ++ [j] } : World) =
        E.app { w with rsps := w.rsps.filter (· ≠ j), streams := w.streams ++ [j] } :=
      congrArg (fun l => ({ E.app w with rsps := w.rsps.filter (· ≠ j), streams := l } : World))
        (filter_snoc_keep E.kChan w.streams j (hv.task _ rfl)).symm
    exact .to ((congrArg (fun x : World => x.wake (.st j)) e1).trans (wake_app _ _ (hv.task _ rfl)))
      (.stream (w := E.app w) j hin)
  | clone a b h1 h2 => exact .clone a b h1 h2
  | dropHandle x hx =>
    exact .to (senderGone_app hw { w with handles := w.handles.filter (· ≠ x) }
      (hs'.imp (fun h => senderGone_handles _ ▸ h) id)) (.dropHandle x hx)

theorem apply_app (hw : E.Wf) (he : E.EvWf) (w : World) (e : Ev) (hv : E.SeesEv e) (hs : E.Snd w)
    (hs' : E.Snd (w.apply e)) (poll : ∀ t, e = .poll t → (E.app w).pollTask t = E.app (w.pollTask t))
    (own : E.KeepsSlots w) : (E.app w).apply e = E.app (w.apply e) :=
  (applied_app hw he (apply_spec w e) hv hs hs' poll own).eq.symm

end Era

end World
end Poster

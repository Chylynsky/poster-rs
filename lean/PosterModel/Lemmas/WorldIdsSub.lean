/-
  Subscription identifiers (C11). Along traces of stream moves: the counter advances by one `nextSub` step per
  `subscribe()` future first polled, and not otherwise; so the `k`-th such future finds it at `iter nextSub k` of its
  initial value. Along execution paths (`Exec`): a SUBSCRIBE enters the queue only at that first poll, and the `n` values
  handed out (`subAllocated`) are pairwise distinct and lie in `1 … n`, the counter at `n + 1`, while fewer than
  268435455 identifiers were allocated (`exec_subAllocated_nodup`).
-/
import PosterModel.Lemmas.WorldIdsPath
import PosterModel.Lemmas.WorldStreamSid
import PosterModel.Lemmas.WorldStreamStep


namespace Poster
open Framing
namespace World
namespace W10

/-- the subscription-identifier counter and all subscription identifiers in flight are in 1..268435455: non-zero (the
    `NonZero` conversion cannot fail) and encodable as a variable byte integer -/
structure SubOk (w : World) : Prop where
  ctr : 1 ≤ w.subCtr ∧ w.subCtr ≤ 268435455
  ids : ∀ s ∈ psids w, 1 ≤ s ∧ s ≤ 268435455

theorem subOk_init (cfg : Cfg) : SubOk { cfg := cfg } := ⟨⟨Nat.le_refl 1, (by decide : (1 : Nat) ≤ 268435455)⟩, by simp [psids]⟩

theorem SubOk.move {l : SLab} {w w' : World} (h : SubOk w) (m : SMove l w w') : SubOk w' := by
  rcases m.subRel with ⟨_, sc, _, sub⟩ | ⟨_, sc, _, sub⟩
  · exact ⟨by rw [sc]; exact h.ctr, fun s hs => h.ids s (sub s hs)⟩
  · refine ⟨by rw [sc]; exact User.nextSub_range _, fun s hs => ?_⟩
    rcases sub s hs with h1 | h1
    · exact h.ids s h1
    · rw [h1]; exact h.ctr

theorem strace_subOk {tr : List SLab} {w w' : World} (t : STrace w tr w') (h : SubOk w) : SubOk w' := by
  induction t with
  | refl => exact h
  | cons m _ ih => exact ih (h.move m)

theorem iter_nextSub_one (n : Nat) (h : n < 268435455) : iter nextSub n 1 = n + 1 := by
  rw [sub_closed_form 1 n (by omega)]; omega

theorem strace_subCtr_iter {tr : List SLab} {w w' : World} (t : STrace w tr w') :
    w'.subCtr = iter nextSub (startedOf tr).length w.subCtr := by
  induction t with
  | refl => rfl
  | @cons a b c l tr' m _ ih =>
    rw [startedOf_cons, List.length_append, ih]
    rcases m.subRel with ⟨hs, sc, _, _⟩ | ⟨hs, sc, _, _⟩
    · rw [hs, sc]; simp
    · cases hst : l.started with
      | none => exact absurd hst hs
      | some x =>
        rw [sc]
        show iter nextSub (startedOf tr').length (nextSub a.subCtr) = iter nextSub (1 + (startedOf tr').length) a.subCtr
        rw [Nat.add_comm]; rfl

theorem strace_started_gets_counter {tr : List SLab} {w w' : World} (t : STrace w tr w') (t1 t2 : List SLab) (l : SLab)
    (e : tr = t1 ++ l :: t2) (hl : l.started ≠ none) :
    ∃ wa wb, STrace w t1 wa ∧ SMove l wa wb ∧ STrace wb t2 w' ∧
      wa.subCtr = iter nextSub (startedOf t1).length w.subCtr ∧ wb.subCtr = nextSub wa.subCtr ∧
      ∀ s ∈ psids wb, s ∈ psids wa ∨ s = wa.subCtr := by
  subst e
  obtain ⟨wa, wb, s1, m, s2⟩ := t.split_at
  refine ⟨wa, wb, s1, m, s2, strace_subCtr_iter s1, ?_⟩
  rcases m.subRel with ⟨hs, _⟩ | ⟨_, sc, _, sub⟩
  · exact absurd hs hl
  · exact ⟨sc, sub⟩

open W7

theorem reqMsg_sid (w : World) (id : Nat) (req : Req) :
    (w.reqMsg id req).sid? = match req with | .subscribe _ => some w.subCtr | _ => none := by
  cases req with
  | publish t => simp only [reqMsg]; split <;> rfl
  | _ => rfl

theorem subscribe_queue_origin {w w' : World} (hm : Micro w w') :
    ∀ m ∈ w'.queue, ∀ sid, m.sid? = some sid → m ∈ w.queue ∨
      ∃ id h t, w' = w.pollTask (.op id) ∧ w.opSt id = some (.fresh h (.subscribe t)) ∧ sid = w.subCtr ∧
        w'.subCtr = nextSub w.subCtr := by
  intro m hmem sid hsid
  rcases hm.queue_cases with h | ⟨id, rfl, ⟨hh, req, ho, e, _⟩ | ⟨s, a, _, _, _, e⟩⟩
  · exact Or.inl (h m hmem)
  · rcases List.mem_append.mp (e ▸ hmem) with h | h
    · exact Or.inl h
    · obtain rfl := List.mem_singleton.mp h
      rw [reqMsg_sid] at hsid
      cases req with
      | subscribe t =>
        refine Or.inr ⟨id, hh, t, rfl, ho, (Option.some.inj hsid).symm, ?_⟩
        exact (congrArg World.subCtr (pollOp_of_fresh (w := w.unwake (.op id)) ho)).trans (startOp_counters _ id _).2
      | _ => cases hsid
  · rcases List.mem_append.mp (e ▸ hmem) with h | h
    · exact Or.inl h
    · obtain rfl := List.mem_singleton.mp h
      cases hsid

theorem pollStream_subCtr (w : World) (id : Nat) : (w.pollStream id).subCtr = w.subCtr := by
  obtain ⟨_, _, _, _, e, _⟩ := pollStream_footprint w id; rw [e]

theorem pollOp_subCtr (w : World) (id : Nat) :
    (w.pollOp id).subCtr = w.subCtr ∨
    ((w.pollOp id).subCtr = nextSub w.subCtr ∧ (w.pollOp id).pidCtr ≠ w.pidCtr) := by
  rcases pollOp_sends w id with ⟨_, hc, _⟩ | ⟨h, req, _, hp, hc, _⟩ | ⟨_, _, _, _, _, _, _, hc, _⟩
  · exact Or.inl hc
  · cases req with
    | subscribe t => exact Or.inr ⟨hc, by rw [hp]; exact nextPid_ne _⟩
    | publish t => rw [allocFor_subCtr] at hc; exact Or.inl hc
    | _ => exact Or.inl hc
  · exact Or.inl hc

theorem micro_subCtr {w w' : World} (hm : Micro w w') :
    w'.subCtr = w.subCtr ∨ (w'.subCtr = nextSub w.subCtr ∧ w'.pidCtr ≠ w.pidCtr) := by
  rcases hm.lift_rest (R := fun w w' => w'.subCtr = w.subCtr) (fun h1 h2 => h2.trans h1)
      pollStream_subCtr (fun _ _ => rfl) (fun _ _ _ => rfl)
      (fun w e hp => (applied_ctrs (apply_spec w e) hp).2.1)
      (fun w => by obtain ⟨ou, wp, e⟩ := flushRaw_frame w; rw [e]) with rfl | ⟨id, rfl⟩ | h
  · exact Or.inl (pollCtx_ctxFrame w).subCtr
  · exact pollOp_subCtr (w.unwake (.op id)) id
  · exact Or.inl h

theorem exec_subAllocated_nodup {cfg : Cfg} {w : World} {ws : List World} (h : Exec cfg (w :: ws))
    (hn : allocCount (w :: ws) < 268435455) :
    w.subCtr = (subAllocated (w :: ws)).length + 1 ∧ (subAllocated (w :: ws)).length ≤ allocCount (w :: ws) ∧
    (subAllocated (w :: ws)).Nodup ∧ (∀ s ∈ subAllocated (w :: ws), 1 ≤ s ∧ s ≤ (subAllocated (w :: ws)).length) ∧
    ∀ m ∈ w.queue, ∀ sid, m.sid? = some sid → sid ∈ subAllocated (w :: ws) := by
  induction h using Exec.induct with
  | init => exact ⟨rfl, by simp [subAllocated, allocCount], by simp [subAllocated], by simp [subAllocated], by simp⟩
  | @next w w' ws he hm ih =>
    have hn0 : allocCount (w :: ws) < 268435455 := Nat.lt_of_le_of_lt (allocCount_tail_le w' (w :: ws)) hn
    obtain ⟨h1, h2, h3, h4, h5⟩ := ih hn0
    have hsub := micro_subCtr hm
    have horig := subscribe_queue_origin hm
    simp only [allocCount, subAllocated] at hn ⊢
    by_cases hc : w'.subCtr = w.subCtr
    · simp only [hc, if_true, List.nil_append]
      refine ⟨h1, by omega, h3, h4, fun m hm' sid hs => ?_⟩
      rcases horig m hm' sid hs with h | ⟨id, hh, t, _, _, _, h⟩
      · exact h5 m h sid hs
      · rw [hc] at h; exact absurd h.symm (nextSub_ne _)
    · have hnx : w'.subCtr = nextSub w.subCtr ∧ w'.pidCtr ≠ w.pidCtr := by
        rcases hsub with e | e
        · exact absurd e hc
        · exact e
      simp only [hc, if_false, hnx.2, List.singleton_append, List.length_cons] at hn ⊢
      obtain ⟨n3, n4⟩ := nodup_cons_next h3 h4
      rw [← h1] at n3 n4
      refine ⟨?_, by omega, n3, fun s hs => ?_, fun m hm' sid hs => ?_⟩
      · rw [hnx.1, nextSub_of_lt w.subCtr (by omega), h1]
      · have := n4 s hs; omega
      · rcases horig m hm' sid hs with h | ⟨id, hh, t, _, _, h, _⟩
        · exact List.mem_cons_of_mem _ (h5 m h sid hs)
        · exact h ▸ List.mem_cons_self ..

end W10
end World
end Poster

/-
  Lemmas/WorldQuietCtx.lean — the registration invariant through one poll of the context future
  (`connect()` / `authorize()` / `run()`): the user side is only touched through oneshot / channel effects, and
  when the future stays pending it is parked with its wakers registered (`CtxParked`: the transport's, for `run()` the
  queue's as well), or has flagged itself (`pollCtx_parked`).
-/
import PosterModel.Lemmas.WorldQuietInv
import PosterModel.Lemmas.WorldOwnCtx


namespace Poster
open Framing
namespace World

theorem taskOk_ctx_of_none {w : World} (h : w.task = .none) : TaskOk w .ctx := fun hne => absurd h hne

theorem pollCtx_parked (w : World) (hok : w.rx.Ok) : Task.ctx ∈ w.pollCtx.woken ∨ TaskOk w.pollCtx .ctx := by
  by_cases hn : w.pollCtx.task = .none
  · exact Or.inr (taskOk_ctx_of_none hn)
  · have p := pollCtx_pending w hok hn
    obtain ⟨wm, hokm, hp⟩ := p.read
    rcases p.armed with ⟨h5, h5'⟩ | h5
    · refine Or.inr fun _ => ⟨h5, h5', ((pollNext_polled hp).ok hokm).2, ?_⟩
      rcases p.task with ⟨call, t, a, _, _, h1⟩ | ⟨_, h1, h3, h4, hs⟩
      · exact Or.inr ⟨_, _, _, h1⟩
      · exact Or.inl ⟨h1, h4, h3, hs⟩
    · exact Or.inl h5

theorem Inv.pollCtx {E : Task → Prop} {w : World} (h : Inv E w) (hE : E .ctx) (hok : w.rx.Ok) :
    Inv E w.pollCtx ∧ (Task.ctx ∈ w.pollCtx.woken ∨ TaskOk w.pollCtx .ctx) := by
  refine ⟨?_, pollCtx_parked w hok⟩
  by_cases ht : w.task = .none
  · rw [pollCtx_none ht]; exact h
  · have a := (hand_pollCtx w).act
    exact h.of_act a (fun _ => a.hasCtx_eq.trans (h.hasCtx ht)) (fun hn => absurd hE hn)

/-- a poll of the loop of `run()` -/
theorem Inv.runLoop {E : Task → Prop} {w : World} (h : Inv E w) (hE : E .ctx) (hok : w.rx.Ok)
    (ht : w.task = .running true) :
    Inv E (runLoop w.loopFuel w) ∧
      (Task.ctx ∈ (runLoop w.loopFuel w).woken ∨ TaskOk (runLoop w.loopFuel w) .ctx) := by
  have := h.pollCtx hE hok
  rw [pollCtx_running ht] at this
  exact this

end World
end Poster

/-
  Lemmas/WorldCancelHide.lean — `hide id w` is the world `w` with everything that is private to the handle future of
  operation `id` erased: its entry in the operation table, its two oneshots (`2*id`, `2*id+1`) with their waker
  registrations, the `woken` / `held` flags of task `op id`, and the lines of the transcript that belong to that task.
  It is the erasure `hideE id` (`hide_eq`; an `Era`, Lemmas/WorldEra.lean): every state-transforming function of `World`
  that does not act on behalf of task `op id` commutes with `hide id` (as long as a handle is alive, so that the sender
  counts never reach zero) — here the primitives and one iteration of the loop, the polls in Lemmas/WorldCancelStep.lean,
  the events in Lemmas/WorldCancelEv.lean. For everybody else, the private state of the future of `id` does not exist.
-/
import PosterModel.Lemmas.WorldCancel

namespace Poster
open Framing
namespace World
namespace W11

/-- the script events that address task `op id` -/
def mineEv (id : Nat) : Ev → Bool
  | .op i _ _ => i == id
  | .poll (.op i) => i == id
  | .hold (.op i) => i == id
  | .release (.op i) => i == id
  | .drop (.op i) => i == id
  | _ => false

/-- the transcript lines of task `op id`: the markers of the events that address it, its completion, its panic -/
def mine (id : Nat) : Obs → Bool
  | .ev e => mineEv id e
  | .done i _ => i == id
  | .panic (.op i) _ => i == id
  | _ => false

def others (id : Nat) (out : List Obs) : List Obs := out.filter (fun o => !mine id o)

/-- the keys of the operation table, the oneshots and the tasks that do not belong to operation `id` (`veil id` filters
    the channels and streams with `keepK` too) -/
def keepK (id k : Nat) : Bool := decide (k ≠ id)
def keepS (id s : Nat) : Bool := decide (s / 2 ≠ id)
def keepT (id : Nat) (t : Task) : Bool := decide (t ≠ .op id)

@[simp] theorem keepK_true (id k : Nat) : keepK id k = true ↔ k ≠ id := by simp [keepK]
@[simp] theorem keepS_true (id s : Nat) : keepS id s = true ↔ s / 2 ≠ id := by simp [keepS]
@[simp] theorem keepT_true (id : Nat) (t : Task) : keepT id t = true ↔ t ≠ .op id := by simp [keepT]
@[simp] theorem keepK_false (id k : Nat) : keepK id k = false ↔ k = id := by simp [keepK]
@[simp] theorem keepS_false (id s : Nat) : keepS id s = false ↔ s / 2 = id := by simp [keepS]
@[simp] theorem keepT_false (id : Nat) (t : Task) : keepT id t = false ↔ t = .op id := by simp [keepT]

def hide (id : Nat) (w : World) : World :=
  { w with ops := w.ops.filter (fun x => keepK id x.1),
           slots := w.slots.filter (fun x => keepS id x.1),
           slotReg := w.slotReg.filter (keepS id),
           woken := w.woken.filter (keepT id),
           held := w.held.filter (keepT id),
           out := others id w.out }

@[simp] theorem hide_cfg (id) (w : World) : (hide id w).cfg = w.cfg := rfl
@[simp] theorem hide_hasCtx (id) (w : World) : (hide id w).hasCtx = w.hasCtx := rfl
@[simp] theorem hide_ctxDropped (id) (w : World) : (hide id w).ctxDropped = w.ctxDropped := rfl
@[simp] theorem hide_task (id) (w : World) : (hide id w).task = w.task := rfl
@[simp] theorem hide_c (id) (w : World) : (hide id w).c = w.c := rfl
@[simp] theorem hide_rx (id) (w : World) : (hide id w).rx = w.rx := rfl
@[simp] theorem hide_reader (id) (w : World) : (hide id w).reader = w.reader := rfl
@[simp] theorem hide_readerReg (id) (w : World) : (hide id w).readerReg = w.readerReg := rfl
@[simp] theorem hide_queue (id) (w : World) : (hide id w).queue = w.queue := rfl
@[simp] theorem hide_queueReg (id) (w : World) : (hide id w).queueReg = w.queueReg := rfl
@[simp] theorem hide_handles (id) (w : World) : (hide id w).handles = w.handles := rfl
@[simp] theorem hide_ops (id) (w : World) : (hide id w).ops = w.ops.filter (fun x => keepK id x.1) := rfl
@[simp] theorem hide_slots (id) (w : World) :
    (hide id w).slots = w.slots.filter (fun x => keepS id x.1) := rfl
@[simp] theorem hide_slotReg (id) (w : World) :
    (hide id w).slotReg = w.slotReg.filter (keepS id) := rfl
@[simp] theorem hide_chans (id) (w : World) : (hide id w).chans = w.chans := rfl
@[simp] theorem hide_rsps (id) (w : World) : (hide id w).rsps = w.rsps := rfl
@[simp] theorem hide_streams (id) (w : World) : (hide id w).streams = w.streams := rfl
@[simp] theorem hide_pidCtr (id) (w : World) : (hide id w).pidCtr = w.pidCtr := rfl
@[simp] theorem hide_subCtr (id) (w : World) : (hide id w).subCtr = w.subCtr := rfl
@[simp] theorem hide_woken (id) (w : World) :
    (hide id w).woken = w.woken.filter (keepT id) := rfl
@[simp] theorem hide_held (id) (w : World) :
    (hide id w).held = w.held.filter (keepT id) := rfl
@[simp] theorem hide_written (id) (w : World) : (hide id w).written = w.written := rfl
@[simp] theorem hide_wirePend (id) (w : World) : (hide id w).wirePend = w.wirePend := rfl
@[simp] theorem hide_out (id) (w : World) : (hide id w).out = others id w.out := rfl
@[simp] theorem hide_bad (id) (w : World) : (hide id w).bad = w.bad := rfl

theorem mk_hide (id : Nat) (cfg hasCtx ctxDropped task c rx reader readerReg queue queueReg handles)
    (ops : List (Nat × OpSt)) (slots : List (Nat × Slot)) (slotReg : List Nat) (chans rsps streams pidCtr subCtr)
    (woken held : List Task) (written wirePend) (out : List Obs) (bad) :
    (⟨cfg, hasCtx, ctxDropped, task, c, rx, reader, readerReg, queue, queueReg, handles,
      ops.filter (fun x => keepK id x.1), slots.filter (fun x => keepS id x.1),
      slotReg.filter (keepS id), chans, rsps, streams, pidCtr, subCtr,
      woken.filter (keepT id), held.filter (keepT id), written, wirePend,
      others id out, bad⟩ : World) =
    hide id ⟨cfg, hasCtx, ctxDropped, task, c, rx, reader, readerReg, queue, queueReg, handles, ops, slots,
      slotReg, chans, rsps, streams, pidCtr, subCtr, woken, held, written, wirePend, out, bad⟩ := rfl

@[simp] theorem canWrite_hide (id) (w : World) (n : Nat) : (hide id w).canWrite n = w.canWrite n := rfl
@[simp] theorem chanRxAlive_hide (id) (w : World) (c : Nat) : (hide id w).chanRxAlive c = w.chanRxAlive c := rfl
@[simp] theorem chanRxAlive_hide' (id) (w : World) : (hide id w).chanRxAlive = w.chanRxAlive := rfl
@[simp] theorem loopFuel_hide (id) (w : World) : (hide id w).loopFuel = w.loopFuel := rfl

theorem slot_hide (id) (w : World) (s : Nat) (h : s / 2 ≠ id) : (hide id w).slot s = w.slot s :=
  lookupFirst_filter (keepS id) s w.slots (by simpa using h)

theorem opSt_hide (id) (w : World) (j : Nat) (h : j ≠ id) : (hide id w).opSt j = w.opSt j :=
  lookupFirst_filter (keepK id) j w.ops (by simpa using h)

theorem mem_slotReg_hide (id) (w : World) (s : Nat) (h : s / 2 ≠ id) : s ∈ (hide id w).slotReg ↔ s ∈ w.slotReg := by
  simp [h]

theorem mem_woken_hide (id) (w : World) (t : Task) (h : t ≠ .op id) : t ∈ (hide id w).woken ↔ t ∈ w.woken := by
  simp [h]

theorem mem_held_hide (id) (w : World) (t : Task) (h : t ≠ .op id) : t ∈ (hide id w).held ↔ t ∈ w.held := by
  simp [h]

theorem others_idem (id) (l : List Obs) : others id (others id l) = others id l := by
  simp [others, List.filter_filter]

def hideE (id : Nat) : Era :=
  { cfg := fun c => c, c := fun c => c, kTask := keepT id,
    pre := [], kObs := fun o => !mine id o }

theorem hideE_kOp (id : Nat) : (hideE id).kOp = keepK id := funext fun n => by simp [hideE, Era.kOp_eq, keepT, keepK]
theorem hideE_kSlot (id : Nat) : (hideE id).kSlot = keepS id := funext fun n => by simp [hideE, Era.kSlot_eq, keepT, keepS]
theorem hideE_kChan (id : Nat) : (hideE id).kChan = fun _ => true := funext fun n => by simp [hideE, Era.kChan_eq, keepT]

theorem hide_eq (id : Nat) : hide id = (hideE id).app :=
  funext fun w => by
    simp only [Era.app, hideE_kOp, hideE_kSlot, hideE_kChan]
    simp [hide, hideE, others, filter_all]

theorem hideE_wf (id : Nat) : (hideE id).Wf where
  wlimit := fun _ => rfl
  ctx := by simp [hideE]
  line := fun o h => by rcases h with ⟨bs, rfl | rfl⟩ | ⟨c, r, rfl⟩ | ⟨cls, rfl⟩ <;> rfl

theorem hideE_ctxSide (id : Nat) : (hideE id).CtxSide (fun w => w.handles ≠ []) :=
  Era.ctxSide_plain (fun _ => rfl) (fun _ => rfl) (fun _ h => Or.inl h)
    (fun w w1 h hc => by rw [(runCont_frame hc).ctx.handles]; exact h)
    (fun w h => by rw [(resent_frame w).2.2]; exact h)

theorem hideE_kObs {id : Nat} {o : Obs} (h : mine id o = false) : (hideE id).kObs o = true := congrArg (!·) h

theorem EndObs.not_mine {id j : Nat} {o : Obs} (ho : EndObs j o) (h : j ≠ id) : mine id o = false := by
  rcases ho with rfl | ⟨r, rfl⟩ <;> simpa [mine] using h

theorem hideE_seesOp {id j : Nat} (h : j ≠ id) : (hideE id).SeesOp j :=
  ⟨by simpa [hideE_kOp] using h, by rw [hideE_kChan], fun _ ho => hideE_kObs (EndObs.not_mine ho h)⟩

theorem hideE_sees {id : Nat} {t : Task} (h : t ≠ .op id) : (hideE id).Sees t := by
  cases t with
  | ctx => trivial
  | op j => exact hideE_seesOp fun e => h (by rw [e])
  | st j => exact ⟨rfl, fun o h => by rcases h with ⟨p, rfl⟩ | rfl <;> rfl⟩

theorem emit_hide (id) (w : World) (o : Obs) (h : mine id o = false) : (hide id w).emit o = hide id (w.emit o) := by
  rw [hide_eq]; exact Era.emit_app w o (hideE_kObs h)

theorem emit_hide_mine (id) (w : World) (o : Obs) (h : mine id o = true) : hide id (w.emit o) = hide id w := by
  rw [hide_eq]; exact Era.emit_app_drop w o (congrArg (!·) h)

theorem wake_hide_mine (id) (w : World) : hide id (w.wake (.op id)) = hide id w := by
  rw [wake_eq]
  exact congrArg (fun l => ({ hide id w with woken := l } : World)) (filter_addNew_drop (keepT id) w.woken _ (by simp))

theorem setSlot_hide (id) (w : World) (s : Nat) (v : Slot) (h : s / 2 ≠ id) :
    (hide id w).setSlot s v = hide id (w.setSlot s v) := by
  simp only [setSlot, hide]
  rw [setAssoc_filter (keepS id) s v w.slots (by simpa using h)]

theorem setSlot_hide_mine (id) (w : World) (s : Nat) (v : Slot) (h : s / 2 = id) :
    hide id (w.setSlot s v) = hide id w := by
  simp only [setSlot, hide]
  rw [setAssoc_filter_not (keepS id) s v w.slots (by simpa using h)]

theorem setChan_hide (id) (w : World) (c : Nat) (v : Chan) : (hide id w).setChan c v = hide id (w.setChan c v) := rfl

theorem dropChanRx_hide (id) (w : World) (c : Nat) : (hide id w).dropChanRx c = hide id (w.dropChanRx c) := rfl

theorem clearSlot_hide_mine (id) (w : World) (s : Nat) (h : s / 2 = id) :
    hide id (w.clearSlot s) = hide id w := by
  simp only [clearSlot, hide]
  rw [eraseFirst_filter_not (keepS id) s w.slots (by simpa using h), filter_ne_drop (keepS id) s _ (by simpa using h)]

theorem allocPid_hide_snd (id) (w : World) : (hide id w).allocPid.2 = hide id w.allocPid.2 := rfl
theorem allocSub_hide_snd (id) (w : World) : (hide id w).allocSub.2 = hide id w.allocSub.2 := rfl

theorem runIter_hide (id) (w : World) (hh : w.handles ≠ []) :
    runIter (hide id w) =
      match runIter w with
      | .inl x => .inl (hide id x)
      | .inr x => .inr (hide id x) := by
  rw [hide_eq]; exact Era.runIter_app (hideE_wf id) (hideE_ctxSide id) w hh

/-- task `op id` is never polled by the executor: its future is gone, or the script holds it -/
def Frozen (id : Nat) (w : World) : Prop := Task.op id ∈ w.held ∨ w.opSt id = none

end W11
end World
end Poster

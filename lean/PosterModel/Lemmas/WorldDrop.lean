/-
  Lemmas/WorldDrop.lean — dropping the `Context`: every sender the context owns (oneshots of queued messages
  and of `awaiting_ack`, subscription senders of queued SUBSCRIBEs and of `subscriptions`) is dropped.
  `Closes w w'` = `w'` is `w` after some sequence of `dropSlotTx` / `dropChanTx`; `closes_inv` collects what
  such a sequence preserves. `OwnsSlot` / `OwnsChan` say which senders these are; the ownership invariants of the
  WorldOwn* modules are stated with them.
-/
import PosterModel.Lemmas.World
import PosterModel.Lemmas.UserWorld
import PosterModel.Lemmas.WorldCloseEffs

namespace Poster
open Framing
namespace World

theorem dropSlotTx_slot (w : World) (s s' : Nat) :
    (w.dropSlotTx s').slot s = if s = s' ∧ w.slot s = some .empty then some .closed else w.slot s := by
  rw [dropSlotTx_eq, slot_fillSlot_if]
  by_cases hs : s = s'
  · subst hs; rfl
  · simp [hs]

theorem dropSlotTx_slotReg_ne (w : World) (s s' : Nat) (h : s ≠ s') :
    s ∈ (w.dropSlotTx s').slotReg ↔ s ∈ w.slotReg := by
  rw [dropSlotTx_eq]
  split
  · exact fillSlot_slotReg_ne w s' _ h
  · rfl

theorem dropSlotTx_woken_mono (w : World) (s : Nat) (t : Task) (h : t ∈ w.woken) : t ∈ (w.dropSlotTx s).woken := by
  rw [dropSlotTx_eq]
  split
  · exact fillSlot_woken_mono w s _ h
  · exact h

theorem dropSlotTx_wakes' (w : World) (s : Nat) (he : w.slot s = some .empty) (hr : s ∈ w.slotReg) :
    .op (s / 2) ∈ (w.dropSlotTx s).woken := by
  rw [dropSlotTx_eq, if_pos he]; exact fillSlot_wakes w s _ hr

theorem dropChanTx_chan (w : World) (c c' : Nat) :
    (w.dropChanTx c').chan c =
      if c = c' then (w.chan c).map (fun ch => { ch with txAlive := false, reg := false }) else w.chan c := by
  rw [dropChanTx_eq]
  cases h : w.chan c' with
  | none =>
    rw [onChan_none h]
    by_cases hc : c = c'
    · subst hc; simp [h]
    · simp [hc]
  | some ch =>
    rw [onChan_some h, putChan_chan]
    by_cases hc : c = c'
    · subst hc; simp [h]
    · simp [hc]

theorem dropChanTx_woken_mono (w : World) (c : Nat) (t : Task) (h : t ∈ w.woken) : t ∈ (w.dropChanTx c).woken := by
  rw [dropChanTx_eq]
  cases hc : w.chan c with
  | none => rw [onChan_none hc]; exact h
  | some ch => rw [onChan_some hc]; exact putChan_woken_mono w c ch _ h

theorem dropChanTx_wakes' (w : World) (c : Nat) (ch : Chan) (hc : w.chan c = some ch) (hr : ch.reg = true) :
    .st c ∈ (w.dropChanTx c).woken := by
  rw [dropChanTx_eq, onChan_some hc]; exact putChan_wakes w c ch _ hr

inductive Closes : World → World → Prop
  | refl (w : World) : Closes w w
  | slot {w w' : World} (s : Nat) : Closes w w' → Closes w (w'.dropSlotTx s)
  | chan {w w' : World} (c : Nat) : Closes w w' → Closes w (w'.dropChanTx c)

theorem closes_trans {a b c : World} (h1 : Closes a b) (h2 : Closes b c) : Closes a c := by
  induction h2 with
  | refl => exact h1
  | slot s _ ih => exact .slot s ih
  | chan ch _ ih => exact .chan ch ih

theorem closes_foldl {α} (step : World → α → World) (hstep : ∀ w x, Closes w (step w x)) (l : List α)
    (w : World) : Closes w (l.foldl step w) :=
  foldl_lift (R := Closes) .refl closes_trans (fun w x _ => hstep w x) w

/-- what a sequence of dropped senders preserves -/
structure CloseInv (w w' : World) : Prop where
  frame : w' = { w with slots := w'.slots, slotReg := w'.slotReg, chans := w'.chans, woken := w'.woken }
  slotNone : ∀ s, w.slot s = none → w'.slot s = none
  slotFull : ∀ s v, w.slot s = some (.full v) → w'.slot s = some (.full v)
  slotClosed : ∀ s, w.slot s = some .closed → w'.slot s = some .closed
  slotEmpty : ∀ s, w.slot s = some .empty → w'.slot s = some .empty ∨ w'.slot s = some .closed
  chanNone : ∀ c, w.chan c = none → w'.chan c = none
  chanSome : ∀ c c0, w.chan c = some c0 → ∃ c1, w'.chan c = some c1 ∧ c1.buf = c0.buf ∧
    c1.rxAlive = c0.rxAlive ∧ (c0.txAlive = false → c1.txAlive = false) ∧ (c0.reg = false → c1.reg = false) ∧
    (c1.txAlive = true → c1 = c0)
  wokenMono : ∀ t, t ∈ w.woken → t ∈ w'.woken
  slotWake : ∀ s, w.slot s = some .empty → s ∈ w.slotReg →
    (w'.slot s = some .empty ∧ s ∈ w'.slotReg) ∨ .op (s / 2) ∈ w'.woken
  chanWake : ∀ c c0, w.chan c = some c0 → c0.reg = true →
    (∃ c1, w'.chan c = some c1 ∧ c1.reg = true) ∨ .st c ∈ w'.woken

theorem CloseInv.cfg_eq {w w' : World} (h : CloseInv w w') : w'.cfg = w.cfg := by rw [h.frame]
theorem CloseInv.hasCtx_eq {w w' : World} (h : CloseInv w w') : w'.hasCtx = w.hasCtx := by rw [h.frame]
theorem CloseInv.ctxDropped_eq {w w' : World} (h : CloseInv w w') : w'.ctxDropped = w.ctxDropped := by rw [h.frame]
theorem CloseInv.task_eq {w w' : World} (h : CloseInv w w') : w'.task = w.task := by rw [h.frame]
theorem CloseInv.rx_eq {w w' : World} (h : CloseInv w w') : w'.rx = w.rx := by rw [h.frame]
theorem CloseInv.reader_eq {w w' : World} (h : CloseInv w w') : w'.reader = w.reader := by rw [h.frame]
theorem CloseInv.readerReg_eq {w w' : World} (h : CloseInv w w') : w'.readerReg = w.readerReg := by rw [h.frame]
theorem CloseInv.queue_eq {w w' : World} (h : CloseInv w w') : w'.queue = w.queue := by rw [h.frame]
theorem CloseInv.queueReg_eq {w w' : World} (h : CloseInv w w') : w'.queueReg = w.queueReg := by rw [h.frame]
theorem CloseInv.handles_eq {w w' : World} (h : CloseInv w w') : w'.handles = w.handles := by rw [h.frame]
theorem CloseInv.ops_eq {w w' : World} (h : CloseInv w w') : w'.ops = w.ops := by rw [h.frame]
theorem CloseInv.streams_eq {w w' : World} (h : CloseInv w w') : w'.streams = w.streams := by rw [h.frame]
theorem CloseInv.pidCtr_eq {w w' : World} (h : CloseInv w w') : w'.pidCtr = w.pidCtr := by rw [h.frame]
theorem CloseInv.subCtr_eq {w w' : World} (h : CloseInv w w') : w'.subCtr = w.subCtr := by rw [h.frame]
theorem CloseInv.written_eq {w w' : World} (h : CloseInv w w') : w'.written = w.written := by rw [h.frame]
theorem CloseInv.wirePend_eq {w w' : World} (h : CloseInv w w') : w'.wirePend = w.wirePend := by rw [h.frame]
theorem CloseInv.out_eq {w w' : World} (h : CloseInv w w') : w'.out = w.out := by rw [h.frame]
theorem closeInv_refl (w : World) : CloseInv w w where
  frame := rfl
  slotNone := fun _ h => h
  slotFull := fun _ _ h => h
  slotClosed := fun _ h => h
  slotEmpty := fun _ h => Or.inl h
  chanNone := fun _ h => h
  chanSome := fun _ c0 h => ⟨c0, h, rfl, rfl, id, id, fun _ => rfl⟩
  wokenMono := fun _ h => h
  slotWake := fun _ h1 h2 => Or.inl ⟨h1, h2⟩
  chanWake := fun _ c0 h1 h2 => Or.inl ⟨c0, h1, h2⟩

theorem closeInv_slot {w w' : World} (s' : Nat) (h : CloseInv w w') : CloseInv w (w'.dropSlotTx s') where
  frame := by
    obtain ⟨sl, sr, wk, e⟩ := dropSlotTx_shape w' s'
    rw [e]
    exact congrArg (fun x : World => ({ x with slots := sl, slotReg := sr, woken := wk } : World)) h.frame
  slotNone := fun s hs => by rw [dropSlotTx_slot, h.slotNone s hs]; simp
  slotFull := fun s v hs => by rw [dropSlotTx_slot, h.slotFull s v hs]; simp
  slotClosed := fun s hs => by rw [dropSlotTx_slot, h.slotClosed s hs]; simp
  slotEmpty := fun s hs => by
    rw [dropSlotTx_slot]
    rcases h.slotEmpty s hs with h1 | h1 <;> rw [h1] <;> by_cases hss : s = s' <;> simp [hss]
  chanNone := fun c hc => by simpa using h.chanNone c hc
  chanSome := fun c c0 hc => by simpa using h.chanSome c c0 hc
  wokenMono := fun t ht => dropSlotTx_woken_mono _ _ _ (h.wokenMono t ht)
  slotWake := fun s h1 h2 => by
    rcases h.slotWake s h1 h2 with ⟨a, b⟩ | a
    · by_cases hss : s = s'
      · subst hss; exact Or.inr (dropSlotTx_wakes' _ _ a b)
      · left; rw [dropSlotTx_slot, dropSlotTx_slotReg_ne _ _ _ hss]; simp [hss, a, b]
    · exact Or.inr (dropSlotTx_woken_mono _ _ _ a)
  chanWake := fun c c0 h1 h2 => by
    rcases h.chanWake c c0 h1 h2 with ⟨c1, a, b⟩ | a
    · exact Or.inl ⟨c1, by simpa using a, b⟩
    · exact Or.inr (dropSlotTx_woken_mono _ _ _ a)

theorem closeInv_chan {w w' : World} (c' : Nat) (h : CloseInv w w') : CloseInv w (w'.dropChanTx c') where
  frame := by
    obtain ⟨ch, wk, e⟩ := dropChanTx_shape w' c'
    rw [e]
    exact congrArg (fun x : World => ({ x with chans := ch, woken := wk } : World)) h.frame
  slotNone := fun s hs => by simpa using h.slotNone s hs
  slotFull := fun s v hs => by simpa using h.slotFull s v hs
  slotClosed := fun s hs => by simpa using h.slotClosed s hs
  slotEmpty := fun s hs => by simpa using h.slotEmpty s hs
  chanNone := fun c hc => by rw [dropChanTx_chan, h.chanNone c hc]; simp
  chanSome := fun c c0 hc => by
    obtain ⟨c1, a1, a2, a3, a4, a5, a6⟩ := h.chanSome c c0 hc
    rw [dropChanTx_chan, a1]
    by_cases hcc : c = c'
    · simp only [hcc, ↓reduceIte, Option.map_some, Option.some.injEq, exists_eq_left']
      exact ⟨a2, a3, fun _ => trivial, fun _ => trivial, fun h => by cases h⟩
    · simp only [hcc, ↓reduceIte, Option.some.injEq, exists_eq_left']
      exact ⟨a2, a3, a4, a5, a6⟩
  wokenMono := fun t ht => dropChanTx_woken_mono _ _ _ (h.wokenMono t ht)
  slotWake := fun s h1 h2 => by
    rcases h.slotWake s h1 h2 with ⟨a, b⟩ | a
    · exact Or.inl ⟨by simpa using a, by simpa using b⟩
    · exact Or.inr (dropChanTx_woken_mono _ _ _ a)
  chanWake := fun c c0 h1 h2 => by
    rcases h.chanWake c c0 h1 h2 with ⟨c1, a, b⟩ | a
    · by_cases hcc : c = c'
      · subst hcc; exact Or.inr (dropChanTx_wakes' _ _ c1 a b)
      · left; rw [dropChanTx_chan]; simp only [hcc, ↓reduceIte]; exact ⟨c1, a, b⟩
    · exact Or.inr (dropChanTx_woken_mono _ _ _ a)

theorem closes_inv {w w' : World} (h : Closes w w') : CloseInv w w' := by
  induction h with
  | refl => exact closeInv_refl _
  | slot s _ ih => exact closeInv_slot s ih
  | chan c _ ih => exact closeInv_chan c ih

def closeMsg (w : World) (m : Msg) : World :=
  match m with
  | .ff _ s => w.dropSlotTx s
  | .awaitAck _ _ s => w.dropSlotTx s
  | .subscribe _ _ _ s ch => (w.dropSlotTx s).dropChanTx ch

def dropCtxStart (w : World) : World :=
  { w with task := .none, hasCtx := false, ctxDropped := true, reader := [] }

/-- every sender the context owns is dropped: queued messages, `awaiting_ack`, `subscriptions` -/
def dropCtxClosed (w : World) : World :=
  w.c.subs.foldl (fun (w : World) (e : Nat × Nat) => w.dropChanTx e.2)
    (w.c.awaiting.foldl (fun (w : World) (e : Nat × Nat) => w.dropSlotTx e.2)
      (w.queue.foldl closeMsg (dropCtxStart w)))

/-- a list of effects that only drops senders -/
def OnlyDrops (es : List Eff) : Prop := ∀ e ∈ es, (∃ s, e = Eff.dropSlot s) ∨ (∃ c, e = Eff.dropChan c)

theorem closes_applyEffs (w : World) (es : List Eff) (h : OnlyDrops es) : Closes w (w.applyEffs es) := by
  refine applyEffs_lift (R := Closes) (fun w => .refl w) closes_trans (fun w e he => ?_) w
  rcases h e he with ⟨s, rfl⟩ | ⟨c, rfl⟩
  · exact .slot s (.refl w)
  · exact .chan c (.refl w)

theorem Closes.effs {a b : World} (h : Closes a b) : ∃ es, OnlyDrops es ∧ b = a.applyEffs es := by
  induction h with
  | refl => exact ⟨[], (fun _ h => nomatch h), rfl⟩
  | slot s _ ih =>
    obtain ⟨es, hd, rfl⟩ := ih
    exact ⟨es ++ [.dropSlot s], fun e he => (List.mem_append.1 he).elim (hd e)
      (fun h1 => Or.inl ⟨s, List.mem_singleton.1 h1⟩), by unfold applyEffs; rw [List.foldl_append]; rfl⟩
  | chan c _ ih =>
    obtain ⟨es, hd, rfl⟩ := ih
    exact ⟨es ++ [.dropChan c], fun e he => (List.mem_append.1 he).elim (hd e)
      (fun h1 => Or.inr ⟨c, List.mem_singleton.1 h1⟩), by unfold applyEffs; rw [List.foldl_append]; rfl⟩

theorem closeMsg_eq (w : World) (m : Msg) : closeMsg w m = w.applyEffs (closeMsgEffs m) := by
  cases m <;> rfl

theorem dropCtxClosed_eq (w : World) : dropCtxClosed w = (dropCtxStart w).applyEffs (closeEffs w.queue w.c) := by
  unfold dropCtxClosed closeEffs applyEffs
  rw [List.foldl_append, List.foldl_append, List.foldl_map, List.foldl_map, List.foldl_flatMap]
  have hq : ∀ (l : List Msg) (w0 : World),
      l.foldl closeMsg w0 = l.foldl (fun acc m => (closeMsgEffs m).foldl applyEff acc) w0 := fun l w0 =>
    congrArg (fun f => l.foldl f w0) (funext fun w => funext fun m => closeMsg_eq w m)
  rw [hq]
  rfl

theorem closes_closeMsg (w : World) (m : Msg) : Closes w (closeMsg w m) := by
  cases m with
  | ff _ s => exact .slot s (.refl w)
  | awaitAck _ _ s => exact .slot s (.refl w)
  | subscribe _ _ _ s ch => exact .chan ch (.slot s (.refl w))

theorem CloseInv.c_eq {w w' : World} (h : CloseInv w w') : w'.c = w.c := by rw [h.frame]

/-- `apply .dropCtx` unfolds to three nested folds over anonymous functions, the two outer ones over lists read off
    the intermediate worlds. Stated for any functions that agree pointwise with the named ones, so that it rewrites
    the unfolded `apply` whatever form its lambdas have; the intermediate `c.awaiting` / `c.subs` are those of `w`
    because dropping senders never touches `c`. -/
theorem dropCtx_shape (F1 : World → Msg → World) (F2 F3 : World → Nat × Nat → World)
    (h1 : ∀ w m, F1 w m = closeMsg w m) (h2 : ∀ w e, F2 w e = w.dropSlotTx e.2)
    (h3 : ∀ w e, F3 w e = w.dropChanTx e.2) (w : World) :
    (List.foldl F3
      (List.foldl F2 (List.foldl F1 (dropCtxStart w) w.queue) (List.foldl F1 (dropCtxStart w) w.queue).c.awaiting)
      (List.foldl F2 (List.foldl F1 (dropCtxStart w) w.queue)
        (List.foldl F1 (dropCtxStart w) w.queue).c.awaiting).c.subs) = dropCtxClosed w := by
  obtain rfl : F1 = closeMsg := funext fun w => funext (h1 w)
  obtain rfl : F2 = fun w e => w.dropSlotTx e.2 := funext fun w => funext (h2 w)
  obtain rfl : F3 = fun w e => w.dropChanTx e.2 := funext fun w => funext (h3 w)
  have hc2 : (w.queue.foldl closeMsg (dropCtxStart w)).c = w.c :=
    (closes_inv (closes_foldl _ closes_closeMsg w.queue (dropCtxStart w))).c_eq
  have h3' : Closes (w.queue.foldl closeMsg (dropCtxStart w))
      (w.c.awaiting.foldl (fun (w : World) (e : Nat × Nat) => w.dropSlotTx e.2)
        (w.queue.foldl closeMsg (dropCtxStart w))) :=
    closes_foldl _ (fun w (e : Nat × Nat) => Closes.slot e.2 (.refl w)) _ _
  rw [hc2, (closes_inv h3').c_eq, hc2]
  rfl

theorem apply_dropCtx (w : World) (h : w.hasCtx = true) :
    w.apply .dropCtx = { dropCtxClosed w with queue := [], c := {} } := by
  simp only [World.apply, h, Bool.not_true, Bool.false_eq_true, ↓reduceIte]
  rw [← dropCtx_shape _ _ _ (fun w m => by cases m <;> rfl) (fun _ _ => rfl) (fun _ _ => rfl) w]
  rfl

theorem onlyDrops_closeEffs (q : List Msg) (c : Ctx) : OnlyDrops (closeEffs q c) := by
  intro e he
  rcases List.mem_append.1 he with he | he
  · rcases List.mem_append.1 he with he | he
    · obtain ⟨m, _, hm⟩ := List.mem_flatMap.1 he
      cases m <;> simp only [closeMsgEffs, List.mem_cons, List.not_mem_nil, or_false] at hm
      · exact Or.inl ⟨_, hm⟩
      · exact Or.inl ⟨_, hm⟩
      · exact hm.elim (fun h => Or.inl ⟨_, h⟩) (fun h => Or.inr ⟨_, h⟩)
    · obtain ⟨x, _, rfl⟩ := List.mem_map.1 he; exact Or.inl ⟨_, rfl⟩
  · obtain ⟨x, _, rfl⟩ := List.mem_map.1 he; exact Or.inr ⟨_, rfl⟩

theorem closes_dropCtxClosed (w : World) : Closes (dropCtxStart w) (dropCtxClosed w) := by
  rw [dropCtxClosed_eq]; exact closes_applyEffs _ _ (onlyDrops_closeEffs _ _)

theorem dropCtxClosed_inv (w : World) : CloseInv (dropCtxStart w) (dropCtxClosed w) :=
  closes_inv (closes_dropCtxClosed w)

theorem closes_slot_ne_empty {a b : World} (h : Closes a b) (s : Nat) (hs : a.slot s ≠ some .empty) :
    b.slot s ≠ some .empty := by
  have inv := closes_inv h
  cases hv : a.slot s with
  | none => rw [inv.slotNone s hv]; simp
  | some v =>
    cases v with
    | empty => exact absurd hv hs
    | full x => rw [inv.slotFull s x hv]; simp
    | closed => rw [inv.slotClosed s hv]; simp

theorem dropSlotTx_slot_ne_empty (w : World) (s : Nat) : (w.dropSlotTx s).slot s ≠ some .empty := by
  rw [dropSlotTx_slot]
  by_cases h : w.slot s = some .empty
  · simp [h]
  · simp [h]

/-- the effects complete the oneshot `s` or drop its sender -/
def _root_.Poster.Settles (es : List Eff) (s : Nat) : Prop := (∃ v, Eff.send s v ∈ es) ∨ Eff.dropSlot s ∈ es

theorem sendSlot_slot_ne_empty (w : World) (s : Nat) (v : SlotVal) : (w.sendSlot s v).slot s ≠ some .empty := by
  rw [sendSlot_eq]
  by_cases h : w.slot s = some .empty
  · rw [if_pos h, fillSlot_slot, if_pos rfl]; nofun
  · rw [if_neg h]; exact h

/-- a oneshot that is no longer empty is final: no effect changes it -/
theorem applyEffs_slot_of_ne_empty (w : World) (es : List Eff) (s : Nat) :
    w.slot s ≠ some .empty → (w.applyEffs es).slot s = w.slot s :=
  applyEffs_lift (R := fun x y => x.slot s ≠ some .empty → y.slot s = x.slot s) (fun _ _ => rfl)
    (fun h1 h2 hne => (h2 (h1 hne ▸ hne)).trans (h1 hne))
    (fun x e _ hne => by
      cases e with
      | send s' v => show (x.sendSlot s' v).slot s = _; rw [sendSlot_eq, slot_fillSlot_if, if_neg fun (h : s = s' ∧ _) => hne (h.1 ▸ h.2)]
      | dropSlot s' => show (x.dropSlotTx s').slot s = _; rw [dropSlotTx_slot, if_neg fun (h : s = s' ∧ _) => hne h.2]
      | _ => simp [applyEff]) w

theorem applyEffs_settles (w : World) (es : List Eff) (s : Nat) (h : Settles es s) :
    (w.applyEffs es).slot s ≠ some .empty := by
  rcases h with ⟨v, h⟩ | h <;> obtain ⟨pre, post, _, e⟩ := applyEffs_of_mem h w <;> rw [e]
  · have hne : ((w.applyEffs pre).applyEff (.send s v)).slot s ≠ some .empty := sendSlot_slot_ne_empty _ s v
    rw [applyEffs_slot_of_ne_empty _ post s hne]; exact hne
  · have hne : ((w.applyEffs pre).applyEff (.dropSlot s)).slot s ≠ some .empty := dropSlotTx_slot_ne_empty _ s
    rw [applyEffs_slot_of_ne_empty _ post s hne]; exact hne

/-- the sending half of channel `ch` is gone (or the channel no longer exists) and nobody is registered -/
def ChanShut (w : World) (ch : Nat) : Prop := ∀ c1, w.chan ch = some c1 → c1.txAlive = false ∧ c1.reg = false

theorem closes_chanShut {a b : World} (h : Closes a b) (ch : Nat) (hs : ChanShut a ch) : ChanShut b ch := by
  have inv := closes_inv h
  intro c1 hc1
  cases hv : a.chan ch with
  | none => rw [inv.chanNone ch hv] at hc1; cases hc1
  | some c0 =>
    obtain ⟨c1', e1, _, _, e4, e5, _⟩ := inv.chanSome ch c0 hv
    rw [e1] at hc1; cases hc1
    obtain ⟨x, y⟩ := hs c0 hv
    exact ⟨e4 x, e5 y⟩

theorem dropChanTx_chanShut (w : World) (ch : Nat) : ChanShut (w.dropChanTx ch) ch := by
  intro c1 hc1
  rw [dropChanTx_chan] at hc1
  simp only [↓reduceIte] at hc1
  cases hv : w.chan ch with
  | none => rw [hv] at hc1; cases hc1
  | some c0 => rw [hv] at hc1; simp at hc1; subst hc1; exact ⟨rfl, rfl⟩

theorem chanShut_applyEffs (w : World) (es : List Eff) (h : OnlyDrops es) (ch : Nat) (hm : Eff.dropChan ch ∈ es) :
    ChanShut (w.applyEffs es) ch := by
  obtain ⟨pre, post, rfl, e⟩ := applyEffs_of_mem hm w
  rw [e]
  exact closes_chanShut (closes_applyEffs _ post fun x hx => h x (by simp [hx])) ch (dropChanTx_chanShut _ ch)

/-- the oneshot `s` belongs to a queued message or to an entry of `awaiting_ack` -/
def OwnsSlot (w : World) (s : Nat) : Prop := (∃ m ∈ w.queue, m.slot = s) ∨ (∃ e ∈ w.c.awaiting, e.2 = s)

/-- the channel `ch` belongs to a queued SUBSCRIBE or to an entry of `subscriptions` -/
def OwnsChan (w : World) (ch : Nat) : Prop :=
  (∃ aid sid pkt s, Msg.subscribe aid sid pkt s ch ∈ w.queue) ∨ (∃ e ∈ w.c.subs, e.2 = ch)

theorem dropCtxClosed_slot (w : World) (s : Nat) (h : OwnsSlot w s) : (dropCtxClosed w).slot s ≠ some .empty := by
  rw [dropCtxClosed_eq]
  refine applyEffs_settles _ _ s (Or.inr ?_)
  rcases h with ⟨m, hm, rfl⟩ | ⟨e, he, rfl⟩
  · refine List.mem_append_left _ (List.mem_append_left _ (List.mem_flatMap.2 ⟨m, hm, ?_⟩))
    cases m <;> exact List.mem_cons_self
  · exact List.mem_append_left _ (List.mem_append_right _ (List.mem_map.2 ⟨e, he, rfl⟩))

theorem dropCtxClosed_chan (w : World) (ch : Nat) (h : OwnsChan w ch) : ChanShut (dropCtxClosed w) ch := by
  rw [dropCtxClosed_eq]
  refine chanShut_applyEffs _ _ (onlyDrops_closeEffs _ _) ch ?_
  rcases h with ⟨aid, sid, pkt, s, hm⟩ | ⟨e, he, rfl⟩
  · exact List.mem_append_left _ (List.mem_append_left _
      (List.mem_flatMap.2 ⟨_, hm, List.mem_cons_of_mem _ List.mem_cons_self⟩))
  · exact List.mem_append_right _ (List.mem_map.2 ⟨e, he, rfl⟩)

/-- `poll_next` called `n` times on the stream `id`: `pollStreamN` (Lemmas/UserWorld.lean) with the arguments in another
    order (`pollStreamTimes_eq`) -/
def pollStreamTimes (id : Nat) : Nat → World → World
  | 0, w => w
  | n + 1, w => pollStreamTimes id n (w.pollStream id)

theorem pollStreamTimes_eq (id n : Nat) (w : World) : pollStreamTimes id n w = pollStreamN w id n := by
  induction n generalizing w with
  | zero => rfl
  | succ n ih => exact ih _

end World
end Poster

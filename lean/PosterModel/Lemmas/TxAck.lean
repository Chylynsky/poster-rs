/-
  Lemmas/TxAck.lean — PUBACK / PUBREC / PUBREL / PUBCOMP, DISCONNECT, AUTH: lengths, layout (with the shortened
  forms), and the body parses to the caller's values.
-/
import PosterModel.Lemmas.CodecTx

namespace Poster
open Spec

theorem parseReasonProps_enc (reasons allowed : List Nat) (rc : Nat) (ps : List Property) (hr : rc ∈ reasons)
    (hrc : rc < 256) (hwf : ∀ p ∈ ps, PropWF p) (hlegal : propsLegal allowed ps = true)
    (hl : (encProps ps).length < 268435456) :
    parseReasonProps reasons allowed (encU8 rc ++ (encVar (encProps ps).length ++ encProps ps)) = some (rc, ps) := by
  have hb := pPropBlock_enc ps hwf hl []
  simp only [List.append_nil] at hb
  have h1 : (encU8 rc ++ (encVar (encProps ps).length ++ encProps ps) = []) = False := by simp [encU8]
  simp [parseReasonProps, h1, pU8_enc _ hrc, hr, hb, hlegal]

theorem ack_propertyLen_eq (t : AckTx) : t.propertyLen = (encProps (ackProps t)).length := by
  rw [← propsLen_eq_length _ (by unfold ackProps; props_fields; simp [TypeOk])]
  simp only [AckTx.propertyLen, ackProps, propsLen_append, propsLen_optP, propsLen_userPs, Poster.pStr]

theorem ackProps_eq_nil (t : AckTx) (h : t.propertyLen = 0) : ackProps t = [] := by
  unfold AckTx.propertyLen at h
  unfold ackProps
  cases hs : t.reasonString with
  | some s => simp [hs, propLen, Poster.pStr, valLen, strLen] at h <;> omega
  | none =>
    cases hu : t.userProps with
    | nil => simp [optP, userPs]
    | cons kv u => simp [hs, hu, userLen, propLen, pUser, valLen, pairLen] at h <;> omega

/-- the shortened form is chosen by `remaining_len() == 2`, which happens exactly for "success, no properties" -/
theorem ack_short (t : AckTx) : (t.remainingLen == 2) = (t.reason == 0 && t.propertyLen == 0) := by
  unfold AckTx.remainingLen
  have := varLen_pos t.propertyLen
  cases h : (t.reason == 0 && t.propertyLen == 0) <;> simp <;> omega

/-- everything after the remaining-length field -/
def ackBody (t : AckTx) : Bytes :=
  encU16 t.packetId ++
    (if t.remainingLen == 2 then []
     else encU8 t.reason ++ (encVar (encProps (ackProps t)).length ++ encProps (ackProps t)))

theorem ack_encode_eq (t : AckTx) : t.encode = UInt8.ofNat t.hdr :: (encVar t.remainingLen ++ ackBody t) := by
  simp only [AckTx.encode, ackBody, ack_propertyLen_eq, ackProps, encProps_append, encProps_optP, encProps_userPs,
    Poster.pStr, encU8, List.append_assoc, List.cons_append, List.nil_append]

theorem ack_remainingLen_eq (t : AckTx) : t.remainingLen = (ackBody t).length := by
  unfold ackBody
  rw [ack_short]
  unfold AckTx.remainingLen
  cases h : (t.reason == 0 && t.propertyLen == 0) <;>
    simp [encU16, encU8, ← ack_propertyLen_eq, varLen_eq] <;> omega

theorem ack_layout (t : AckTx) : Layout t.hdr t.remainingLen t.encode (ackBody t) :=
  ⟨ack_encode_eq t, ack_remainingLen_eq t⟩

theorem ackProps_wf (t : AckTx) (hd : AckInDomain t) : ∀ p ∈ ackProps t, PropWF p := by
  simp only [ackProps, List.forall_mem_append]
  exact ⟨PropWF_optP_bytes (.inl rfl) hd.reasonString, PropWF_userPs hd.userProps⟩

theorem ackProps_legal (t : AckTx) : propsLegal ackPropIds (ackProps t) = true :=
  OnceIn.optP 31 .bytes t.reasonString |>.legal (by decide)

theorem parseAckBody_enc (t : AckTx) (hd : AckInDomain t) :
    parseAckBody (ackReasons t.hdr) (ackBody t) = some (t.packetId, t.reason, ackProps t) := by
  obtain ⟨hp1, hp2⟩ := hd.packetId
  have hp0 : ¬ t.packetId = 0 := by omega
  have hr := hd.reason
  have hrc : t.reason < 256 := by
    have := hr; unfold ackReasons at this; split at this <;> simp [pubackReasons, pubrelReasons] at this <;> omega
  have hl : (encProps (ackProps t)).length < 268435456 := by
    have := hd.size; unfold AckTx.remainingLen at this; rw [← ack_propertyLen_eq]
    split at this
    · rename_i h; simp at h; omega
    · omega
  have hb := pPropBlock_enc _ (ackProps_wf t hd) hl []
  simp only [List.append_nil] at hb
  unfold ackBody
  rw [ack_short]
  cases h : (t.reason == 0 && t.propertyLen == 0) with
  | true =>
    simp only [Bool.and_eq_true, beq_iff_eq] at h
    have hpid := pU16_enc _ (show t.packetId < 65536 by omega) []
    simp only [List.append_nil] at hpid
    simp [parseAckBody, pPacketId, hpid, hp0, h.1, ackProps_eq_nil t h.2]
  | false =>
    have h1 : (encU8 t.reason ++ (encVar (encProps (ackProps t)).length ++ encProps (ackProps t)) = []) = False := by
      simp [encU8]
    simp [parseAckBody, pPacketId, pU16_enc _ (show t.packetId < 65536 by omega), hp0, h1, pU8_enc _ hrc, hr, hb,
      ackProps_legal]

theorem ack_body_parses (t : AckTx) (hd : AckInDomain t) :
    parseBody (t.hdr / 16) (t.hdr % 16) (ackBody t) = some (ofAck t) := by
  have hb := parseAckBody_enc t hd
  rcases hd.hdr with h | h | h | h <;> simp [h, ackReasons] at hb <;> simp [h, parseBody, hb, ofAck]

theorem disconnect_propertyLen_eq (t : DisconnectTx) : t.propertyLen = (encProps (disconnectProps t)).length := by
  rw [← propsLen_eq_length _ (by unfold disconnectProps; props_fields; simp [TypeOk])]
  simp only [DisconnectTx.propertyLen, disconnectProps, propsLen_append, propsLen_optP, propsLen_userPs, pNum,
    Poster.pStr]

def disconnectBody (t : DisconnectTx) : Bytes :=
  encU8 t.reason ++ (encVar (encProps (disconnectProps t)).length ++ encProps (disconnectProps t))

theorem disconnect_encode_eq (t : DisconnectTx) :
    t.encode = UInt8.ofNat 224 :: (encVar t.remainingLen ++ disconnectBody t) := by
  simp only [DisconnectTx.encode, disconnectBody, disconnect_propertyLen_eq, disconnectProps, encProps_append,
    encProps_optP, encProps_userPs, pNum, Poster.pStr, encU8, List.append_assoc, List.cons_append, List.nil_append]

theorem disconnect_remainingLen_eq (t : DisconnectTx) : t.remainingLen = (disconnectBody t).length := by
  simp [DisconnectTx.remainingLen, disconnectBody, encU8, ← disconnect_propertyLen_eq, varLen_eq]; omega

theorem disconnect_layout (t : DisconnectTx) : Layout 224 t.remainingLen t.encode (disconnectBody t) :=
  ⟨disconnect_encode_eq t, disconnect_remainingLen_eq t⟩

theorem disconnectProps_wf (t : DisconnectTx) (hd : DisconnectInDomain t) : ∀ p ∈ disconnectProps t, PropWF p := by
  simp only [disconnectProps, List.forall_mem_append, and_assoc]
  exact ⟨PropWF_optP_num (.inr ⟨rfl, rfl⟩) rfl hd.sessionExpiry, PropWF_optP_bytes (.inl rfl) hd.reasonString,
    PropWF_userPs hd.userProps⟩

theorem disconnectProps_legal (t : DisconnectTx) : propsLegal disconnectPropIds (disconnectProps t) = true :=
  OnceIn.optP 17 .num t.sessionExpiry |>.append_optP (by decide) |>.legal (by decide)

theorem disconnect_body_parses (t : DisconnectTx) (hd : DisconnectInDomain t) :
    parseBody 14 0 (disconnectBody t) = some (ofDisconnect t) := by
  have hr := hd.reason
  have hrc : t.reason < 256 := by have := hr; simp [disconnectReasons] at this; omega
  have hl : (encProps (disconnectProps t)).length < 268435456 := by
    have := hd.size; rw [disconnect_remainingLen_eq] at this
    simp only [disconnectBody, List.length_append] at this; omega
  simp [parseBody, parseDisconnect, disconnectBody, ofDisconnect,
    parseReasonProps_enc _ _ _ _ hr hrc (disconnectProps_wf t hd) (disconnectProps_legal t) hl]

theorem auth_propertyLen_eq (t : AuthTx) : t.propertyLen = (encProps (authProps t)).length := by
  rw [← propsLen_eq_length _ (by unfold authProps; props_fields; simp [TypeOk])]
  simp only [AuthTx.propertyLen, authProps, propsLen_append, propsLen_optP, propsLen_userPs, Poster.pStr]

/-- everything after the remaining-length field: nothing in the shortened form -/
def authBody (t : AuthTx) : Bytes :=
  if t.shortened then []
  else encU8 t.reasonVal ++ (encVar (encProps (authProps t)).length ++ encProps (authProps t))

theorem auth_encode_eq (t : AuthTx) : t.encode = UInt8.ofNat 240 :: (encVar t.remainingLen ++ authBody t) := by
  unfold AuthTx.encode authBody AuthTx.remainingLen
  cases t.shortened
  · simp only [Bool.false_eq_true, ↓reduceIte, auth_propertyLen_eq, authProps, encProps_append, encProps_optP,
      encProps_userPs, Poster.pStr, encU8, List.append_assoc, List.cons_append, List.nil_append]
  · rfl

theorem auth_remainingLen_eq (t : AuthTx) : t.remainingLen = (authBody t).length := by
  unfold authBody AuthTx.remainingLen
  cases t.shortened <;> simp [encU8, ← auth_propertyLen_eq, varLen_eq]; omega

theorem auth_layout (t : AuthTx) : Layout 240 t.remainingLen t.encode (authBody t) :=
  ⟨auth_encode_eq t, auth_remainingLen_eq t⟩

theorem authProps_wf (t : AuthTx) (hd : AuthInDomain t) : ∀ p ∈ authProps t, PropWF p := by
  simp only [authProps, List.forall_mem_append, and_assoc]
  exact ⟨PropWF_optP_bytes (.inl rfl) hd.authMethod, PropWF_optP_bytes (.inr rfl) hd.authData,
    PropWF_optP_bytes (.inl rfl) hd.reasonString, PropWF_userPs hd.userProps⟩

theorem authProps_legal (t : AuthTx) : propsLegal authPropIds (authProps t) = true :=
  OnceIn.optP 21 .bytes t.authMethod |>.append_optP (by decide) |>.append_optP (by decide) |>.legal (by decide)

theorem auth_body_parses (t : AuthTx) (hv : t.valid = true) (hd : AuthInDomain t) :
    parseBody 15 0 (authBody t) = some (ofAuth t) := by
  unfold authBody
  cases hs : t.shortened with
  | true =>
    simp only [AuthTx.shortened, AuthTx.reasonVal, Bool.and_eq_true, beq_iff_eq, Option.isNone_iff_eq_none,
      List.isEmpty_iff] at hs
    obtain ⟨⟨⟨⟨h0, hm⟩, hdt⟩, hrs⟩, hu⟩ := hs
    simp [parseBody, parseAuth, parseReasonProps, ofAuth, authProps, h0, hm, hdt, hrs, hu, optP, userPs]
  | false =>
    simp only [AuthTx.valid, hs, Bool.false_or, Bool.and_eq_true] at hv
    have hr : t.reasonVal ∈ authReasons := by
      unfold AuthTx.reasonVal
      cases hrr : t.reason with
      | none => simp [authReasons]
      | some r => exact hd.reason r hrr
    have hrc : t.reasonVal < 256 := by have := hr; simp [authReasons] at this; omega
    have hl : (encProps (authProps t)).length < 268435456 := by
      have := hd.size; rw [auth_remainingLen_eq] at this
      simp only [authBody, hs, Bool.false_eq_true, ↓reduceIte, List.length_append] at this; omega
    have hm : hasId 21 (authProps t) = true := by
      simp [authProps, hasId_append, hasId_optP, hv.1]
    have h1 : (encU8 t.reasonVal ++ (encVar (encProps (authProps t)).length ++ encProps (authProps t)) = [])
        = False := by simp [encU8]
    simp [parseBody, parseAuth, ofAuth, hm, h1,
      parseReasonProps_enc _ _ _ _ hr hrc (authProps_wf t hd) (authProps_legal t) hl]
    rfl

end Poster

/-
  Lemmas/WorldQuietStep.lean — the registration invariant through every script event (`apply`), every poll and so
  a whole script step (`step`: drain and sweep only poll, `step_lift_ev`), under the side condition `evOk` on the
  event; carried along as `OwnInv`, `StrCore`, `CtxPark` and the reachability of the framing state (`Regd`).
-/
import PosterModel.Lemmas.WorldQuietPark


namespace Poster
open Framing
namespace World

/-- side condition on a script event: a SUBSCRIBE operation does not re-use the identifier of a live stream or
    of a response whose stream has not been taken yet (the script names the stream of operation `id` by `id`, so
    re-using the identifier would make two different subscription channels share one name in the model); `subFresh`
    (Lemmas/WorldOwnStream.lean) as a `Bool`: `subFresh_of_evOk` -/
def evOk (w : World) : Ev → Bool
  | .op id _ (.subscribe _) => decide (id ∉ w.streams) && decide (id ∉ w.rsps)
  | _ => true

theorem Inv.closes {E : Task → Prop} {a b : World} (hc : Closes a b) (h : Inv E a) : Inv E b :=
  have ci := closes_inv hc
  h.of_act (actInv_closes hc) (by rw [ci.task_eq, ci.hasCtx_eq]; exact h.hasCtx)
    (fun _ _ h0 => h0.ctx_congr ci.task_eq ci.reader_eq ci.readerReg_eq ci.rx_eq ci.queue_eq ci.queueReg_eq
      (by simp [senders, ci.handles_eq, ci.ops_eq]))

theorem subFresh_of_evOk {w : World} {e : Ev} (h : evOk w e = true) : subFresh w e := by
  unfold subFresh; split
  · simpa [evOk, and_comm] using h
  · trivial

theorem ctxPark_dropHandle {w : World} (ho : OwnInv w) (h : CtxPark w) (hh : Nat) :
    CtxPark (({ w with handles := w.handles.filter (· ≠ hh) } : World).senderGone) := by
  intro hn hne
  have hne0 : w.task ≠ .none := by simpa using hne
  obtain ⟨a1, a2, a3, a4⟩ := h (fun hm => hn (senderGone_woken_mono _ _ hm)) hne0
  obtain ⟨c1, c2⟩ := senderGone_ctxKeep _ hn
  refine ⟨by simpa using a1, by simpa using a2, by simpa using a3, ?_⟩
  rcases a4 with ⟨b1, b2, b3, b4⟩ | ⟨call, t, a, b1⟩
  · have hc : w.hasCtx = true := ho.ctl.task hne0
    exact Or.inl ⟨by simpa using b1, by simpa using b2, c1.trans b3, by simpa using c2 b3 hc⟩
  · exact Or.inr ⟨call, t, a, by simpa using b1⟩

theorem ctxPark_applied {w w' : World} {e : Ev} (a : Applied w e w') (ho : OwnInv w) (hr : Reach w.rx)
    (h : CtxPark w) : CtxPark w' := by
  cases a.norm with
  | same => exact h
  | poll t => exact ctxPark_pollTask ho hr h t
  | bad | markDisc | snap | hold | release | dropStream | dropRsp => exact fun hn => h hn
  | newCtx ht | newConn _ _ _ ht => exact fun _ => taskOk_ctx_of_none ht
  | dropFut | dropCtxNone | dropCtx => exact fun _ => taskOk_ctx_of_none rfl
  | start => exact fun hn => absurd (wake_woken w .ctx ▸ mem_wake_self _ _) hn
  | feed =>
    -- bytes arrive: a context future with its transport waker registered is flagged
    exact fun hn hne => absurd (mem_wakeIf_self ((h fun hm => hn (mem_wakeIf hm)) hne).2.1) hn
  | op id hh req _ hop => exact (opFrame_newOp w id hh req hop).ctxPark ho h
  | dropOp id _ _ _ _ _ _ he => exact he ▸ (own_dropOp w id ho).frame.ctxPark ho h
  | stream id => exact fun hn => h fun hm => hn (wake_woken w (.st id) ▸ mem_wake_of_mem _ _ _ hm)
  | clone => exact fun hn => (h hn).ctx_congr rfl rfl rfl rfl rfl rfl (by simp [senders])
  | dropHandle hh _ _ _ he => exact he ▸ ctxPark_dropHandle ho h hh

/-- the invariants carried along a script: the context side parked, the subscription side, the senders owned, and the
    framing state one the library can reach -/
structure Regd (w : World) : Prop where
  own : OwnInv w
  core : StrCore w
  ctx : CtxPark w
  reach : Reach w.rx

theorem Regd.inv {w : World} (h : Regd w) : Inv NoE w := Inv.of_own_park h.own (.of_core h.core h.ctx)

theorem Regd.pollTask {w : World} (h : Regd w) (t : Task) : Regd (w.pollTask t) :=
  ⟨own_pollTask w t h.own, core_pollTask w t h.own h.core, ctxPark_pollTask h.own h.reach h.ctx t,
    (pollTask_safe w t h.reach).1⟩

theorem Regd.drain (f : Nat) {w : World} (h : Regd w) : Regd (World.drain f w) :=
  drain_lift (R := fun w w' => Regd w → Regd w') (fun _ h => h) (fun f g h => g (f h))
    (fun _ t _ h => h.pollTask t) f w h

theorem evOk_emit (w : World) (o : Obs) (e : Ev) : evOk (w.emit o) e = evOk w e := by
  cases e with
  | op id hh req => cases req <;> rfl
  | _ => rfl

theorem Regd.emit {w : World} (h : Regd w) (o : Obs) : Regd (w.emit o) :=
  ⟨own_emit w o h.own, fun n => { h.core n with }, fun hn => h.ctx hn, h.reach⟩

theorem Regd.apply {w : World} (h : Regd w) (e : Ev) (hev : evOk w e = true) : Regd (w.apply e) :=
  ⟨own_apply w e h.own, core_applied (apply_spec w e) h.own h.core (subFresh_of_evOk hev),
    ctxPark_applied (apply_spec w e) h.own h.reach h.ctx, (apply_safe _ e h.reach).1⟩

theorem Regd.step {w : World} (h : Regd w) (e : Ev) (hev : evOk w e = true) : Regd (w.step e) :=
  step_lift_ev (R := fun w w' => Regd w → Regd w') (fun _ h => h) (fun f g h => g (f h))
    (fun _ t _ _ h => h.pollTask t) (fun _ h => h.emit _) w e
    (fun _ h => (h.emit _).apply e ((evOk_emit w _ e).trans hev)) h

theorem Regd.init (cfg : Cfg) : Regd { cfg := cfg } :=
  ⟨ownInv_init cfg, (strInv_init cfg).core, fun _ => taskOk_ctx_of_none rfl, Reach.init⟩

end World
end Poster

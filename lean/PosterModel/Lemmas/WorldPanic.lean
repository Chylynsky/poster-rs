/-
  Lemmas/WorldPanic.lean — where `Obs.panic` observations can come from: what one poll of each kind of task
  appends to the observation log.
-/
import PosterModel.Lemmas.WorldWalk
import PosterModel.Lemmas.WorldOutcome
import PosterModel.Properties.C03
import PosterModel.Properties.C04Decode

namespace Poster
open Framing
namespace World

def Obs.calm (o : Obs) : Prop := ∀ t cls, o ≠ .panic t cls

theorem calm_done (id : Nat) (r : DoneRes) : Obs.calm (.done id r) := fun _ _ h => nomatch h

theorem pollStream_calm (w : World) (id : Nat) : OutExtP Obs.calm w (w.pollStream id) :=
  outExtP_mono (pollStream_outExtP w id) (by rintro o (⟨p, rfl⟩ | rfl) <;> exact fun _ _ h => nomatch h)

theorem resumeOp_panic (w : World) (id s : Nat) (k : Wait) (p : RxPacket) (h : Wait.accepts k p = false) :
    (w.resumeOp id s k (.pkt p)).out = w.out ++ [.panic (.op id) "unreachable"] ∧
    (w.resumeOp id s k (.pkt p)).ops = eraseFirst id w.ops := by
  rw [resumeOp_mismatch w id s k p h]; exact ⟨endOp_out _ _ _, endOp_ops _ _ _⟩

theorem resumeOp_calm (w : World) (id s : Nat) (k : Wait) (v : SlotVal)
    (h : ∀ p, v = .pkt p → Wait.accepts k p = true) : OutExtP Obs.calm w (w.resumeOp id s k v) := by
  rcases resumeOp_cases id s k v with ⟨r, _, e⟩ | ⟨a, _, _, e⟩ | ⟨a, _, _, _, e⟩ | ⟨p, hv, ha, _⟩
  · exact outExtP_one _ (by rw [e w, finishOp_eq_endOp, endOp_out]; rfl) (calm_done id r)
  · exact outExtP_one _ (by rw [e w, finishOp_eq_endOp, endOp_out]; rfl) (calm_done id _)
  · rw [e w]
    rcases sendAwait_out (w.clearSlot s) (W7.pubrelMsg a.packetId (s + 1)) id (s + 1) .pubcomp with h1 | h1
    · exact outExtP_of_eq h1
    · exact outExtP_one _ h1 (calm_done id _)
  · rw [h p hv] at ha; cases ha

theorem pollOp_panics (w : World) (id : Nat) :
    (∃ s k p, w.opSt id = some (.wait s k) ∧ w.slot s = some (.full (.pkt p)) ∧ Wait.accepts k p = false ∧
      (w.pollOp id).out = w.out ++ [.panic (.op id) "unreachable"]) ∨
    ((¬ ∃ s k p, w.opSt id = some (.wait s k) ∧ w.slot s = some (.full (.pkt p)) ∧ Wait.accepts k p = false) ∧
      OutExtP Obs.calm w (w.pollOp id)) := by
  -- `pollOp_spec` says when the one line a poll logs is the panic
  have no : ∀ {st}, w.opSt id = some st → ¬ Mismatch w st →
      ¬ ∃ s k p, w.opSt id = some (.wait s k) ∧ w.slot s = some (.full (.pkt p)) ∧ Wait.accepts k p = false :=
    fun ho hn ⟨s, k, p, h1, h2, h3⟩ => hn ⟨s, k, p, Option.some.inj (ho.symm.trans h1), h2, h3⟩
  rcases pollOp_spec w id with ⟨ho, e⟩ | ⟨s, k, ho, hs, e⟩ | ⟨st, w0, ho, hp, ⟨o, _, e, why, _⟩ | ⟨m, s, k, hw, hc, e, _⟩⟩
  · exact Or.inr ⟨by simp [ho], e.symm ▸ outExtP_refl _ _⟩
  · refine Or.inr ⟨no ho ?_, e.symm ▸ outExtP_of_eq rfl⟩
    rintro ⟨s', k', p, e0, hs', _⟩
    cases e0; rcases hs with h | h <;> rw [h] at hs' <;> cases hs'
  · have eo : (w.pollOp id).out = w.out ++ [o] := by rw [e, endOp_out, hp.out]
    rcases why with ⟨rfl, s, k, p, rfl, hs, ha⟩ | ⟨⟨r, rfl⟩, hn⟩
    · exact Or.inl ⟨s, k, p, ho, hs, ha, eo⟩
    · exact Or.inr ⟨no ho hn, outExtP_one _ eo (calm_done id r)⟩
  · -- the future sends: nothing is logged, and what it found in its oneshot (a PUBREC) is of its kind
    obtain ⟨wk, qr, e'⟩ := User.sendAwait_ctx w0 m id s k hc
    refine Or.inr ⟨no ho ?_, outExtP_of_eq (by rw [e, e']; exact hp.out)⟩
    rintro ⟨s', k', p, e0, hs', ha⟩
    rcases hw with ⟨_, _, e1, _⟩ | ⟨s0, a, e1, hs0, _⟩
    · rw [e1] at e0; cases e0
    · rw [e1] at e0; cases e0
      rw [hs0] at hs'; cases hs'; cases ha

/-- what a poll of the context future may append: no panic, or one of the two panics of `CtxEnd`
    (Lemmas/WorldOutcome.lean), with what `CtxEnd` says of them -/
def CtxObs (w : World) (o : Obs) : Prop :=
  Obs.calm o ∨
  (o = .panic .ctx "assert-subid" ∧ ∃ call t a st rx' rd' fr k, w.task = .connecting call t a st ∧
    pollNext w.rx w.reader = (rx', rd', .item fr) ∧ decodeRx fr = .ok (.connack k) ∧ k.reason < 128 ∧
    k.subIdAvail = false) ∨
  (o = .panic .ctx "other" ∧ ∃ rx rd rx' rd' fr, (Reach w.rx → Reach rx) ∧
    pollNext rx rd = (rx', rd', .item fr) ∧ decodeRx fr = .panic)

theorem calm_wire (bs : Bytes) : Obs.calm (.wire bs) ∧ Obs.calm (.wraw bs) :=
  ⟨(by intro t c h; cases h), (by intro t c h; cases h)⟩

theorem ctxObs_of_outcome {w r : World} (h : Outcome w r) : OutExtP (CtxObs w) w r :=
  h.outExtP (fun bs => ⟨Or.inl (calm_wire bs).1, Or.inl (calm_wire bs).2⟩) fun o hl => by
    rcases hl with ⟨call, res, _, rfl, _⟩ | h | h
    · exact Or.inl (by intro t c h; cases h)
    · exact Or.inr (Or.inl h)
    · exact Or.inr (Or.inr h)

theorem pollCtxS_panics (sched : Nat → Bool) (w : World) : OutExtP (CtxObs w) w (w.pollCtxS sched) :=
  ctxObs_of_outcome (pollCtxS_outcome sched w)

theorem pollCtx_panics (w : World) : OutExtP (CtxObs w) w w.pollCtx := pollCtxS_false w ▸ pollCtxS_panics _ w

theorem no_decoder_panic {rx : Rx} {rd : List ReadEv} {rx' : Rx} {rd' : List ReadEv} {fr : Bytes}
    (hr : Reach rx) (hp : pollNext rx rd = (rx', rd', .item fr)) : decodeRx fr ≠ .panic := by
  have h2 := (framing_index_safe rx hr).2.2.2.2 rd rx' rd' fr hp
  exact decodeRx_never_panics fr (by intro h; rw [h] at h2; simp at h2)

end World
end Poster

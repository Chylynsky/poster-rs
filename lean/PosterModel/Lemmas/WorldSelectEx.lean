/-
  Lemmas/WorldSelectEx.lean — the one real race of the `select!` of `run()`, as a concrete world with both
  resolutions evaluated: the send quota is exactly 0, the PUBACK that frees a slot is ready at the transport, and a
  QoS 1 PUBLISH is queued.
    * messages first (`World.runLoop`): the PUBLISH is refused with `QuotaExceeded`, then the PUBACK frees the slot;
    * packets first: the PUBACK frees the slot, the PUBLISH takes it and is written.
  Two more worlds: end of stream against a queued DISCONNECT (`wByeEof`: `SocketClosed`, or the DISCONNECT written),
  and the race with one more slot (`wRace2`), where the order does not show.
  `Framing.pollNext` is opaque to `decide` (well-founded recursion): the iterations are evaluated by rewriting.
-/
import PosterModel.Lemmas.WorldSelectIndep
import PosterModel.Lemmas.WorldOpsEx


namespace Poster
open Framing
namespace Ex

/-- PUBACK for packet identifier 1, short form (reason 0) -/
def puback1 : Bytes := [0x40, 2, 0, 1]
/-- QoS 1 PUBLISH, topic "a", packet identifier 2, no properties, empty payload -/
def pub2 : Bytes := [0x32, 6, 0, 1, 0x61, 0, 2, 0]

theorem dec_puback1 : decodeRx puback1 = .ok (.puback { packetId := 1 }) := Ex.dec_pubackBytes
theorem pn_puback1 : pollNext {} [.data puback1] = ({}, [], .item puback1) := Ex.pn_pubackBytes

/-- **the race**: Receive Maximum 1, the one slot taken by the QoS 1 publish of operation 1 (packet 1, waiting on
    oneshot 2); operation 2 has queued a QoS 1 PUBLISH (packet 2, oneshot 4); the PUBACK of packet 1 is ready at the
    transport -/
def wRace : World :=
  { hasCtx := true, handles := [0], task := .running true,
    c := { quota := 0, recvMax := 1, awaiting := [(actionId 4 1, 2)], retx := [(actionId 4 1, [0x3A, 0])] },
    ops := [(1, .wait 2 .puback), (2, .wait 4 .puback)], slots := [(2, .empty), (4, .empty)], slotReg := [2, 4],
    queue := [.awaitAck (actionId 4 2) pub2 4], reader := [.data puback1] }

/-- messages first, after the message: the PUBLISH was refused -/
def wRaceM1 : World :=
  { wRace with queue := [], slots := [(2, .empty), (4, .full .errQuota)], slotReg := [2], woken := [.op 2] }

/-- messages first, after the PUBACK: the slot is free again, operation 1 completed -/
def wRaceM2 : World :=
  { wRaceM1 with rx := {}, reader := [], c := { quota := 1, recvMax := 1 },
                 slots := [(2, .full (.pkt (.puback { packetId := 1 }))), (4, .full .errQuota)], slotReg := [],
                 woken := [.op 2, .op 1] }

/-- packets first, after the PUBACK -/
def wRaceP1 : World :=
  { wRace with rx := {}, reader := [], c := { quota := 1, recvMax := 1 },
               slots := [(2, .full (.pkt (.puback { packetId := 1 }))), (4, .empty)], slotReg := [4],
               woken := [.op 1] }

/-- packets first, after the message: the PUBLISH took the slot and is on the wire -/
def wRaceP2 : World :=
  { wRaceP1 with queue := [], readerReg := true,
                 c := { quota := 0, recvMax := 1, awaiting := [(actionId 4 2, 4)],
                        retx := [(actionId 4 2, setDup pub2)] },
                 written := 8, out := [.wire pub2] }

open World in
theorem race_msgs_first_iter1 : runIterS false wRace = .inl wRaceM1 := by
  rw [runIterS_false_eq (w := wRace) pn_puback1 rfl]; decide

open World in
theorem race_msgs_first_iter2 : runIterS false wRaceM1 = .inl wRaceM2 := by
  rw [runIterS_false_eq (w := wRaceM1) pn_puback1 rfl]
  simp only [pktBranch, dec_puback1]
  decide

open World in
theorem race_msgs_first_iter3 :
    runIterS false wRaceM2 = .inr { wRaceM2 with queueReg := true, readerReg := true } := by
  rw [runIterS_false_eq (w := wRaceM2) World.pn_nil rfl]
  decide

open World in
theorem race_pkts_first_iter1 : runIterS true wRace = .inl wRaceP1 := by
  rw [runIterS_true_eq (w := wRace) pn_puback1 rfl]
  simp only [pktBranch, dec_puback1]
  decide

open World in
theorem race_pkts_first_iter2 : runIterS true wRaceP1 = .inl wRaceP2 := by
  rw [runIterS_true_eq (w := wRaceP1) World.pn_nil rfl]
  decide

open World in
theorem race_pkts_first_iter3 : runIterS true wRaceP2 = .inr { wRaceP2 with queueReg := true } := by
  rw [runIterS_true_eq (w := wRaceP2) World.pn_nil rfl]
  decide

theorem race_msgs_first (f : Nat) :
    World.runLoopS (fun _ => false) (f + 3) wRace = { wRaceM2 with queueReg := true, readerReg := true } := by
  rw [World.runLoopS_succ, race_msgs_first_iter1]
  simp only
  rw [World.runLoopS_succ, race_msgs_first_iter2]
  simp only
  rw [World.runLoopS_succ, race_msgs_first_iter3]

theorem race_pkts_first (f : Nat) :
    World.runLoopS (fun _ => true) (f + 3) wRace = { wRaceP2 with queueReg := true } := by
  rw [World.runLoopS_succ, race_pkts_first_iter1]
  simp only
  rw [World.runLoopS_succ, race_pkts_first_iter2]
  simp only
  rw [World.runLoopS_succ, race_pkts_first_iter3]

/-- the request and the acknowledgement of the race, as inputs of the serving loop -/
def raceMsg : CIn := .msg (.awaitAck (actionId 4 2) pub2 4) true
def racePkt : CIn := .pkt (.puback { packetId := 1 }) [] true

theorem race_hist_msgs_first (f : Nat) : World.loopHistS (fun _ => false) (f + 3) wRace = [raceMsg, racePkt] := by
  rw [World.loopHistS_succ, World.iterInS_false_eq (w := wRace) (qu := _ :: _) pn_puback1 rfl,
    race_msgs_first_iter1]
  simp only
  rw [World.loopHistS_succ, World.iterInS_false_eq (w := wRaceM1) (qu := []) pn_puback1 rfl,
    race_msgs_first_iter2]
  simp only [if_neg (show ¬ wRaceM1.senders = 0 by decide), dec_puback1]
  rw [World.loopHistS_succ, World.iterInS_false_eq (w := wRaceM2) (qu := []) World.pn_nil rfl]
  simp only [ite_self]
  decide

theorem race_hist_pkts_first (f : Nat) : World.loopHistS (fun _ => true) (f + 3) wRace = [racePkt, raceMsg] := by
  rw [World.loopHistS_succ, World.iterInS_true_eq (w := wRace) pn_puback1 rfl, race_pkts_first_iter1]
  simp only [dec_puback1]
  rw [World.loopHistS_succ, World.iterInS_true_eq (w := wRaceP1) (qu := _ :: _) World.pn_nil rfl,
    race_pkts_first_iter2]
  simp only
  rw [World.loopHistS_succ, World.iterInS_true_eq (w := wRaceP2) (qu := []) World.pn_nil rfl]
  simp only
  decide

/-- `run()` with the user's DISCONNECT queued while the transport is at end of stream -/
def wByeEof : World := { wBye with reader := [.eof] }

theorem eof_pkts_first (f : Nat) :
    World.runLoopS (fun _ => true) (f + 1) wByeEof = wByeEof.finish .run (.err .socketClosed) := by
  rw [World.runLoopS_succ, World.runIterS_true_eq (w := wByeEof) pn_eof rfl]
  rfl

/-- the world after the DISCONNECT was handled -/
def wByeDone : World :=
  { wByeEof with task := .none, queue := [.awaitAck (actionId 13 0) pingreqBytes 6],
                 slots := [(4, .full .unit), (6, .empty)], slotReg := [6], woken := [.op 2], written := 2,
                 out := [.wire [0xE0, 0], .ret .run .ok] }

theorem eof_msgs_first (f : Nat) : World.runLoopS (fun _ => false) (f + 1) wByeEof = wByeDone := by
  rw [World.runLoopS_succ, World.runIterS_false_eq (w := wByeEof) (qu := _ :: _) pn_eof rfl]
  simp only
  have h : World.msgBranch wByeEof (.ff [0xE0, 0] 4) [.awaitAck (actionId 13 0) pingreqBytes 6] = .inr wByeDone := by
    decide
  rw [h]

/-- as `wRace`, but Receive Maximum 2: one slot is free -/
def wRace2 : World := { wRace with c := { wRace.c with quota := 1, recvMax := 2 } }
def wRace2P1 : World := { wRaceP1 with c := { quota := 2, recvMax := 2 } }
def wRace2P2 : World :=
  { wRaceP2 with c := { quota := 1, recvMax := 2, awaiting := [(actionId 4 2, 4)],
                        retx := [(actionId 4 2, setDup pub2)] } }

open World in
theorem race2_pkts_first_iter1 : runIterS true wRace2 = .inl wRace2P1 := by
  rw [runIterS_true_eq (w := wRace2) pn_puback1 rfl]
  simp only [pktBranch, dec_puback1]
  decide

open World in
theorem race2_pkts_first_iter2 : runIterS true wRace2P1 = .inl wRace2P2 := by
  rw [runIterS_true_eq (w := wRace2P1) World.pn_nil rfl]
  decide

theorem race2_hist_pkts_first (f : Nat) : World.loopHistS (fun _ => true) (f + 3) wRace2 = [racePkt, raceMsg] := by
  rw [World.loopHistS_succ, World.iterInS_true_eq (w := wRace2) pn_puback1 rfl, race2_pkts_first_iter1]
  simp only [dec_puback1]
  rw [World.loopHistS_succ, World.iterInS_true_eq (w := wRace2P1) (qu := _ :: _) World.pn_nil rfl,
    race2_pkts_first_iter2]
  simp only
  rw [World.loopHistS_succ, World.iterInS_true_eq (w := wRace2P2) (qu := []) World.pn_nil rfl]
  simp only
  decide

end Ex
end Poster

/-
  Lemmas/WorldOutcome.lean — one poll of the context task, seen from outside. Whatever the loop, its fuel and the preludes
  look like, a poll either leaves its call pending, only `W` / `WRAW` lines logged (`Outcome`, first case; from a framing state
  satisfying the invariant it is `Parked`), or ends it with such lines and one last line (`CtxEnd`) — under every scheduler
  (`pollCtxS_outcome`, `pollCtxS_pending`). Before them, how the last step of the loop (`RunOver` / `RunWaits`) and the wait
  for the first response (`FirstOver` / `FirstWaits`) end.
-/
import PosterModel.Lemmas.WorldIter

namespace Poster
open Framing
namespace World

/-- the results `run()` returns with -/
def RunRes (res : RetRes) : Prop :=
  res = .ok ∨ (∃ d, res = .disconnected d) ∨ res = .err .socketClosed ∨ res = .err .handleClosed ∨ res = .err .codecError

theorem flowRet_res (fl : Flow) (h : fl ≠ .cont) : RunRes (flowRet fl) ∧ flowRet fl ≠ .err .handleClosed := by
  cases fl with
  | cont => exact absurd rfl h
  | exitOk => exact ⟨Or.inl rfl, nofun⟩
  | exitSocket => exact ⟨Or.inr (Or.inr (Or.inl rfl)), nofun⟩
  | exitDisconnected d => exact ⟨Or.inr (Or.inl ⟨d, rfl⟩), nofun⟩

/-- the last iteration ended `run()`: the task is gone and the log gains the writes of the last handler (`pre`) and one
    final line, the `RET run` with its cause or the decoder panic with the `pollNext` that produced the frame -/
structure RunOver (w r : World) : Prop where
  task : r.task = .none
  out : ∃ pre last, Quiet pre ∧ r.out = w.out ++ pre ++ [last] ∧
    ((∃ res, last = .ret .run res ∧ RunRes res) ∨
     (last = .panic .ctx "other" ∧ ∃ rx' rd' fr, pollNext w.rx w.reader = (rx', rd', .item fr) ∧ decodeRx fr = .panic))

/-- the last iteration left `run()` pending: nothing is logged, the queue is empty with its waker registered and a sender
    alive, and the framing layer returned `Pending`, its waker registered unless input is still buffered (then the task
    woke itself) -/
structure RunWaits (w r : World) : Prop where
  task : r.task = w.task
  out : r.out = w.out
  queueReg : r.queueReg = true
  queue : r.queue = []
  drained : w.queue = []
  senders : w.senders ≠ 0
  armed : (r.reader = [] ∧ r.readerReg = true) ∨ .ctx ∈ r.woken
  read : pollNext w.rx w.reader = (r.rx, r.reader, .pending)

namespace W7

/-- **What the first response makes `connect()` / `authorize()` return** (`w0`: the world in which it is awaited). -/
inductive FirstCause (w0 : World) : RetRes → Prop
  /-- a CONNACK with reason < 0x80 (from a broker that supports subscription identifiers): `ConnectRsp` = that CONNACK -/
  | connack (rx' : Rx) (rd' : List ReadEv) (fr : Bytes) (k : ConnackRx) :
      pollNext w0.rx w0.reader = (rx', rd', .item fr) → decodeRx fr = .ok (.connack k) → k.reason < 128 →
      k.subIdAvail = true → FirstCause w0 (.connack k)
  /-- a CONNACK with reason ≥ 0x80: `ConnectError` carrying it -/
  | refused (rx' : Rx) (rd' : List ReadEv) (fr : Bytes) (k : ConnackRx) :
      pollNext w0.rx w0.reader = (rx', rd', .item fr) → decodeRx fr = .ok (.connack k) → k.reason ≥ 128 →
      FirstCause w0 (.connectError k)
  /-- an AUTH challenge: `AuthRsp` -/
  | auth (rx' : Rx) (rd' : List ReadEv) (fr : Bytes) (au : AuthRx) :
      pollNext w0.rx w0.reader = (rx', rd', .item fr) → decodeRx fr = .ok (.auth au) → FirstCause w0 (.auth au)
  /-- any other packet: a codec error -/
  | unexpected (rx' : Rx) (rd' : List ReadEv) (fr : Bytes) (p : RxPacket) :
      pollNext w0.rx w0.reader = (rx', rd', .item fr) → decodeRx fr = .ok p → (∀ k, p ≠ .connack k) →
      (∀ au, p ≠ .auth au) → FirstCause w0 (.err .codecError)
  /-- a frame that does not decode: a codec error -/
  | undecodable (rx' : Rx) (rd' : List ReadEv) (fr : Bytes) :
      pollNext w0.rx w0.reader = (rx', rd', .item fr) → decodeRx fr = .err → FirstCause w0 (.err .codecError)
  /-- the transport ends first (end of stream, read error, malformed length): `SocketClosed` -/
  | streamEnded (rx' : Rx) (rd' : List ReadEv) :
      pollNext w0.rx w0.reader = (rx', rd', .none) → FirstCause w0 (.err .socketClosed)

end W7

/-- the last line of the wait for the first response, with its cause: a `RET`, or one of the two panics -/
def FirstLast (w : World) (call : Call) (last : Obs) : Prop :=
  (∃ res, last = .ret call res ∧ W7.FirstCause w res) ∨
  (last = .panic .ctx "assert-subid" ∧ ∃ rx' rd' fr k, pollNext w.rx w.reader = (rx', rd', .item fr) ∧
    decodeRx fr = .ok (.connack k) ∧ k.reason < 128 ∧ k.subIdAvail = false) ∨
  (last = .panic .ctx "other" ∧ ∃ rx' rd' fr, pollNext w.rx w.reader = (rx', rd', .item fr) ∧ decodeRx fr = .panic)

/-- the wait for the first response is over: one last line -/
structure FirstOver (w r : World) (call : Call) : Prop where
  task : r.task = .none
  out : ∃ last, r.out = w.out ++ [last] ∧ FirstLast w call last

/-- the wait for the first response goes on: nothing logged, the framing layer returned `Pending` -/
structure FirstWaits (w r : World) (call : Call) (t : ConnectTx) (a : AuthTx) : Prop where
  task : r.task = .connecting call t a true
  out : r.out = w.out
  armed : (r.reader = [] ∧ r.readerReg = true) ∨ .ctx ∈ r.woken
  read : pollNext w.rx w.reader = (r.rx, r.reader, .pending)

theorem firstEnd_out {w : World} {call : Call} {t : ConnectTx} {a : AuthTx} {r : World}
    (h : FirstEnd w call t a r) : FirstOver w r call ∨ FirstWaits w r call t a := by
  cases h with
  | connack rx' rd' fr k hp hd hk hs => exact Or.inl ⟨rfl, _, rfl, Or.inl ⟨_, rfl, .connack rx' rd' fr k hp hd hk hs⟩⟩
  | refused rx' rd' fr k hp hd hk => exact Or.inl ⟨rfl, _, rfl, Or.inl ⟨_, rfl, .refused rx' rd' fr k hp hd hk⟩⟩
  | assertSubId rx' rd' fr k hp hd hk hs =>
    exact Or.inl ⟨rfl, _, rfl, Or.inr (Or.inl ⟨rfl, rx', rd', fr, k, hp, hd, hk, hs⟩)⟩
  | auth rx' rd' fr au hp hd => exact Or.inl ⟨rfl, _, rfl, Or.inl ⟨_, rfl, .auth rx' rd' fr au hp hd⟩⟩
  | unexpected rx' rd' fr p hp hd h1 h2 =>
    exact Or.inl ⟨rfl, _, rfl, Or.inl ⟨_, rfl, .unexpected rx' rd' fr p hp hd h1 h2⟩⟩
  | codec rx' rd' fr hp hd => exact Or.inl ⟨rfl, _, rfl, Or.inl ⟨_, rfl, .undecodable rx' rd' fr hp hd⟩⟩
  | panic rx' rd' fr hp hd => exact Or.inl ⟨rfl, _, rfl, Or.inr (Or.inr ⟨rfl, rx', rd', fr, hp, hd⟩)⟩
  | sock rx' rd' hp => exact Or.inl ⟨rfl, _, rfl, Or.inl ⟨_, rfl, .streamEnded rx' rd' hp⟩⟩
  | pending rx' rd' hp =>
    refine Or.inr ?_
    by_cases hrd : rd' = []
    · rw [if_pos hrd]
      exact ⟨rfl, rfl, Or.inl ⟨hrd, rfl⟩, hp⟩
    · rw [if_neg hrd]
      exact ⟨by simp, by simp, Or.inr (mem_wake_self _ _), by simpa using hp⟩

theorem awaitFirst_logged {w : World} {call : Call} {t : ConnectTx} {a : AuthTx} {pre : List Obs}
    (h : (w.awaitFirst call t a).out = w.out ++ pre) : pre = [] ∨ ∃ last, pre = [last] ∧ FirstLast w call last := by
  rcases firstEnd_out (awaitFirst_spec w call t a) with over | waits
  · obtain ⟨last, ho, hl⟩ := over.out
    exact Or.inr ⟨last, List.append_cancel_left (h.symm.trans ho), hl⟩
  · exact Or.inl (List.append_cancel_left (h.symm.trans (waits.out.trans (List.append_nil _).symm)))

namespace W7

def taskCall : CtxTask → Option Call
  | .none => none
  | .connecting call _ _ _ => some call
  | .running _ => some .run

theorem taskCall_eq_some {tk : CtxTask} {c : Call} :
    taskCall tk = some c ↔ (∃ t a s, tk = .connecting c t a s) ∨ (c = .run ∧ ∃ s, tk = .running s) := by
  cases tk with
  | none => simp [taskCall]
  | connecting call t a s => simp [taskCall, eq_comm]
  | running s => simp [taskCall, eq_comm]

end W7

/-- the task after a poll that leaves its call pending -/
def _root_.Poster.CtxTask.polled : CtxTask → CtxTask
  | .none => .none
  | .connecting c t a _ => .connecting c t a true
  | .running _ => .running true

/-- the line a poll of the context task logs last when its call is over: the `RET` of that call (for `run()` with one of
    its results), or the documented assertion of the CONNACK wait, or a decoder panic with the `pollNext` that produced its
    frame, from a framing state reachable from the one the poll started in -/
def CtxEnd (w : World) (last : Obs) : Prop :=
  (∃ call res, W7.taskCall w.task = some call ∧ last = .ret call res ∧ ((∃ s, w.task = .running s) → RunRes res)) ∨
  (last = .panic .ctx "assert-subid" ∧ ∃ call t a st rx' rd' fr k, w.task = .connecting call t a st ∧
    pollNext w.rx w.reader = (rx', rd', .item fr) ∧ decodeRx fr = .ok (.connack k) ∧ k.reason < 128 ∧
    k.subIdAvail = false) ∨
  (last = .panic .ctx "other" ∧ ∃ rx rd rx' rd' fr, (Reach w.rx → Reach rx) ∧
    pollNext rx rd = (rx', rd', .item fr) ∧ decodeRx fr = .panic)

theorem CtxEnd.ctxLine {w : World} {o : Obs} (h : CtxEnd w o) : CtxLine o := by
  rcases h with ⟨c, r, _, rfl, _⟩ | ⟨rfl, _⟩ | ⟨rfl, _⟩
  · exact .ret c r
  · exact .panic _
  · exact .panic _

/-- the call goes on and only `W` / `WRAW` lines were logged, or it is over: such lines, then one last line -/
def Outcome (w r : World) : Prop :=
  (r.task = w.task.polled ∧ OutExt w r) ∨
  (r.task = .none ∧ ∃ pre last, Quiet pre ∧ r.out = w.out ++ pre ++ [last] ∧ CtxEnd w last)

theorem Outcome.over {w0 w r : World} (hx : OutExt w0 w) (ht : r.task = .none) {pre : List Obs} {last : Obs}
    (hq : Quiet pre) (ho : r.out = w.out ++ pre ++ [last]) (hl : CtxEnd w0 last) : Outcome w0 r := by
  obtain ⟨pre0, q0, e0⟩ := hx
  exact Or.inr ⟨ht, pre0 ++ pre, last, quiet_append q0 hq, by rw [ho, e0, List.append_assoc w0.out], hl⟩

theorem Outcome.outExtP {P : Obs → Prop} {w r : World} (h : Outcome w r) (hw : ∀ bs, P (.wire bs) ∧ P (.wraw bs))
    (hl : ∀ o, CtxEnd w o → P o) : OutExtP P w r := by
  rcases h with ⟨_, hx⟩ | ⟨_, pre, last, hq, e, hc⟩
  · exact outExtP_of_outExt hx hw
  · refine ⟨pre ++ [last], by rw [e, List.append_assoc], fun o ho => ?_⟩
    rcases List.mem_append.mp ho with ho | ho
    · exact hq.all hw o ho
    · rw [List.mem_singleton.mp ho]; exact hl last hc

theorem Outcome.running {w r : World} (h : Outcome w r) {s : Bool} (ht : w.task = .running s) :
    (r.task = .none →
      ∃ pre last, r.out = w.out ++ pre ++ [last] ∧ (∀ o ∈ pre, ∃ bs, o = .wire bs ∨ o = .wraw bs) ∧
        ((∃ res, last = .ret .run res ∧
            (res = .ok ∨ (∃ d, res = .disconnected d) ∨ res = .err .socketClosed ∨ res = .err .handleClosed ∨
              res = .err .codecError)) ∨
          ∃ cls, last = .panic .ctx cls)) ∧
    (r.task ≠ .none →
      r.task = .running true ∧ ∃ pre, r.out = w.out ++ pre ∧ (∀ o ∈ pre, ∃ bs, o = .wire bs ∨ o = .wraw bs)) := by
  rcases h with ⟨h1, pre, hq, ho⟩ | ⟨h1, pre, last, hq, ho, hl⟩
  · rw [ht] at h1
    exact ⟨fun hn => (by rw [h1] at hn; cases hn), fun _ => ⟨h1, pre, ho, hq⟩⟩
  · refine ⟨fun _ => ⟨pre, last, ho, hq, ?_⟩, fun hn => absurd h1 hn⟩
    rcases hl with ⟨c, res, hc, rfl, hr⟩ | ⟨rfl, _⟩ | ⟨rfl, _⟩
    · rw [ht] at hc; cases hc
      exact Or.inl ⟨res, rfl, hr ⟨s, ht⟩⟩
    · exact Or.inr ⟨_, rfl⟩
    · exact Or.inr ⟨_, rfl⟩

theorem finish_outcome {w0 w : World} (hx : OutExt w0 w) (call : Call) (hc : W7.taskCall w0.task = some call) (r : RetRes)
    (hr : (∃ s, w0.task = .running s) → RunRes r) : Outcome w0 (w.finish call r) :=
  .over hx rfl quiet_nil (by simp [finish, emit]) (Or.inl ⟨call, r, hc, rfl, hr⟩)

theorem awaitFirst_outcome {w0 : World} (w : World) (call : Call) (t : ConnectTx) (a : AuthTx) (st : Bool)
    (hw : w0.task = .connecting call t a st) (hrx : w.rx = w0.rx) (hrd : w.reader = w0.reader) (hx : OutExt w0 w) :
    Outcome w0 (w.awaitFirst call t a) := by
  have nr : (∃ s, w0.task = .running s) → ∀ res, RunRes res := fun ⟨s, h⟩ => by rw [hw] at h; cases h
  rcases firstEnd_out (awaitFirst_spec w call t a) with over | waits
  · obtain ⟨last, ho, hl⟩ := over.out
    refine .over hx over.task quiet_nil (by rw [ho, List.append_nil]) ?_
    rcases hl with ⟨res, rfl, _⟩ | ⟨rfl, rx', rd', fr, k, hp, hd, hk, hs⟩ | ⟨rfl, rx', rd', fr, hp, hd⟩
    · exact Or.inl ⟨call, res, by rw [hw]; rfl, rfl, fun h => nr h res⟩
    · exact Or.inr (Or.inl ⟨rfl, call, t, a, st, rx', rd', fr, k, hw, by rw [← hrx, ← hrd]; exact hp, hd, hk, hs⟩)
    · exact Or.inr (Or.inr ⟨rfl, w.rx, w.reader, rx', rd', fr, fun h => by rw [hrx]; exact h, hp, hd⟩)
  · exact Or.inl ⟨by rw [waits.task, hw]; rfl, outExt_trans hx (outExt_of_eq waits.out)⟩

/-- a poll left its call pending: the transport waker is armed (or the task flagged itself) after a `Pending` of the
    framing layer, and for `run()` the queue is empty, its waker armed and a sender alive -/
structure Parked (w r : World) : Prop where
  armed : (r.reader = [] ∧ r.readerReg = true) ∨ .ctx ∈ r.woken
  read : ∃ wm : World, wm.rx.Ok ∧ pollNext wm.rx wm.reader = (r.rx, r.reader, .pending)
  task : (∃ call t a s, w.task = .connecting call t a s ∧ r.task = .connecting call t a true) ∨
    (∃ s, w.task = .running s) ∧ r.task = .running true ∧ r.queueReg = true ∧ r.queue = [] ∧ r.senders ≠ 0

theorem awaitFirst_parked {w0 : World} (w : World) (call : Call) (t : ConnectTx) (a : AuthTx) (s : Bool)
    (hw : w0.task = .connecting call t a s) (hok : w.rx.Ok)
    (h : (w.awaitFirst call t a).task ≠ .none) : Parked w0 (w.awaitFirst call t a) := by
  rcases firstEnd_out (awaitFirst_spec w call t a) with over | waits
  · exact absurd over.task h
  · exact ⟨waits.armed, ⟨w, hok, waits.read⟩, Or.inl ⟨call, t, a, s, hw, waits.task⟩⟩

theorem sEnd_out {w r : World} (h : SEnd w r) : RunOver w r ∨ RunWaits w r := by
  have fin : ∀ {w0 : World} {pre : List Obs} {res : RetRes}, Quiet pre → w0.out = w.out ++ pre → RunRes res →
      RunOver w (w0.finish .run res) :=
    fun hq e hr => ⟨rfl, _, _, hq, by simp [finish, emit, e], Or.inl ⟨_, rfl, hr⟩⟩
  cases h with
  | msgExit m q w1 fl hq hr hne =>
    obtain ⟨pre, hq1, hq2⟩ := runHandler_outExt { w with queue := q } (fun wok => w.c.handleMsg m wok)
    rw [hr] at hq2; exact Or.inl (fin hq1 hq2 (flowRet_res fl hne).1)
  | pktExit rx' rd' fr p w1 fl hp hd hr hne =>
    obtain ⟨pre, hq1, hq2⟩ := runHandler_outExt { w with rx := rx', reader := rd' }
      (fun wok => w.c.handlePkt w.chanRxAlive p wok)
    rw [hr] at hq2; exact Or.inl (fin hq1 hq2 (flowRet_res fl hne).1)
  | closed hq hs => exact Or.inl (fin quiet_nil (List.append_nil _).symm (Or.inr (Or.inr (Or.inr (Or.inl rfl)))))
  | codec rx' rd' fr hp hd =>
    exact Or.inl (fin quiet_nil (List.append_nil _).symm (Or.inr (Or.inr (Or.inr (Or.inr rfl)))))
  | sock rx' rd' hp => exact Or.inl (fin quiet_nil (List.append_nil _).symm (Or.inr (Or.inr (Or.inl rfl))))
  | panic rx' rd' fr hp hd =>
    exact Or.inl ⟨rfl, [], _, quiet_nil, by simp [emit], Or.inr ⟨rfl, rx', rd', fr, hp, hd⟩⟩
  | park rx' rd' hq hs hp =>
    obtain ⟨rr, wk, e, _, _, ha⟩ := armReader_spec { w with rx := rx', reader := rd', queueReg := true }
    rw [e]
    exact Or.inr ⟨rfl, rfl, rfl, hq, hq, hs, ha, hp⟩

theorem sEnd_closed {w r : World} {pre : List Obs} (h : SEnd w r)
    (ho : r.out = w.out ++ pre ++ [.ret .run (.err .handleClosed)]) :
    w.queue = [] ∧ w.senders = 0 ∧ r.queue = [] ∧ r.senders = 0 := by
  -- a step that logs `pre' ++ [o]` with another last line
  have no : ∀ {pre' : List Obs} {o : Obs}, r.out = w.out ++ pre' ++ [o] → o ≠ .ret .run (.err .handleClosed) → False :=
    fun e hne => hne (List.singleton_inj.mp (List.append_inj_right' (e.symm.trans ho) rfl))
  cases h with
  | closed hq hs => exact ⟨hq, hs, hq, hs⟩
  | msgExit m q w1 fl hq hr hne =>
    obtain ⟨pre', _, e⟩ := runHandler_outExt { w with queue := q } (fun wok => w.c.handleMsg m wok)
    have e' : w1.out = w.out ++ pre' := by rw [hr] at e; exact e
    exact (no (pre' := pre') (o := .ret .run (flowRet fl)) (by simp [finish, emit, e'])
      fun h => (flowRet_res fl hne).2 (Obs.ret.inj h).2).elim
  | pktExit rx' rd' fr p w1 fl hp hd hr hne =>
    obtain ⟨pre', _, e⟩ := runHandler_outExt { w with rx := rx', reader := rd' }
      (fun wok => w.c.handlePkt w.chanRxAlive p wok)
    have e' : w1.out = w.out ++ pre' := by rw [hr] at e; exact e
    exact (no (pre' := pre') (o := .ret .run (flowRet fl)) (by simp [finish, emit, e'])
      fun h => (flowRet_res fl hne).2 (Obs.ret.inj h).2).elim
  | codec => exact (no (pre' := []) (o := .ret .run (.err .codecError)) (by simp [finish, emit]) (fun h => by cases h)).elim
  | sock => exact (no (pre' := []) (o := .ret .run (.err .socketClosed)) (by simp [finish, emit]) (fun h => by cases h)).elim
  | panic => exact (no (pre' := []) (o := .panic .ctx "other") (by simp [emit]) (fun h => by cases h)).elim
  | park rx' rd' hq hs hp =>
    obtain ⟨rr, wk, e, _⟩ := armReader_spec { w with rx := rx', reader := rd', queueReg := true }
    rw [e] at ho
    have := congrArg List.length ho
    simp at this

theorem runLoopS_ends (sched : Nat → Bool) (f : Nat) (w : World) :
    ((runLoopS sched f w).task = w.task ∧ OutExt w (runLoopS sched f w)) ∨
    ∃ wm, SServe w wm ∧ RunOver wm (runLoopS sched f w) := by
  obtain ⟨wm, hs, he | ⟨he, _⟩⟩ := runLoopS_decomp sched f w
  · rcases sEnd_out he with over | waits
    · exact Or.inr ⟨wm, hs, over⟩
    · exact Or.inl ⟨waits.task.trans (sServe_frame hs).task,
        outExt_trans (sServe_frame hs).out (outExt_of_eq waits.out)⟩
  · rw [he]; exact Or.inl ⟨(sServe_frame hs).task, (sServe_frame hs).out⟩

theorem runLoopS_outcome {w0 : World} (sched : Nat → Bool) (w : World) (f : Nat) (s : Bool) (hw : w0.task = .running s)
    (ht : w.task = .running true) (hrx : w.rx = w0.rx) (hx : OutExt w0 w) : Outcome w0 (runLoopS sched f w) := by
  rcases runLoopS_ends sched f w with ⟨h1, hext⟩ | ⟨wm, hs, over⟩
  · exact Or.inl ⟨by rw [h1, ht, hw]; rfl, outExt_trans hx hext⟩
  · obtain ⟨pre, last, hq, ho, hl⟩ := over.out
    refine .over (outExt_trans hx (sServe_frame hs).out) over.task hq ho ?_
    rcases hl with ⟨res, rfl, hc⟩ | ⟨rfl, rx', rd', fr, hp, hd⟩
    · exact Or.inl ⟨.run, res, by rw [hw]; rfl, rfl, fun _ => hc⟩
    · exact Or.inr (Or.inr ⟨rfl, wm.rx, wm.reader, rx', rd', fr, fun h => (sServe_frame hs).reach (hrx ▸ h), hp, hd⟩)

theorem runLoopS_parked {w0 : World} (sched : Nat → Bool) (w : World) (s : Bool) (hw : w0.task = .running s)
    (ht : w.task = .running true) (hok : w.rx.Ok) (h : (runLoopS sched w.loopFuel w).task ≠ .none) :
    Parked w0 (runLoopS sched w.loopFuel w) := by
  obtain ⟨wm, hs, he⟩ := runLoopS_full sched w hok
  rcases sEnd_out he with over | waits
  · exact absurd over.task h
  · refine ⟨waits.armed, ⟨wm, ((sServe_frame hs).mu hok).1, waits.read⟩,
      Or.inr ⟨⟨s, hw⟩, waits.task.trans ((sServe_frame hs).task.trans ht), waits.queueReg, waits.queue, ?_⟩⟩
    rw [sEnd_senders he]; exact waits.senders

theorem pollCtxS_view (sched : Nat → Bool) (w : World) :
    Outcome w (w.pollCtxS sched) ∧ (w.rx.Ok → (w.pollCtxS sched).task ≠ .none → Parked w (w.pollCtxS sched)) := by
  have fin : ∀ {w1 : World} {call : Call} {r : RetRes}, Outcome w (w1.finish call r) →
      Outcome w (w1.finish call r) ∧ (w.rx.Ok → (w1.finish call r).task ≠ .none → Parked w (w1.finish call r)) :=
    fun h => ⟨h, fun _ hn => absurd rfl hn⟩
  unfold pollCtxS
  cases ht : w.task with
  | none => exact ⟨Or.inl ⟨by rw [ht]; rfl, outExt_refl w⟩, fun _ hn => absurd ht hn⟩
  | connecting call t a started =>
    have hc : W7.taskCall w.task = some call := by rw [ht]; rfl
    have nr : (∃ s, w.task = .running s) → ∀ res, RunRes res := fun ⟨s, h⟩ => by rw [ht] at h; cases h
    cases started with
    | true =>
      exact ⟨awaitFirst_outcome w call t a _ ht rfl rfl (outExt_refl w), awaitFirst_parked w call t a _ ht⟩
    | false =>
      obtain ⟨hrx, hrd, hx⟩ := reqWritten_prelude w call t a
      dsimp only
      rw [pollConnect_false_eq]
      split
      · exact fin (finish_outcome (outExt_refl w) call hc _ (fun h => nr h _))
      · split
        · exact ⟨awaitFirst_outcome _ call t a _ ht hrx hrd hx, fun hok => awaitFirst_parked _ call t a _ ht (hrx ▸ hok)⟩
        · exact fin (finish_outcome hx call hc _ (fun h => nr h _))
  | running started =>
    dsimp only
    cases started with
    | true => exact ⟨runLoopS_outcome sched w _ _ ht ht rfl (outExt_refl w), runLoopS_parked sched w _ ht ht⟩
    | false =>
      obtain ⟨h1, h2, h3⟩ := resent_prelude w
      rw [pollRunS_first]
      split
      · exact ⟨runLoopS_outcome sched w.resent _ _ ht h2 h1 h3, fun hok => runLoopS_parked sched w.resent _ ht h2 (h1 ▸ hok)⟩
      · have hx : OutExt w w.resumed := outExt_trans (outExt_of_eq rfl) (applyEffs_outExt _ _)
        exact fin (finish_outcome (outExt_trans hx (writeBytes_outExt _ _)) .run (by rw [ht]; rfl) _
          (fun _ => Or.inr (Or.inr (Or.inl rfl))))

theorem pollCtxS_outcome (sched : Nat → Bool) (w : World) : Outcome w (w.pollCtxS sched) := (pollCtxS_view sched w).1

theorem pollCtxS_pending (sched : Nat → Bool) (w : World) (hok : w.rx.Ok) (h : (w.pollCtxS sched).task ≠ .none) :
    Parked w (w.pollCtxS sched) := (pollCtxS_view sched w).2 hok h

theorem runLoop_ends (f : Nat) (w : World) :
    ((runLoop f w).task = w.task ∧ OutExt w (runLoop f w)) ∨ ∃ wm, SServe w wm ∧ RunOver wm (runLoop f w) :=
  runLoop_is_a_resolution f w ▸ runLoopS_ends _ f w

theorem runLoop_outcome {w0 : World} (w : World) (f : Nat) (s : Bool) (hw : w0.task = .running s)
    (ht : w.task = .running true) (hrx : w.rx = w0.rx) (hx : OutExt w0 w) : Outcome w0 (runLoop f w) :=
  runLoop_is_a_resolution f w ▸ runLoopS_outcome _ w f s hw ht hrx hx

theorem pollCtx_outcome (w : World) : Outcome w w.pollCtx := pollCtxS_false w ▸ pollCtxS_outcome _ w

theorem pollCtxS_ctxLine (sched : Nat → Bool) (w : World) : OutExtP CtxLine w (w.pollCtxS sched) :=
  (pollCtxS_outcome sched w).outExtP (fun _ => ⟨.wire _, .wraw _⟩) fun _ => CtxEnd.ctxLine
theorem pollCtx_ctxLine (w : World) : OutExtP CtxLine w w.pollCtx := pollCtxS_false w ▸ pollCtxS_ctxLine _ w
theorem pollOp_outExtP (w : World) (id : Nat) : OutExtP (EndObs id) w (w.pollOp id) := outExtP_of_out (pollOp_out w id)
theorem pollStream_outExtP (w : World) (id : Nat) : OutExtP (TaskLine (.st id)) w (w.pollStream id) :=
  outExtP_of_out (pollStream_userMove w id).out

theorem pollTaskAny_line {w : World} {t : Task} {w' : World} (hp : PollTaskAny w t w') : OutExtP (TaskLine t) w w' := by
  obtain ⟨sched, rfl⟩ := hp
  cases t with
  | ctx => exact pollCtxS_ctxLine sched (w.unwake .ctx)
  | op id => exact pollOp_outExtP (w.unwake (.op id)) id
  | st id => exact pollStream_outExtP (w.unwake (.st id)) id
theorem pollTask_line (w : World) (t : Task) : OutExtP (TaskLine t) w (w.pollTask t) :=
  pollTaskAny_line (pollTaskAny_pollTask w t)

theorem pollCtx_pending (w : World) (hok : w.rx.Ok) (h : w.pollCtx.task ≠ .none) : Parked w w.pollCtx := by
  rw [← pollCtxS_false] at h ⊢; exact pollCtxS_pending _ w hok h

end World
end Poster

/-
  What `handle_message` can do, as a short list of shapes (so that the statements about the order of its actions need not
  walk through its branches again), and `handle_message` over a real transport (TxHandler.lean) in terms of the outcome of
  the one `write_all` it contains. `handle_packet` over a transport is read directly in Properties/HandlerOver.lean.
-/
import PosterModel.TxHandler
import PosterModel.Lemmas.CtxMsg

namespace Poster
open Poster.TxStream

/-- The results of `handle_message`, by what the request's caller and the transport see: a local refusal (the context is
    unchanged, `run()` goes on); the write and then `Ok(())` to a fire-and-forget caller; the write alone (the caller is
    answered later, by the acknowledgement); the write, refused, and the caller's oneshot dropped. -/
inductive MsgActs (c : Ctx) (m : Msg) (wok : Bool) : Ctx × List Eff × Flow → Prop
  | refused (slot : Nat) (v : SlotVal) (tail : List Eff) : (v = .errSize ∨ v = .errQuota) →
      (tail = [] ∨ ∃ ch, tail = [.dropChan ch]) → MsgActs c m wok (c, .send slot v :: tail, .cont)
  | replied (slot : Nat) (fl : Flow) : wok = true → MsgActs c m wok (c, [.write m.pkt, .send slot .unit], fl)
  | wrote (c' : Ctx) (fl : Flow) : (wok = false → fl = .exitSocket) → MsgActs c m wok (c', [.write m.pkt], fl)
  | dropped (c' : Ctx) (slot : Nat) : MsgActs c m wok (c', [.write m.pkt, .dropSlot slot], .exitSocket)

theorem handleMsg_acts (c : Ctx) (m : Msg) (wok : Bool) : MsgActs c m wok (c.handleMsg m wok) := by
  cases m with
  | ff pkt slot =>
    rcases Ctx.handleMsg_ff_cases c pkt slot wok with ⟨_, h⟩ | ⟨_, _, h⟩ | ⟨_, hw, h⟩ <;> rw [h]
    · exact .refused slot .errSize [] (Or.inl rfl) (Or.inl rfl)
    · exact .dropped c slot
    · exact .replied slot _ hw
  | awaitAck aid pkt slot =>
    rcases Ctx.handleMsg_awaitAck_cases c aid pkt slot wok with
      ⟨_, h⟩ | ⟨_, _, _, h⟩ | ⟨_, _, _, h⟩ | ⟨_, _, hw, h⟩ <;> rw [h]
    · exact .refused slot .errSize [] (Or.inl rfl) (Or.inl rfl)
    · exact .refused slot .errQuota [] (Or.inr rfl) (Or.inl rfl)
    · exact .dropped _ slot
    · exact .wrote _ _ (fun hf => by rw [hw] at hf; cases hf)
  | subscribe aid subId pkt slot chan =>
    rcases Ctx.handleMsg_subscribe_cases c aid subId pkt slot chan wok with ⟨_, h⟩ | ⟨_, h⟩ <;> rw [h]
    · exact .refused slot .errSize [.dropChan chan] (Or.inl rfl) (Or.inr ⟨chan, rfl⟩)
    · exact .wrote _ _ (fun hf => by rw [hf]; rfl)

theorem handleMsg_isWrite (c : Ctx) (m : Msg) (wok : Bool) :
    (c.handleMsg m wok).2.1.filter Eff.isWrite = [] ∨ (c.handleMsg m wok).2.1.filter Eff.isWrite = [.write m.pkt] := by
  have h := handleMsg_acts c m wok
  generalize c.handleMsg m wok = r at h ⊢
  cases h with
  | refused slot v tail _ ht => rcases ht with rfl | ⟨ch, rfl⟩ <;> exact Or.inl rfl
  | replied | wrote | dropped => exact Or.inr rfl

/-- The outcomes of `handleMsgOver`: the request writes nothing and the transport is left alone; or its packet goes through
    `write_all`, which completes, fails, or stays `Pending` for good. -/
inductive OverCase (c : Ctx) (m : Msg) (evs : List WEv) : HOut × Bytes × List WEv → Prop
  | silent : ((c.handleMsg m true).2.1.filter Eff.isWrite).isEmpty = true →
      OverCase c m evs (.finished (c.handleMsg m true).1 (c.handleMsg m true).2.1 (c.handleMsg m true).2.2, [], evs)
  | done : (writeAll m.pkt evs).1.out = .done →
      OverCase c m evs (.finished (c.handleMsg m true).1 (c.handleMsg m true).2.1 (c.handleMsg m true).2.2,
        (writeAll m.pkt evs).1.acc, (writeAll m.pkt evs).1.evs)
  | failed : (writeAll m.pkt evs).1.out = .err →
      OverCase c m evs (.finished (c.handleMsg m false).1 (c.handleMsg m false).2.1 (c.handleMsg m false).2.2,
        (writeAll m.pkt evs).1.acc, (writeAll m.pkt evs).1.evs)
  | parked : (writeAll m.pkt evs).1.out = .pending →
      OverCase c m evs (.suspended (c.handleMsg m false).1, (writeAll m.pkt evs).1.acc, (writeAll m.pkt evs).1.evs)

theorem handleMsgOver_cases (c : Ctx) (m : Msg) (evs : List WEv) : OverCase c m evs (handleMsgOver c m evs) := by
  unfold handleMsgOver
  by_cases hw : ((c.handleMsg m true).2.1.filter Eff.isWrite).isEmpty = true
  · rw [if_pos hw]; exact .silent hw
  · rw [if_neg hw, handleMsgAfter]
    cases ho : (writeAll m.pkt evs).1.out with
    | done => exact .done ho
    | err => exact .failed ho
    | pending => exact .parked ho

end Poster

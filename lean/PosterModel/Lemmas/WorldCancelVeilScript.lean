/-
  Lemmas/WorldCancelVeilScript.lean — two executions in lockstep for a dropped stream: from the same reachable world one
  script drops stream `id`, the other puts task `st id` on hold for ever; as long as neither script addresses stream
  `id` (or an operation named `id`) again and no further `subscribe()` is issued, the two worlds look the same once
  stream `id` is veiled.
-/
import PosterModel.Lemmas.WorldCancelVeilStep

namespace Poster
open Framing
namespace World
namespace W11

theorem polls_veil (id : Nat) : (veilE id).Polls (SideV id) where
  wf := veilE_wf id
  frozen := fun w t s hk => by
    rw [(keepV_false id t).mp hk]
    rintro ⟨hl, hh⟩
    rcases s.frozen.st with h | h
    · simp [taskLive, h] at hl
    · exact hh h
  poll := fun w t s hk hl _ => by
    have ht := (keepV_true id t).mp hk
    -- no operation is named `id`, so a live task is not `op id`
    have ho : t ≠ .op id := fun e => by rw [e, taskLive, s.frozen.noOp] at hl; cases hl
    exact ⟨by rw [← veil_eq]; exact pollTask_veil id w t ht ho s.ctxOK, s.pollTask t ht ho⟩

theorem erasure_veil (id : Nat) : Erasure (veil id) (SideV id) := by
  rw [veil_eq]; exact (polls_veil id).erasure (fun _ => rfl) rfl fun _ o s => s.emit o

/-- the script event neither addresses stream `id` or an operation named `id`, nor issues a `subscribe()` -/
def quietFor (id : Nat) (e : Ev) : Bool := !mineEv id e && !mineStEv id e && !isSubEv e

theorem quietFor_iff {id : Nat} {e : Ev} :
    quietFor id e = true ↔ mineEv id e = false ∧ mineStEv id e = false ∧ isSubEv e = false := by
  simp [quietFor, and_assoc]

theorem events_veil (id : Nat) : Events (veil id) (SideV id) (fun _ e => quietFor id e = true) where
  event := fun w e s q => by
    obtain ⟨hm, hms, hs⟩ := quietFor_iff.1 q
    exact ⟨by rw [emit_veil id w (.ev e) hms, apply_veil id _ e hm hms (s.emit _)], (s.emit _).apply e hm hms hs⟩
  carry := fun _ _ _ _ _ _ q => q

/-! ## the start: one script drops the stream, the other holds it -/

theorem veil_dropStream (id : Nat) (w : World) : veil id (w.apply (.drop (.st id))) = veil id w := by
  simp only [World.apply]
  split
  · rw [dropChanRx_veil_mine]
    refine congrArg (fun l => ({ veil id w with streams := l } : World)) ?_
    rw [List.filter_filter]
    exact List.filter_congr fun x _ => by by_cases hx : x = id <;> simp [hx]
  · rfl

theorem veil_holdStream (id : Nat) (w : World) : veil id (w.apply (.hold (.st id))) = veil id w := by
  rw [apply_hold_eq]
  exact congrArg (fun l => ({ veil id w with held := l } : World)) (filter_addNew_drop (keepV id) w.held _ (by simp))

/-- what the start world has to satisfy: no operation is named `id`, no queued request registers channel `id`, the
    subscription identifiers in flight are pairwise distinct, no `subscribe()` future awaits its first poll -/
structure StartV (id : Nat) (w : World) : Prop where
  noOp : w.opSt id = none
  noMsg : NoMsgFor id w
  nodup : (psids w).Nodup
  noSub : NoFreshSub w

theorem lockV_start (id : Nat) (w : World) (r : Reachable w) (hs : StartV id w) :
    Lock (veil id) (SideV id) (w.step (.drop (.st id))) (w.step (.hold (.st id))) := by
  refine Lock.start (erasure_veil id) r _ _ fun _ => ⟨?_, ?_, ?_⟩
  · have ea : veil id ((w.emit (.ev (.drop (.st id)))).apply (.drop (.st id))) = veil id w := by
      rw [veil_dropStream]; exact emit_veil_mine id w _ (by simp [mineSt, mineStEv])
    have eb : veil id ((w.emit (.ev (.hold (.st id)))).apply (.hold (.st id))) = veil id w := by
      rw [veil_holdStream]; exact emit_veil_mine id w _ (by simp [mineSt, mineStEv])
    exact ea.trans eb.symm
  · have fq := apply_drop_queue (w.emit (.ev (.drop (.st id)))) (.st id)
    have fc := (apply_drop_userFrame (w.emit (.ev (.drop (.st id)))) (.st id)).c
    have ho : ((w.emit (.ev (.drop (.st id)))).apply (.drop (.st id))).ops = w.ops := by
      simp only [World.apply]; split <;> rfl
    refine ⟨⟨by unfold opSt; rw [ho]; exact hs.noOp, Or.inl ?_⟩, ?_, ?_, ?_⟩
    · simp only [World.apply]
      split
      · simp [dropChanRx]
      · assumption
    · intro m hm; rw [fq] at hm; exact hs.noMsg m hm
    · rw [psids_congr fq (by rw [fc])]; exact hs.nodup
    · intro j hd' t hm; rw [ho] at hm; exact hs.noSub j hd' t hm
  · have e := apply_hold_eq (w.emit (.ev (.hold (.st id)))) (.st id)
    refine ⟨⟨by rw [e]; exact hs.noOp, Or.inr (hold_mem_held _ _)⟩, ?_, ?_, ?_⟩
    · intro m hm; rw [e] at hm; exact hs.noMsg m hm
    · rw [e]; exact hs.nodup
    · intro j hd' t hm; rw [e] at hm; exact hs.noSub j hd' t hm

end W11
end World
end Poster

/-
  The form of the action identifiers the client holds (C11), at every moment of every execution: every packet stored in a
  oneshot is decoder output (`SlotWf`: in particular its packet identifier is in 1..65535), and every action identifier in
  the queue and the two tables has the form `AidForm` (`KeyForm`).
-/
import PosterModel.Lemmas.WorldIdsErr


namespace Poster
open Framing
namespace World
namespace W10
open W7

def WfVal : Nat → SlotVal → Prop := fun _ v => ∀ p, v = .pkt p → p.wf

def SlotWf (w : World) : Prop := ∀ s p, (s, Slot.full (.pkt p)) ∈ w.slots → p.wf

theorem SlotWf.via {w w' : World} (h : SlotWf w) (hv : FullVia WfVal w w') : SlotWf w' := by
  intro s p hm
  rcases hv s _ hm with h1 | h1
  · exact h s p h1
  · exact h1 p rfl

theorem msgHandler_fullVia (w : World) (m : Msg) (q : List Msg) :
    FullVia WfVal w (({ w with queue := q }).runHandler (fun wok => w.c.handleMsg m wok)).1 := by
  obtain ⟨b, hv⟩ := runHandler_fullVia ({ w with queue := q }) (fun wok => w.c.handleMsg m wok)
  refine FullVia.trans (.of_slots_eq rfl) (hv.mono ?_)
  intro s v hm p hp
  subst hp
  rcases (msg_replies_only_to_its_own_slot w.c m b s _ hm).2.1 with h | h | h <;> cases h

theorem pktHandler_fullVia (w : World) (rx' : Rx) (rd' : List ReadEv) (p : RxPacket) (hwf : p.wf) :
    FullVia WfVal w (({ w with rx := rx', reader := rd' }).runHandler
      (fun wok => w.c.handlePkt w.chanRxAlive p wok)).1 := by
  obtain ⟨b, hv⟩ := runHandler_fullVia ({ w with rx := rx', reader := rd' })
    (fun wok => w.c.handlePkt w.chanRxAlive p wok)
  refine FullVia.trans (.of_slots_eq rfl) (hv.mono ?_)
  intro s v hm p' hp'
  subst hp'
  obtain ⟨h1, _⟩ := (only_own_ack_completes w.c w.chanRxAlive p b).2.2 s _ hm
  cases h1
  exact hwf

theorem resumed_fullVia (w : World) : FullVia WfVal w w.resumed := by
  have hv := applyEffs_fullVia ({ w with c := w.c.resume.1, task := .running true } : World) w.c.resume.2.1
  refine FullVia.trans (.of_slots_eq rfl) (hv.mono ?_)
  intro s v h
  rw [resume_sends_nothing] at h; cases h

theorem pollCtx_fullVia (w : World) : FullVia WfVal w w.pollCtx :=
  pollCtx_via (R := FullVia WfVal) FullVia.trans (fun i => .of_slots_eq i.slots) (FullVia.refl WfVal)
    (fun w m q _ => msgHandler_fullVia w m q)
    (fun w rx' rd' fr p _ hd => pktHandler_fullVia w rx' rd' p (decodeRx_wf_aux fr p hd)) resumed_fullVia w

theorem micro_fullVia {w w' : World} (hm : Micro w w') : FullVia WfVal w w' := by
  rcases micro_noFill hm with rfl | h
  · exact pollCtx_fullVia w
  · exact h.mono fun _ _ h => h.elim

theorem during_slotWf {cfg : Cfg} {w : World} (h : During cfg w) : SlotWf w :=
  h.inv (fun s p hm => by simp at hm) fun _ ih hm => ih.via (micro_fullVia hm)

/-- an action identifier the client uses: `actionId kind pid` for an acknowledgement kind (PUBACK 4, PUBREC 5, PUBCOMP 7,
    SUBACK 9, UNSUBACK 11) and a packet identifier in 1..65535, or the key `actionId 13 0` all PINGREQs share -/
def AidForm (aid : Nat) : Prop :=
  aid = actionId 13 0 ∨
  ∃ k p, aid = actionId k p ∧ (k = 4 ∨ k = 5 ∨ k = 7 ∨ k = 9 ∨ k = 11) ∧ 1 ≤ p ∧ p ≤ 65535

structure KeyForm (w : World) : Prop where
  queue : ∀ m ∈ w.queue, ∀ aid, m.aid = some aid → AidForm aid
  awaiting : ∀ e ∈ w.c.awaiting, AidForm e.1
  retx : ∀ e ∈ w.c.retx, AidForm e.1

theorem keyForm_iff_kept {w : World} : KeyForm w ↔
    Kept (fun m => ∀ aid, m.aid = some aid → AidForm aid) (fun e => AidForm e.1) (fun x => AidForm x.1) w :=
  ⟨fun h => ⟨h.queue, h.awaiting, h.retx⟩, fun h => ⟨h.queue, h.awaiting, h.retx⟩⟩

/-- both tables store a handled message under its own action identifier -/
theorem keyFlow : KeptFlow (fun m => ∀ aid, m.aid = some aid → AidForm aid) (fun e => AidForm e.1)
    (fun x => AidForm x.1) :=
  ⟨fun _ aid hq ha => hq aid ha, fun aid _ _ hq _ => hq aid rfl, fun aid _ _ hq _ => hq aid rfl⟩

theorem reqMsg_aidForm (w : World) (id : Nat) (req : Req) (hp : PidOk w.pidCtr) :
    ∀ aid, (w.reqMsg id req).aid = some aid → AidForm aid := by
  intro aid h
  rw [reqMsg_aid] at h
  cases hk : req.wait <;> rw [hk] at h
  · cases h
  all_goals obtain rfl := Option.some.inj h
  · exact Or.inr ⟨4, w.pidCtr, rfl, by simp, hp.1, hp.2⟩
  · exact Or.inr ⟨5, w.pidCtr, rfl, by simp, hp.1, hp.2⟩
  · exact Or.inr ⟨7, w.pidCtr, rfl, by simp, hp.1, hp.2⟩
  · exact Or.inr ⟨9, w.pidCtr, rfl, by simp, hp.1, hp.2⟩
  · exact Or.inr ⟨11, w.pidCtr, rfl, by simp, hp.1, hp.2⟩
  · exact Or.inl rfl

theorem during_keyForm {cfg : Cfg} {w : World} (h : During cfg w) : KeyForm w := by
  refine h.inv ⟨by simp, by simp, by simp⟩ fun {w w'} hd ih hm => ?_
  refine keyForm_iff_kept.2 (Kept.micro keyFlow hm (keyForm_iff_kept.1 ih)
    (fun id _ req _ => reqMsg_aidForm w id req (during_opsInv hd).pid) (fun id s a _ hs _ aid haid => ?_))
  -- the PUBREC in the oneshot is decoder output, so its packet identifier is in range
  have hwf : (RxPacket.pubrec a).wf := during_slotWf hd s _ (Poster.mem_of_lookupFirst s _ w.slots hs)
  simp only [pubrelMsg, Msg.aid, Option.some.injEq] at haid
  subst haid
  exact Or.inr ⟨7, a.packetId, rfl, Or.inr (Or.inr (Or.inl rfl)), hwf.1, by have := hwf.2; omega⟩

end W10
end World
end Poster

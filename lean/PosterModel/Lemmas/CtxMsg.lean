/-
  `handle_message` (`Ctx.handleMsg`) as equations, arm by arm and each arm by outcome — the three packet kinds of the
  `AwaitAck` arm differ only in whether a quota slot is taken and in `retxEntry`, so the arm is one four-way `if` — and all
  arms at once as a delta applied to the context (`msgDelta`); the PUBLISH dispatch loop branch by branch. Only `Ctx.lean`
  is imported, so that the lemmas over `CtxRun` (Lemmas/CtxApi.lean) and those over a real transport
  (Lemmas/TxHandler.lean) both rest on these.
-/
import PosterModel.Ctx

namespace Poster

/-- the action identifier a message registers in `awaiting`, if it registers one -/
def Msg.aid : Msg → Option Nat
  | .ff _ _ => none
  | .awaitAck aid _ _ => some aid
  | .subscribe aid _ _ _ _ => some aid

/-- a request limited by the send quota: a QoS>0 PUBLISH -/
def Msg.isPub : Msg → Bool
  | .awaitAck _ pkt _ => decide (pktType pkt = 3)
  | _ => false

/-- the subscription identifier a message registers -/
def Msg.subId? : Msg → Option Nat
  | .subscribe _ sid _ _ _ => some sid
  | _ => none

namespace Ctx

/-- the `retrasmit_queue` entry of an accepted request: only a PUBLISH (type 3, with DUP set) or a PUBREL (type 6) is kept -/
def retxEntry (aid : Nat) (pkt : Bytes) : List (Nat × Bytes) :=
  if pktType pkt = 3 then [(aid, setDup pkt)] else if pktType pkt = 6 then [(aid, pkt)] else []

/-- the `AwaitAck` arm: size check, then (PUBLISH only) the quota check, then the write; a PUBLISH that passes both
    checks takes its quota slot whether or not the write succeeds -/
theorem handleMsg_awaitAck_eq (c : Ctx) (aid : Nat) (pkt : Bytes) (slot : Nat) (wok : Bool) :
    c.handleMsg (.awaitAck aid pkt slot) wok =
      if c.sizeOk pkt = false then (c, [.send slot .errSize], .cont)
      else if pktType pkt = 3 ∧ c.quota = 0 then (c, [.send slot .errQuota], .cont)
      else if wok = false then
        ({ c with quota := if pktType pkt = 3 then c.quota - 1 else c.quota }, [.write pkt, .dropSlot slot], .exitSocket)
      else
        ({ c with quota := if pktType pkt = 3 then c.quota - 1 else c.quota,
                  awaiting := c.awaiting ++ [(aid, slot)], retx := c.retx ++ retxEntry aid pkt },
         [.write pkt], .cont) := by
  simp only [handleMsg, retxEntry]
  cases c.sizeOk pkt
  · rfl
  · by_cases h3 : pktType pkt = 3
    · by_cases hq : c.quota = 0 <;> cases wok <;> simp [h3, hq]
    · by_cases h6 : pktType pkt = 6 <;> cases wok <;> simp [h3, h6]

theorem handleMsg_ff_eq (c : Ctx) (pkt : Bytes) (slot : Nat) (wok : Bool) :
    c.handleMsg (.ff pkt slot) wok =
      if c.sizeOk pkt = false then (c, [.send slot .errSize], .cont)
      else if wok = false then (c, [.write pkt, .dropSlot slot], .exitSocket)
      else (c, [.write pkt, .send slot .unit], if pktType pkt = 14 then .exitOk else .cont) := by
  simp only [handleMsg]
  cases c.sizeOk pkt <;> cases wok <;> rfl

theorem handleMsg_subscribe_eq (c : Ctx) (aid sid : Nat) (pkt : Bytes) (slot ch : Nat) (wok : Bool) :
    c.handleMsg (.subscribe aid sid pkt slot ch) wok =
      if c.sizeOk pkt = false then (c, [.send slot .errSize, .dropChan ch], .cont)
      else ({ c with awaiting := c.awaiting ++ [(aid, slot)], subs := c.subs ++ [(sid, ch)] }, [.write pkt],
            if wok then .cont else .exitSocket) := by
  simp only [handleMsg]
  cases c.sizeOk pkt <;> rfl

/-! The same three arms by outcome, each with the whole result. Going through these is much cheaper to check than
    splitting the `if`s of the equations above in every proof about all requests. -/

theorem handleMsg_ff_cases (c : Ctx) (pkt : Bytes) (slot : Nat) (wok : Bool) :
    (c.sizeOk pkt = false ∧ c.handleMsg (.ff pkt slot) wok = (c, [.send slot .errSize], .cont)) ∨
    (c.sizeOk pkt = true ∧ wok = false ∧
      c.handleMsg (.ff pkt slot) wok = (c, [.write pkt, .dropSlot slot], .exitSocket)) ∨
    (c.sizeOk pkt = true ∧ wok = true ∧
      c.handleMsg (.ff pkt slot) wok =
        (c, [.write pkt, .send slot .unit], if pktType pkt = 14 then .exitOk else .cont)) := by
  rw [handleMsg_ff_eq]
  cases hsz : c.sizeOk pkt
  · exact Or.inl ⟨rfl, rfl⟩
  · cases wok
    · exact Or.inr (Or.inl ⟨rfl, rfl, rfl⟩)
    · exact Or.inr (Or.inr ⟨rfl, rfl, rfl⟩)

/-- refused for its size; refused for the quota; handed to a transport that fails; accepted -/
theorem handleMsg_awaitAck_cases (c : Ctx) (aid : Nat) (pkt : Bytes) (slot : Nat) (wok : Bool) :
    (c.sizeOk pkt = false ∧ c.handleMsg (.awaitAck aid pkt slot) wok = (c, [.send slot .errSize], .cont)) ∨
    (c.sizeOk pkt = true ∧ pktType pkt = 3 ∧ c.quota = 0 ∧
      c.handleMsg (.awaitAck aid pkt slot) wok = (c, [.send slot .errQuota], .cont)) ∨
    (c.sizeOk pkt = true ∧ (pktType pkt = 3 → c.quota ≠ 0) ∧ wok = false ∧
      c.handleMsg (.awaitAck aid pkt slot) wok =
        ({ c with quota := if pktType pkt = 3 then c.quota - 1 else c.quota },
         [.write pkt, .dropSlot slot], .exitSocket)) ∨
    (c.sizeOk pkt = true ∧ (pktType pkt = 3 → c.quota ≠ 0) ∧ wok = true ∧
      c.handleMsg (.awaitAck aid pkt slot) wok =
        ({ c with quota := if pktType pkt = 3 then c.quota - 1 else c.quota,
                  awaiting := c.awaiting ++ [(aid, slot)], retx := c.retx ++ retxEntry aid pkt },
         [.write pkt], .cont)) := by
  rw [handleMsg_awaitAck_eq]
  cases hsz : c.sizeOk pkt
  · exact Or.inl ⟨rfl, rfl⟩
  · by_cases hq : pktType pkt = 3 ∧ c.quota = 0
    · exact Or.inr (Or.inl ⟨rfl, hq.1, hq.2, by simp [hq]⟩)
    · have hq' : pktType pkt = 3 → c.quota ≠ 0 := fun h3 h0 => hq ⟨h3, h0⟩
      cases wok
      · exact Or.inr (Or.inr (Or.inl ⟨rfl, hq', rfl, by simp [hq]⟩))
      · exact Or.inr (Or.inr (Or.inr ⟨rfl, hq', rfl, by simp [hq]⟩))

theorem handleMsg_subscribe_cases (c : Ctx) (aid sid : Nat) (pkt : Bytes) (slot ch : Nat) (wok : Bool) :
    (c.sizeOk pkt = false ∧
      c.handleMsg (.subscribe aid sid pkt slot ch) wok = (c, [.send slot .errSize, .dropChan ch], .cont)) ∨
    (c.sizeOk pkt = true ∧
      c.handleMsg (.subscribe aid sid pkt slot ch) wok =
        ({ c with awaiting := c.awaiting ++ [(aid, slot)], subs := c.subs ++ [(sid, ch)] }, [.write pkt],
         if wok then .cont else .exitSocket)) := by
  rw [handleMsg_subscribe_eq]
  cases hsz : c.sizeOk pkt
  · exact Or.inl ⟨rfl, rfl⟩
  · exact Or.inr ⟨rfl, rfl⟩

theorem dispatch_cons_absent (alive : Nat → Bool) (p : PublishRx) (sid : Nat) (rest : List Nat)
    (subs : List (Nat × Nat)) (h : lookupFirst sid subs = none) :
    dispatch alive p (sid :: rest) subs = dispatch alive p rest subs := by
  simp [dispatch, h]

theorem dispatch_cons_alive (alive : Nat → Bool) (p : PublishRx) (sid ch : Nat) (rest : List Nat)
    (subs : List (Nat × Nat)) (h : lookupFirst sid subs = some ch) (ha : alive ch = true) :
    dispatch alive p (sid :: rest) subs =
      ((dispatch alive p rest subs).1, .deliver ch p :: (dispatch alive p rest subs).2) := by
  simp [dispatch, h, ha]

theorem dispatch_cons_dead (alive : Nat → Bool) (p : PublishRx) (sid ch : Nat) (rest : List Nat)
    (subs : List (Nat × Nat)) (h : lookupFirst sid subs = some ch) (ha : alive ch = false) :
    dispatch alive p (sid :: rest) subs =
      ((dispatch alive p rest (eraseFirst sid subs)).1,
       .dropChan ch :: (dispatch alive p rest (eraseFirst sid subs)).2) := by
  simp [dispatch, h, ha]

/-- Induction over the PUBLISH dispatch loop: nothing to do; an identifier nobody subscribed under is skipped; a live
    receiver gets the message; a dead one loses its entry, and the rest of the loop sees the table without it. -/
theorem dispatch_induct {alive : Nat → Bool} {p : PublishRx}
    {motive : List Nat → List (Nat × Nat) → List (Nat × Nat) × List Eff → Prop}
    (nil : ∀ subs, motive [] subs (subs, []))
    (absent : ∀ sid rest subs r, lookupFirst sid subs = none → motive rest subs r → motive (sid :: rest) subs r)
    (live : ∀ sid ch rest subs r, lookupFirst sid subs = some ch → alive ch = true → motive rest subs r →
      motive (sid :: rest) subs (r.1, .deliver ch p :: r.2))
    (dead : ∀ sid ch rest subs r, lookupFirst sid subs = some ch → alive ch = false →
      motive rest (eraseFirst sid subs) r → motive (sid :: rest) subs (r.1, .dropChan ch :: r.2))
    (sids : List Nat) (subs : List (Nat × Nat)) : motive sids subs (dispatch alive p sids subs) := by
  induction sids generalizing subs with
  | nil => exact nil subs
  | cons sid rest ih =>
    cases h : lookupFirst sid subs with
    | none => rw [dispatch_cons_absent _ _ _ _ _ h]; exact absent _ _ _ _ h (ih subs)
    | some ch =>
      cases ha : alive ch with
      | true => rw [dispatch_cons_alive _ _ _ _ _ _ h ha]; exact live _ _ _ _ _ h ha (ih subs)
      | false => rw [dispatch_cons_dead _ _ _ _ _ _ h ha]; exact dead _ _ _ _ _ h ha (ih _)

theorem dispatch_effs (alive : Nat → Bool) (p : PublishRx) (sids : List Nat) (subs : List (Nat × Nat)) :
    ∀ e ∈ (dispatch alive p sids subs).2,
      (∃ ch, e = .deliver ch p ∧ alive ch = true) ∨ (∃ ch, e = .dropChan ch ∧ alive ch = false) := by
  refine dispatch_induct (motive := fun _ _ r => ∀ e ∈ r.2,
    (∃ ch, e = .deliver ch p ∧ alive ch = true) ∨ (∃ ch, e = .dropChan ch ∧ alive ch = false)) ?_ ?_ ?_ ?_ sids subs
  · exact fun _ _ he => nomatch he
  · exact fun _ _ _ _ _ ih => ih
  · rintro _ ch _ _ _ _ ha ih e (_ | ⟨_, he⟩)
    · exact Or.inl ⟨ch, rfl, ha⟩
    · exact ih e he
  · rintro _ ch _ _ _ _ ha ih e (_ | ⟨_, he⟩)
    · exact Or.inr ⟨ch, rfl, ha⟩
    · exact ih e he

/-! ## what `handle_message` does to the context

All arms at once: the context changes by a *delta* that depends on it only through the packet-size limit and "is the send
quota 0"; what a fact about one table needs is read off `msgDelta_keys`. -/

/-- the change `handle_message` makes: quota slots taken, entries appended to `awaiting`, `retx`, `subs` -/
structure MsgDelta where
  dq : Nat := 0
  aw : List (Nat × Nat) := []
  rt : List (Nat × Bytes) := []
  sb : List (Nat × Nat) := []

def MsgDelta.app (d : MsgDelta) (c : Ctx) : Ctx :=
  { c with quota := c.quota - d.dq, awaiting := c.awaiting ++ d.aw, retx := c.retx ++ d.rt, subs := c.subs ++ d.sb }

/-- `handle_message`, as a function of the two facts about the context it looks at: `ok` = which packets fit under the
    packet-size limit, and `qz` = "the send quota is 0" -/
def msgDelta (ok : Bytes → Bool) (qz : Bool) (m : Msg) (wok : Bool) : MsgDelta × List Eff × Flow :=
  match m with
  | .ff pkt slot =>
    if ok pkt = false then ({}, [.send slot .errSize], .cont)
    else if wok = false then ({}, [.write pkt, .dropSlot slot], .exitSocket)
    else ({}, [.write pkt, .send slot .unit], if pktType pkt = 14 then .exitOk else .cont)
  | .awaitAck aid pkt slot =>
    if ok pkt = false then ({}, [.send slot .errSize], .cont)
    else if pktType pkt = 3 ∧ qz = true then ({}, [.send slot .errQuota], .cont)
    else if wok = false then ({ dq := if pktType pkt = 3 then 1 else 0 }, [.write pkt, .dropSlot slot], .exitSocket)
    else ({ dq := if pktType pkt = 3 then 1 else 0, aw := [(aid, slot)], rt := retxEntry aid pkt }, [.write pkt], .cont)
  | .subscribe aid subId pkt slot chan =>
    if ok pkt = false then ({}, [.send slot .errSize, .dropChan chan], .cont)
    else ({ aw := [(aid, slot)], sb := [(subId, chan)] }, [.write pkt], if wok then .cont else .exitSocket)

theorem MsgDelta.app_empty (c : Ctx) : ({} : MsgDelta).app c = c := by
  cases c; simp [MsgDelta.app]

theorem handleMsg_eq_delta (c : Ctx) (m : Msg) (wok : Bool) :
    c.handleMsg m wok =
      ((msgDelta c.sizeOk (decide (c.quota = 0)) m wok).1.app c, (msgDelta c.sizeOk (decide (c.quota = 0)) m wok).2) := by
  cases m with
  | ff pkt slot =>
    rw [handleMsg_ff_eq, msgDelta]
    by_cases h1 : c.sizeOk pkt = false
    · simp only [if_pos h1, MsgDelta.app_empty]
    · by_cases h2 : wok = false
      · simp only [if_neg h1, if_pos h2, MsgDelta.app_empty]
      · simp only [if_neg h1, if_neg h2, MsgDelta.app_empty]
  | awaitAck aid pkt slot =>
    rw [handleMsg_awaitAck_eq, msgDelta]
    simp only [decide_eq_true_eq]
    by_cases h1 : c.sizeOk pkt = false
    · simp only [if_pos h1, MsgDelta.app_empty]
    · by_cases h2 : pktType pkt = 3 ∧ c.quota = 0
      · simp only [if_neg h1, if_pos h2, MsgDelta.app_empty]
      · -- the delta takes the quota slot of a PUBLISH by subtraction
        have hq : c.quota - (if pktType pkt = 3 then 1 else 0) = if pktType pkt = 3 then c.quota - 1 else c.quota := by
          split <;> rfl
        by_cases h3 : wok = false
        · simp only [if_neg h1, if_neg h2, if_pos h3, MsgDelta.app, hq, List.append_nil]
        · simp only [if_neg h1, if_neg h2, if_neg h3, MsgDelta.app, hq, List.append_nil]
  | subscribe aid subId pkt slot chan =>
    rw [handleMsg_subscribe_eq, msgDelta]
    by_cases h1 : c.sizeOk pkt = false
    · simp only [if_pos h1, MsgDelta.app_empty]
    · simp only [if_neg h1, MsgDelta.app, Nat.sub_zero, List.append_nil]

/-- the keys of a delta are the message's action identifier / subscription identifier; a slot is taken only by a
    QoS>0 PUBLISH, and only if the quota is not 0; the waiter registered is the message's own `(aid, slot)`, the
    retransmission filed that of an `AwaitAck` message -/
structure MsgDelta.Keys (m : Msg) (qz : Bool) (d : MsgDelta) : Prop where
  aw_key : ∀ k ∈ d.aw.map (·.1), m.aid = some k
  rt_key : ∀ k ∈ d.rt.map (·.1), m.aid = some k
  sb_key : ∀ k ∈ d.sb.map (·.1), m.subId? = some k
  dq_le : d.dq ≤ 1
  dq_pub : d.dq = 1 → m.isPub = true ∧ qz = false
  aw : d.aw = [] ∨ (∃ a p s, m = .awaitAck a p s ∧ d.aw = [(a, s)]) ∨
    ∃ a sid p s ch, m = .subscribe a sid p s ch ∧ d.aw = [(a, s)]
  rt : d.rt = [] ∨ ∃ a p s, m = .awaitAck a p s ∧ d.rt = retxEntry a p

theorem MsgDelta.Keys.none (m : Msg) (qz : Bool) : MsgDelta.Keys m qz {} :=
  ⟨nofun, nofun, nofun, Nat.zero_le _, nofun, Or.inl rfl, Or.inl rfl⟩

theorem MsgDelta.Keys.ite {m : Msg} {qz : Bool} {p : Prop} [Decidable p] {a b : MsgDelta × List Eff × Flow}
    (ha : p → a.1.Keys m qz) (hb : ¬ p → b.1.Keys m qz) : (if p then a else b).1.Keys m qz := by
  split
  · exact ha ‹_›
  · exact hb ‹_›

theorem retxEntry_keys (aid : Nat) (pkt : Bytes) : ∀ k ∈ (retxEntry aid pkt).map (·.1), some aid = some k := by
  unfold retxEntry
  intro k hk
  split at hk
  · cases List.mem_singleton.mp hk; rfl
  · split at hk
    · cases List.mem_singleton.mp hk; rfl
    · cases hk

theorem msgDelta_keys (mp : Bytes → Bool) (qz : Bool) (m : Msg) (wok : Bool) :
    (msgDelta mp qz m wok).1.Keys m qz := by
  have own : ∀ {aid slot k : Nat}, k ∈ [(aid, slot)].map (·.1) → some aid = some k :=
    fun hk => by cases List.mem_singleton.mp hk; rfl
  -- along the `if`s of `msgDelta`
  cases m with
  | ff pkt slot =>
    exact MsgDelta.Keys.ite (fun _ => MsgDelta.Keys.none _ _) fun _ => MsgDelta.Keys.ite (fun _ => MsgDelta.Keys.none _ _) fun _ => MsgDelta.Keys.none _ _
  | awaitAck aid pkt slot =>
    refine MsgDelta.Keys.ite (fun _ => MsgDelta.Keys.none _ _) fun _ => MsgDelta.Keys.ite (fun _ => MsgDelta.Keys.none _ _) fun hq => ?_
    -- a slot is taken for a PUBLISH that got past the quota check
    have dq : (if pktType pkt = 3 then 1 else 0) ≤ 1 ∧ ((if pktType pkt = 3 then 1 else 0) = 1 →
        (Msg.awaitAck aid pkt slot).isPub = true ∧ qz = false) := by
      by_cases h3 : pktType pkt = 3
      · rw [if_pos h3]
        exact ⟨Nat.le_refl _, fun _ => ⟨decide_eq_true h3, Bool.eq_false_iff.mpr fun h => hq ⟨h3, h⟩⟩⟩
      · rw [if_neg h3]; exact ⟨Nat.zero_le _, nofun⟩
    exact MsgDelta.Keys.ite (fun _ => ⟨nofun, nofun, nofun, dq.1, dq.2, Or.inl rfl, Or.inl rfl⟩)
      fun _ => ⟨fun _ => own, retxEntry_keys aid pkt, nofun, dq.1, dq.2, Or.inr (Or.inl ⟨aid, pkt, slot, rfl, rfl⟩),
        Or.inr ⟨aid, pkt, slot, rfl, rfl⟩⟩
  | subscribe aid subId pkt slot chan =>
    exact MsgDelta.Keys.ite (fun _ => MsgDelta.Keys.none _ _) fun _ =>
      ⟨fun _ => own, nofun, fun k hk => by cases List.mem_singleton.mp hk; rfl, Nat.zero_le _, nofun,
        Or.inr (Or.inr ⟨aid, subId, pkt, slot, chan, rfl, rfl⟩), Or.inl rfl⟩

theorem msgDelta_qz {ok : Bytes → Bool} {m : Msg} {wok : Bool} (qz qz' : Bool) (h : m.isPub = false) :
    msgDelta ok qz m wok = msgDelta ok qz' m wok := by
  cases m with
  | awaitAck aid pkt slot =>
    have h3 : pktType pkt ≠ 3 := by simpa [Msg.isPub] using h
    simp only [msgDelta, h3, false_and, ↓reduceIte]
  | _ => rfl

theorem sizeOk_congr {c c' : Ctx} (h : c.maxPkt = c'.maxPkt) : c.sizeOk = c'.sizeOk :=
  funext fun pkt => by simp only [sizeOk, h]

/-- **`handle_message` reads the context only through the packet-size limit and, for a QoS>0 PUBLISH, "is the send
    quota 0"**: two contexts that agree on these get the same delta, effects and flow -/
theorem msgDelta_congr {c c' : Ctx} (m : Msg) (wok : Bool) (hm : c.maxPkt = c'.maxPkt)
    (hq : m.isPub = true → (c.quota = 0 ↔ c'.quota = 0)) :
    msgDelta c.sizeOk (decide (c.quota = 0)) m wok = msgDelta c'.sizeOk (decide (c'.quota = 0)) m wok := by
  rw [sizeOk_congr hm]
  cases hp : m.isPub with
  | false => exact msgDelta_qz _ _ hp
  | true => rw [decide_eq_decide.mpr (hq hp)]

/-- the registration a request adds to the subscription table -/
def newSubs (c : Ctx) : Msg → List (Nat × Nat)
  | .subscribe _ sid pkt _ chan => if c.sizeOk pkt then [(sid, chan)] else []
  | _ => []

theorem msgDelta_sb (c : Ctx) (qz : Bool) (m : Msg) (wok : Bool) : (msgDelta c.sizeOk qz m wok).1.sb = newSubs c m := by
  -- a delta registers under the subscription identifier of its message only (`msgDelta_keys`)
  have nil : ∀ {l : List (Nat × Nat)}, (∀ k ∈ l.map (·.1), (none : Option Nat) = some k) → l = [] := fun h =>
    List.map_eq_nil_iff.mp (List.eq_nil_iff_forall_not_mem.mpr fun k hk => nomatch h k hk)
  cases m with
  | subscribe aid sid pkt slot chan => simp only [msgDelta, newSubs]; cases c.sizeOk pkt <;> rfl
  | ff pkt slot => exact nil (msgDelta_keys c.sizeOk qz (.ff pkt slot) wok).sb_key
  | awaitAck aid pkt slot => exact nil (msgDelta_keys c.sizeOk qz (.awaitAck aid pkt slot) wok).sb_key

/-- **a request never consults the subscription table**: it is handled the same whatever the table, to which a
    SUBSCRIBE that fits appends its registration -/
theorem handleMsg_withSubs (c : Ctx) (s' : List (Nat × Nat)) (m : Msg) (wok : Bool) :
    ({ c with subs := s' } : Ctx).handleMsg m wok =
      ({ (c.handleMsg m wok).1 with subs := s' ++ newSubs c m }, (c.handleMsg m wok).2) := by
  rw [handleMsg_eq_delta, handleMsg_eq_delta c, ← msgDelta_sb c (decide (c.quota = 0)) m wok]
  rfl

theorem handleMsg_subs (c : Ctx) (m : Msg) (wok : Bool) : (c.handleMsg m wok).1.subs = c.subs ++ newSubs c m :=
  congrArg (fun x => x.1.subs) (handleMsg_withSubs c c.subs m wok)

end Ctx

end Poster

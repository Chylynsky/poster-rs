/-
  Lemmas/WorldWireCheck.lean — an executable check of the hypothesis `ScriptInDomain` of Properties/C01World.lean:
  `scriptInDomainB evs = true → ScriptInDomain evs`. The quantification over the identifiers the library may assign is
  discharged once: the domain conditions do not depend on the value of the packet identifier, and a subscription
  identifier changes the size of a SUBSCRIBE by at most 6 bytes.
-/
import PosterModel.Lemmas.WorldWire

namespace Poster
open Spec

theorem subscribe_size_sid (t : SubscribeTx) (pid sid : Nat) :
    ({ t with packetId := pid, subId := some sid } : SubscribeTx).remainingLen ≤
      ({ t with packetId := 1, subId := some 1 } : SubscribeTx).remainingLen + 6 := by
  simp only [SubscribeTx.remainingLen, SubscribeTx.propertyLen, oLen, propLen, pSubId, propKind_11, valLen]
  have h1 := varLen_le_four sid
  have h2 := varLen_pos sid
  have h3 : varLen 1 = 1 := by decide
  rw [h3]
  have h4 := varLen_le_four (1 + varLen sid + userLen t.userProps)
  have h5 := varLen_pos (1 + 1 + userLen t.userProps)
  omega

/-- executable version of `ReqInDomain` -/
def reqInDomainB : Req → Bool
  | .publish t =>
    if t.qos = 0 then decide (PublishInDomain t) else decide (PublishInDomain { t with packetId := some 1 })
  | .subscribe t =>
    decide (SubscribeInDomain { t with packetId := 1, subId := some 1 }) &&
    decide (({ t with packetId := 1, subId := some 1 } : SubscribeTx).remainingLen + 6 < 268435456)
  | .unsubscribe t => decide (UnsubscribeInDomain { t with packetId := 1 })
  | .ping => true
  | .disconnect t => decide (DisconnectInDomain t)

theorem reqInDomainB_sound (r : Req) (h : reqInDomainB r = true) : ReqInDomain r := by
  cases r with
  | publish t =>
    by_cases hq : t.qos = 0
    · simp only [reqInDomainB, hq, ↓reduceIte, decide_eq_true_eq] at h
      exact ⟨fun _ => h, fun hne => absurd hq hne⟩
    · simp only [reqInDomainB, hq, ↓reduceIte, decide_eq_true_eq] at h
      refine ⟨fun h0 => absurd h0 hq, fun _ pid h1 h2 => ?_⟩
      exact ⟨h.qos, fun p hp => by simp at hp; subst hp; exact ⟨h1, h2, hq⟩, h.dup, h.topic, h.topicAlias, h.mei,
        h.correlationData, h.responseTopic, h.contentType, h.userProps, h.size⟩
  | subscribe t =>
    simp only [reqInDomainB, Bool.and_eq_true, decide_eq_true_eq] at h
    obtain ⟨h, hs⟩ := h
    intro pid sid h1 h2 h3 h4
    refine ⟨⟨h1, h2⟩, fun v hv => by simp at hv; subst hv; exact ⟨h3, h4⟩, h.userProps, h.filters, ?_⟩
    have := subscribe_size_sid t pid sid
    omega
  | unsubscribe t =>
    simp only [reqInDomainB, decide_eq_true_eq] at h
    intro pid h1 h2
    exact ⟨⟨h1, h2⟩, h.userProps, h.filters, h.size⟩
  | ping => trivial
  | disconnect t => exact of_decide_eq_true (p := DisconnectInDomain t) h

/-- executable version of `EvInDomain` -/
def evInDomainB : Ev → Bool
  | .connect t => decide (ConnectInDomain t)
  | .authorize a => decide (AuthInDomain a)
  | .op _ _ req => reqInDomainB req
  | _ => true

/-- executable version of `ScriptInDomain`: `true` only for scripts in the domain (a SUBSCRIBE within 6 bytes of the
    protocol's size limit is conservatively rejected) -/
def scriptInDomainB (evs : List Ev) : Bool := evs.all evInDomainB

theorem scriptInDomainB_sound (evs : List Ev) (h : scriptInDomainB evs = true) : ScriptInDomain evs := by
  intro e he
  have := List.all_eq_true.mp h e he
  cases e with
  | connect t => exact of_decide_eq_true (p := ConnectInDomain t) this
  | authorize a => exact of_decide_eq_true (p := AuthInDomain a) this
  | op id hh req => exact reqInDomainB_sound req this
  | _ => trivial

end Poster

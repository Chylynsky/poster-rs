/-
  Lemmas/WorldOpsUnit.lean — what holds of the operation table at every moment of an execution, beyond `OpsInv`: a
  future not yet polled was issued by a logged `op` event, the invariant `Good` of scripts that log every identifier
  once (which the scripts with pairwise distinct operation ids do, `loggedIds_nodup_of_script`), and `UnitOk` — "written"
  is only ever found in the oneshot of a fire-and-forget request.
-/
import PosterModel.Lemmas.WorldDuring

namespace Poster
open Framing
namespace World
namespace W7

theorem during_freshLogged {cfg : Cfg} {w : World} (h : During cfg w) : FreshLogged w :=
  FreshLogged.moveInv.during (fun id hh req hmem => by simp at hmem) h

theorem during_good {cfg : Cfg} {w : World} (hd : During cfg w) (hn : (loggedIds w.out).Nodup) :
    Good (· ∈ loggedIds w.out) w :=
  Good.moveInv.during (fun _ => Good.init _ cfg) hd hn

/-- "written" is only ever found in the oneshot of an operation waiting for it (a fire-and-forget request) -/
def UnitOk (w : World) : Prop :=
  ∀ id s k, (id, OpSt.wait s k) ∈ w.ops → w.slot s = some (.full .unit) → k = .ff

theorem unitOk_congr {w w' : World} (hu : UnitOk w)
    (hops : ∀ id s k, (id, OpSt.wait s k) ∈ w'.ops → (id, OpSt.wait s k) ∈ w.ops)
    (hs : ∀ s, w'.slot s = some (.full .unit) → w.slot s = some (.full .unit)) : UnitOk w' :=
  fun id s k hm hsl => hu id s k (hops id s k hm) (hs s hsl)

theorem unitOk_same {w w' : World} (hu : UnitOk w) (hops : w'.ops = w.ops) (hs : ∀ s, w'.slot s = w.slot s) :
    UnitOk w' :=
  unitOk_congr hu (fun id s k hm => by rw [hops] at hm; exact hm) (fun s h => by rw [hs s] at h; exact h)

theorem unitOk_of_slotRel {P : Nat → SlotVal → Prop} {w w' : World} (hu : UnitOk w) (hops : w'.ops = w.ops)
    (hs : SlotRel P w w') (hP : ∀ s, P s .unit → ∀ id k, (id, OpSt.wait s k) ∈ w.ops → k = .ff) : UnitOk w' := by
  intro id s k hm hsl
  rw [hops] at hm
  exact (hs.full hsl).elim (hu id s k hm) fun ⟨_, hv⟩ => hP s hv id k hm

theorem unitOk_msg {U : Nat → Prop} (w : World) (m : Msg) (q : List Msg) (hq : w.queue = m :: q) (hk : KInv U w)
    (hu : UnitOk w) : UnitOk (({ w with queue := q }).runHandler (fun wok => w.c.handleMsg m wok)).1 := by
  obtain ⟨b, _, _, hs, ho, _, _, _⟩ := runHandler_rel ({ w with queue := q }) (fun wok => w.c.handleMsg m wok)
  have hu0 : UnitOk ({ w with queue := q } : World) := hu
  refine unitOk_of_slotRel hu0 ho hs ?_
  intro s hmem id k hop
  obtain ⟨h1, _, h3⟩ := msg_replies_only_to_its_own_slot w.c m b s .unit hmem
  obtain ⟨⟨pkt, s', rfl⟩, _⟩ := h3 rfl
  have hop' : (id, OpSt.wait (Msg.ff pkt s').slot k) ∈ w.ops := by rw [← h1]; exact hop
  exact hk.qmsg (.ff pkt s') (by rw [hq]; exact List.mem_cons_self) id k hop'

theorem unitOk_pkt (w : World) (rx' : Rx) (rd' : List ReadEv) (p : RxPacket) (hu : UnitOk w) :
    UnitOk (({ w with rx := rx', reader := rd' }).runHandler (fun wok => w.c.handlePkt w.chanRxAlive p wok)).1 := by
  obtain ⟨b, _, _, hs, ho, _, _, _⟩ :=
    runHandler_rel ({ w with rx := rx', reader := rd' }) (fun wok => w.c.handlePkt w.chanRxAlive p wok)
  have hu0 : UnitOk ({ w with rx := rx', reader := rd' } : World) := hu
  refine unitOk_of_slotRel hu0 ho hs ?_
  intro s hmem
  rcases ack_completion_cases w.c w.chanRxAlive p b with ⟨h1, _⟩ | ⟨aid, slot, rest, _, _, h1, _⟩
  · rw [h1] at hmem; cases hmem
  · rw [h1] at hmem; simp at hmem

theorem unitOk_resumed (w : World) (hu : UnitOk w) : UnitOk w.resumed := by
  obtain ⟨_, hsend⟩ := resume_facts w.c
  have := applyEffs_slotRel ({ w with c := (w.c.resume).1, task := .running true } : World) (w.c.resume).2.1
  have hu0 : UnitOk ({ w with c := (w.c.resume).1, task := .running true } : World) := hu
  refine unitOk_of_slotRel hu0 (by simp [resumed]) this ?_
  intro s hm
  rw [hsend] at hm; cases hm

/-- a walk of its own, and no field of `Good`: `Move.cmsg` records that a handled message never fills a oneshot with a
    packet, not that it fills with "written" only for a fire-and-forget request -/
theorem unitOk_pollCtx {U : Nat → Prop} (w : World) (hg : Good U w) (hu : UnitOk w) : UnitOk w.pollCtx := by
  -- the bookkeeping invariants are carried along: `unitOk_msg` needs them
  have same : ∀ {w w' : World}, Move none w w' → w'.ops = w.ops → (∀ s, w'.slot s = w.slot s) →
      Good U w → UnitOk w → Good U w' ∧ UnitOk w' := fun m ho hs hg hu => ⟨hg.move m, unitOk_same hu ho hs⟩
  exact (pollCtx_via (R := fun w w' => Good U w → UnitOk w → Good U w' ∧ UnitOk w')
    (fun f g hg hu => g (f hg hu).1 (f hg hu).2) (fun i => same (move_inert i) i.ops i.slot) (fun _ hg hu => ⟨hg, hu⟩)
    (fun w m q hq hg hu => ⟨hg.move (handleMsg_move w m q hq), unitOk_msg w m q hq hg.kind hu⟩)
    (fun w rx' rd' fr p _ hd hg hu =>
      ⟨hg.move (handlePkt_move w rx' rd' p (decodeRx_wf_aux fr p hd)), unitOk_pkt w rx' rd' p hu⟩)
    (fun w hg hu => ⟨hg.move (move_resumed w), unitOk_resumed w hu⟩) w hg hu).2

theorem unitOk_move_some {id : Nat} {w w' : World} (hm : Move (some id) w w') (hi : OpsInv w) (hu : UnitOk w) :
    UnitOk w' := by
  intro i s k hmem hsl
  rcases hm.others hi hmem with ⟨_, h, e⟩ | ⟨_, s', k', e, he, _⟩
  · exact hu i s k h (e s k rfl ▸ hsl)
  · cases e; rw [he] at hsl; cases hsl

theorem unitOk_pollOp (w : World) (id : Nat) (hi : OpsInv w) (hu : UnitOk w) : UnitOk (w.pollOp id) := by
  rcases pollOp_move w id with ⟨_, e⟩ | ⟨s, k, _, _, e⟩ | hm
  · rw [e]; exact hu
  · rw [e]; exact hu
  · exact unitOk_move_some hm hi hu

theorem unitOk_dropOp (w : World) (id : Nat) (hi : OpsInv w) (hu : UnitOk w) : UnitOk (w.dropOp id) := by
  rcases dropOp_move w id with e | hm
  · rw [e]; exact hu
  · exact unitOk_move_some hm hi hu

theorem flushRaw_ops_slots (w : World) : w.flushRaw.ops = w.ops ∧ w.flushRaw.slots = w.slots := by
  obtain ⟨ou, wp, e⟩ := flushRaw_frame w; rw [e]; exact ⟨rfl, rfl⟩

theorem pollStream_ops_slots (w : World) (id : Nat) :
    (w.pollStream id).ops = w.ops ∧ (w.pollStream id).slots = w.slots := by
  obtain ⟨ch, st, wk, ou, e, _⟩ := pollStream_footprint w id; rw [e]; exact ⟨rfl, rfl⟩

theorem unitOk_applied {w w' : World} {e : Ev} (h : Applied w e w') (he : ∀ t, e ≠ .poll t) (hi : OpsInv w)
    (hu : UnitOk w) : UnitOk w' := by
  have same : ∀ w' : World, w'.ops = w.ops → w'.slots = w.slots → UnitOk w' :=
    fun w' h1 h2 => unitOk_same hu h1 (fun s => by simp only [slot, h2])
  cases h.norm with
  | poll t => exact absurd rfl (he t)
  | dropCtx sl sr ch wk ed hc =>
    -- dropping the context only closes oneshots
    have hs : SlotRel (fun _ _ => False) w (dropCtxClosed w) := (closes_inv (closes_dropCtxClosed w)).slotRel
    rw [ed] at hs
    exact unitOk_of_slotRel hu rfl hs fun _ h => h.elim
  | op id hd req =>
    refine unitOk_congr hu (fun i s k hm => ?_) (fun s hs => hs)
    simpa only [List.mem_append, List.mem_singleton, Prod.mk.injEq, reduceCtorEq, and_false, or_false] using hm
  | dropOp id o sl sr ch wk qr ed => exact ed ▸ unitOk_dropOp w id hi hu
  | _ => exact same _ rfl rfl

theorem during_unitOk {cfg : Cfg} {w : World} (hd : During cfg w) (hn : (loggedIds w.out).Nodup) : UnitOk w := by
  refine hd.inv_out (H := fun out => (loggedIds out).Nodup) (I := UnitOk)
    (fun a b h => by rw [loggedIds_append] at h; exact (List.nodup_append.mp h).1) (fun id s k hm => by simp at hm) ?_ hn
  · intro w w' hd hn0 hu hm
    have hg := during_good hd hn0
    cases hm with
    | ctx => exact unitOk_pollCtx w hg hu
    | user t ht =>
      cases t with
      | ctx => exact absurd rfl ht
      | op id =>
        show UnitOk ((w.unwake (.op id)).pollOp id)
        exact unitOk_pollOp _ id (hg.move (move_unwake w _)).ops hu
      | st id =>
        show UnitOk ((w.unwake (.st id)).pollStream id)
        obtain ⟨h1, h2⟩ := pollStream_ops_slots (w.unwake (.st id)) id
        exact unitOk_same hu h1 (fun s => by simp only [slot, h2]; rfl)
    | unwake t => exact hu
    | ev e hp hb =>
      exact unitOk_applied (apply_spec (w.emit (.ev e)) e) hp (hg.move (emit_ev_move w e)).ops hu
    | logged t hb => exact hu
    | stall => exact hu
    | flush => exact unitOk_same hu (flushRaw_ops_slots w).1 (fun s => by simp only [slot, (flushRaw_ops_slots w).2])

theorem loggedIds_noEv {l : List Obs} (h : ∀ o ∈ l, NoEv o) : loggedIds l = [] := by
  rw [loggedIds, evLines_noEv h]; rfl

theorem loggedIds_steps (evs : List Ev) (w : World) :
    ∃ l, loggedIds (evs.foldl World.step w).out = loggedIds w.out ++ l ∧ l.Sublist (opIds evs) := by
  obtain ⟨l, h1, h2⟩ := evLines_steps evs w
  exact ⟨opIds l, by rw [loggedIds, h1]; exact List.filterMap_append .., h2.filterMap _⟩

theorem loggedIds_nodup_of_script (cfg : Cfg) (evs : List Ev) (hn : (opIds evs).Nodup) :
    (loggedIds (World.run cfg evs)).Nodup := by
  obtain ⟨l, h1, h2⟩ := loggedIds_steps evs { cfg := cfg }
  unfold World.run finishScript
  obtain ⟨added, eo, hP⟩ := flushRaw_dull (evs.foldl World.step { cfg := cfg })
  rw [eo, loggedIds_append, loggedIds_noEv (fun o ho => noEv_of_dull (hP o ho)), List.append_nil, h1]
  simpa [loggedIds, evLines, opIds] using h2.nodup hn

end W7
end World
end Poster

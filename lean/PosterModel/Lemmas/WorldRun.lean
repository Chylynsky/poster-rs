/-
  Lemmas/WorldRun.lean — the `select!` loop of `run()` in the model's own order, taken apart into iterations (`runIter`,
  `RunCont`, `RunEnd`, `Serve`); what the iterations that go on leave alone (`CtxFrame`, `LoopFrame`); the wait of `connect()` /
  `authorize()` for the first response (`FirstEnd`) and what writing their request leaves alone. The session-resumption prelude
  of `run()` and the loop under every scheduler: Lemmas/WorldIter.lean; what a poll of the context task looks like from
  outside: Lemmas/WorldOutcome.lean.
  `W7.taskCall`, `W7.reqBytes`, `W7.seiSet`, `W7.Dull` are notions of this base layer; they carry the namespace of the cluster
  that introduced them because theorem statements of Properties/ use them under these names. `Quiet` (Lemmas/WorldShape.lean: only `W` / `WRAW` lines) is not the
  quiescence of the WorldQuiet* modules.
-/
import PosterModel.Lemmas.World
import PosterModel.Lemmas.WorldShape
import PosterModel.Lemmas.Framing
import PosterModel.Lemmas.WorldIn

namespace Poster
open Framing
namespace World

/-- one iteration of the `select!` loop of `run()` (`runIterS false`, Lemmas/WorldSched.lean): `.inl` = go on with the next
    iteration, `.inr` = this poll ends -/
def runIter (w : World) : World ⊕ World :=
  match w.queue with
  | m :: q =>
    let r := ({ w with queue := q }).runHandler (fun wok => w.c.handleMsg m wok)
    match r.2 with
    | .cont => .inl r.1
    | fl => .inr (r.1.finish .run (flowRet fl))
  | [] =>
    if w.senders = 0 then .inr (w.finish .run (.err .handleClosed)) else
    match pollNext w.rx w.reader with
    | (rx', rd', .item fr) =>
      let w := { w with rx := rx', reader := rd' }
      match decodeRx fr with
      | .ok p =>
        let r := w.runHandler (fun wok => w.c.handlePkt w.chanRxAlive p wok)
        match r.2 with
        | .cont => .inl r.1
        | fl => .inr (r.1.finish .run (flowRet fl))
      | .err => .inr (w.finish .run (.err .codecError))
      | .panic => .inr (({ w with task := .none }).emit (.panic .ctx "other"))
    | (rx', rd', .none) => .inr (({ w with rx := rx', reader := rd' }).finish .run (.err .socketClosed))
    | (rx', rd', .pending) =>
      let w := { w with rx := rx', reader := rd', queueReg := true }
      .inr (if rd' = [] then { w with readerReg := true } else w.wake .ctx)

theorem runLoop_succ (f : Nat) (w : World) :
    runLoop (f + 1) w = match runIter w with
      | .inl w1 => runLoop f w1
      | .inr r => r := by
  rw [runLoop]
  unfold runIter
  cases hq : w.queue with
  | cons m q =>
    simp only
    generalize World.runHandler _ _ = r
    obtain ⟨w1, fl⟩ := r
    cases fl <;> rfl
  | nil =>
    simp only
    by_cases hs : w.senders = 0
    · simp [hs]
    · simp only [hs, ↓reduceIte]
      generalize pollNext _ _ = r
      obtain ⟨rx', rd', o⟩ := r
      cases o with
      | item fr =>
        simp only
        cases decodeRx fr with
        | ok p =>
          simp only
          generalize World.runHandler _ _ = r
          obtain ⟨w1, fl⟩ := r
          cases fl <;> rfl
        | err => rfl
        | panic => rfl
      | none => rfl
      | pending => rfl

/-- an iteration after which the loop goes on -/
inductive RunCont (w : World) : World → Prop
  | msg (m : Msg) (q : List Msg) (w1 : World) : w.queue = m :: q →
      ({ w with queue := q }).runHandler (fun wok => w.c.handleMsg m wok) = (w1, .cont) → RunCont w w1
  | pkt (rx' : Rx) (rd' : List ReadEv) (fr : Bytes) (p : RxPacket) (w1 : World) : w.queue = [] → w.senders ≠ 0 →
      pollNext w.rx w.reader = (rx', rd', .item fr) → decodeRx fr = .ok p →
      ({ w with rx := rx', reader := rd' }).runHandler (fun wok => w.c.handlePkt w.chanRxAlive p wok) = (w1, .cont) →
      RunCont w w1

/-- the ways one poll of the loop ends -/
inductive RunEnd (w : World) : World → Prop
  | msgExit (m : Msg) (q : List Msg) (w1 : World) (fl : Flow) : w.queue = m :: q →
      ({ w with queue := q }).runHandler (fun wok => w.c.handleMsg m wok) = (w1, fl) → fl ≠ .cont →
      RunEnd w (w1.finish .run (flowRet fl))
  | closed : w.queue = [] → w.senders = 0 → RunEnd w (w.finish .run (.err .handleClosed))
  | pktExit (rx' : Rx) (rd' : List ReadEv) (fr : Bytes) (p : RxPacket) (w1 : World) (fl : Flow) :
      w.queue = [] → w.senders ≠ 0 → pollNext w.rx w.reader = (rx', rd', .item fr) → decodeRx fr = .ok p →
      ({ w with rx := rx', reader := rd' }).runHandler (fun wok => w.c.handlePkt w.chanRxAlive p wok) = (w1, fl) →
      fl ≠ .cont → RunEnd w (w1.finish .run (flowRet fl))
  | codec (rx' : Rx) (rd' : List ReadEv) (fr : Bytes) : w.queue = [] → w.senders ≠ 0 →
      pollNext w.rx w.reader = (rx', rd', .item fr) → decodeRx fr = .err →
      RunEnd w (({ w with rx := rx', reader := rd' }).finish .run (.err .codecError))
  | panic (rx' : Rx) (rd' : List ReadEv) (fr : Bytes) : w.queue = [] → w.senders ≠ 0 →
      pollNext w.rx w.reader = (rx', rd', .item fr) → decodeRx fr = .panic →
      RunEnd w (({ w with rx := rx', reader := rd', task := .none }).emit (.panic .ctx "other"))
  | sock (rx' : Rx) (rd' : List ReadEv) : w.queue = [] → w.senders ≠ 0 →
      pollNext w.rx w.reader = (rx', rd', .none) →
      RunEnd w (({ w with rx := rx', reader := rd' }).finish .run (.err .socketClosed))
  | pending (rx' : Rx) (rd' : List ReadEv) : w.queue = [] → w.senders ≠ 0 →
      pollNext w.rx w.reader = (rx', rd', .pending) →
      RunEnd w (if rd' = [] then { w with rx := rx', reader := rd', queueReg := true, readerReg := true }
                else ({ w with rx := rx', reader := rd', queueReg := true }).wake .ctx)

theorem runIter_spec (w : World) :
    (∃ w1, runIter w = .inl w1 ∧ RunCont w w1) ∨ (∃ r, runIter w = .inr r ∧ RunEnd w r) := by
  unfold runIter
  split
  · rename_i m q hq
    simp only
    split
    · rename_i hfl
      exact Or.inl ⟨_, rfl, .msg m q _ hq (Prod.ext rfl hfl)⟩
    · rename_i fl hne
      exact Or.inr ⟨_, rfl, .msgExit m q _ _ hq rfl (by intro h; exact hne h)⟩
  · rename_i hq
    split
    · rename_i hs; exact Or.inr ⟨_, rfl, .closed hq hs⟩
    · rename_i hs
      split
      · rename_i rx' rd' fr hp
        simp only
        split
        · rename_i p hd
          split
          · rename_i hfl
            exact Or.inl ⟨_, rfl, .pkt rx' rd' fr p _ hq hs hp hd (Prod.ext rfl hfl)⟩
          · rename_i fl hne
            exact Or.inr ⟨_, rfl, .pktExit rx' rd' fr p _ _ hq hs hp hd rfl (by intro h; exact hne h)⟩
        · rename_i hd; exact Or.inr ⟨_, rfl, .codec rx' rd' fr hq hs hp hd⟩
        · rename_i hd; exact Or.inr ⟨_, rfl, .panic rx' rd' fr hq hs hp hd⟩
      · rename_i rx' rd' hp; exact Or.inr ⟨_, rfl, .sock rx' rd' hq hs hp⟩
      · rename_i rx' rd' hp; exact Or.inr ⟨_, rfl, .pending rx' rd' hq hs hp⟩

theorem runIter_inl {w w1 : World} (h : runIter w = .inl w1) : RunCont w w1 := by
  rcases runIter_spec w with ⟨w1', h1, h2⟩ | ⟨r, h1, _⟩
  · rw [h] at h1; cases h1; exact h2
  · rw [h] at h1; cases h1

theorem runIter_inr {w r : World} (h : runIter w = .inr r) : RunEnd w r := by
  rcases runIter_spec w with ⟨w1', h1, _⟩ | ⟨r', h1, h2⟩
  · rw [h] at h1; cases h1
  · rw [h] at h1; cases h1; exact h2

theorem runIter_msg (w : World) (m : Msg) (q : List Msg) (w1 : World) (fl : Flow) (hq : w.queue = m :: q)
    (hr : ({ w with queue := q } : World).runHandler (fun wok => w.c.handleMsg m wok) = (w1, fl)) :
    runIter w = if fl = .cont then .inl w1 else .inr (w1.finish .run (flowRet fl)) := by
  unfold runIter
  simp only [hq, hr]
  cases fl <;> rfl

theorem runIter_pkt (w : World) (rx' : Rx) (rd' : List ReadEv) (fr : Bytes) (p : RxPacket)
    (w1 : World) (fl : Flow) (hq : w.queue = []) (hsn : w.senders ≠ 0)
    (hp : pollNext w.rx w.reader = (rx', rd', .item fr)) (hdec : decodeRx fr = .ok p)
    (hr : ({ w with rx := rx', reader := rd' } : World).runHandler (fun wok => w.c.handlePkt w.chanRxAlive p wok) =
      (w1, fl)) :
    runIter w = if fl = .cont then .inl w1 else .inr (w1.finish .run (flowRet fl)) := by
  have hr' : ({ w with rx := rx', reader := rd' } : World).runHandler
      (fun wok => w.c.handlePkt ({ w with rx := rx', reader := rd' } : World).chanRxAlive p wok) = (w1, fl) := hr
  unfold runIter
  simp only [hq] at hr'
  simp only [hq, hsn, ↓reduceIte, hp, hdec, hr']
  cases fl <;> rfl

theorem RunCont.iter {w w1 : World} (h : RunCont w w1) : runIter w = .inl w1 := by
  cases h with
  | msg m q w1 hq hr => exact (runIter_msg w m q w1 _ hq hr).trans (if_pos rfl)
  | pkt rx' rd' fr p w1 hq hs hp hd hr => exact (runIter_pkt w rx' rd' fr p w1 _ hq hs hp hd hr).trans (if_pos rfl)

theorem RunEnd.iter {w r : World} (h : RunEnd w r) : runIter w = .inr r := by
  cases h with
  | msgExit m q w1 fl hq hr hne => exact (runIter_msg w m q w1 _ hq hr).trans (if_neg hne)
  | pktExit rx' rd' fr p w1 fl hq hs hp hd hr hne =>
    exact (runIter_pkt w rx' rd' fr p w1 _ hq hs hp hd hr).trans (if_neg hne)
  | closed hq hs => simp only [runIter, hq, hs, ↓reduceIte]
  | codec rx' rd' fr hq hs hp hd => simp only [runIter, hq, hs, hp, hd, ↓reduceIte]
  | panic rx' rd' fr hq hs hp hd => simp only [runIter, hq, hs, hp, hd, ↓reduceIte]
  | sock rx' rd' hq hs hp => simp only [runIter, hq, hs, hp, ↓reduceIte]
  | pending rx' rd' hq hs hp => simp only [runIter, hq, hs, hp, ↓reduceIte]

theorem RunCont.loop {w w1 : World} (h : RunCont w w1) (f : Nat) : runLoop (f + 1) w = runLoop f w1 := by
  rw [runLoop_succ, h.iter]

theorem RunEnd.loop {w r : World} (h : RunEnd w r) (f : Nat) : runLoop (f + 1) w = r := by
  rw [runLoop_succ, h.iter]

/-- zero or more iterations that go on -/
inductive Serve : World → World → Prop
  | refl (w : World) : Serve w w
  | step {w w1 w2 : World} : RunCont w w1 → Serve w1 w2 → Serve w w2

/-- the fuel measure of the loop: queued messages plus the framing measure -/
def loopMu (w : World) : Nat := w.queue.length + mu w.rx w.reader

/-- what a poll of the context task never touches: the configuration, the handles and futures of the user side, the
    identifier counters, the held tasks -/
structure CtxFrame (w w' : World) : Prop extends PollFrame w w' where
  ops : w'.ops = w.ops
  rsps : w'.rsps = w.rsps
  streams : w'.streams = w.streams
  pidCtr : w'.pidCtr = w.pidCtr
  subCtr : w'.subCtr = w.subCtr

theorem CtxFrame.refl (w : World) : CtxFrame w w := ⟨.refl w, rfl, rfl, rfl, rfl, rfl⟩

theorem CtxFrame.trans {a b c : World} (h1 : CtxFrame a b) (h2 : CtxFrame b c) : CtxFrame a c :=
  ⟨h1.toPollFrame.trans h2.toPollFrame, h2.ops.trans h1.ops, h2.rsps.trans h1.rsps, h2.streams.trans h1.streams,
   h2.pidCtr.trans h1.pidCtr, h2.subCtr.trans h1.subCtr⟩

theorem CtxFrame.senders {w w' : World} (h : CtxFrame w w') : w'.senders = w.senders := by
  unfold World.senders; rw [h.handles, h.ops]

theorem runHandler_ctxFrame (w : World) (h : Bool → Ctx × List Eff × Flow) : CtxFrame w (w.runHandler h).1 := by
  obtain ⟨c, sl, sr, ch, wk, wr, o, p, e⟩ := runHandler_shape w h
  rw [e]; exact ⟨⟨rfl, rfl, rfl, rfl, rfl, rfl⟩, rfl, rfl, rfl, rfl, rfl⟩

/-- what the steps after which the loop goes on leave alone: the task, what no poll of the context touches; only `W` / `WRAW`
    lines are logged; the fuel measure does not grow; the framing state stays reachable -/
structure LoopFrame (w w' : World) : Prop where
  task : w'.task = w.task
  ctx : CtxFrame w w'
  out : OutExt w w'
  mu : w.rx.Ok → w'.rx.Ok ∧ loopMu w' ≤ loopMu w
  reach : Reach w.rx → Reach w'.rx

theorem LoopFrame.refl (w : World) : LoopFrame w w :=
  ⟨rfl, .refl w, outExt_refl w, fun h => ⟨h, Nat.le_refl _⟩, id⟩

theorem LoopFrame.trans {a b c : World} (h1 : LoopFrame a b) (h2 : LoopFrame b c) : LoopFrame a c where
  task := h2.task.trans h1.task
  ctx := h1.ctx.trans h2.ctx
  out := outExt_trans h1.out h2.out
  mu := fun hok => ⟨(h2.mu (h1.mu hok).1).1, Nat.le_trans (h2.mu (h1.mu hok).1).2 (h1.mu hok).2⟩
  reach := fun h => h2.reach (h1.reach h)

theorem msgStep_frame {w : World} {m : Msg} {q : List Msg} (hq : w.queue = m :: q) (h : Bool → Ctx × List Eff × Flow) :
    LoopFrame w (({ w with queue := q } : World).runHandler h).1 ∧
    loopMu (({ w with queue := q } : World).runHandler h).1 < loopMu w := by
  have hmu : loopMu (({ w with queue := q } : World).runHandler h).1 < loopMu w := by
    unfold loopMu
    rw [runHandler_queue, runHandler_rx, runHandler_reader, hq]
    exact Nat.add_lt_add_right (Nat.lt_succ_self _) _
  exact ⟨⟨runHandler_task _ _, CtxFrame.trans (b := ({ w with queue := q } : World)) ⟨⟨rfl, rfl, rfl, rfl, rfl, rfl⟩, rfl, rfl, rfl, rfl, rfl⟩
      (runHandler_ctxFrame _ _), outExt_trans (outExt_of_eq rfl) (runHandler_outExt _ _),
    fun hok => ⟨by rw [runHandler_rx]; exact hok, Nat.le_of_lt hmu⟩, fun hr => by rw [runHandler_rx]; exact hr⟩, hmu⟩

theorem pktStep_frame {w : World} {rx' : Rx} {rd' : List ReadEv} {fr : Bytes}
    (hp : pollNext w.rx w.reader = (rx', rd', .item fr)) (h : Bool → Ctx × List Eff × Flow) :
    LoopFrame w (({ w with rx := rx', reader := rd' } : World).runHandler h).1 ∧
    (w.rx.Ok → loopMu (({ w with rx := rx', reader := rd' } : World).runHandler h).1 < loopMu w) := by
  have hmu : w.rx.Ok → rx'.Ok ∧ loopMu (({ w with rx := rx', reader := rd' } : World).runHandler h).1 < loopMu w := by
    intro hok
    obtain ⟨a, _, c⟩ := pollNext_item_mu hok hp
    unfold loopMu
    rw [runHandler_queue, runHandler_rx, runHandler_reader]
    exact ⟨a, Nat.add_lt_add_left (Nat.lt_of_lt_of_le (Nat.lt_add_of_pos_right (by decide)) c) _⟩
  exact ⟨⟨runHandler_task _ _, CtxFrame.trans (b := ({ w with rx := rx', reader := rd' } : World))
      ⟨⟨rfl, rfl, rfl, rfl, rfl, rfl⟩, rfl, rfl, rfl, rfl, rfl⟩ (runHandler_ctxFrame _ _), outExt_trans (outExt_of_eq rfl) (runHandler_outExt _ _),
    fun hok => ⟨by rw [runHandler_rx]; exact (hmu hok).1, Nat.le_of_lt (hmu hok).2⟩,
    fun hr => by rw [runHandler_rx]; exact pollNext_reach hp hr⟩, fun hok => (hmu hok).2⟩

theorem loopMu_lt_loopFuel (w : World) : loopMu w < w.loopFuel := by
  simp only [loopMu, loopFuel, mu]; omega

theorem foldl_writeBytes_shape (pkts : List Bytes) (w : World) :
    ∃ wr pre p, Quiet pre ∧
      pkts.foldl (fun w p => w.writeBytes p) w = { w with written := wr, out := w.out ++ pre, wirePend := p } := by
  induction pkts generalizing w with
  | nil => exact ⟨w.written, [], w.wirePend, quiet_nil, by simp⟩
  | cons b t ih =>
    obtain ⟨wr1, o1, p1, e1⟩ := writeBytes_shape w b
    obtain ⟨pre1, q1, x1⟩ := writeBytes_outExt w b
    obtain ⟨wr, pre, p, q, e⟩ := ih (w.writeBytes b)
    refine ⟨wr, pre1 ++ pre, p, quiet_append q1 q, ?_⟩
    rw [List.foldl_cons, e, x1, e1, List.append_assoc]

/-- the ways the wait for the first response of `connect()` / `authorize()` ends -/
inductive FirstEnd (w : World) (call : Call) (t : ConnectTx) (a : AuthTx) : World → Prop
  | connack (rx' : Rx) (rd' : List ReadEv) (fr : Bytes) (k : ConnackRx) :
      pollNext w.rx w.reader = (rx', rd', .item fr) → decodeRx fr = .ok (.connack k) → k.reason < 128 →
      k.subIdAvail = true →
      FirstEnd w call t a (({ w with rx := rx', reader := rd', c := w.c.handleConnack k }).finish call (.connack k))
  | refused (rx' : Rx) (rd' : List ReadEv) (fr : Bytes) (k : ConnackRx) :
      pollNext w.rx w.reader = (rx', rd', .item fr) → decodeRx fr = .ok (.connack k) → k.reason ≥ 128 →
      FirstEnd w call t a
        (({ w with rx := rx', reader := rd', c := w.c.handleConnack k }).finish call (.connectError k))
  | assertSubId (rx' : Rx) (rd' : List ReadEv) (fr : Bytes) (k : ConnackRx) :
      pollNext w.rx w.reader = (rx', rd', .item fr) → decodeRx fr = .ok (.connack k) → k.reason < 128 →
      k.subIdAvail = false →
      FirstEnd w call t a
        (({ w with rx := rx', reader := rd', c := w.c.handleConnack k, task := .none }).emit
          (.panic .ctx "assert-subid"))
  | auth (rx' : Rx) (rd' : List ReadEv) (fr : Bytes) (au : AuthRx) :
      pollNext w.rx w.reader = (rx', rd', .item fr) → decodeRx fr = .ok (.auth au) →
      FirstEnd w call t a (({ w with rx := rx', reader := rd' }).finish call (.auth au))
  | unexpected (rx' : Rx) (rd' : List ReadEv) (fr : Bytes) (p : RxPacket) :
      pollNext w.rx w.reader = (rx', rd', .item fr) → decodeRx fr = .ok p →
      (∀ k, p ≠ .connack k) → (∀ au, p ≠ .auth au) →
      FirstEnd w call t a (({ w with rx := rx', reader := rd' }).finish call (.err .codecError))
  | codec (rx' : Rx) (rd' : List ReadEv) (fr : Bytes) :
      pollNext w.rx w.reader = (rx', rd', .item fr) → decodeRx fr = .err →
      FirstEnd w call t a (({ w with rx := rx', reader := rd' }).finish call (.err .codecError))
  | panic (rx' : Rx) (rd' : List ReadEv) (fr : Bytes) :
      pollNext w.rx w.reader = (rx', rd', .item fr) → decodeRx fr = .panic →
      FirstEnd w call t a (({ w with rx := rx', reader := rd', task := .none }).emit (.panic .ctx "other"))
  | sock (rx' : Rx) (rd' : List ReadEv) :
      pollNext w.rx w.reader = (rx', rd', .none) →
      FirstEnd w call t a (({ w with rx := rx', reader := rd' }).finish call (.err .socketClosed))
  | pending (rx' : Rx) (rd' : List ReadEv) :
      pollNext w.rx w.reader = (rx', rd', .pending) →
      FirstEnd w call t a
        (if rd' = [] then { w with rx := rx', reader := rd', task := .connecting call t a true, readerReg := true }
         else ({ w with rx := rx', reader := rd', task := .connecting call t a true }).wake .ctx)

theorem awaitFirst_spec (w : World) (call : Call) (t : ConnectTx) (a : AuthTx) :
    FirstEnd w call t a (w.awaitFirst call t a) := by
  unfold awaitFirst
  split
  · rename_i rx' rd' fr hp
    split
    · rename_i k hd
      simp only
      split
      · rename_i hk; exact .refused rx' rd' fr k hp hd hk
      · rename_i hk
        split
        · rename_i hs; exact .assertSubId rx' rd' fr k hp hd (by omega) (by simpa using hs)
        · rename_i hs; exact .connack rx' rd' fr k hp hd (by omega) (by simpa using hs)
    · rename_i au hd; exact .auth rx' rd' fr au hp hd
    · rename_i p h1 h2 hd
      exact .unexpected rx' rd' fr p hp hd (fun k hk => h1 k hk) (fun au hk => h2 au hk)
    · rename_i hd; exact .codec rx' rd' fr hp hd
    · rename_i hd; exact .panic rx' rd' fr hp hd
  · rename_i rx' rd' hp; exact .sock rx' rd' hp
  · rename_i rx' rd' hp; exact .pending rx' rd' hp

theorem FirstEnd.eq {w r : World} {call : Call} {t : ConnectTx} {a : AuthTx} (h : FirstEnd w call t a r) :
    w.awaitFirst call t a = r := by
  cases h with
  | connack rx' rd' fr k hp hd hk hs =>
    have : ¬ k.reason ≥ 128 := by omega
    simp [awaitFirst, hp, hd, this, hs]
  | refused rx' rd' fr k hp hd hk => simp [awaitFirst, hp, hd, hk]
  | assertSubId rx' rd' fr k hp hd hk hs =>
    have : ¬ k.reason ≥ 128 := by omega
    simp [awaitFirst, hp, hd, this, hs]
  | unexpected rx' rd' fr p hp hd h1 h2 =>
    cases p with
    | connack k => exact absurd rfl (h1 k)
    | auth au => exact absurd rfl (h2 au)
    | _ => simp [awaitFirst, hp, hd]
  | auth _ _ _ _ hp hd | codec _ _ _ hp hd | panic _ _ _ hp hd => simp [awaitFirst, hp, hd]
  | sock _ _ hp | pending _ _ hp => simp [awaitFirst, hp]

/-- the request of `connect()` (a CONNECT) resp. `authorize()` (an AUTH) can be encoded -/
def reqValid (call : Call) (t : ConnectTx) (a : AuthTx) : Bool :=
  match call with
  | .connect => t.valid
  | _ => a.valid

theorem pollConnect_true_eq (w : World) (call : Call) (t : ConnectTx) (a : AuthTx) :
    w.pollConnect call t a true = w.awaitFirst call t a := rfl

theorem pollConnect_false_eq (w : World) (call : Call) (t : ConnectTx) (a : AuthTx) :
    w.pollConnect call t a false =
      if !reqValid call t a then w.finish call (.err .codecError)
      else if w.canWrite (W7.reqBytes call t a).length then
        ((W7.seiSet w call t).writeBytes (W7.reqBytes call t a)).awaitFirst call t a
      else ((W7.seiSet w call t).writeBytes (W7.reqBytes call t a)).finish call (.err .socketClosed) := by
  cases call <;> rfl

theorem reqWritten_prelude (w : World) (call : Call) (t : ConnectTx) (a : AuthTx) :
    ((W7.seiSet w call t).writeBytes (W7.reqBytes call t a)).rx = w.rx ∧
    ((W7.seiSet w call t).writeBytes (W7.reqBytes call t a)).reader = w.reader ∧
    OutExt w ((W7.seiSet w call t).writeBytes (W7.reqBytes call t a)) :=
  ⟨by rw [writeBytes_rx]; cases call <;> rfl, by rw [writeBytes_reader]; cases call <;> rfl,
    outExt_trans (outExt_of_eq (by cases call <;> rfl)) (writeBytes_outExt _ _)⟩

end World
end Poster

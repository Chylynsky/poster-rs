/-
  The code-shaped decoders (Prim/Props/Rx) read back what the specification encoders (Spec/Server) wrote: one round trip
  per primitive; `KindOk` ties the value table of the standard to the dispatch table of the model, so one property is one
  lemma for all 27 identifiers; and the property loop over the bytes is the plain fold `foldO step` over the list.
-/
import PosterModel.Spec.Server
import PosterModel.Lemmas.PrimFacts

namespace Poster
open Spec Spec.Server

@[simp] theorem sU8_length (n : Nat) : (sU8 n).length = 1 := rfl
@[simp] theorem sU16_length (n : Nat) : (sU16 n).length = 2 := rfl
@[simp] theorem sU32_length (n : Nat) : (sU32 n).length = 4 := rfl
@[simp] theorem sStr_length (s : Bytes) : (sStr s).length = 2 + s.length := by simp [sStr]
@[simp] theorem sPair_length (k v : Bytes) : (sPair k v).length = 4 + k.length + v.length := by
  simp [sPair]; omega

theorem sVarLoop_eq_vbi (f x : Nat) : sVarLoop f x = vbi f x := by
  induction f generalizing x with
  | zero => rfl
  | succ f ih =>
    by_cases h : x < 128
    · rw [vbi_lt f h, sVarLoop, if_neg (by omega), Nat.mod_eq_of_lt h]
    · rw [vbi_ge f h, sVarLoop, if_pos (by omega), ih]

/-- on its domain the standard's canonical variable byte integer is what the model's encoder writes, so what is known
    about `encVar` (1..4 bytes, read back by `decVar`) holds of `sVar` -/
theorem sVar_eq_encVar (n : Nat) (h : n ≤ 268435455) : sVar n = encVar n := by
  rw [sVar, sVarLoop_eq_vbi, encVar_eq_vbi n (Nat.lt_succ_of_le h)]

theorem sVar_length_pos (n : Nat) : 1 ≤ (sVar n).length := by
  unfold sVar sVarLoop
  split <;> simp

theorem sVar_length_le (n : Nat) (h : n ≤ 268435455) : (sVar n).length ≤ 4 := by
  rw [sVar_eq_encVar n h, ← varLen_eq]; exact varLen_le_four n

theorem tryDec_append {α} {dec : Bytes → Res α} {len : α → Nat} {e r : Bytes} {v : α}
    (hd : dec (e ++ r) = .ok v) (hl : len v = e.length) : tryDec dec len (e ++ r) = .ok (v, r) := by
  simp [tryDec, hd, hl]

theorem dU8_s (n : Nat) (h : n < 256) (r : Bytes) : dU8 (sU8 n ++ r) = .ok (n, r) := by
  apply tryDec_append
  · simp [sU8, decU8]; omega
  · rfl

theorem dU16_s (n : Nat) (h : n < 65536) (r : Bytes) : dU16 (sU16 n ++ r) = .ok (n, r) := by
  apply tryDec_append
  · simp [sU16, decU16, u16_digits h]
  · rfl

theorem dNzU16_s (n : Nat) (h0 : 0 < n) (h : n < 65536) (r : Bytes) : dNzU16 (sU16 n ++ r) = .ok (n, r) := by
  apply tryDec_append
  · simp [sU16, decNzU16, decU16, u16_digits h, Nat.ne_of_gt h0]
  · rfl

theorem dU32_s (n : Nat) (h : n < 4294967296) (r : Bytes) : dU32 (sU32 n ++ r) = .ok (n, r) := by
  apply tryDec_append
  · simp [sU32, decU32, u32_digits h]
  · rfl

theorem dNzU32_s (n : Nat) (h0 : 0 < n) (h : n < 4294967296) (r : Bytes) : dNzU32 (sU32 n ++ r) = .ok (n, r) := by
  apply tryDec_append
  · simp [sU32, decNzU32, decU32, u32_digits h, Nat.ne_of_gt h0]
  · rfl

theorem dBool_s (b : Bool) (r : Bytes) : dBool (sU8 (if b then 1 else 0) ++ r) = .ok (b, r) := by
  apply tryDec_append
  · cases b <;> simp [sU8, decBool]
  · rfl

theorem dQoS_s (n : Nat) (h : n ≤ 2) (r : Bytes) : dQoS (sU8 n ++ r) = .ok (n, r) := by
  apply tryDec_append
  · have h1 : n % 256 = n := by omega
    simp [sU8, decQoS, h1, h]
  · rfl

theorem decVar_s (n : Nat) (h : n ≤ 268435455) (r : Bytes) : decVar (sVar n ++ r) = .ok n (sVar n).length := by
  rw [sVar_eq_encVar n h, decVar_encVar n (by omega), varLen_eq]

theorem dVar_s (n : Nat) (h : n ≤ 268435455) (r : Bytes) :
    dVar (sVar n ++ r) = .ok ((n, (sVar n).length), r) := by
  apply tryDec_append
  · simp [decVarR, decVar_s n h r]
  · rfl

theorem dNzVar_s (n : Nat) (h : n ≤ 268435455) (r : Bytes) :
    dNzVar (sVar n ++ r) = .ok ((n, (sVar n).length), r) :=
  dVar_s n h r

theorem decBin_s (s : Bytes) (h : s.length ≤ 65535) (r : Bytes) : decBin (sStr s ++ r) = .ok s := by
  simp [sStr, sU16, decBin, u16_digits (Nat.lt_succ_of_le h)]

theorem dBin_s (s : Bytes) (h : s.length ≤ 65535) (r : Bytes) : dBin (sStr s ++ r) = .ok (s, r) := by
  apply tryDec_append
  · exact decBin_s s h r
  · simp [strLen]

theorem decStr_s (s : Bytes) (h : strOk s = true) (r : Bytes) : decStr (sStr s ++ r) = .ok s := by
  simp only [strOk, Bool.and_eq_true, decide_eq_true_eq] at h
  simp [decStr, decBin_s s h.1 r, h.2]

theorem dStr_s (s : Bytes) (h : strOk s = true) (r : Bytes) : dStr (sStr s ++ r) = .ok (s, r) := by
  apply tryDec_append
  · exact decStr_s s h r
  · simp [strLen]

theorem dPair_s (k v : Bytes) (hk : strOk k = true) (hv : strOk v = true) (r : Bytes) :
    dPair (sPair k v ++ r) = .ok ((k, v), r) := by
  apply tryDec_append
  · have e : (sStr k ++ (sStr v ++ r)).drop (2 + k.length) = sStr v ++ r := by
      rw [List.drop_left']; simp
    simp only [decPair, sPair, List.append_assoc, decStr_s k hk, Res.bind_ok, e, decStr_s v hv]
  · simp [pairLen]

theorem dReason_s (ok : Nat → Bool) (n : Nat) (h : n < 256) (hok : ok n = true) (r : Bytes) :
    dReason ok (sU8 n ++ r) = .ok (n, r) := by
  unfold dReason
  apply tryDec_append
  · have h1 : n % 256 = n := by omega
    simp [sU8, decU8, h1, hok]
  · rfl

/-- A value the standard admits under an identifier, seen from the model: it is a value of the kind `k` the model's
    dispatch table gives the identifier, written as the identifier's wire type `t`. -/
inductive KindOk : PKind → WireType → PVal → Prop
  | flag (b : Bool) : KindOk .bool .byte (.bool b)
  | qos {n : Nat} (h : n ≤ 1) : KindOk .qos .byte (.num n)
  | u16 {n : Nat} (h : n ≤ 65535) : KindOk .u16 .twoByte (.num n)
  | nzu16 {n : Nat} (h0 : 1 ≤ n) (h : n ≤ 65535) : KindOk .nzu16 .twoByte (.num n)
  | u32 {n : Nat} (h : n ≤ 4294967295) : KindOk .u32 .fourByte (.num n)
  | nzu32 {n : Nat} (h0 : 1 ≤ n) (h : n ≤ 4294967295) : KindOk .nzu32 .fourByte (.num n)
  | var {n : Nat} (h : n ≤ varIntMax) : KindOk .var .varInt (.var n (sVar n).length)
  | str {s : Bytes} (h : strOk s = true) : KindOk .str .utf8 (.bytes s)
  | bin {s : Bytes} (h : binOk s = true) : KindOk .bin .binary (.bytes s)
  | pair {k v : Bytes} (hk : strOk k = true) (hv : strOk v = true) : KindOk .pair .utf8Pair (.pair k v)

theorem dVal_sVal {k : PKind} {t : WireType} {v : PVal} (h : KindOk k t v) (r : Bytes) :
    dVal k (sVal t v ++ r) = .ok (v, r) ∧ valLen v k = (sVal t v).length := by
  cases h with
  | flag b => exact ⟨by simp [dVal, sVal, dBool_s, Res.map], rfl⟩
  | qos h => exact ⟨by simp [dVal, sVal, dQoS_s _ (Nat.le_succ_of_le h), Res.map], rfl⟩
  | u16 h => exact ⟨by simp [dVal, sVal, dU16_s _ (Nat.lt_succ_of_le h), Res.map], rfl⟩
  | nzu16 h0 h => exact ⟨by simp [dVal, sVal, dNzU16_s _ h0 (Nat.lt_succ_of_le h), Res.map], rfl⟩
  | u32 h => exact ⟨by simp [dVal, sVal, dU32_s _ (Nat.lt_succ_of_le h), Res.map], rfl⟩
  | nzu32 h0 h => exact ⟨by simp [dVal, sVal, dNzU32_s _ h0 (Nat.lt_succ_of_le h), Res.map], rfl⟩
  | var h => exact ⟨by simp [dVal, sVal, dNzVar_s _ h, Res.map], rfl⟩
  | str h => exact ⟨by simp [dVal, sVal, dStr_s _ h, Res.map], by simp [valLen, sVal, strLen]⟩
  | bin h =>
    exact ⟨by simp [dVal, sVal, dBin_s _ (of_decide_eq_true h), Res.map], by simp [valLen, sVal, strLen]⟩
  | pair hk hv => exact ⟨by simp [dVal, sVal, dPair_s _ _ hk hv, Res.map], by simp [valLen, sVal, pairLen]⟩

theorem isFlag_kind {v : PVal} (h : isFlag v = true) : KindOk .bool .byte v := by
  cases v with
  | bool b => exact .flag b
  | _ => cases h

theorem isNum_kind {lo hi : Nat} {v : PVal} {k : PKind} {t : WireType} (h : isNum lo hi v = true)
    (c : ∀ n, lo ≤ n → n ≤ hi → KindOk k t (.num n)) : KindOk k t v := by
  cases v with
  | num n => have := h; simp only [isNum, Bool.and_eq_true, decide_eq_true_eq] at this; exact c n this.1 this.2
  | _ => cases h

theorem isSubId_kind {v : PVal} (h : isSubId v = true) : KindOk .var .varInt v := by
  cases v with
  | var n l =>
    simp only [isSubId, Bool.and_eq_true, decide_eq_true_eq] at h
    obtain ⟨⟨_, h1⟩, rfl⟩ := h
    exact .var h1
  | _ => cases h

theorem isStr_kind {v : PVal} (h : isStr v = true) : KindOk .str .utf8 v := by
  cases v with
  | bytes s => exact .str h
  | _ => cases h

theorem isBin_kind {v : PVal} (h : isBin v = true) : KindOk .bin .binary v := by
  cases v with
  | bytes s => exact .bin h
  | _ => cases h

theorem isPair_kind {v : PVal} (h : isPair v = true) : KindOk .pair .utf8Pair v := by
  cases v with
  | pair k w => exact .pair (Bool.and_eq_true_iff.mp h).1 (Bool.and_eq_true_iff.mp h).2
  | _ => cases h

/-- The standard's value table against the model's dispatch table and the wire types, row by row, once: an admitted
    value is a value of the identifier's kind; every identifier fits one byte. -/
theorem valOk_kind {id : Nat} {v : PVal} (h : valOk id v = true) :
    id < 128 ∧ ∃ k t, propKind id = some k ∧ wireType id = some t ∧ KindOk k t v := by
  unfold valOk at h
  split at h
  · exact ⟨by decide, _, _, rfl, rfl, isFlag_kind h⟩
  · exact ⟨by decide, _, _, rfl, rfl, isNum_kind h fun _ _ h1 => .u32 h1⟩
  · exact ⟨by decide, _, _, rfl, rfl, isStr_kind h⟩
  · exact ⟨by decide, _, _, rfl, rfl, isStr_kind h⟩
  · exact ⟨by decide, _, _, rfl, rfl, isBin_kind h⟩
  · exact ⟨by decide, _, _, rfl, rfl, isSubId_kind h⟩
  · exact ⟨by decide, _, _, rfl, rfl, isNum_kind h fun _ _ h1 => .u32 h1⟩
  · exact ⟨by decide, _, _, rfl, rfl, isStr_kind h⟩
  · exact ⟨by decide, _, _, rfl, rfl, isNum_kind h fun _ _ h1 => .u16 h1⟩
  · exact ⟨by decide, _, _, rfl, rfl, isStr_kind h⟩
  · exact ⟨by decide, _, _, rfl, rfl, isBin_kind h⟩
  · exact ⟨by decide, _, _, rfl, rfl, isFlag_kind h⟩
  · exact ⟨by decide, _, _, rfl, rfl, isNum_kind h fun _ _ h1 => .u32 h1⟩
  · exact ⟨by decide, _, _, rfl, rfl, isFlag_kind h⟩
  · exact ⟨by decide, _, _, rfl, rfl, isStr_kind h⟩
  · exact ⟨by decide, _, _, rfl, rfl, isStr_kind h⟩
  · exact ⟨by decide, _, _, rfl, rfl, isStr_kind h⟩
  · exact ⟨by decide, _, _, rfl, rfl, isNum_kind h fun _ h0 h1 => .nzu16 h0 h1⟩
  · exact ⟨by decide, _, _, rfl, rfl, isNum_kind h fun _ _ h1 => .u16 h1⟩
  · exact ⟨by decide, _, _, rfl, rfl, isNum_kind h fun _ h0 h1 => .nzu16 h0 h1⟩
  · exact ⟨by decide, _, _, rfl, rfl, isNum_kind h fun _ _ h1 => .qos h1⟩
  · exact ⟨by decide, _, _, rfl, rfl, isFlag_kind h⟩
  · exact ⟨by decide, _, _, rfl, rfl, isPair_kind h⟩
  · exact ⟨by decide, _, _, rfl, rfl, isNum_kind h fun _ h0 h1 => .nzu32 h0 h1⟩
  · exact ⟨by decide, _, _, rfl, rfl, isFlag_kind h⟩
  · exact ⟨by decide, _, _, rfl, rfl, isFlag_kind h⟩
  · exact ⟨by decide, _, _, rfl, rfl, isFlag_kind h⟩
  · cases h

theorem valOk_kind' {id : Nat} {v : PVal} (h : valOk id v = true) {k : PKind} {t : WireType} (hk : propKind id = some k)
    (ht : wireType id = some t) : KindOk k t v := by
  obtain ⟨_, k', t', hk', ht', hs⟩ := valOk_kind h
  cases hk.symm.trans hk'
  cases ht.symm.trans ht'
  exact hs

/-- `decoder.try_decode::<Property>()` reads back a legal property and leaves the rest of the buffer: the identifier is
    one byte, the value is read back by the decoder of its kind, and `byte_len` is what was written -/
theorem dProp_sProp (p : Property) (h : valOk p.id p.val = true) (r : Bytes) :
    dProp (sProp p ++ r) = .ok (p, r) := by
  obtain ⟨id, v⟩ := p
  obtain ⟨h128, k, t, hk, ht, hs⟩ := valOk_kind (id := id) (v := v) h
  obtain ⟨hv, hl⟩ := dVal_sVal hs r
  have e : sProp ⟨id, v⟩ = sU8 id ++ sVal t v := by
    simp only [sProp, ht, sVar, sVarLoop_eq_vbi, vbi_lt 3 h128, sU8]
  unfold dProp
  apply tryDec_append
  · simp [e, decProp, dU8_s id (by omega), hk, hv, Res.map]
  · simp [e, propLen, hk, hl]

/-- the builder loop without the bytes: hand the properties to `step` one after another; `none` = a property the
    packet type does not take -/
def foldO {β} (step : β → Property → Option β) : β → List Property → Option β
  | b, [] => some b
  | b, p :: ps =>
    match step b p with
    | some b' => foldO step b' ps
    | none => none

def optRes {β} : Option β → Res β
  | some b => .ok b
  | none => .err

theorem sProp_length_pos (p : Property) (h : valOk p.id p.val = true) : 0 < (sProp p).length :=
  List.length_pos_iff.mpr fun hn => by
    have hd := dProp_sProp p h []
    rw [hn] at hd
    cases hd

theorem foldProps_succ {β} (step : β → Property → Option β) (f : Nat) (bs : Bytes) (h : bs ≠ []) (b : β) :
    foldProps step (f + 1) bs b =
      match dProp bs with
      | .ok (p, r) =>
        match step b p with
        | some b' => foldProps step f r b'
        | none => .err
      | .err => .err
      | .panic => .panic := by
  cases bs with
  | nil => exact absurd rfl h
  | cons x t =>
    cases hd : dProp (x :: t) with
    | ok pr => obtain ⟨p, r⟩ := pr; cases hs : step b p <;> simp [foldProps, hd, hs]
    | err => simp [foldProps, hd]
    | panic => simp [foldProps, hd]

/-- **The generic property-loop lemma.** On the bytes of a list of legal properties (and enough fuel) the decoder's
    `for property in decoder.iter::<Property>() { builder.step(property) }` is the fold of `step` over the list. -/
theorem foldProps_sProps {β} (step : β → Property → Option β) (ps : List Property)
    (hok : ∀ p ∈ ps, valOk p.id p.val = true) (n : Nat) (hn : (sProps ps).length ≤ n) (b : β) :
    foldProps step n (sProps ps) b = optRes (foldO step b ps) := by
  induction ps generalizing n b with
  | nil => cases n <;> simp [sProps, foldProps, foldO, optRes]
  | cons p ps ih =>
    have hp := sProp_length_pos p (hok p (by simp))
    simp only [sProps, List.length_append] at hn ⊢
    cases n with
    | zero => omega
    | succ f =>
      have hne : sProp p ++ sProps ps ≠ [] := List.append_ne_nil_of_left_ne_nil (List.ne_nil_of_length_pos hp) _
      rw [foldProps_succ step f _ hne, dProp_sProp p (hok p (by simp))]
      simp only [foldO]
      cases step b p with
      | none => simp [optRes]
      | some b' => exact ih (fun q hq => hok q (by simp [hq])) f (by omega) b'

@[simp] theorem find_nil (i : Nat) : find i [] = none := rfl
@[simp] theorem find_cons (i j : Nat) (v : PVal) (ps : List Property) :
    find i (⟨j, v⟩ :: ps) = if j = i then some v else find i ps := rfl

theorem find_absent {i : Nat} {ps : List Property} (h : ∀ q ∈ ps, q.id ≠ i) : find i ps = none := by
  induction ps with
  | nil => rfl
  | cons q qs ih =>
    obtain ⟨j, v⟩ := q
    rw [find_cons, if_neg (h _ List.mem_cons_self)]
    exact ih fun x hx => h x (List.mem_cons_of_mem _ hx)

theorem find_none {i : Nat} {ps : List Property} (h : (ps.all fun q => q.id != i) = true) : find i ps = none :=
  find_absent fun q hq => bne_iff_ne.mp (List.all_eq_true.mp h q hq)

theorem getBytes_none {i : Nat} {ps : List Property} (h : (ps.all fun q => q.id != i) = true) :
    getBytes i ps = none := by simp [getBytes, find_none h]

@[simp] theorem getBool_nil (i : Nat) : getBool i [] = none := rfl
@[simp] theorem getNum_nil (i : Nat) : getNum i [] = none := rfl
@[simp] theorem getBytes_nil (i : Nat) : getBytes i [] = none := rfl
@[simp] theorem users_nil : users [] = [] := rfl
@[simp] theorem subIds_nil : subIds [] = [] := rfl

theorem get_cons_ne {i j : Nat} (v : PVal) (ps : List Property) (h : j ≠ i) :
    getBool i (⟨j, v⟩ :: ps) = getBool i ps ∧ getNum i (⟨j, v⟩ :: ps) = getNum i ps ∧
    getBytes i (⟨j, v⟩ :: ps) = getBytes i ps := by simp [getBool, getNum, getBytes, h]

theorem get_cons_fresh {p : Property} {ps : List Property} (h0 : find p.id ps = none) (j : Nat) :
    getBool j (p :: ps) = (getBool j ps).or (getBool j [p]) ∧ getNum j (p :: ps) = (getNum j ps).or (getNum j [p]) ∧
    getBytes j (p :: ps) = (getBytes j ps).or (getBytes j [p]) := by
  obtain ⟨i, v⟩ := p
  by_cases h : i = j
  · subst h; simp only [getBool, getNum, getBytes, find_cons, h0, ↓reduceIte, Option.none_or, and_self]
  · simp only [getBool, getNum, getBytes, find_cons, h, ↓reduceIte, find_nil, Option.or_none, and_self]

@[simp] theorem getBool_cons_eq (i : Nat) (b : Bool) (ps : List Property) :
    getBool i (⟨i, .bool b⟩ :: ps) = some b := by simp [getBool]
@[simp] theorem getNum_cons_eq (i : Nat) (n : Nat) (ps : List Property) :
    getNum i (⟨i, .num n⟩ :: ps) = some n := by simp [getNum]
@[simp] theorem getBytes_cons_eq (i : Nat) (s : Bytes) (ps : List Property) :
    getBytes i (⟨i, .bytes s⟩ :: ps) = some s := by simp [getBytes]

@[simp] theorem users_cons_pair (k v : Bytes) (ps : List Property) :
    users (⟨38, .pair k v⟩ :: ps) = (k, v) :: users ps := by simp [users]
theorem users_cons_ne {j : Nat} (v : PVal) (ps : List Property) (h : j ≠ 38) :
    users (⟨j, v⟩ :: ps) = users ps := by
  cases v <;> simp [users, h]
@[simp] theorem subIds_cons_var (v l : Nat) (ps : List Property) :
    subIds (⟨11, .var v l⟩ :: ps) = v :: subIds ps := by simp [subIds]
theorem subIds_cons_ne {j : Nat} (v : PVal) (ps : List Property) (h : j ≠ 11) :
    subIds (⟨j, v⟩ :: ps) = subIds ps := by
  cases v <;> simp [subIds, h]

theorem users_absent {ps : List Property} (h : ∀ q ∈ ps, q.id ≠ 38) : users ps = [] := by
  induction ps with
  | nil => rfl
  | cons q qs ih =>
    obtain ⟨j, v⟩ := q
    rw [users_cons_ne v qs (h _ List.mem_cons_self)]
    exact ih fun x hx => h x (List.mem_cons_of_mem _ hx)

theorem propsOk_cons {legal multi : List Nat} {p : Property} {ps : List Property}
    (h : propsOk legal multi (p :: ps) = true) :
    legal.contains p.id = true ∧ valOk p.id p.val = true ∧
    (multi.contains p.id = true ∨ (ps.all fun q => q.id != p.id) = true) ∧ propsOk legal multi ps = true := by
  simp only [propsOk, List.all_cons, uniqueExcept, Bool.and_eq_true, Bool.or_eq_true] at h ⊢
  obtain ⟨⟨⟨h1, h2⟩, h3⟩, h4, h5⟩ := h
  exact ⟨h1, h2, h4, h3, h5⟩

theorem propsOk_valOk {legal multi : List Nat} {ps : List Property} (h : propsOk legal multi ps = true) :
    ∀ p ∈ ps, valOk p.id p.val = true := by
  intro p hp
  simp only [propsOk, Bool.and_eq_true, List.all_eq_true] at h
  exact (h.1 p hp).2

end Poster

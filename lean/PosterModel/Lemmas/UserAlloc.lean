/-
  The identifier counters of `ContextHandle` (`packet_id` / `sub_id`, both an `AtomicU*::fetch_update` that cycles through
  1..=MAX) as pure successor functions, and their closed forms.
-/
import PosterModel.World

namespace Poster

/-- one `fetch_update` step of the packet identifier counter: 1, 2, …, 65535, 1, 2, … -/
def nextPid (c : Nat) : Nat := if c ≥ 65535 then 1 else c + 1

/-- one `fetch_update` step of the subscription identifier counter: 1, 2, …, 268435455, 1, … -/
def nextSub (c : Nat) : Nat := if c ≥ 268435455 then 1 else c + 1

/-- `iter f k a` = `f` applied `k` times to `a` (`Nat.iterate` of Mathlib; core has no such function) -/
def iter {α} (f : α → α) : Nat → α → α
  | 0, a => a
  | k+1, a => iter f k (f a)

namespace User

theorem iter_succ' {α} (f : α → α) (k : Nat) (a : α) : iter f (k+1) a = f (iter f k a) := by
  induction k generalizing a with
  | zero => rfl
  | succ k ih => exact ih (f a)

theorem iter_add {α} (f : α → α) (i j : Nat) (a : α) : iter f (i + j) a = iter f j (iter f i a) := by
  induction i generalizing a with
  | zero => simp [iter]
  | succ i ih =>
    have : i + 1 + j = (i + j) + 1 := by omega
    rw [this]; exact ih (f a)

/-- one step of a counter that cycles through 1, 2, …, M; `nextPid` and `nextSub` are, by unfolding, `nextCyc 65535`
    and `nextCyc 268435455` -/
def nextCyc (M c : Nat) : Nat := if c ≥ M then 1 else c + 1

theorem nextCyc_range (M c : Nat) (hM : 1 ≤ M) : 1 ≤ nextCyc M c ∧ nextCyc M c ≤ M := by
  unfold nextCyc; split <;> omega

theorem nextCyc_closed (M c k : Nat) (h : 1 ≤ c ∧ c ≤ M) : iter (nextCyc M) k c = (c - 1 + k) % M + 1 := by
  induction k generalizing c with
  | zero => simp only [iter, Nat.add_zero]; rw [Nat.mod_eq_of_lt (by omega)]; omega
  | succ k ih =>
    simp only [iter]
    rw [ih _ (nextCyc_range M c (by omega))]
    unfold nextCyc
    split
    · -- `c = M`: the cycle wraps, and `M - 1 + (k + 1) = k + M`
      have hc : c - 1 + (k + 1) = 1 - 1 + k + M := by omega
      rw [hc, Nat.add_mod_right]
    · have hc : c + 1 - 1 + k = c - 1 + (k + 1) := by omega
      rw [hc]

/-- two values of the cycle fewer than `M` steps apart differ: equal residues would make `M` divide `j - i` -/
theorem nextCyc_unique_window (M c i j : Nat) (h : 1 ≤ c ∧ c ≤ M) (hij : i < j) (hw : j - i < M) :
    iter (nextCyc M) i c ≠ iter (nextCyc M) j c := by
  rw [nextCyc_closed M c i h, nextCyc_closed M c j h]
  intro e
  have hd := Nat.sub_mod_eq_zero_of_mod_eq (Nat.succ.inj e).symm
  rw [show c - 1 + j - (c - 1 + i) = j - i by omega, Nat.mod_eq_of_lt hw] at hd
  omega

theorem nextCyc_period (M c i : Nat) (h : 1 ≤ c ∧ c ≤ M) : iter (nextCyc M) (i + M) c = iter (nextCyc M) i c := by
  rw [nextCyc_closed M c _ h, nextCyc_closed M c i h, ← Nat.add_assoc, Nat.add_mod_right]

theorem nextCyc_ne (M c : Nat) (hM : 2 ≤ M) : nextCyc M c ≠ c := by
  unfold nextCyc; split <;> omega

theorem nextCyc_of_lt (M c : Nat) (h : c < M) : nextCyc M c = c + 1 := by
  unfold nextCyc; split <;> omega

theorem nextPid_range (c : Nat) : 1 ≤ nextPid c ∧ nextPid c ≤ 65535 := nextCyc_range 65535 c (by omega)

theorem nextSub_range (c : Nat) : 1 ≤ nextSub c ∧ nextSub c ≤ 268435455 := nextCyc_range 268435455 c (by omega)

theorem iter_of_chain {α β} (g : α → β) (f : β → β) (b0 : β) (xs : List α)
    (h0 : ∀ h : 0 < xs.length, g xs[0] = b0)
    (hlink : ∀ k (h : k + 1 < xs.length), g xs[k+1] = f (g xs[k]))
    (k : Nat) (hk : k < xs.length) : g xs[k] = iter f k b0 := by
  induction k with
  | zero => exact h0 hk
  | succ k ih => rw [iter_succ', ← ih (by omega)]; exact hlink k hk

end User

theorem nextPid_ne (c : Nat) : nextPid c ≠ c := User.nextCyc_ne 65535 c (by omega)
theorem nextPid_of_lt (c : Nat) (h : c < 65535) : nextPid c = c + 1 := User.nextCyc_of_lt 65535 c h
theorem nextSub_ne (c : Nat) : nextSub c ≠ c := User.nextCyc_ne 268435455 c (by omega)
theorem nextSub_of_lt (c : Nat) (h : c < 268435455) : nextSub c = c + 1 := User.nextCyc_of_lt 268435455 c h

end Poster

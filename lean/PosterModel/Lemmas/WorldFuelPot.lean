/-
  The potential `W5.phi` that every poll of the executor decreases where `OwnInv` and `RegInv` hold
  (`pollTaskAny_phi`, Lemmas/WorldFuel.lean; C04: the drain always reaches quiescence):
  definitions, and the arithmetic of sums over the operation table and the stream list.

    phi w = [context flagged] + [context alive with a sender] + mu rx reader + opsPot w + stPot w

  * an operation that is not held costs 6 while it was never polled, 3 while it waits for its PUBREC, 1 otherwise,
    plus 1 when it is flagged although its oneshot has no value yet (a poll would only register);
  * a stream that is not held costs 2 when flagged (or registered on a channel whose sender is gone), 1 otherwise,
    plus 1 while the sender of its channel is alive; every buffered message costs 1;
  * `mu` is the framing measure (bytes and events still to be read, bytes buffered).
-/
import PosterModel.Lemmas.WorldFrame
import PosterModel.Lemmas.Framing

namespace Poster
open Framing
namespace World

/-- the number of messages buffered in subscription channels (a summand of `drainFuel`) -/
def bufSum (w : World) : Nat := (w.chans.map fun c => c.2.buf.length).sum

theorem bufSum_setChan_le (w : World) (id : Nat) (v : Chan) (hv : v.buf = []) :
    bufSum (w.setChan id v) ≤ bufSum w := by
  have := sum_map_setAssoc_le (fun c : Nat × Chan => c.2.buf.length) id v w.chans
  simp only [hv, List.length_nil, Nat.add_zero] at this
  exact this

theorem bufSum_setChan {w : World} {id : Nat} {ch : Chan} (h : w.chan id = some ch) (v : Chan) :
    bufSum (w.setChan id v) + ch.buf.length = bufSum w + v.buf.length :=
  sum_map_setAssoc (fun c : Nat × Chan => c.2.buf.length) id ch v w.chans h

namespace W5

theorem sum_map_le {α} (f g : α → Nat) (l : List α) (h : ∀ x ∈ l, f x ≤ g x) :
    (l.map f).sum ≤ (l.map g).sum := by
  induction l with
  | nil => simp
  | cons a t ih =>
    simp only [List.map_cons, List.sum_cons]
    exact Nat.add_le_add (h a List.mem_cons_self) (ih (fun x hx => h x (List.mem_cons_of_mem _ hx)))

theorem sum_map_le_gap {α} (f g : α → Nat) (l : List α) (h : ∀ x ∈ l, f x ≤ g x) (a : α) (ha : a ∈ l) (d : Nat)
    (hd : f a + d ≤ g a) : (l.map f).sum + d ≤ (l.map g).sum := by
  induction l with
  | nil => cases ha
  | cons b t ih =>
    have ht : ∀ x ∈ t, f x ≤ g x := fun x hx => h x (List.mem_cons_of_mem _ hx)
    have hb := h b List.mem_cons_self
    simp only [List.map_cons, List.sum_cons]
    rcases List.mem_cons.mp ha with rfl | ha'
    · rw [Nat.add_right_comm]
      exact Nat.add_le_add hd (sum_map_le f g t ht)
    · rw [Nat.add_assoc]
      exact Nat.add_le_add hb (ih ht ha')

theorem sum_map_filter_le {α} (f : α → Nat) (p : α → Bool) (l : List α) :
    ((l.filter p).map f).sum ≤ (l.map f).sum := by
  induction l with
  | nil => simp
  | cons a t ih =>
    simp only [List.filter_cons]
    split
    · simp only [List.map_cons, List.sum_cons]
      exact Nat.add_le_add_left ih _
    · simp only [List.map_cons, List.sum_cons]
      exact Nat.le_trans ih (Nat.le_add_left _ _)

theorem sum_map_filter_gap {α} [DecidableEq α] (f : α → Nat) (a : α) (l : List α) (ha : a ∈ l) :
    ((l.filter (fun x => decide (x ≠ a))).map f).sum + f a ≤ (l.map f).sum := by
  induction l with
  | nil => cases ha
  | cons b t ih =>
    simp only [List.filter_cons]
    by_cases hb : b = a
    · subst hb
      have := sum_map_filter_le f (fun x => decide (x ≠ b)) t
      simp only [ne_eq] at this
      simp only [ne_eq, not_true_eq_false, decide_false, Bool.false_eq_true, ↓reduceIte, List.map_cons,
        List.sum_cons]
      rw [Nat.add_comm]
      exact Nat.add_le_add_left this _
    · have ha' : a ∈ t := by
        rcases List.mem_cons.mp ha with h | h
        · exact absurd h.symm hb
        · exact h
      have := ih ha'
      simp only [ne_eq] at this
      simp only [ne_eq, hb, not_false_eq_true, decide_true, ↓reduceIte, List.map_cons, List.sum_cons]
      rw [Nat.add_assoc]
      exact Nat.add_le_add_left this _

/-! ## the distinct members of a list (the stream list may name a stream twice when a script re-uses an id) -/

def uniq : List Nat → List Nat
  | [] => []
  | a :: t => a :: (uniq t).filter (fun x => decide (x ≠ a))

theorem mem_uniq (x : Nat) (l : List Nat) : x ∈ uniq l ↔ x ∈ l := by
  induction l with
  | nil => simp [uniq]
  | cons a t ih =>
    simp only [uniq, List.mem_cons, List.mem_filter, ih, decide_eq_true_eq]
    constructor
    · rintro (h | ⟨h, _⟩)
      · exact Or.inl h
      · exact Or.inr h
    · rintro (h | h)
      · exact Or.inl h
      · by_cases hx : x = a
        · exact Or.inl hx
        · exact Or.inr ⟨h, hx⟩

private theorem nodup_uniq (l : List Nat) : (uniq l).Nodup := by
  induction l with
  | nil => simp [uniq]
  | cons a t ih =>
    simp only [uniq, List.nodup_cons, List.mem_filter, decide_eq_true_eq]
    exact ⟨fun h => h.2 rfl, ih.filter _⟩

theorem length_uniq_le (l : List Nat) : (uniq l).length ≤ l.length := by
  induction l with
  | nil => simp [uniq]
  | cons a t ih =>
    have := List.length_filter_le (fun x => decide (x ≠ a)) (uniq t)
    simp only [uniq, List.length_cons]; omega

theorem uniq_filter (p : Nat → Bool) (l : List Nat) : uniq (l.filter p) = (uniq l).filter p := by
  induction l with
  | nil => simp [uniq]
  | cons a t ih =>
    simp only [List.filter_cons]
    by_cases hp : p a = true
    · simp only [hp, ↓reduceIte, uniq, List.filter_cons, ih]
      rw [filter_filter_comm]
    · simp only [hp, Bool.false_eq_true, ↓reduceIte, uniq, List.filter_cons, ih, List.filter_filter]
      apply List.filter_congr
      intro x hx
      by_cases hxa : x = a
      · subst hxa; simp [hp]
      · simp [hxa]

private theorem sum_map_le_one {l : List Nat} (hn : l.Nodup) (c d : Nat) (f g : Nat → Nat)
    (h : ∀ x ∈ l, x ≠ c → f x ≤ g x) (hc : f c ≤ g c + d) : (l.map f).sum ≤ (l.map g).sum + d := by
  induction l with
  | nil => simp
  | cons a t ih =>
    obtain ⟨hat, hnt⟩ := List.nodup_cons.mp hn
    have ht : ∀ x ∈ t, x ≠ c → f x ≤ g x := fun x hx => h x (List.mem_cons_of_mem _ hx)
    simp only [List.map_cons, List.sum_cons]
    by_cases hac : a = c
    · subst hac
      have : (t.map f).sum ≤ (t.map g).sum :=
        sum_map_le f g t (fun x hx => ht x hx (fun e => hat (e ▸ hx)))
      rw [Nat.add_right_comm]
      exact Nat.add_le_add hc this
    · rw [Nat.add_assoc]
      exact Nat.add_le_add (h a List.mem_cons_self hac) (ih hnt ht)

def opBase : OpSt → Nat
  | .fresh _ _ => 6
  | .wait _ .pubrec => 3
  | .wait _ _ => 1

/-- the oneshot `s` has no value: a poll of the operation waiting on it only registers the waker -/
def idle (slots : List (Nat × Slot)) (s : Nat) : Prop :=
  lookupFirst s slots = some .empty ∨ lookupFirst s slots = none

instance (slots : List (Nat × Slot)) (s : Nat) : Decidable (idle slots s) := by unfold idle; infer_instance

/-- flagged although the oneshot has no value yet -/
def opSpur (woken : List Task) (slots : List (Nat × Slot)) (id : Nat) : OpSt → Nat
  | .fresh _ _ => 0
  | .wait s _ => if Task.op id ∈ woken ∧ idle slots s then 1 else 0

def opCost (held woken : List Task) (slots : List (Nat × Slot)) (e : Nat × OpSt) : Nat :=
  if Task.op e.1 ∈ held then 0 else opBase e.2 + opSpur woken slots e.1 e.2

def opsPot (w : World) : Nat := (w.ops.map (opCost w.held w.woken w.slots)).sum

def stCost (held woken : List Task) (chans : List (Nat × Chan)) (id : Nat) : Nat :=
  if Task.st id ∈ held then 0 else
  match lookupFirst id chans with
  | none => if Task.st id ∈ woken then 2 else 1
  | some ch =>
    (if Task.st id ∈ woken ∨ (ch.reg = true ∧ ch.txAlive = false) then 2 else 1) + (if ch.txAlive = true then 1 else 0)

def stSum (w : World) : Nat := ((uniq w.streams).map (stCost w.held w.woken w.chans)).sum

def stPot (w : World) : Nat := stSum w + bufSum w

def ctxFlag (w : World) : Nat := if w.task ≠ .none ∧ Task.ctx ∈ w.woken then 1 else 0
def ctxZ (w : World) : Nat := if w.task ≠ .none ∧ w.senders ≠ 0 then 1 else 0

/-- the part of the potential the user side owns -/
def phiU (w : World) : Nat := opsPot w + stPot w

/-- the potential: every poll of the executor decreases it (`pollTaskAny_phi`), and `drainFuel` dominates it while at
    most 30 never-polled operations are ready (`phi_lt_drainFuel`) -/
def phi (w : World) : Nat := ctxFlag w + ctxZ w + mu w.rx w.reader + phiU w

/-- the potential from bounds on its parts (stated once: `omega` on the unfolded potentials is dear) -/
theorem phi_add_le {w w' : World} {a e : Nat} (hm : mu w'.rx w'.reader = mu w.rx w.reader)
    (hc : ctxFlag w' + ctxZ w' ≤ ctxFlag w + ctxZ w) (ho : opsPot w' + a ≤ opsPot w)
    (hs : stPot w' ≤ stPot w + e) : phi w' + a ≤ phi w + e := by
  unfold phi phiU
  rw [hm]
  omega

theorem opBase_le (st : OpSt) : opBase st ≤ 6 := by
  cases st with
  | fresh h r => simp [opBase]
  | wait s k => cases k <;> simp [opBase]

theorem opBase_pos (st : OpSt) : 1 ≤ opBase st := by
  cases st with
  | fresh h r => simp [opBase]
  | wait s k => cases k <;> simp [opBase]

theorem opSpur_le (woken : List Task) (slots : List (Nat × Slot)) (id : Nat) (st : OpSt) :
    opSpur woken slots id st ≤ 1 := by
  cases st with
  | fresh h r => simp [opSpur]
  | wait s k => simp only [opSpur]; split <;> omega

theorem stCost_le (held woken : List Task) (chans : List (Nat × Chan)) (id : Nat) :
    stCost held woken chans id ≤ 3 := by
  unfold stCost
  split
  · decide
  · split
    · split <;> decide
    · split <;> split <;> decide

theorem ctxFlag_le {w w' : World} (h1 : w'.task ≠ .none → w.task ≠ .none)
    (h2 : w'.task ≠ .none → Task.ctx ∈ w'.woken → Task.ctx ∈ w.woken) : ctxFlag w' ≤ ctxFlag w := by
  unfold ctxFlag
  by_cases h : w'.task ≠ .none ∧ Task.ctx ∈ w'.woken
  · have : w.task ≠ .none ∧ Task.ctx ∈ w.woken := ⟨h1 h.1, h2 h.1 h.2⟩
    simp [h, this]
  · simp only [h, ↓reduceIte]; omega

theorem ctxZ_le {w w' : World} (h1 : w'.task ≠ .none → w.task ≠ .none)
    (h2 : w'.senders ≠ 0 → w.senders ≠ 0) : ctxZ w' ≤ ctxZ w := by
  unfold ctxZ
  by_cases h : w'.task ≠ .none ∧ w'.senders ≠ 0
  · have : w.task ≠ .none ∧ w.senders ≠ 0 := ⟨h1 h.1, h2 h.2⟩
    simp [h, this]
  · simp only [h, ↓reduceIte]; omega

theorem ctxFlag_of_none {w : World} (h : w.task = .none) : ctxFlag w = 0 := by simp [ctxFlag, h]
theorem ctxZ_of_none {w : World} (h : w.task = .none) : ctxZ w = 0 := by simp [ctxZ, h]
theorem ctxFlag_le_one (w : World) : ctxFlag w ≤ 1 := by unfold ctxFlag; split <;> omega
theorem ctxZ_le_one (w : World) : ctxZ w ≤ 1 := by unfold ctxZ; split <;> omega

/-- the cost of an entry falls when it stops being "flagged on an idle oneshot" and never otherwise moves with the flags -/
theorem opCost_mono (held : List Task) {wk wk' : List Task} {sl sl' : List (Nat × Slot)} (id : Nat) (st : OpSt)
    (h : ∀ s k, st = .wait s k → Task.op id ∉ held → Task.op id ∈ wk' → idle sl' s → Task.op id ∈ wk ∧ idle sl s) :
    opCost held wk' sl' (id, st) ≤ opCost held wk sl (id, st) := by
  unfold opCost
  split
  · omega
  · rename_i hh
    cases st with
    | fresh hd r => simp [opSpur]
    | wait s k =>
      simp only [opSpur]
      by_cases hc : Task.op id ∈ wk' ∧ idle sl' s
      · simp [hc, h s k rfl hh hc.1 hc.2]
      · simp only [hc, ↓reduceIte]; omega

theorem opsPot_le {w w' : World} (hops : w'.ops = w.ops) (hheld : w'.held = w.held)
    (h : ∀ id s k, (id, OpSt.wait s k) ∈ w.ops → Task.op id ∉ w.held → Task.op id ∈ w'.woken → idle w'.slots s →
      Task.op id ∈ w.woken ∧ idle w.slots s) : opsPot w' ≤ opsPot w := by
  unfold opsPot
  rw [hops, hheld]
  exact sum_map_le _ _ _ fun ⟨id, st⟩ he => opCost_mono _ id st fun s k hk => h id s k (hk ▸ he)

theorem opsPot_congr {w w' : World} (hops : w'.ops = w.ops) (hheld : w'.held = w.held) (hw : w'.woken = w.woken)
    (hs : w'.slots = w.slots) : opsPot w' = opsPot w := by
  unfold opsPot; rw [hops, hheld, hw, hs]

theorem stSum_le_at {w w' : World} (c d : Nat) (hs : w'.streams = w.streams) (hh : w'.held = w.held)
    (ho : ∀ n, n ≠ c → stCost w.held w'.woken w'.chans n ≤ stCost w.held w.woken w.chans n)
    (hc : stCost w.held w'.woken w'.chans c ≤ stCost w.held w.woken w.chans c + d) : stSum w' ≤ stSum w + d := by
  unfold stSum
  rw [hs, hh]
  exact sum_map_le_one (nodup_uniq _) c d _ _ (fun n _ hn => ho n hn) hc

theorem stPot_congr {w w' : World} (hst : w'.streams = w.streams) (hheld : w'.held = w.held)
    (hw : ∀ n, Task.st n ∈ w'.woken ↔ Task.st n ∈ w.woken) (hc : w'.chans = w.chans) : stPot w' = stPot w := by
  unfold stPot stSum bufSum
  rw [hst, hheld, hc]
  congr 2
  apply List.map_congr_left
  intro id _
  unfold stCost
  simp only [hw]

theorem opsPot_le_of_woken {w w' : World} (hops : w'.ops = w.ops) (hheld : w'.held = w.held) (hs : w'.slots = w.slots)
    (hw : ∀ id, Task.op id ∈ w'.woken → Task.op id ∈ w.woken) : opsPot w' ≤ opsPot w :=
  opsPot_le hops hheld (fun id _ _ _ _ h1 h2 => ⟨hw id h1, hs ▸ h2⟩)

theorem unwake_pots (w : World) (t : Task) (ht : ∀ n, t ≠ .st n) :
    opsPot (w.unwake t) ≤ opsPot w ∧ stPot (w.unwake t) = stPot w :=
  ⟨opsPot_le_of_woken rfl rfl rfl (fun n h => ((mem_unwake_iff w t _).mp h).1),
   stPot_congr rfl rfl (fun n => by rw [mem_unwake_iff]; exact ⟨fun h => h.1, fun h => ⟨h, (ht n).symm⟩⟩) rfl⟩

theorem phi_le_of {w w' : World} {a : Nat} (ht : w'.task ≠ .none → w.task ≠ .none)
    (hc : w'.task ≠ .none → Task.ctx ∈ w'.woken → Task.ctx ∈ w.woken)
    (hs : w'.senders ≠ 0 → w.senders ≠ 0)
    (hm : mu w'.rx w'.reader + a ≤ mu w.rx w.reader) (hu : phiU w' ≤ phiU w + a) : phi w' ≤ phi w := by
  have h1 := ctxFlag_le ht hc
  have h2 := ctxZ_le ht hs
  unfold phi; omega

/-- everything the potential reads, the context task and the framing state apart -/
def phiView (w : World) := (w.handles, w.ops, w.held, w.streams, w.woken, w.slots, w.chans)

/-- `w'` agrees with `w` on that: for a record update of other fields, `rfl` -/
def PhiFrame (w w' : World) : Prop := phiView w' = phiView w

section
variable {w w' : World} (f : PhiFrame w w')
include f
theorem PhiFrame.handles : w'.handles = w.handles := congrArg (·.1) f
theorem PhiFrame.ops : w'.ops = w.ops := congrArg (·.2.1) f
theorem PhiFrame.held : w'.held = w.held := congrArg (·.2.2.1) f
theorem PhiFrame.streams : w'.streams = w.streams := congrArg (·.2.2.2.1) f
theorem PhiFrame.woken : w'.woken = w.woken := congrArg (·.2.2.2.2.1) f
theorem PhiFrame.slots : w'.slots = w.slots := congrArg (·.2.2.2.2.2.1) f
theorem PhiFrame.chans : w'.chans = w.chans := congrArg (·.2.2.2.2.2.2) f
end

theorem PhiFrame.phiU_eq {w w' : World} (f : PhiFrame w w') : phiU w' = phiU w := by
  unfold phiU
  rw [opsPot_congr f.ops f.held f.woken f.slots, stPot_congr f.streams f.held (fun n => by rw [f.woken]) f.chans]

theorem PhiFrame.senders {w w' : World} (f : PhiFrame w w') : w'.senders = w.senders := by
  show w'.handles.length + w'.ops.length = w.handles.length + w.ops.length
  rw [f.handles, f.ops]

theorem phi_le_of_frame {w w' : World} (f : PhiFrame w w') (ht : w'.task ≠ .none → w.task ≠ .none)
    (hm : mu w'.rx w'.reader ≤ mu w.rx w.reader) : phi w' ≤ phi w :=
  phi_le_of (a := 0) ht (fun _ h => f.woken ▸ h) (by rw [f.senders]; exact id) hm (Nat.le_of_eq f.phiU_eq)

theorem bufs_setAssoc_same (id : Nat) (ch v : Chan) (l : List (Nat × Chan)) (hl : lookupFirst id l = some ch)
    (hb : v.buf = ch.buf) :
    ((setAssoc id v l).map fun c => c.2.buf.length).sum = (l.map fun c => c.2.buf.length).sum := by
  have := sum_map_setAssoc (fun c : Nat × Chan => c.2.buf.length) id ch v l hl
  simp only [hb] at this
  omega

theorem bufs_setAssoc_tail (id : Nat) (ch : Chan) (p : PublishRx) (rest : List PublishRx) (l : List (Nat × Chan))
    (hl : lookupFirst id l = some ch) (hb : ch.buf = p :: rest) :
    ((setAssoc id { ch with buf := rest } l).map fun c => c.2.buf.length).sum + 1 =
      (l.map fun c => c.2.buf.length).sum := by
  have := sum_map_setAssoc (fun c : Nat × Chan => c.2.buf.length) id ch { ch with buf := rest } l hl
  simp only [hb, List.length_cons] at this
  omega

end W5
end World
end Poster

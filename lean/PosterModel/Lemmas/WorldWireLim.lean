/-
  Lemmas/WorldWireLim.lean — `XInv`, the wire invariant for EVERY transport limit (`cfg.wlimit` arbitrary, `none` included),
  carried through every primitive of `World`; `WInv`, `LInv`, `CInv` are read off it. A write the transport cuts short
  leaves a proper prefix of ONE packet on the wire and nothing is written after it on that connection; so every `W` line is
  a whole packet originating in a request of the script and every `WRAW` line a proper prefix of such a packet.
  `strict : Prop` selects the reading of a `WRAW` line: at `True` it also needs a configured limit (with `wlimit = none`
  there is none: `WInv`), at `False` it does not (`LInv`); the proofs are the same for both.
-/
import PosterModel.Lemmas.WorldWire

namespace Poster
open Framing Spec

variable {S : Src} {strict : Prop}

/-- `bs` is a proper prefix of a packet of the class: what a write cut short by the transport leaves on the wire -/
def PartOf (S : Src) (bs : Bytes) : Prop := ∃ p, WireOf S p ∧ bs <+: p ∧ bs.length < p.length

/-- a transcript line under a limited transport: a `W` line shows a whole packet of the class, a `WRAW` line a proper
    prefix of one -/
def ObsOkL (S : Src) : Obs → Prop
  | .wire bs => WireOf S bs
  | .wraw bs => PartOf S bs
  | _ => True

/-- a transcript line under the transport limit `lim`, in two readings: as `ObsOkL`, and with `strict` a `WRAW` line also
    needs a limit — which for `lim = none` is `ObsOk`. Both readings hold along every script in the domain, by the same proofs. -/
def ObsOkX (S : Src) (strict : Prop) (lim : Option Nat) : Obs → Prop
  | .wire bs => WireOf S bs
  | .wraw bs => PartOf S bs ∧ (strict → lim ≠ none)
  | _ => True

theorem obsOkL_iff {lim : Option Nat} {o : Obs} : ObsOkL S o ↔ ObsOkX S False lim o := by
  cases o <;> simp [ObsOkL, ObsOkX]

theorem obsOk_iff {o : Obs} : ObsOk S o ↔ ObsOkX S True none o := by
  cases o <;> simp [ObsOk, ObsOkX]

namespace World

/-- the transport has reached its limit on this connection: every further write adds nothing -/
def Stuck (w : World) : Prop := ∃ l, w.cfg.wlimit = some l ∧ l ≤ w.written

/-- nothing is pending at the transport, or a proper prefix of one packet is and the transport has reached its limit -/
def PendOk (S : Src) (w : World) : Prop := w.wirePend = [] ∨ (PartOf S w.wirePend ∧ Stuck w)

theorem PendOk.of_eq {w w' : World} (h : PendOk S w) (e1 : w'.wirePend = w.wirePend) (e2 : w'.written = w.written)
    (e3 : w'.cfg = w.cfg) : PendOk S w' := by
  unfold PendOk Stuck at *
  rw [e1, e2, e3]; exact h

/-- the context exists (or existed): only then is anything ever written -/
def Live (w : World) : Prop := w.hasCtx = true ∨ w.ctxDropped = true

/-- the wire invariant: what is pending at the transport, every transcript line, every queued message, every entry of the
    retransmit queue, every fresh request, the request a `connect()` / `authorize()` holds and every packet in a oneshot
    are of the class `S`, the identifier counters are in range (`strict` as at `ObsOkX`) -/
structure XInv (S : Src) (strict : Prop) (w : World) : Prop where
  pend : PendOk S w
  out : ∀ o ∈ w.out, ObsOkX S strict w.cfg.wlimit o
  queue : ∀ m ∈ w.queue, MsgWire S m
  retx : ∀ e ∈ w.c.retx, WireOf S e.2
  ops : ∀ id h req, (id, OpSt.fresh h req) ∈ w.ops → ReqOk S req
  task : TaskOk S w.task
  pid : 1 ≤ w.pidCtr ∧ w.pidCtr ≤ 65535
  sub : 1 ≤ w.subCtr ∧ w.subCtr ≤ 268435455
  slots : ∀ s p, (s, Slot.full (.pkt p)) ∈ w.slots → p.wf

/-- `XInv` read at `strict = False`, with what `live` adds -/
structure LInv (S : Src) (w : World) : Prop where
  pend : PendOk S w
  out : ∀ o ∈ w.out, ObsOkL S o
  queue : ∀ m ∈ w.queue, MsgWire S m
  retx : ∀ e ∈ w.c.retx, WireOf S e.2
  ops : ∀ id h req, (id, OpSt.fresh h req) ∈ w.ops → ReqOk S req
  task : TaskOk S w.task
  pid : 1 ≤ w.pidCtr ∧ w.pidCtr ≤ 65535
  sub : 1 ≤ w.subCtr ∧ w.subCtr ≤ 268435455
  slots : ∀ s p, (s, Slot.full (.pkt p)) ∈ w.slots → p.wf
  /-- before the first `setup` nothing was written and no task runs; a task runs only on a live context -/
  live : (Live w ∧ (w.task ≠ .none → w.hasCtx = true)) ∨ (w.wirePend = [] ∧ w.task = .none ∧ w.written = 0)

/-- a task runs only on a live context (and the context is or was there) -/
def LiveOk (w : World) : Prop := Live w ∧ (w.task ≠ .none → w.hasCtx = true)

/-- the invariant on the context side: with the knowledge that the context is live (so writing is legitimate) -/
structure CInv (S : Src) (w : World) : Prop where
  inv : LInv S w
  live : LiveOk w

/-- the `live` component of `LInv` -/
def LiveInv (w : World) : Prop := LiveOk w ∨ (w.wirePend = [] ∧ w.task = .none ∧ w.written = 0)

theorem XInv.init (S : Src) (strict : Prop) (cfg : Cfg) : XInv S strict { cfg := cfg } where
  pend := Or.inl rfl
  out := by intro o ho; cases ho
  queue := by intro m hm; cases hm
  retx := by intro e he; cases he
  ops := by intro id hh req hm; cases hm
  task := trivial
  pid := by show 1 ≤ 1 ∧ 1 ≤ 65535; decide
  sub := by show 1 ≤ 1 ∧ 1 ≤ 268435455; decide
  slots := by intro s p hm; cases hm

/-- the move from `w` to `w'` keeps the invariant, and the packets `l` it submits are of the class -/
def Keeps (S : Src) (strict : Prop) (w w' : World) (l : List Bytes) : Prop :=
  XInv S strict w → XInv S strict w' ∧ ∀ p ∈ l, WireOf S p

theorem Keeps.silent {w w' : World} (f : XInv S strict w → XInv S strict w') : Keeps S strict w w' [] :=
  fun hw => ⟨f hw, fun _ h => (List.not_mem_nil h).elim⟩

theorem Keeps.trans {a b c : World} {l m : List Bytes} (h1 : Keeps S strict a b l) (h2 : Keeps S strict b c m) :
    Keeps S strict a c (l ++ m) := fun ha =>
  ⟨(h2 (h1 ha).1).1, fun p hp => (List.mem_append.mp hp).elim ((h1 ha).2 p) ((h2 (h1 ha).1).2 p)⟩

theorem LiveInv.init (cfg : Cfg) : LiveInv { cfg := cfg } := Or.inr ⟨rfl, rfl, rfl⟩

theorem XInv.toL {w : World} (hw : XInv S False w) (hl : LiveInv w) : LInv S w :=
  { hw with out := fun o ho => obsOkL_iff.mpr (hw.out o ho), live := hl }

theorem LInv.toX {w : World} (hw : LInv S w) : XInv S False w :=
  { hw with out := fun o ho => obsOkL_iff.mp (hw.out o ho) }

theorem XInv.toW {w : World} (hw : XInv S True w) (hl : w.cfg.wlimit = none) : WInv S w :=
  { hw with
    lim := hl
    pend := hw.pend.elim id fun ⟨_, l, h, _⟩ => by rw [hl] at h; cases h
    out := fun o ho => obsOk_iff.mpr (hl ▸ hw.out o ho) }

theorem WInv.toX {w : World} (hw : WInv S w) : XInv S True w :=
  { hw with pend := Or.inl hw.pend, out := fun o ho => hw.lim ▸ obsOk_iff.mp (hw.out o ho) }

theorem LInv.init (S : Src) (cfg : Cfg) : LInv S { cfg := cfg } := (XInv.init S False cfg).toL (.init cfg)

theorem CInv.ofX {w : World} (hw : XInv S False w) (hl : LiveOk w) : CInv S w := ⟨hw.toL (Or.inl hl), hl⟩

theorem XInv.out_snoc {w : World} (hw : XInv S strict w) {o : Obs} (ho : ObsOkX S strict w.cfg.wlimit o) :
    ∀ o' ∈ w.out ++ [o], ObsOkX S strict w.cfg.wlimit o' := fun o' h =>
  (List.mem_append.mp h).elim (hw.out o') fun h => List.mem_singleton.mp h ▸ ho

theorem LiveOk.of_eq {w w' : World} (h : LiveOk w) (e1 : w'.hasCtx = w.hasCtx) (e2 : w'.ctxDropped = w.ctxDropped)
    (e3 : w'.task = w.task ∨ w'.task = .none) : LiveOk w' := by
  unfold LiveOk Live at *
  rw [e1, e2]
  exact ⟨h.1, fun ht => e3.elim (fun e => h.2 (e ▸ ht)) (fun e => absurd e ht)⟩

theorem LiveInv.of_eq {w w' : World} (h : LiveInv w) (e1 : w'.hasCtx = w.hasCtx) (e2 : w'.ctxDropped = w.ctxDropped)
    (e3 : w'.task = w.task ∨ w'.task = .none) (e4 : w'.wirePend = w.wirePend) (e5 : w'.written = w.written) :
    LiveInv w' := by
  rcases h with h | ⟨h1, h2, h3⟩
  · exact Or.inl (h.of_eq e1 e2 e3)
  · exact Or.inr ⟨e4.trans h1, e3.elim (fun e => e.trans h2) id, e5.trans h3⟩

theorem LiveInv.userFrame {w w' : World} (h : LiveInv w) (f : UserFrame w w') : LiveInv w' :=
  h.of_eq f.hasCtx f.ctxDropped (Or.inl f.task) f.wirePend f.written

theorem LiveInv.closes {a b : World} (h : Closes a b) (ha : LiveInv a) : LiveInv b :=
  have i := closes_inv h
  ha.of_eq i.hasCtx_eq i.ctxDropped_eq (Or.inl i.task_eq) i.wirePend_eq i.written_eq

theorem flushWire_noFrame (w : World) (h : NoFrame w.wirePend) : w.flushWire = w := by
  unfold flushWire
  rw [frames_of_noFrame _ h]
  simp

theorem cut_facts (w : World) (n : Nat) (hc : ¬ w.canWrite n = true) :
    ∃ l, w.cfg.wlimit = some l ∧ l < w.written + n ∧ (w.cfg.wlimit.getD 0) - w.written = l - w.written := by
  unfold canWrite at hc
  cases h : w.cfg.wlimit with
  | none => simp [h] at hc
  | some l => simp only [h, decide_eq_true_eq] at hc; exact ⟨l, rfl, by omega, rfl⟩

theorem Stuck.cut {w : World} {l : Nat} (h : w.cfg.wlimit = some l) (pend : Bytes) :
    Stuck { w with written := w.written + (l - w.written), wirePend := pend } :=
  ⟨l, h, Nat.sub_le_iff_le_add'.mp (Nat.le_refl _)⟩

theorem writeBytes_whole (w : World) (bs : Bytes) (hc : w.canWrite bs.length = true) (hp : w.wirePend = [])
    (hf : OneFrame bs) :
    w.writeBytes bs = { w with written := w.written + bs.length, out := w.out ++ [.wire bs], wirePend := [] } := by
  simp [writeBytes, hc, flushWire, hp, frames_oneFrame bs hf]

theorem writeBytes_cut_eq (w : World) (bs : Bytes) (hc : ¬ w.canWrite bs.length = true) (hp : w.wirePend = []) :
    w.writeBytes bs =
      flushWire { w with written := w.written + ((w.cfg.wlimit.getD 0) - w.written),
                         wirePend := bs.take ((w.cfg.wlimit.getD 0) - w.written) } := by
  unfold writeBytes
  rw [if_neg hc, hp]
  rfl

theorem writeBytes_stuck (w : World) (bs : Bytes) (hc : ¬ w.canWrite bs.length = true) (hs : Stuck w)
    (hn : NoFrame w.wirePend) : w.writeBytes bs = w := by
  obtain ⟨l, h1, h2⟩ := hs
  unfold writeBytes
  rw [if_neg hc]
  have hk : (w.cfg.wlimit.getD 0) - w.written = 0 := by simp [h1]; omega
  rw [hk]
  simp only [Nat.add_zero, List.take_zero, List.append_nil]
  exact flushWire_noFrame w hn

theorem PartOf.noFrame {v : Bytes} (h : PartOf S v) : NoFrame v := by
  obtain ⟨p, hp, h1, h2⟩ := h
  exact noFrame_of_part v p hp.oneFrame h1 h2

theorem PendOk.noFrame {w : World} (h : PendOk S w) : NoFrame w.wirePend := by
  rcases h with h | ⟨h, _⟩
  · rw [h]; exact noFrame_nil
  · exact PartOf.noFrame h

theorem writeBytes_hasCtx' (w : World) (bs : Bytes) :
    (w.writeBytes bs).hasCtx = w.hasCtx ∧ (w.writeBytes bs).ctxDropped = w.ctxDropped ∧
    (w.writeBytes bs).task = w.task := ⟨by simp, by simp, by simp⟩

theorem PendOk.nil_of_canWrite {w : World} (h : PendOk S w) {n : Nat} (hn : 0 < n) (hc : w.canWrite n = true) :
    w.wirePend = [] := by
  rcases h with h | ⟨_, l, h1, h2⟩
  · exact h
  · exfalso
    simp only [canWrite, h1, decide_eq_true_eq] at hc
    omega

/-- **one write of a packet of the class, whatever the limit**: the whole packet shows as a `W` line, or a proper prefix of
    it stays pending and the limit is reached, or (limit already reached) nothing happens -/
theorem XInv.writeBytes {w : World} (hw : XInv S strict w) {bs : Bytes} (hb : WireOf S bs) :
    XInv S strict (w.writeBytes bs) := by
  have hlen := oneFrame_length hb.oneFrame
  by_cases hc : w.canWrite bs.length = true
  · rw [writeBytes_whole w bs hc (hw.pend.nil_of_canWrite (by omega) hc) hb.oneFrame]
    exact { hw with pend := Or.inl rfl, out := hw.out_snoc (o := .wire bs) hb }
  · rcases hw.pend with hpe | ⟨hpart, hst⟩
    · obtain ⟨l, h1, h2, h3⟩ := cut_facts w bs.length hc
      rw [writeBytes_cut_eq w bs hc hpe, h3]
      have hpo : PartOf S (bs.take (l - w.written)) :=
        ⟨bs, hb, List.take_prefix _ _, by simp only [List.length_take]; omega⟩
      rw [flushWire_noFrame _ (PartOf.noFrame hpo)]
      exact { hw with pend := Or.inr ⟨hpo, .cut h1 _⟩ }
    · rw [writeBytes_stuck w bs hc hst (PartOf.noFrame hpart)]; exact hw

/-- the re-sent packets written in one go and cut by the transport: the whole packets in front show as `W` lines, a
    proper prefix of the next one stays pending -/
theorem XInv.writeFlat {w : World} (hw : XInv S strict w) (ps : List Bytes) (hps : ∀ p ∈ ps, WireOf S p)
    (hc : ¬ w.canWrite ps.flatten.length = true) : XInv S strict (w.writeBytes ps.flatten) := by
  rcases hw.pend with hpe | ⟨hpart, hst⟩
  · obtain ⟨l, h1, h2, h3⟩ := cut_facts w _ hc
    obtain ⟨j, tail, hf, htl⟩ := frames_take_flatten ps (fun p hp => (hps p hp).oneFrame) (l - w.written)
    rw [writeBytes_cut_eq w _ hc hpe, h3]
    unfold World.flushWire
    simp only [hf]
    refine { hw with pend := ?_, out := ?_ }
    · rcases htl with rfl | ⟨p, hp, h4, h5⟩
      · exact Or.inl rfl
      · exact Or.inr ⟨⟨p, hps p hp, h4, h5⟩, .cut h1 tail⟩
    · intro o ho
      rcases List.mem_append.mp ho with ho | ho
      · exact hw.out o ho
      · obtain ⟨b, hb, rfl⟩ := List.mem_map.mp ho
        exact hps b (List.mem_of_mem_take hb)
  · rw [writeBytes_stuck w _ hc hst (PartOf.noFrame hpart)]; exact hw

theorem XInv.sendSlot {w : World} (hw : XInv S strict w) (s : Nat) (v : SlotVal) (hv : ∀ p, v = .pkt p → p.wf) :
    XInv S strict (w.sendSlot s v) := by
  by_cases h : w.slot s = some .empty
  · obtain ⟨wk, sr, e⟩ := User.sendSlot_of_empty w s v h
    rw [e]
    refine { hw with slots := fun s' p hm => ?_ }
    rcases mem_setAssoc_val hm with e | e
    · exact hv p (Slot.full.inj e).symm
    · exact hw.slots s' p e
  · rw [User.sendSlot_noop w s v h]; exact hw

theorem XInv.dropSlotTx {w : World} (hw : XInv S strict w) (s : Nat) : XInv S strict (w.dropSlotTx s) := by
  rw [dropSlotTx_eq]
  split
  · refine { hw with slots := fun s' p hm => ?_ }
    rcases mem_setAssoc_val hm with e | e
    · cases e
    · exact hw.slots s' p e
  · exact hw

theorem XInv.deliver {w : World} (hw : XInv S strict w) (c : Nat) (p : PublishRx) : XInv S strict (w.deliver c p) := by
  cases h : w.chan c with
  | none => rw [User.deliver_none w c p h]; exact hw
  | some ch => obtain ⟨wk, e⟩ := User.deliver_of_some w c p ch h; rw [e]; exact { hw with }

theorem XInv.dropChanTx {w : World} (hw : XInv S strict w) (c : Nat) : XInv S strict (w.dropChanTx c) := by
  cases h : w.chan c with
  | none => rw [User.dropChanTx_none w c h]; exact hw
  | some ch => obtain ⟨wk, e⟩ := User.dropChanTx_of_some w c ch h; rw [e]; exact { hw with }

theorem XInv.applyEff {w : World} (hw : XInv S strict w) (e : Eff) (he : ∀ p, e = .write p → WireOf S p)
    (hs : ∀ s q, e = .send s (.pkt q) → q.wf) : XInv S strict (w.applyEff e) := by
  cases e with
  | write bs => exact hw.writeBytes (he bs rfl)
  | send s v => exact hw.sendSlot s v (fun p hp => hs s p (by rw [hp]))
  | dropSlot s => exact hw.dropSlotTx s
  | deliver c p => exact hw.deliver c p
  | dropChan c => exact hw.dropChanTx c

theorem XInv.applyEffs {w : World} (hw : XInv S strict w) (effs : List Eff) (he : ∀ p ∈ writesOf effs, WireOf S p)
    (hs : ∀ s q, Eff.send s (.pkt q) ∈ effs → q.wf) : XInv S strict (w.applyEffs effs) :=
  applyEffs_lift (R := fun w w' => XInv S strict w → XInv S strict w') (fun _ h => h) (fun f g h => g (f h))
    (fun _ e hm h => h.applyEff e (fun p hp => he p (mem_writesOf.2 (hp ▸ hm))) (fun s q hq => hs s q (hq ▸ hm))) w hw

theorem XInv.emit {w : World} (hw : XInv S strict w) (o : Obs) (ho : ObsOkX S strict w.cfg.wlimit o) :
    XInv S strict (w.emit o) :=
  { hw with out := hw.out_snoc ho }

theorem XInv.noTask {w : World} (hw : XInv S strict w) : XInv S strict { w with task := .none } :=
  { hw with task := trivial }

theorem XInv.finish {w : World} (hw : XInv S strict w) (call : Call) (r : RetRes) : XInv S strict (w.finish call r) :=
  hw.noTask.emit _ trivial

theorem XInv.wake {w : World} (hw : XInv S strict w) (t : Task) : XInv S strict (w.wake t) := by
  rw [wake_eq]; exact { hw with }

theorem XInv.unwake {w : World} (hw : XInv S strict w) (t : Task) : XInv S strict (w.unwake t) := { hw with }

theorem XInv.setRx {w : World} (hw : XInv S strict w) (rx' : Rx) (rd' : List ReadEv) :
    XInv S strict { w with rx := rx', reader := rd' } := { hw with }

theorem XInv.runHandler {w : World} (h : Bool → Ctx × List Eff × Flow)
    (hw : ∀ wok, XInv S strict { w with c := (h wok).1 }) (he : ∀ wok, ∀ p ∈ writesOf (h wok).2.1, WireOf S p)
    (hs : ∀ wok s q, Eff.send s (.pkt q) ∈ (h wok).2.1 → q.wf) : XInv S strict (w.runHandler h).1 := by
  rw [runHandler_eq]
  generalize w.canWrite (writeNeed (h true).2.1) = wok
  exact (hw wok).applyEffs _ (he wok) (hs wok)

theorem XInv.handledMsg {w : World} (hw : XInv S strict w) (m : Msg) (q : List Msg) (hq : w.queue = m :: q) :
    XInv S strict (({ w with queue := q } : World).runHandler (fun wok => w.c.handleMsg m wok)).1 := by
  have hm := hw.queue m (by simp [hq])
  exact XInv.runHandler (w := { w with queue := q }) _
    (fun wok => { hw with
      queue := fun m' hm' => hw.queue m' (by rw [hq]; exact List.mem_cons_of_mem _ hm')
      retx := (Ctx.handleMsg_kept Ctx.wireFlow w.c m wok hm (fun _ _ => trivial) hw.retx).2 })
    (fun wok => (Ctx.handleMsg_wire w.c m wok hm).1)
    (fun wok s p hp => absurd hp ((Ctx.handleMsg_wire w.c m wok hm).2 s p))

theorem XInv.handledPkt {w : World} (hw : XInv S strict w) (rx' : Rx) (rd' : List ReadEv) (p : RxPacket) (hp : p.wf)
    (alive : Nat → Bool) :
    XInv S strict (({ w with rx := rx', reader := rd' } : World).runHandler (fun wok => w.c.handlePkt alive p wok)).1 :=
  XInv.runHandler (w := { w with rx := rx', reader := rd' }) _
    (fun wok => { hw with
      retx := (Ctx.handlePkt_kept (A := fun _ => True) w.c alive p wok (fun _ _ => trivial) hw.retx).2 })
    (fun wok => Ctx.handlePkt_wire w.c alive p wok hp)
    (fun wok _ _ hq => Ctx.handlePkt_sends_pkt w.c alive p wok hq ▸ hp)

theorem runLoop_hasCtx (f : Nat) (w : World) :
    (runLoop f w).hasCtx = w.hasCtx ∧ (runLoop f w).ctxDropped = w.ctxDropped :=
  runLoop_via (R := fun w w' => w'.hasCtx = w.hasCtx ∧ w'.ctxDropped = w.ctxDropped)
    (fun h1 h2 => ⟨h2.1.trans h1.1, h2.2.trans h1.2⟩) (fun i => ⟨i.hasCtx, i.ctxDropped⟩) (fun _ => ⟨rfl, rfl⟩)
    (fun _ _ _ _ => ⟨by simp, by simp⟩) (fun _ _ _ _ _ _ _ => ⟨by simp, by simp⟩) f w

theorem runLoop_liveOk (f : Nat) {w : World} (hl : LiveOk w) : LiveOk (runLoop f w) := by
  have ht : (runLoop f w).task = w.task ∨ (runLoop f w).task = .none :=
    (runLoop_ends f w).imp (·.1) fun ⟨_, _, over⟩ => over.task
  exact hl.of_eq (runLoop_hasCtx f w).1 (runLoop_hasCtx f w).2 ht

/-- a poll of the loop is labelled (Lemmas/WorldWalk.lean) with the packets its handlers write: `histWrites` of the served
    history -/
theorem loopAccS_writes (f : Nat) (w : World) :
    loopAccS [] (· ++ ·) (fun c i => writesOf (c.stepIn i).2.effs) (fun _ => false) f w =
      histWrites (w.c.serve (loopHist f w)).2 := by
  induction f generalizing w with
  | zero => rfl
  | succ f ih =>
    rw [loopAccS_succ, loopHist_succ, runIterS_false]
    show (match w.iterIn with | none => [] | some i => _) = _
    cases h : runIter w with
    | inl w1 =>
      obtain ⟨i, hi, hfl, hst⟩ := runCont_iter (runIter_inl h)
      simp only [hi]
      rw [Ctx.serve_cons_cont _ _ _ hfl, histWrites_cons, ih w1, hst.c_eq]
    | inr r =>
      rcases runEnd_iter (runIter_inr h) with ⟨hi, _, _⟩ | ⟨i, hi, hne, _, _, _⟩
      · simp only [hi]; rfl
      · simp only [hi]
        rw [Ctx.serve_single, histWrites_cons]; rfl

theorem XInv.lab : Labelled [] (· ++ ·) (Keeps S strict) :=
  ⟨fun _ => .silent id, .trans, List.append_nil, List.nil_append⟩

/-- the moves of a poll that run no handler and write nothing, as the labelled walk asks for them -/
theorem XInv.priv (w : World) (task : CtxTask) (rr qr : Bool)
    (h : task = .none ∨ task = w.task ∨ ∃ call t a st, w.task = .connecting call t a st ∧ task = .connecting call t a true) :
    Keeps S strict w { w with task := task, readerReg := rr, queueReg := qr } [] := .silent fun hw => by
  rcases h with rfl | rfl | ⟨call, t, a, st, ht, rfl⟩
  · exact { hw with task := trivial }
  · exact { hw with }
  · exact { hw with task := (ht ▸ hw.task : TaskOk S (.connecting call t a st)) }

theorem XInv.read (w : World) (rx' : Rx) (rd' : List ReadEv) (o : Out) (_ : pollNext w.rx w.reader = (rx', rd', o)) :
    Keeps S strict w { w with rx := rx', reader := rd' } [] := .silent (·.setRx rx' rd')

theorem XInv.log (w : World) (o : Obs) (ho : (∃ c r, o = .ret c r) ∨ ∃ cls, o = .panic .ctx cls) :
    Keeps S strict w (w.emit o) [] := .silent fun hw =>
  hw.emit o (by rcases ho with ⟨c, r, rfl⟩ | ⟨cls, rfl⟩ <;> trivial)

/-- the invariant across the moves of the loop, under every scheduler: a handler call writes packets of the class (the
    message it handles is queued, hence of the class; an inbound packet is acknowledged), the other moves write nothing -/
theorem XInv.loop (sched : Nat → Bool) :
    LoopAcc [] (· ++ ·) (fun c i => writesOf (c.stepIn i).2.effs) sched (Keeps S strict) :=
  .of_prims XInv.lab XInv.priv XInv.read (fun _ => .silent (·.wake .ctx)) XInv.log
    (fun w m q hq hw => ⟨hw.handledMsg m q hq, (Ctx.handleMsg_wire w.c m _ (hw.queue m (by simp [hq]))).1⟩)
    fun w rx' rd' fr p _ _ hd hw =>
      ⟨hw.handledPkt rx' rd' p (decodeRx_wf_aux fr p hd) w.chanRxAlive,
        Ctx.handlePkt_wire w.c _ p _ (decodeRx_wf_aux fr p hd)⟩

theorem runLoop_wire (f : Nat) (w : World) :
    Keeps S strict w (runLoop f w) (histWrites (w.c.serve (loopHist f w)).2) := by
  have h := (XInv.loop (S := S) (strict := strict) fun _ => false).runLoopS f w
  rwa [runLoop_is_a_resolution, loopAccS_writes] at h

theorem resume_retx_sub (c : Ctx) : ∀ e ∈ c.resume.1.retx, e ∈ c.retx := by
  rcases Ctx.resume_fst_cases c with h | h | h <;> rw [h]
  · exact fun e he => he
  · exact fun e he => he
  · intro e he; cases he

theorem XInv.applyDrops {w : World} (hw : XInv S strict w) {es : List Eff} (hd : OnlyDrops es) :
    XInv S strict (w.applyEffs es) := by
  refine hw.applyEffs es (fun p hp => ?_) (fun s q hq => ?_)
  · rcases hd _ (mem_writesOf.1 hp) with ⟨_, e⟩ | ⟨_, e⟩ <;> cases e
  · rcases hd _ hq with ⟨_, e⟩ | ⟨_, e⟩ <;> cases e

theorem XInv.resumed {w : World} (hw : XInv S strict w) : XInv S strict w.resumed :=
  XInv.applyDrops (w := { w with c := w.c.resume.1, task := .running true })
    { hw with retx := fun e he => hw.retx e (resume_retx_sub w.c e he), task := trivial } w.c.resume_effs_drops

theorem resume_pkts_wire {w : World} (hw : XInv S strict w) : ∀ p ∈ w.c.resume.2.2, WireOf S p := by
  intro p hp
  obtain ⟨e, he, rfl⟩ := w.c.resume_pkts_sub p hp
  exact hw.retx e he

theorem XInv.resent {w : World} (hw : XInv S strict w) : XInv S strict w.resent := by
  unfold World.resent
  rw [foldl_writeBytes_eq_applyEffs]
  refine hw.resumed.applyEffs _ ?_ ?_
  · rw [writesOf_map_write]; exact resume_pkts_wire hw
  · intro s q hq
    obtain ⟨b, _, hb⟩ := List.mem_map.mp hq
    cases hb

theorem resumed_liveOk {w : World} (hl : LiveOk w) (ht : w.task ≠ .none) : LiveOk w.resumed := by
  unfold World.resumed
  have h0 : LiveOk ({ w with c := w.c.resume.1, task := .running true } : World) := ⟨hl.1, fun _ => hl.2 ht⟩
  exact h0.of_eq (by simp) (by simp) (Or.inl (by simp))

theorem pollRun_wire (w : World) (started : Bool) (ht : w.task = .running started) :
    Keeps S strict w (w.pollRun started) w.ctxSubmits := fun hw => by
  unfold ctxSubmits
  rw [ht]
  cases started with
  | true =>
    simp only [pollRun, ↓reduceIte]
    exact runLoop_wire _ w hw
  | false =>
    simp only [Bool.false_eq_true, ↓reduceIte]
    obtain ⟨h1, h2⟩ := runLoop_wire w.resent.loopFuel w.resent hw.resent
    refine ⟨?_, fun p hp => (List.mem_append.mp hp).elim (resume_pkts_wire hw p) (h2 p)⟩
    rw [pollRun_first_eq]
    split
    · exact h1
    · rename_i hc
      refine (hw.resumed.writeFlat _ (resume_pkts_wire hw) ?_).finish _ _
      rw [List.length_flatten]
      exact hc

theorem reqBytes_wire (call : Call) (t : ConnectTx) (a : AuthTx) (htk : TaskOk S (.connecting call t a true))
    (hv : reqValid call t a = true) : WireOf S (W7.reqBytes call t a) := by
  cases call with
  | connect => exact WireOf.connect t (htk.1 rfl).2 hv (htk.1 rfl).1
  | authorize => exact WireOf.auth a (htk.2 (by simp)).2 hv (htk.2 (by simp)).1
  | run => exact WireOf.auth a (htk.2 (by simp)).2 hv (htk.2 (by simp)).1

theorem XInv.seiSet {w : World} (hw : XInv S strict w) (call : Call) (t : ConnectTx) :
    XInv S strict (W7.seiSet w call t) := by
  cases call with
  | connect => exact { hw with }
  | _ => exact hw

/-- the invariant across the moves of a poll of `connect()` / `authorize()`: the request the task holds is of the class,
    the other moves write nothing -/
theorem XInv.conn : ConnAcc [] (· ++ ·) (fun _ call t a => [W7.reqBytes call t a]) (fun _ _ => []) (Keeps S strict) :=
  .of_prims XInv.lab XInv.priv XInv.read (fun _ => .silent (·.wake .ctx)) XInv.log
    (fun w k => .silent fun hw => { hw with retx := (Ctx.handleConnack_frame w.c k).2.2.2.1 ▸ hw.retx })
    fun _ call t a ht hv hw =>
      have hp := reqBytes_wire call t a (ht ▸ hw.task : TaskOk S (.connecting call t a false)) hv
      ⟨(hw.seiSet call t).writeBytes hp, fun _ hp' => List.mem_singleton.mp hp' ▸ hp⟩

theorem pollConnect_wire (w : World) (call : Call) (t : ConnectTx) (a : AuthTx) (started : Bool)
    (ht : w.task = .connecting call t a started) :
    Keeps S strict w (w.pollConnect call t a started) w.ctxSubmits := fun hw => by
  obtain ⟨h1, h2⟩ := (XInv.conn (S := S) (strict := strict)).pollConnect w call t a started ht hw
  refine ⟨h1, fun p hp => h2 p ?_⟩
  rw [ctxSubmits_connecting w call t a started ht] at hp
  unfold connAcc
  cases started with
  | true => cases hp
  | false =>
    by_cases hv : reqValid call t a = true
    · simp only [Bool.false_eq_true, ↓reduceIte, hv] at hp ⊢
      exact List.mem_append_left _ hp
    · simp only [Bool.false_eq_true, ↓reduceIte, hv] at hp
      cases hp

theorem pollCtx_wire (w : World) : Keeps S strict w w.pollCtx w.ctxSubmits := by
  unfold pollCtx
  cases ht : w.task with
  | none => exact fun hw => ⟨hw, by simp [ctxSubmits, ht]⟩
  | connecting call t a started => exact pollConnect_wire w call t a started ht
  | running started => exact pollRun_wire w started ht

theorem pollCtx_liveInv {w : World} (hl : LiveInv w) : LiveInv w.pollCtx := by
  by_cases ht : w.task = .none
  · rw [pollCtx_none ht]; exact hl
  · have h : LiveOk w := hl.elim id fun h => absurd h.2.1 ht
    have f := pollCtx_ctxFrame w
    refine Or.inl ⟨?_, fun _ => f.hasCtx ▸ h.2 ht⟩
    unfold Live; rw [f.hasCtx, f.ctxDropped]; exact h.1

theorem XInv.senderGone {w : World} (hw : XInv S strict w) : XInv S strict w.senderGone := by
  obtain ⟨wk, qr, e⟩ := World.senderGone_shape w
  rw [e]; exact { hw with }

theorem XInv.eraseOp {w : World} (hw : XInv S strict w) (id : Nat) : XInv S strict (w.eraseOp id) :=
  XInv.senderGone (w := { w with ops := eraseFirst id w.ops })
    { hw with ops := fun i h req hm => hw.ops i h req ((eraseFirst_sublist _ _).subset hm) }

theorem EndObs.ok {id : Nat} {o : Obs} {lim : Option Nat} (h : EndObs id o) : ObsOkX S strict lim o := by
  rcases h with rfl | ⟨r, rfl⟩ <;> trivial

theorem XInv.endOp {w : World} (hw : XInv S strict w) (id : Nat) {o : Obs} (ho : EndObs id o) :
    XInv S strict (w.endOp id o) :=
  XInv.senderGone (w := ({ w with ops := eraseFirst id w.ops } : World).emit o)
    (XInv.emit (w := { w with ops := eraseFirst id w.ops })
      { hw with ops := fun i h req hm => hw.ops i h req ((eraseFirst_sublist _ _).subset hm) } o ho.ok)

theorem XInv.finishOp {w : World} (hw : XInv S strict w) (id : Nat) (r : DoneRes) : XInv S strict (w.finishOp id r) :=
  hw.endOp id (Or.inr ⟨r, rfl⟩)

theorem XInv.sendAwait {w : World} (hw : XInv S strict w) (m : Msg) (hm : MsgWire S m) (id s : Nat) (k : Wait) :
    XInv S strict (w.sendAwait m id s k) := by
  cases hc : w.hasCtx with
  | false => rw [User.sendAwait_no_ctx w m id s k hc]; exact hw.finishOp _ _
  | true =>
    obtain ⟨wk, qr, e⟩ := User.sendAwait_ctx w m id s k hc
    rw [e]
    refine { hw with queue := fun m' hm' => ?_, ops := fun i hh req hm' => ?_, slots := fun s' p hm' => ?_ }
    · exact (List.mem_append.mp hm').elim (hw.queue m') fun h => List.mem_singleton.mp h ▸ hm
    · rcases mem_setAssoc hm' with e | e
      · cases e
      · exact hw.ops i hh req e
    · rcases mem_setAssoc_val hm' with e | e
      · cases e
      · exact hw.slots s' p e

theorem XInv.allocPid {w : World} (hw : XInv S strict w) : XInv S strict w.allocPid.2 :=
  { hw with pid := allocPid_pidOk w hw.pid }

theorem allocFor_subOk (w : World) (req : Req) (h : 1 ≤ w.subCtr ∧ w.subCtr ≤ 268435455) :
    1 ≤ (w.allocFor req).subCtr ∧ (w.allocFor req).subCtr ≤ 268435455 := by
  cases req with
  | subscribe t =>
    simp only [World.allocFor, World.allocPid, World.allocSub]
    by_cases hc : w.subCtr ≥ 268435455 <;> simp only [hc, ↓reduceIte] <;> omega
  | publish t => simp only [World.allocFor]; split <;> exact h
  | _ => exact h

/-- the message the first poll of the future of an accepted request in the domain queues is of the class: the request is
    completed with the identifiers the counters hold, which are in range -/
theorem reqMsg_wire (w : World) (id : Nat) {req : Req} (hp : 1 ≤ w.pidCtr ∧ w.pidCtr ≤ 65535)
    (hs : 1 ≤ w.subCtr ∧ w.subCtr ≤ 268435455) (hd : ReqOk S req) (hv : (w.completeReq req).accepted = true) :
    MsgWire S (w.reqMsg id req) := by
  obtain ⟨hd, hsrc⟩ := hd
  cases req with
  | publish t =>
    by_cases hq : t.qos = 0
    · simp only [completeReq, Req.accepted, hq, ↓reduceIte] at hv
      simp only [reqMsg, hq, ↓reduceIte]
      exact WireOf.publish0 t hsrc hq hv (hd.1 hq)
    · simp only [completeReq, Req.accepted, hq, ↓reduceIte] at hv
      simp only [reqMsg, hq, ↓reduceIte]
      have hd' := hd.2 hq w.pidCtr hp.1 hp.2
      exact ⟨WireOf.publish t hsrc hq _ hp hv hd', fun _ => WireOf.republish t hsrc hq _ hp hv hd'⟩
  | subscribe t => exact WireOf.subscribe t hsrc _ _ hp hs hv (hd w.pidCtr w.subCtr hp.1 hp.2 hs.1 hs.2)
  | unsubscribe t =>
    exact ⟨WireOf.unsubscribe t hsrc _ hp hv (hd w.pidCtr hp.1 hp.2),
      fun h3 => by rw [pktType_unsubscribe] at h3; cases h3⟩
  | ping => exact ⟨WireOf.pingreq hsrc, fun h3 => by rw [pktType_pingreq] at h3; cases h3⟩
  | disconnect t => exact WireOf.disconnect t hsrc hd

/-- the world a polled handle future is prepared in (`OpPrep`): the counters a request takes stay in range, a channel is
    created or dropped again, or the oneshot waited on is taken back -/
theorem XInv.prep {w w0 : World} {id : Nat} {st : OpSt} (hw : XInv S strict w) (hp : OpPrep w id st w0) :
    XInv S strict w0 := by
  cases hp with
  | fresh h req ch _ => exact { hw with pid := allocFor_pidOk w req hw.pid, sub := allocFor_subOk w req hw.sub }
  | wait s k rs _ _ => exact { hw with slots := fun s' p hm => hw.slots s' p ((eraseFirst_sublist _ _).subset hm) }

/-- **one poll of a handle future**: what it queues is the message of its request — in the domain, accepted, completed
    with counters in range — or the PUBREL for the well-formed PUBREC found in its oneshot -/
theorem XInv.pollOp {w : World} (hw : XInv S strict w) (id : Nat) : XInv S strict (w.pollOp id) := by
  rcases pollOp_spec w id with ⟨_, e⟩ | ⟨s, k, _, _, e⟩ |
    ⟨st, w0, ho, hp, ⟨o, hobs, e, _⟩ | ⟨m, s, k, why, _, e, _, hacc⟩⟩ <;> rw [e]
  · exact hw
  · exact { hw with }
  · exact (hw.prep hp).endOp id hobs
  · refine (hw.prep hp).sendAwait m ?_ id s k
    rcases why with ⟨h, req, rfl, rfl, _, _⟩ | ⟨s0, a, rfl, hs, _, rfl, _, _⟩
    · exact reqMsg_wire w id hw.pid hw.sub (hw.ops id h req (mem_of_lookupFirst _ _ _ ho)) (hacc h req rfl)
    · exact ⟨.ackOf (Or.inr (Or.inr (Or.inl rfl))) (hw.slots s0 _ (mem_of_lookupFirst _ _ _ hs)),
        fun h3 => by rw [pktType_pubrel] at h3; cases h3⟩

theorem XInv.pollStream {w : World} (hw : XInv S strict w) (id : Nat) : XInv S strict (w.pollStream id) := by
  rcases pollStream_shape w id with ⟨_, e⟩ | ⟨ch, p, rest, _, _, _, e⟩ | ⟨ch, _, _, _, _, e⟩ | ⟨ch, _, _, _, _, e⟩ <;>
    rw [e]
  · exact hw
  · exact { hw with out := hw.out_snoc (o := .item id p) trivial }
  · exact { hw with }
  · exact { hw with out := hw.out_snoc (o := .endStream id) trivial }

theorem XInv.dropOp {w : World} (hw : XInv S strict w) (id : Nat) : XInv S strict (w.dropOp id) := by
  rcases dropOp_spec w id with ⟨_, e⟩ | ⟨st, w0, _, hp, e⟩ <;> rw [e]
  · exact hw
  · refine XInv.eraseOp ?_ id
    cases hp with
    | fresh h req => exact hw
    | wait s k ch _ => exact { hw with slots := fun s' p hm => hw.slots s' p ((eraseFirst_sublist _ _).subset hm) }

theorem pollTask_wire (w : World) (t : Task) : Keeps S strict w (w.pollTask t) (w.taskSubmits t) := by
  cases t with
  | ctx => exact fun hw => pollCtx_wire _ (hw.unwake .ctx)
  | op n => exact .silent fun hw => (hw.unwake _).pollOp n
  | st n => exact .silent fun hw => (hw.unwake _).pollStream n

theorem pollTask_liveInv {w : World} (hl : LiveInv w) (t : Task) : LiveInv (w.pollTask t) := by
  have h0 : LiveInv (w.unwake t) := hl.of_eq rfl rfl (Or.inl rfl) rfl rfl
  cases t with
  | ctx => exact pollCtx_liveInv h0
  | op n => exact h0.userFrame (pollOp_userFrame _ n)
  | st n => exact h0.userFrame (pollStream_userFrame _ n)

theorem XInv.closes {a b : World} (h : Closes a b) (ha : XInv S strict a) : XInv S strict b := by
  obtain ⟨es, hd, rfl⟩ := h.effs
  exact ha.applyDrops hd

/-- what is pending at a reconnect is logged as a `WRAW` line: a proper prefix of one packet, and the limit was reached -/
theorem XInv.flushRaw {w : World} (hw : XInv S strict w) : XInv S strict w.flushRaw ∧ w.flushRaw.wirePend = [] := by
  unfold World.flushRaw
  split
  · rename_i h; exact ⟨hw, h⟩
  · rename_i h
    obtain ⟨hpart, l, hl, _⟩ := hw.pend.resolve_left h
    exact ⟨{ hw.emit (.wraw w.wirePend) ⟨hpart, fun _ => by rw [hl]; nofun⟩ with pend := Or.inl rfl }, rfl⟩

/-- **a script event whose request is in the domain** keeps the invariant. (A first `setup` resets the byte count: nothing
    may be pending then, which holds because nothing was ever written.) -/
theorem applied_wire {w w' : World} {e : Ev} (h : Applied w e w') (hw : XInv S strict w) (hd : EvOk S e)
    (hn : ¬ Live w → w.wirePend = []) : XInv S strict w' := by
  -- by the record update each outcome is (`Applied.norm`): most set no field the invariant reads
  cases h.norm with
  | poll t hl => exact (pollTask_wire w t hw).1
  | bad e => exact { hw with out := hw.out_snoc (o := .badscript) trivial }
  | same e => exact hw
  | newCtx ht hd' hc _ _ =>
    have hp : w.wirePend = [] := hn (by unfold Live; rw [hc, hd']; simp)
    exact { hw with pend := Or.inl hp, retx := fun _ he => (by cases he) }
  | newConn ou wp e _ _ _ =>
    have h := hw.flushRaw
    rw [e] at h
    exact { h.1 with pend := Or.inl h.2 }
  | start e tk hs hc ht =>
    refine { hw with task := ?_ }
    cases e <;> cases hs
    · exact ⟨fun _ => hd, fun h => absurd rfl h⟩  -- `connect`
    · exact ⟨nofun, fun _ => hd⟩  -- `authorize`
    · trivial  -- `run`
  | dropFut | dropCtxNone => exact hw.noTask
  | dropCtx sl sr ch wk e hc =>
    have h1 : XInv S strict (dropCtxClosed w) :=
      XInv.closes (closes_dropCtxClosed w) (show XInv S strict (dropCtxStart w) from { hw with task := trivial })
    rw [e] at h1
    exact { h1 with queue := fun _ hm => (by cases hm), retx := fun _ he => (by cases he) }
  | snap _ _ => exact { hw with out := hw.out_snoc (o := .state w.c) trivial }
  | op id h req _ _ =>
    refine { hw with ops := fun i hh rq hm => ?_ }
    rcases List.mem_append.mp hm with hm | hm
    · exact hw.ops i hh rq hm
    · obtain ⟨_, e⟩ := Prod.mk.inj (List.mem_singleton.mp hm)
      cases e; exact hd
  | dropOp id o sl sr ch wk qr e => exact e ▸ hw.dropOp id
  | _ => exact { hw with }

theorem applySubmits_wire (w : World) (hw : XInv S strict w) (e : Ev) : ∀ p ∈ w.applySubmits e, WireOf S p := by
  by_cases hp : ∃ t, e = .poll t
  · obtain ⟨t, rfl⟩ := hp
    simp only [applySubmits]
    split
    · exact (pollTask_wire w t hw).2
    · exact nofun
  · rw [applySubmits_nil w (fun t h => hp ⟨t, h⟩)]; exact nofun

theorem applied_liveInv {w w' : World} {e : Ev} (h : Applied w e w') (hl : LiveInv w) : LiveInv w' := by
  -- by the record update each outcome is (`Applied.norm`): most leave the five fields `LiveInv` reads alone
  cases h.norm with
  | poll t _ => exact pollTask_liveInv hl t
  | newCtx => exact Or.inl ⟨Or.inl rfl, fun _ => rfl⟩
  | newConn _ _ _ _ _ hc => exact Or.inl ⟨Or.inl hc, fun _ => hc⟩
  | start _ _ _ hc => exact Or.inl ⟨Or.inl hc, fun _ => hc⟩
  | dropFut | dropCtxNone => exact hl.of_eq rfl rfl (Or.inr rfl) rfl rfl
  | dropCtx => exact Or.inl ⟨Or.inr rfl, fun h => absurd rfl h⟩
  | _ => exact hl.of_eq rfl rfl (Or.inl rfl) rfl rfl

theorem script_wire (evs : List Ev) (w : World) (hw : XInv S strict w) (hl : LiveInv w) (hd : ∀ e ∈ evs, EvOk S e) :
    (XInv S strict (evs.foldl step w) ∧ LiveInv (evs.foldl step w)) ∧ ∀ p ∈ scriptSubmits w evs, WireOf S p := by
  refine scriptSubmits_lift (R := fun w w' l => XInv S strict w ∧ LiveInv w →
      (XInv S strict w' ∧ LiveInv w') ∧ ∀ p ∈ l, WireOf S p) (fun w h => ⟨h, nofun⟩) ?_ ?_ evs ?_ ?_ w ⟨hw, hl⟩
  · intro a b c l m h1 h2 ha
    obtain ⟨hb, s1⟩ := h1 ha
    obtain ⟨hc, s2⟩ := h2 hb
    exact ⟨hc, fun p hp => (List.mem_append.mp hp).elim (s1 p) (s2 p)⟩
  · intro w t _ _ h
    exact ⟨⟨(pollTask_wire w t h.1).1, pollTask_liveInv h.2 t⟩, (pollTask_wire w t h.1).2⟩
  · rintro w o (⟨e, _, rfl⟩ | rfl) h <;>
      exact ⟨⟨h.1.emit _ trivial, h.2.of_eq rfl rfl (Or.inl rfl) rfl rfl⟩, nofun⟩
  · intro e he w h
    have ha := apply_spec w e
    have hn : ¬ Live w → w.wirePend = [] := fun hnl => h.2.elim (fun hlo => absurd hlo.1 hnl) (fun x => x.1)
    exact ⟨⟨applied_wire ha h.1 (hd e he) hn, applied_liveInv ha h.2⟩, applySubmits_wire w h.1 e⟩

theorem WInv.handled {w w0 : World} (hw : WInv S w) (h : Bool → Ctx × List Eff × Flow)
    (cfg : w0.cfg = w.cfg) (pend : w0.wirePend = w.wirePend) (out : w0.out = w.out)
    (queue : ∀ m ∈ w0.queue, m ∈ w.queue) (ops : w0.ops = w.ops) (task : w0.task = w.task)
    (pid : w0.pidCtr = w.pidCtr) (sub : w0.subCtr = w.subCtr) (slots : w0.slots = w.slots)
    (hr : ∀ e ∈ (h true).1.retx, WireOf S e.2) (he : ∀ p ∈ writesOf (h true).2.1, WireOf S p)
    (hs : ∀ s q, Eff.send s (.pkt q) ∈ (h true).2.1 → q.wf) : WInv S (w0.runHandler h).1 := by
  have hl : w0.cfg.wlimit = none := cfg ▸ hw.lim
  rw [runHandler_eq, canWrite_unlimited w0 hl]
  have h0 : XInv S True ({ w0 with c := (h true).1 } : World) :=
    { pend := Or.inl (pend.trans hw.pend)
      out := fun o ho => hl ▸ obsOk_iff.mp (hw.out o (out ▸ ho))
      queue := fun m hm => hw.queue m (queue m hm)
      retx := hr
      ops := fun i hh req hm => hw.ops i hh req (ops ▸ hm)
      task := task ▸ hw.task
      pid := pid ▸ hw.pid
      sub := sub ▸ hw.sub
      slots := fun s p hm => hw.slots s p (slots ▸ hm) }
  exact (h0.applyEffs _ he hs).toW (by simpa using hl)

theorem WInv.resumed {w : World} (hw : WInv S w) : WInv S w.resumed :=
  hw.toX.resumed.toW (by rw [resumed_cfg]; exact hw.lim)

theorem WInv.allocPid {w : World} (hw : WInv S w) : WInv S w.allocPid.2 :=
  hw.toX.allocPid.toW hw.lim

theorem WInv.closes {a b : World} (h : Closes a b) (ha : WInv S a) : WInv S b :=
  (XInv.closes h ha.toX).toW (by rw [(closes_inv h).cfg_eq]; exact ha.lim)

theorem CInv.handled {w w0 : World} (hw : CInv S w) (h : Bool → Ctx × List Eff × Flow)
    (cfg : w0.cfg = w.cfg) (pend : w0.wirePend = w.wirePend) (out : w0.out = w.out)
    (queue : ∀ m ∈ w0.queue, m ∈ w.queue) (ops : w0.ops = w.ops) (task : w0.task = w.task)
    (pid : w0.pidCtr = w.pidCtr) (sub : w0.subCtr = w.subCtr) (slots : w0.slots = w.slots)
    (written : w0.written = w.written) (hasCtx : w0.hasCtx = w.hasCtx) (ctxDropped : w0.ctxDropped = w.ctxDropped)
    (hr : ∀ wok, ∀ e ∈ (h wok).1.retx, WireOf S e.2) (he : ∀ wok, ∀ p ∈ writesOf (h wok).2.1, WireOf S p)
    (hs : ∀ wok s q, Eff.send s (.pkt q) ∈ (h wok).2.1 → q.wf) : CInv S (w0.runHandler h).1 := by
  refine .ofX (XInv.runHandler h (fun wok => ?_) he hs)
    (hw.live.of_eq (by rw [runHandler_hasCtx, hasCtx]) (by rw [runHandler_ctxDropped, ctxDropped])
      (Or.inl (by rw [runHandler_task, task])))
  exact
    { pend := hw.inv.pend.of_eq pend written cfg
      out := fun o ho => cfg ▸ obsOkL_iff.mp (hw.inv.out o (out ▸ ho))
      queue := fun m hm => hw.inv.queue m (queue m hm)
      retx := hr wok
      ops := fun i hh req hm => hw.inv.ops i hh req (ops ▸ hm)
      task := task ▸ hw.inv.task
      pid := pid ▸ hw.inv.pid
      sub := sub ▸ hw.inv.sub
      slots := fun s p hm => hw.inv.slots s p (slots ▸ hm) }

theorem CInv.runLoop (f : Nat) {w : World} (hw : CInv S w) : CInv S (runLoop f w) :=
  .ofX (runLoop_wire f w hw.inv.toX).1 (runLoop_liveOk f hw.live)

theorem CInv.resumed {w : World} (hw : CInv S w) (ht : w.task ≠ .none) : CInv S w.resumed :=
  .ofX hw.inv.toX.resumed (resumed_liveOk hw.live ht)

theorem LInv.allocPid {w : World} (hw : LInv S w) : LInv S w.allocPid.2 :=
  hw.toX.allocPid.toL (LiveInv.of_eq hw.live rfl rfl (Or.inl rfl) rfl rfl)

theorem LInv.closes {a b : World} (h : Closes a b) (ha : LInv S a) : LInv S b :=
  (XInv.closes h ha.toX).toL (LiveInv.closes h ha.live)

theorem LInv.script (evs : List Ev) {w : World} (hw : LInv S w) (hd : ∀ e ∈ evs, EvOk S e) :
    LInv S (evs.foldl World.step w) :=
  have h := (script_wire evs w hw.toX hw.live hd).1
  h.1.toL h.2

end World
end Poster

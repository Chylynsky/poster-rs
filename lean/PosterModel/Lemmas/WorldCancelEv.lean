/-
  Lemmas/WorldCancelEv.lean — `hide id` commutes with every script event that does not address task `op id`; the side
  conditions (`Side`) are carried through an event; with the polls (Lemmas/WorldCancelStep.lean) that makes it an
  `Erasure`.
-/
import PosterModel.Lemmas.WorldCancelStep

namespace Poster
open Framing
namespace World
namespace W11

theorem flushRaw_hide (id) (w : World) : (hide id w).flushRaw = hide id w.flushRaw := by
  rw [hide_eq]; exact Era.flushRaw_app (hideE_wf id) w

theorem mineEv_task {id : Nat} {e : Ev} {t : Task} (h : mineEv id e = false) (ht : e.task? = some t) : t ≠ .op id := by
  rintro rfl
  cases e <;> cases ht <;> simp [mineEv] at h

theorem hideE_evWf (id : Nat) : (hideE id).EvWf :=
  ⟨fun _ => rfl, fun _ => rfl, rfl, rfl, fun _ _ => rfl, Era.dropCtxClosed_app (hideE_wf id) fun _ => rfl⟩

theorem hideE_seesEv {id : Nat} {e : Ev} (hm : mineEv id e = false) : (hideE id).SeesEv e :=
  ⟨fun t ht => (keepT_true id t).mpr (mineEv_task hm ht),
    fun j he => hideE_seesOp (by subst he; simpa [mineEv] using hm), fun _ _ => ⟨rfl, rfl⟩⟩

theorem apply_hide (id) (w : World) (e : Ev) (hm : mineEv id e = false) (h : Side id w)
    (hk : (w.apply e).handles ≠ []) : (hide id w).apply e = hide id (w.apply e) := by
  rw [hide_eq]
  exact Era.apply_app (hideE_wf id) (hideE_evWf id) w e (hideE_seesEv hm) (Or.inl h.handles) (Or.inl hk)
    (fun t ht => by subst ht; rw [← hide_eq]; exact pollTask_hide id w t (mineEv_task hm rfl) h)
    (Era.keepsSlots_of_slotOf (own_of_opsInv h.ops))

theorem applied_held_mem {t0 : Task} {w w' : World} {e : Ev} (a : Applied w e w') (hm : e ≠ .release t0)
    (h : t0 ∈ w.held) : t0 ∈ w'.held := by
  cases a.norm with
  | release t => exact List.mem_filter.mpr ⟨h, by simpa using fun e' : t0 = t => hm (e' ▸ rfl)⟩
  | hold t _ => exact List.mem_append_left _ h
  | poll t _ => rw [(pollTask_pollFrame w t).held]; exact h
  | _ => exact h

theorem apply_held_mem_task (t0 : Task) (w : World) (e : Ev) (hm : e ≠ .release t0) (h : t0 ∈ w.held) :
    t0 ∈ (w.apply e).held :=
  applied_held_mem (apply_spec w e) hm h

theorem evTag_ne (id : Nat) (e : Ev) (hm : mineEv id e = false) : ∀ t, EvTag e t → t ≠ some id := by
  rintro _ ht rfl
  have op : ∀ n, OpTag n (some id) → n = id := fun n h => h.elim nofun fun h => (Option.some.inj h).symm
  cases e with
  | poll u =>
    cases u with
    | op n => exact mineEv_task hm rfl (congrArg Task.op (op n ht))
    | _ => cases ht
  | drop u =>
    cases u with
    | op n => exact mineEv_task hm rfl (congrArg Task.op (op n ht))
    | _ => cases ht
  | _ => cases ht

theorem apply_opSt_none (id) (w : World) (e : Ev) (hm : mineEv id e = false) (h : w.opSt id = none) :
    (w.apply e).opSt id = none := by
  rcases apply_decomp w e with ⟨j, hd, req, rfl, ha⟩ | hmv
  · have hj : j ≠ id := by simpa [mineEv] using hm
    unfold opSt at h ⊢
    rw [ha.ops]
    rw [lookupFirst_none_iff] at h ⊢
    simp only [List.map_append, List.map_cons, List.map_nil, List.mem_append, List.mem_singleton, not_or]
    exact ⟨h, fun e => hj e.symm⟩
  · rw [moves_opSt_ne hmv id (evTag_ne id e hm)]; exact h

theorem apply_frozen (id) (w : World) (e : Ev) (hm : mineEv id e = false) (h : Frozen id w) :
    Frozen id (w.apply e) := by
  rcases h with h | h
  · exact Or.inl (apply_held_mem_task _ w e (fun e' => by rw [e'] at hm; simp [mineEv] at hm) h)
  · exact Or.inr (apply_opSt_none id w e hm h)

theorem Side.emit {id : Nat} {w : World} (h : Side id w) (o : Obs) : Side id (w.emit o) :=
  ⟨h.handles, h.ops.emit o, h.frozen⟩

theorem Side.apply {id : Nat} {w : World} (h : Side id w) (e : Ev) (hm : mineEv id e = false)
    (hk : (w.apply e).handles ≠ []) : Side id (w.apply e) :=
  ⟨hk, h.ops.apply e, apply_frozen id w e hm h.frozen⟩

theorem polls_hide (id : Nat) : (hideE id).Polls (Side id) where
  wf := hideE_wf id
  frozen := fun w t s hk => by
    rw [(keepT_false id t).mp hk]
    rintro ⟨hl, hh⟩
    rcases s.frozen with h | h
    · exact hh h
    · simp [taskLive, h] at hl
  poll := fun w t s hk _ _ =>
    have ht := (keepT_true id t).mp hk
    ⟨by rw [← hide_eq]; exact pollTask_hide id w t ht s, s.pollTask t ht⟩

theorem erasure_hide (id : Nat) : Erasure (hide id) (Side id) := by
  rw [hide_eq]; exact (polls_hide id).erasure (fun _ => rfl) rfl fun _ o s => s.emit o

end W11
end World
end Poster

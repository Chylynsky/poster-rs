/-
  Lemmas/WorldTweak.lean — `tweak b p w` is `w` with the `sweep` switch of its configuration set to `b` and
  `p` put in front of its transcript: the erasure `tweakE b p`, which keeps everything. Every state-transforming
  function of `World` commutes with `tweak` (nothing reads `cfg.sweep` except `step`, and the transcript is only ever
  appended to).
-/
import PosterModel.Lemmas.WorldEraScript

namespace Poster
open Framing
namespace World
open W11

def tweak (b : Bool) (p : List Obs) (w : World) : World :=
  { w with cfg := { w.cfg with sweep := b }, out := p ++ w.out }

/-- `step` without the sweep phase -/
def stepN (w : World) (e : Ev) : World :=
  if w.bad then w else
  let w := (w.emit (.ev e)).apply e
  if w.bad then w else
  let w := drain w.drainFuel w
  if w.task ≠ .none ∧ w.reader ≠ [] then w.emit .stall else w

@[simp] theorem tweak_hasCtx (b p) (w : World) : (tweak b p w).hasCtx = w.hasCtx := rfl
@[simp] theorem tweak_ctxDropped (b p) (w : World) : (tweak b p w).ctxDropped = w.ctxDropped := rfl
@[simp] theorem tweak_task (b p) (w : World) : (tweak b p w).task = w.task := rfl
@[simp] theorem tweak_c (b p) (w : World) : (tweak b p w).c = w.c := rfl
@[simp] theorem tweak_rx (b p) (w : World) : (tweak b p w).rx = w.rx := rfl
@[simp] theorem tweak_reader (b p) (w : World) : (tweak b p w).reader = w.reader := rfl
@[simp] theorem tweak_readerReg (b p) (w : World) : (tweak b p w).readerReg = w.readerReg := rfl
@[simp] theorem tweak_queue (b p) (w : World) : (tweak b p w).queue = w.queue := rfl
@[simp] theorem tweak_queueReg (b p) (w : World) : (tweak b p w).queueReg = w.queueReg := rfl
@[simp] theorem tweak_handles (b p) (w : World) : (tweak b p w).handles = w.handles := rfl
@[simp] theorem tweak_ops (b p) (w : World) : (tweak b p w).ops = w.ops := rfl
@[simp] theorem tweak_slots (b p) (w : World) : (tweak b p w).slots = w.slots := rfl
@[simp] theorem tweak_slotReg (b p) (w : World) : (tweak b p w).slotReg = w.slotReg := rfl
@[simp] theorem tweak_chans (b p) (w : World) : (tweak b p w).chans = w.chans := rfl
@[simp] theorem tweak_rsps (b p) (w : World) : (tweak b p w).rsps = w.rsps := rfl
@[simp] theorem tweak_streams (b p) (w : World) : (tweak b p w).streams = w.streams := rfl
@[simp] theorem tweak_pidCtr (b p) (w : World) : (tweak b p w).pidCtr = w.pidCtr := rfl
@[simp] theorem tweak_subCtr (b p) (w : World) : (tweak b p w).subCtr = w.subCtr := rfl
@[simp] theorem tweak_woken (b p) (w : World) : (tweak b p w).woken = w.woken := rfl
@[simp] theorem tweak_held (b p) (w : World) : (tweak b p w).held = w.held := rfl
@[simp] theorem tweak_written (b p) (w : World) : (tweak b p w).written = w.written := rfl
@[simp] theorem tweak_wirePend (b p) (w : World) : (tweak b p w).wirePend = w.wirePend := rfl
@[simp] theorem tweak_bad (b p) (w : World) : (tweak b p w).bad = w.bad := rfl
@[simp] theorem tweak_out (b p) (w : World) : (tweak b p w).out = p ++ w.out := rfl
@[simp] theorem tweak_cfg_sweep (b p) (w : World) : (tweak b p w).cfg.sweep = b := rfl
@[simp] theorem tweak_cfg_fill (b p) (w : World) : (tweak b p w).cfg.fill = w.cfg.fill := rfl
@[simp] theorem tweak_cfg_rdp (b p) (w : World) : (tweak b p w).cfg.rdp = w.cfg.rdp := rfl
@[simp] theorem tweak_cfg_wlimit (b p) (w : World) : (tweak b p w).cfg.wlimit = w.cfg.wlimit := rfl

@[simp] theorem senders_tweak (b p) (w : World) : (tweak b p w).senders = w.senders := rfl
@[simp] theorem canWrite_tweak (b p) (w : World) (n : Nat) : (tweak b p w).canWrite n = w.canWrite n := rfl
@[simp] theorem chanRxAlive_tweak (b p) (w : World) (c : Nat) : (tweak b p w).chanRxAlive c = w.chanRxAlive c := rfl
@[simp] theorem chanRxAlive_tweak' (b p) (w : World) : (tweak b p w).chanRxAlive = w.chanRxAlive := rfl
@[simp] theorem loopFuel_tweak (b p) (w : World) : (tweak b p w).loopFuel = w.loopFuel := rfl
@[simp] theorem drainFuel_tweak (b p) (w : World) : (tweak b p w).drainFuel = w.drainFuel := rfl

theorem mk_tweak (b p) (w : World) (hasCtx ctxDropped task c rx reader readerReg queue queueReg handles ops slots slotReg
    chans rsps streams pidCtr subCtr woken held written wirePend out bad) :
    (⟨(tweak b p w).cfg, hasCtx, ctxDropped, task, c, rx, reader, readerReg, queue, queueReg, handles, ops, slots,
      slotReg, chans, rsps, streams, pidCtr, subCtr, woken, held, written, wirePend, p ++ out, bad⟩ : World) =
    tweak b p ⟨w.cfg, hasCtx, ctxDropped, task, c, rx, reader, readerReg, queue, queueReg, handles, ops, slots,
      slotReg, chans, rsps, streams, pidCtr, subCtr, woken, held, written, wirePend, out, bad⟩ := rfl

def tweakE (b : Bool) (p : List Obs) : Era :=
  { cfg := fun c => { c with sweep := b }, c := fun c => c,
    kTask := fun _ => true, pre := p, kObs := fun _ => true }

theorem tweak_eq (b p) : tweak b p = (tweakE b p).app :=
  funext fun w => by simp [tweak, Era.app, tweakE, Era.kOp_eq, Era.kSlot_eq, Era.kChan_eq, filter_all]

theorem tweakE_wf (b p) : (tweakE b p).Wf :=
  ⟨fun _ => rfl, rfl, fun _ _ => rfl⟩

theorem tweakE_snd (b p) (w : World) : (tweakE b p).Snd w := Or.inr fun _ => rfl

theorem tweakE_ctxSide (b p) : (tweakE b p).CtxSide (fun _ => True) :=
  Era.ctxSide_plain (fun _ => rfl) (fun _ => rfl) (fun w _ => tweakE_snd b p w) (fun _ _ _ _ => trivial)
    (fun _ _ => trivial)

theorem tweakE_sees (b p) (t : Task) : (tweakE b p).Sees t := by
  cases t with
  | ctx => trivial
  | op j => exact ⟨rfl, rfl, fun _ _ => rfl⟩
  | st j => exact ⟨rfl, fun _ _ => rfl⟩

theorem tweakE_evWf (b p) : (tweakE b p).EvWf :=
  ⟨fun _ => rfl, fun _ => rfl, rfl, rfl, fun _ _ => rfl, Era.dropCtxClosed_app (tweakE_wf b p) fun _ => rfl⟩

theorem tweakE_seesEv (b p) (e : Ev) : (tweakE b p).SeesEv e :=
  ⟨fun _ _ => rfl, fun _ _ => ⟨rfl, rfl, fun _ _ => rfl⟩, fun _ _ => ⟨rfl, rfl⟩⟩

theorem emit_tweak (b p) (w : World) (o : Obs) : (tweak b p w).emit o = tweak b p (w.emit o) := by
  rw [tweak_eq]; exact Era.emit_app w o rfl

theorem unwake_tweak (b p) (w : World) (t : Task) : (tweak b p w).unwake t = tweak b p (w.unwake t) := rfl

theorem setSlot_tweak (b p) (w : World) (s : Nat) (v : Slot) :
    (tweak b p w).setSlot s v = tweak b p (w.setSlot s v) := rfl

theorem setChan_tweak (b p) (w : World) (c : Nat) (v : Chan) :
    (tweak b p w).setChan c v = tweak b p (w.setChan c v) := rfl

theorem allocPid_tweak (b p) (w : World) : (tweak b p w).allocPid = (w.allocPid.1, tweak b p w.allocPid.2) := rfl
theorem allocSub_tweak (b p) (w : World) : (tweak b p w).allocSub = (w.allocSub.1, tweak b p w.allocSub.2) := rfl

theorem dropChanRx_tweak (b p) (w : World) (c : Nat) :
    (tweak b p w).dropChanRx c = tweak b p (w.dropChanRx c) := rfl

theorem clearSlot_tweak (b p) (w : World) (s : Nat) :
    (tweak b p w).clearSlot s = tweak b p (w.clearSlot s) := rfl

theorem allocPid_tweak_snd (b p) (w : World) : (tweak b p w).allocPid.2 = tweak b p w.allocPid.2 := rfl
theorem allocSub_tweak_snd (b p) (w : World) : (tweak b p w).allocSub.2 = tweak b p w.allocSub.2 := rfl

theorem dropCtxStart_tweak (b p) (w : World) : dropCtxStart (tweak b p w) = tweak b p (dropCtxStart w) := rfl

theorem runHandler_tweak (b p) (w : World) (h : Bool → Ctx × List Eff × Flow) :
    (tweak b p w).runHandler h = (tweak b p (w.runHandler h).1, (w.runHandler h).2) := by
  rw [tweak_eq]; exact Era.runHandler_app (tweakE_wf b p) w h h fun _ => ⟨rfl, rfl, rfl⟩

theorem runHandler_tweak_fst (b p) (w : World) (h : Bool → Ctx × List Eff × Flow) :
    ((tweak b p w).runHandler h).1 = tweak b p (w.runHandler h).1 := by rw [runHandler_tweak]
theorem runHandler_tweak_snd (b p) (w : World) (h : Bool → Ctx × List Eff × Flow) :
    ((tweak b p w).runHandler h).2 = (w.runHandler h).2 := by rw [runHandler_tweak]

theorem sendMsg_match_tweak (b p) (w : World) (m : Msg) (id s : Nat) (k : Wait) (x : World) :
    (match (tweak b p w).sendMsg m with
      | none => tweak b p x
      | some w1 => w1.awaitSlot id s k) =
    tweak b p (match w.sendMsg m with
      | none => x
      | some w1 => w1.awaitSlot id s k) := by
  rw [tweak_eq, Era.sendMsg_app (tweakE_wf b p)]
  cases w.sendMsg m with
  | none => rfl
  | some w1 => exact Era.awaitSlot_app w1 id s k rfl rfl

theorem pollTask_tweak (b p) (w : World) (t : Task) : (tweak b p w).pollTask t = tweak b p (w.pollTask t) := by
  rw [tweak_eq]
  exact Era.pollTask_app (tweakE_wf b p) (tweakE_ctxSide b p) w t (tweakE_sees b p t) trivial (tweakE_snd b p w)
    (Era.keepsSlots_of_all (fun _ => rfl) _)

theorem polls_tweak (b p) : (tweakE b p).Polls (fun _ => True) :=
  ⟨tweakE_wf b p, fun _ _ _ ht => (nomatch ht), fun w t _ _ _ _ => ⟨by rw [← tweak_eq]; exact pollTask_tweak b p w t, trivial⟩⟩

@[simp] theorem pick_tweak (b p) (w : World) : (tweak b p w).pick = w.pick := by
  rw [tweak_eq]; exact (polls_tweak b p).pick w trivial

theorem drain_tweak (b p) (f : Nat) (w : World) : drain f (tweak b p w) = tweak b p (drain f w) := by
  rw [tweak_eq]; exact ((polls_tweak b p).drain f w trivial).1

theorem sweep_tweak (b p) (w : World) : (tweak b p w).sweep = tweak b p w.sweep := by
  rw [tweak_eq]; exact ((polls_tweak b p).sweep w trivial).1

theorem finishScript_tweak (b p) (w : World) : (tweak b p w).finishScript = tweak b p w.finishScript := by
  rw [tweak_eq]; exact Era.flushRaw_app (tweakE_wf b p) w

theorem apply_tweak (b p) (w : World) (e : Ev) : (tweak b p w).apply e = tweak b p (w.apply e) := by
  rw [tweak_eq]
  exact Era.apply_app (tweakE_wf b p) (tweakE_evWf b p) w e (tweakE_seesEv b p e) (tweakE_snd b p _) (tweakE_snd b p _)
    (fun t _ => by rw [← tweak_eq]; exact pollTask_tweak b p w t) (Era.keepsSlots_of_all (fun _ => rfl) _)

theorem stepN_tweak (b p) (w : World) (e : Ev) : stepN (tweak b p w) e = tweak b p (stepN w e) := by
  unfold stepN
  simp only [tweak_bad, emit_tweak, apply_tweak, drainFuel_tweak, drain_tweak, tweak_task, tweak_reader, apply_ite (tweak b p)]

theorem stepsN_tweak (b p) (evs : List Ev) (w : World) :
    evs.foldl stepN (tweak b p w) = tweak b p (evs.foldl stepN w) :=
  List.foldl_hom (tweak b p) (H := stepN_tweak b p)

/-! ## the configuration never changes -/

theorem pollTask_cfg (w : World) (t : Task) : (w.pollTask t).cfg = w.cfg := (pollTask_pollFrame w t).cfg

theorem drain_cfg (f : Nat) (w : World) : (drain f w).cfg = w.cfg :=
  drain_lift (R := fun w w' => w'.cfg = w.cfg) (fun _ => rfl) (fun h1 h2 => h2.trans h1) (fun w t _ => pollTask_cfg w t) f w

theorem badScript_cfg (w : World) : w.badScript.cfg = w.cfg := rfl

theorem applied_cfg {w w' : World} {e : Ev} (h : Applied w e w') : w'.cfg = w.cfg := by
  cases h.norm with
  | poll t _ => exact pollTask_cfg w t
  | _ => rfl
theorem apply_cfg (w : World) (e : Ev) : (w.apply e).cfg = w.cfg := applied_cfg (apply_spec w e)

theorem step_cfg (w : World) (e : Ev) : (w.step e).cfg = w.cfg :=
  step_lift_ev (R := fun w w' => w'.cfg = w.cfg) (fun _ => rfl) (fun h1 h2 => h2.trans h1)
    (fun w t _ _ => pollTask_cfg w t) (fun _ => rfl) w e fun _ => apply_cfg _ e

theorem steps_cfg (evs : List Ev) (w : World) : (evs.foldl step w).cfg = w.cfg := by
  induction evs generalizing w with
  | nil => rfl
  | cons e t ih => rw [List.foldl_cons, ih, step_cfg]

theorem stepN_cfg (w : World) (e : Ev) : (stepN w e).cfg = w.cfg := by
  unfold stepN
  simp only [apply_ite World.cfg, emit_cfg, apply_cfg, drain_cfg, ite_self]

/-! ## the `sweep` switch is only read by `step` -/

theorem step_eq_stepN_of_nosweep (w : World) (e : Ev) (h : w.cfg.sweep = false) : w.step e = stepN w e := by
  have hs : (drain ((w.emit (.ev e)).apply e).drainFuel ((w.emit (.ev e)).apply e)).cfg.sweep = false := by
    rw [drain_cfg, apply_cfg]; exact h
  unfold step stepN
  simp only [hs, Bool.false_eq_true, ↓reduceIte]

/-! ## a whole step: `settle` reads the switch once, after the first drain -/

theorem settle_tweak (b p) (w : World) (h : w.cfg.sweep = b) : (tweak b p w).settle = tweak b p w.settle := by
  have hd : drained (tweak b p w) = tweak b p (drained w) := by
    unfold drained
    simp only [drainFuel_tweak, drain_tweak, tweak_cfg_sweep]
    rw [drain_cfg, h]
    by_cases hb : b = true
    · rw [if_pos hb, if_pos hb, sweep_tweak, drainFuel_tweak, drain_tweak]
    · rw [if_neg hb, if_neg hb]
  rw [settle_eq, settle_eq, tweak_bad, hd, tweak_task, tweak_reader, emit_tweak, apply_ite (tweak b p),
    apply_ite (tweak b p)]

theorem step_tweak (b p) (w : World) (h : w.cfg.sweep = b) (e : Ev) :
    (tweak b p w).step e = tweak b p (w.step e) := by
  rw [step_eq_settle, step_eq_settle, tweak_bad, emit_tweak, apply_tweak,
    settle_tweak b p _ (by rw [apply_cfg]; exact h), apply_ite (tweak b p)]

theorem steps_tweak (b p) (evs : List Ev) (w : World) (h : w.cfg.sweep = b) :
    evs.foldl step (tweak b p w) = tweak b p (evs.foldl step w) := by
  induction evs generalizing w with
  | nil => rfl
  | cons e t ih => rw [List.foldl_cons, List.foldl_cons, step_tweak b p w h, ih _ (by rw [step_cfg]; exact h)]

end World
end Poster

#print axioms Poster.World.apply_tweak
#print axioms Poster.World.drain_tweak
#print axioms Poster.World.sweep_tweak
#print axioms Poster.World.stepN_tweak
#print axioms Poster.World.stepsN_tweak
#print axioms Poster.World.finishScript_tweak
#print axioms Poster.World.step_eq_stepN_of_nosweep
#print axioms Poster.World.stepN_cfg

/-
  What every move (`SMove`) and every trace (`STrace`) preserves: well-formedness of the channel table, the conservation
  law for one channel, identifier bookkeeping, and the provenance of a closed channel.
-/
import PosterModel.Lemmas.WorldStream

namespace Poster
open Framing
namespace World

theorem chan_of_chans {w w' : World} (h : w'.chans = w.chans) (j : Nat) : w'.chan j = w.chan j := by
  simp [chan, h]

theorem chan_setAssoc {w w' : World} {k : Nat} {v : Chan} (h : w'.chans = setAssoc k v w.chans) (j : Nat) :
    w'.chan j = if j = k then some v else w.chan j := by
  simp only [chan, h]; exact lookupFirst_setAssoc j k v w.chans

theorem chan_erase_ne {w w' : World} {k : Nat} (h : w'.chans = eraseFirst k w.chans) (j : Nat) (hj : j ≠ k) :
    w'.chan j = w.chan j := by
  simp only [chan, h]; exact lookupFirst_eraseFirst_of_ne hj w.chans

theorem chan_erase_self {w w' : World} {k : Nat} (h : w'.chans = eraseFirst k w.chans)
    (hn : (w.chans.map (·.1)).Nodup) : w'.chan k = none := by
  simp only [chan, h]; exact Poster.lookupFirst_eraseFirst_self k w.chans hn

/-- the channel table has one entry per channel, and every entry has its receiving half -/
structure ChanWf (w : World) : Prop where
  nodup : (w.chans.map (·.1)).Nodup
  rx : ∀ id ch, w.chan id = some ch → ch.rxAlive = true

theorem chanWf_init (cfg : Cfg) : ChanWf { cfg := cfg } := ⟨by simp, by simp [chan, lookupFirst]⟩

theorem chanWf_of_eq {w w' : World} (h : ChanWf w) (e : w'.chans = w.chans) : ChanWf w' :=
  ⟨by rw [e]; exact h.nodup, fun id ch hc => h.rx id ch (by rw [← chan_of_chans e]; exact hc)⟩

theorem chanWf_setAssoc {w w' : World} {k : Nat} {v : Chan} (h : ChanWf w) (e : w'.chans = setAssoc k v w.chans)
    (hv : v.rxAlive = true) : ChanWf w' := by
  constructor
  · rw [e]
    cases hl : lookupFirst k w.chans with
    | none =>
      rw [keys_setAssoc_of_absent k v _ hl]
      refine List.nodup_append.mpr ⟨h.nodup, by simp, ?_⟩
      intro a ha b hb
      simp only [List.mem_singleton] at hb
      subst hb
      intro hab; subst hab
      exact (lookupFirst_none_iff a w.chans).mp hl ha
    | some v0 => rw [keys_setAssoc_of_lookup k v v0 _ hl]; exact h.nodup
  · intro id ch hc
    rw [chan_setAssoc e] at hc
    split at hc
    · cases hc; exact hv
    · exact h.rx id ch hc

theorem chanWf_erase {w w' : World} {k : Nat} (h : ChanWf w) (e : w'.chans = eraseFirst k w.chans) : ChanWf w' := by
  constructor
  · rw [e]; exact eraseFirst_keys_nodup k _ h.nodup
  · intro id ch hc
    by_cases hid : id = k
    · subst hid; rw [chan_erase_self e h.nodup] at hc; cases hc
    · rw [chan_erase_ne e id hid] at hc; exact h.rx id ch hc

theorem chanWf_effs {w w' : World} {es : List Eff} (h : ChanWf w) (e : w'.chans = chEffs w.chans es) : ChanWf w' := by
  constructor
  · rw [e, chEffs_keys]; exact h.nodup
  · intro id ch hc
    have hc' : lookupFirst id (chEffs w.chans es) = some ch := by simpa [chan, e] using hc
    rw [lookup_chEffs_eq] at hc'
    cases hv : lookupFirst id w.chans with
    | none => rw [hv] at hc'; cases hc'
    | some c0 =>
      rw [hv] at hc'; cases hc'
      rw [(effUpds_spec id es c0).2.1]; exact h.rx id c0 hv

theorem ChanWf.move {l : SLab} {w w' : World} (h : ChanWf w) (m : SMove l w w') : ChanWf w' := by
  cases m with
  | tau chans => exact chanWf_of_eq h chans
  | ctx src ok chans => exact chanWf_effs h chans
  | addOp id hd req absent ops chans => exact chanWf_of_eq h chans
  | alloc id hd req fresh notFresh ops chans => exact chanWf_of_eq h chans
  | new id hd req fresh notFresh ops chans => exact chanWf_setAssoc h chans rfl
  | dropRx id chans => exact chanWf_erase h chans
  | pop id p ch rest hch hbuf chans => exact chanWf_setAssoc h chans (h.rx id ch hch)
  | park id ch hch hbuf htx chans => exact chanWf_setAssoc h chans (h.rx id ch hch)
  | endS id ch hch hbuf htx chans => exact chanWf_erase h chans

theorem ChanWf.trace {tr : List SLab} {w w' : World} (h : ChanWf w) (t : STrace w tr w') : ChanWf w' := by
  induction t with
  | refl => exact h
  | cons m _ ih => exact ih (h.move m)

theorem ChanWf.rxAlive_iff {w : World} (h : ChanWf w) (ch : Nat) : w.chanRxAlive ch = true ↔ w.chan ch ≠ none := by
  unfold chanRxAlive
  cases hv : w.chan ch with
  | none => simp
  | some c0 => simp [h.rx ch c0 hv]

/-- what the move of a label does to the entry of channel `id`: the effects of the context update it; `new` creates it
    empty; its receiver dropped or its stream ended, it is gone; its stream pops the head of the buffer or parks -/
def SLab.chanAt (id : Nat) : SLab → Option Chan → Option Chan
  | .ctx src, e => e.map fun ch => src.effs.foldl (fun ch x => effUpd id x ch) ch
  | .new c, e => if id = c then some {} else e
  | .dropRx c, e => if id = c then none else e
  | .endS c, e => if id = c then none else e
  | .pop c _, e => if id = c then e.map fun ch => { ch with buf := ch.buf.tail } else e
  | .park c, e => if id = c then e.map fun ch => { ch with reg := true } else e
  | _, e => e

/-- removing an entry needs the keys to be distinct, unless there was none -/
theorem SMove.chan_at {l : SLab} {w w' : World} (m : SMove l w w') (id : Nat)
    (h : (w.chans.map (·.1)).Nodup ∨ w.chan id = none ∨ (l ≠ .dropRx id ∧ l ≠ .endS id)) :
    w'.chan id = l.chanAt id (w.chan id) := by
  have erase : ∀ c, w'.chans = eraseFirst c w.chans → (l = .dropRx c ∨ l = .endS c) →
      w'.chan id = if id = c then none else w.chan id := by
    intro c chans hl
    by_cases hid : id = c
    · subst hid
      rw [if_pos rfl]
      rcases h with h | h | h
      · exact chan_erase_self chans h
      · simp only [chan, chans]; rw [eraseFirst_absent id w.chans h]; exact h
      · exact absurd hl (by rcases hl with e | e <;> simp [e] at h)
    · rw [if_neg hid]; exact chan_erase_ne chans id hid
  cases m with
  | tau chans => exact chan_of_chans chans id
  | ctx src ok chans => simp only [chan, chans]; exact lookup_chEffs_eq w.chans src.effs id
  | addOp id' hd req absent ops chans => exact chan_of_chans chans id
  | alloc id' hd req fresh notFresh ops chans => exact chan_of_chans chans id
  | new id' hd req fresh notFresh ops chans => exact chan_setAssoc chans id
  | dropRx id' chans => exact erase id' chans (Or.inl rfl)
  | endS id' ch hch hbuf htx chans => exact erase id' chans (Or.inr rfl)
  | pop c p ch rest hch hbuf chans =>
    rw [chan_setAssoc chans]
    show _ = if id = c then _ else _
    split
    · rename_i e; subst e; rw [hch]; simp [hbuf]
    · rfl
  | park c ch hch hbuf htx chans =>
    rw [chan_setAssoc chans]
    show _ = if id = c then _ else _
    split
    · rename_i e; subst e; rw [hch]; rfl
    · rfl

def SLab.logs : SLab → Option Obs
  | .pop id p => some (.item id p)
  | .endS id => some (.endStream id)
  | _ => none

theorem SMove.out_cases {l : SLab} {w w' : World} (m : SMove l w w') :
    (l.logs = none ∧ SQExt w w') ∨ ∃ o, l.logs = some o ∧ w'.out = w.out ++ [o] := by
  cases m with
  | tau chans subs ops out => exact Or.inl ⟨rfl, out⟩
  | ctx src ok chans c_eq ops out => exact Or.inl ⟨rfl, out⟩
  | addOp id' hd req absent ops chans c_eq out => exact Or.inl ⟨rfl, outExtP_of_eq out⟩
  | alloc id' hd req fresh notFresh ops chans c_eq out => exact Or.inl ⟨rfl, out⟩
  | new id' hd req fresh notFresh ops chans c_eq out => exact Or.inl ⟨rfl, outExtP_of_eq out⟩
  | dropRx id' chans c_eq ops out => exact Or.inl ⟨rfl, outExtP_of_eq out⟩
  | pop c p ch rest hch hbuf chans c_eq ops out => exact Or.inr ⟨_, rfl, out⟩
  | park id' ch hch hbuf htx chans c_eq ops out => exact Or.inl ⟨rfl, outExtP_of_eq out⟩
  | endS id' ch hch hbuf htx chans c_eq ops out => exact Or.inr ⟨_, rfl, out⟩

def SLab.yield (id : Nat) : SLab → List PublishRx
  | .pop c p => if c = id then [p] else []
  | _ => []

theorem SMove.items {l : SLab} {w w' : World} (m : SMove l w w') (id : Nat) :
    itemsOf id w'.out = itemsOf id w.out ++ l.yield id := by
  rcases m.out_cases with ⟨hl, added, e, hq⟩ | ⟨o, hl, e⟩ <;> rw [e, itemsOf_append]
  · rw [itemsOf_streamQuiet id added hq]
    cases l with
    | pop c p => cases hl
    | _ => rfl
  · cases l <;> cases hl
    · simp only [SLab.yield]; split
      · rename_i h; subst h; rw [itemsOf_item_self]
      · rename_i h; rw [itemsOf_item_ne id _ _ h]
    · rfl

def SLab.pre (id : Nat) : SLab → Option Chan → Prop
  | .pop c p, e => id = c → ∃ ch, e = some ch ∧ ch.buf.head? = some p
  | .ctx src, e => e = none → deliversTo id src.effs = []
  | _, _ => True

theorem SMove.pre {l : SLab} {w w' : World} (m : SMove l w w') (id : Nat) : l.pre id (w.chan id) := by
  cases m with
  | pop c p ch rest hch hbuf => intro e; subst e; exact ⟨ch, hch, by rw [hbuf]; rfl⟩
  | ctx src ok chans c_eq ops out live =>
    intro h
    rw [deliversTo_eq]
    exact List.filterMap_eq_nil_iff.mpr fun d hd => if_neg fun (e : d.1 = id) => live d.1 d.2 hd (by rw [e]; exact h)
  | _ => trivial

theorem SLab.hist {l : SLab} {id : Nat} {e : Option Chan} (hn : l ≠ .new id) (hp : l.pre id e) :
    (∀ ch ch', e = some ch → l.chanAt id e = some ch' → l.yield id ++ ch'.buf = ch.buf ++ deliversTo id l.effs) ∧
    (l.chanAt id e = none → l.yield id = []) ∧
    (e = none → l.chanAt id e = none ∧ deliversTo id l.effs = []) := by
  cases l with
  | ctx src =>
    refine ⟨?_, fun _ => rfl, fun h => ⟨by rw [h]; rfl, hp h⟩⟩
    rintro ch ch' rfl h; cases h
    exact (List.nil_append _).trans (effUpds_spec id src.effs ch).1
  | new c =>
    have : id ≠ c := fun h => hn (h ▸ rfl)
    cases e <;> simp [SLab.chanAt, SLab.yield, SLab.effs, this]
  | pop c p =>
    by_cases h : id = c
    · subst h
      obtain ⟨ch, rfl, hb⟩ := hp rfl
      cases hbuf : ch.buf with
      | nil => rw [hbuf] at hb; cases hb
      | cons q rest => rw [hbuf] at hb; cases hb; simp [SLab.chanAt, SLab.yield, SLab.effs, hbuf]
    · cases e <;> simp [SLab.chanAt, SLab.yield, SLab.effs, h, Ne.symm h]
  | dropRx c | endS c | park c =>
    by_cases h : id = c <;> cases e <;> simp [SLab.chanAt, SLab.yield, SLab.effs, h]
  | _ => cases e <;> simp [SLab.chanAt, SLab.yield, SLab.effs]

theorem SMove.hist_alive {l : SLab} {w w' : World} (m : SMove l w w') (wf : ChanWf w) (id : Nat) (ch ch' : Chan)
    (h : w.chan id = some ch) (h' : w'.chan id = some ch') (hn : l ≠ .new id) :
    itemsOf id w'.out ++ ch'.buf = itemsOf id w.out ++ ch.buf ++ deliversTo id l.effs := by
  rw [m.chan_at id (.inl wf.nodup)] at h'
  rw [m.items id, List.append_assoc, (SLab.hist hn (m.pre id)).1 ch ch' h h', List.append_assoc]

theorem SMove.none_quiet {l : SLab} {w w' : World} (m : SMove l w w') (id : Nat) (h : w.chan id = none)
    (hn : l ≠ .new id) :
    w'.chan id = none ∧ itemsOf id w'.out = itemsOf id w.out ∧ deliversTo id l.effs = [] := by
  obtain ⟨_, hy, hd⟩ := SLab.hist hn (m.pre id)
  have hc := m.chan_at id (.inr (.inl h))
  exact ⟨hc.trans (hd h).1, by rw [m.items id, hy (hd h).1, List.append_nil], (hd h).2⟩

theorem SMove.chan_none {l : SLab} {w w' : World} (m : SMove l w w') (id : Nat) (h : w.chan id = none)
    (hn : l ≠ .new id) : w'.chan id = none := (m.none_quiet id h hn).1

theorem SMove.gone {l : SLab} {w w' : World} (m : SMove l w w') (wf : ChanWf w) (id : Nat) (hn : l ≠ .new id)
    (h' : w'.chan id = none) : itemsOf id w'.out = itemsOf id w.out := by
  rw [m.chan_at id (.inl wf.nodup)] at h'
  rw [m.items id, (SLab.hist hn (m.pre id)).2.1 h', List.append_nil]

theorem STrace.none_quiet {tr : List SLab} {w w' : World} (t : STrace w tr w') (id : Nat) (h : w.chan id = none)
    (hn : .new id ∉ tr) :
    w'.chan id = none ∧ itemsOf id w'.out = itemsOf id w.out ∧ delivered id tr = [] := by
  induction t with
  | refl => exact ⟨h, rfl, rfl⟩
  | @cons a b c l tr' m _ ih =>
    have hl : l ≠ .new id := fun e => hn (by rw [e]; simp)
    obtain ⟨hb, u, v⟩ := m.none_quiet id h hl
    obtain ⟨x, y, z⟩ := ih hb (fun hm => hn (List.mem_cons_of_mem _ hm))
    exact ⟨x, by rw [y, u], by rw [delivered_cons, v, z]; rfl⟩

theorem STrace.hist {tr : List SLab} {w w' : World} (t : STrace w tr w') (wf : ChanWf w) (id : Nat) (ch : Chan)
    (h : w.chan id = some ch) (hn : .new id ∉ tr) :
    ∃ rest, itemsOf id w'.out ++ rest = itemsOf id w.out ++ ch.buf ++ delivered id tr ∧
      ∀ ch', w'.chan id = some ch' → rest = ch'.buf := by
  induction t generalizing ch with
  | refl => exact ⟨ch.buf, by simp, fun ch' h' => by rw [h] at h'; cases h'; rfl⟩
  | @cons a b c l tr' m t' ih =>
    have hl : l ≠ .new id := fun e => hn (by rw [e]; simp)
    have hn' : .new id ∉ tr' := fun hm => hn (List.mem_cons_of_mem _ hm)
    cases hb : b.chan id with
    | none =>
      obtain ⟨x, y, _⟩ := t'.none_quiet id hb hn'
      exact ⟨ch.buf ++ delivered id (l :: tr'), by rw [y, m.gone wf id hl hb]; simp [List.append_assoc],
        fun ch' h' => by rw [x] at h'; cases h'⟩
    | some cb =>
      obtain ⟨rest, e, hr⟩ := ih (wf.move m) cb hb hn'
      exact ⟨rest, by rw [e, m.hist_alive wf id ch cb h hb hl, delivered_cons]; simp [List.append_assoc], hr⟩

theorem STrace.hist_alive {tr : List SLab} {w w' : World} (t : STrace w tr w') (wf : ChanWf w) (id : Nat)
    (ch ch' : Chan) (h : w.chan id = some ch) (h' : w'.chan id = some ch') (hn : .new id ∉ tr) :
    itemsOf id w'.out ++ ch'.buf = itemsOf id w.out ++ ch.buf ++ delivered id tr := by
  obtain ⟨rest, e, hr⟩ := t.hist wf id ch h hn
  rw [← hr ch' h']; exact e

/-- every operation in the table was issued (`U`) -/
def OpsU (U : Nat → Prop) (w : World) : Prop := ∀ n, w.opSt n ≠ none → U n

def NotFresh (id : Nat) (w : World) : Prop := ∀ h r, w.opSt id ≠ some (.fresh h r)

theorem opSt_append_fresh (w w' : World) (id hd : Nat) (req : Req) (h : w'.ops = w.ops ++ [(id, .fresh hd req)])
    (n : Nat) : w'.opSt n = match w.opSt n with
      | some st => some st
      | none => if id = n then some (.fresh hd req) else none := by
  simp only [opSt, h, lookupFirst_append]
  cases lookupFirst n w.ops <;> simp [lookupFirst]

theorem SMove.opsKeep {l : SLab} {w w' : World} (m : SMove l w w') (hl : l.issued = none) : OpsKeep w w' := by
  cases m with
  | tau chans subs ops => exact ops
  | ctx src ok chans c_eq ops => exact opsKeep_of_eq ops
  | addOp id' => simp [SLab.issued] at hl
  | alloc id' hd req fresh notFresh ops => exact ops
  | new id' hd req fresh notFresh ops => exact ops
  | dropRx id' chans c_eq ops => exact ops
  | pop c p c0 rest hch hbuf chans c_eq ops => exact ops
  | park c c0 hch hbuf htx chans c_eq ops => exact ops
  | endS id' c0 hch hbuf htx chans c_eq ops => exact ops

theorem SMove.opSt_issued {l : SLab} {w w' : World} (m : SMove l w w') {id : Nat} (h : l.issued = some id) (n : Nat) :
    (w.opSt n ≠ none → w'.opSt n = w.opSt n) ∧ (w'.opSt n ≠ none → w.opSt n ≠ none ∨ id = n) := by
  cases m with
  | addOp id' hd req absent ops =>
    cases h
    rw [opSt_append_fresh w w' _ hd req ops n]
    cases hv : w.opSt n with
    | some st => exact ⟨fun _ => rfl, fun _ => .inl nofun⟩
    | none => exact ⟨fun h => absurd rfl h, fun h => .inr (Decidable.byContradiction fun hne => h (if_neg hne))⟩
  | _ => cases h

theorem OpsU.move {U : Nat → Prop} {l : SLab} {w w' : World} (h : OpsU U w) (m : SMove l w w') :
    OpsU (fun x => U x ∨ l.issued = some x) w' := by
  intro n hn
  cases hl : l.issued with
  | none =>
    left
    rcases m.opsKeep hl n with e | ⟨e, _⟩
    · exact h n (by rw [← e]; exact hn)
    · exact h n e
  | some id => exact ((m.opSt_issued hl n).2 hn).imp (h n) fun e => by rw [e]

theorem NotFresh.move {l : SLab} {w w' : World} {id : Nat} (h : NotFresh id w) (m : SMove l w w')
    (hl : l.issued ≠ some id) : NotFresh id w' := by
  intro hd r
  cases hi : l.issued with
  | none =>
    rcases m.opsKeep hi id with e | ⟨_, e⟩
    · rw [e]; exact h hd r
    · exact e hd r
  | some id' =>
    obtain ⟨a, b⟩ := m.opSt_issued hi id
    by_cases hv : w.opSt id = none
    · exact fun e => (b (by rw [e]; nofun)).elim (fun hne => hne hv) fun e' => hl (by rw [hi, e'])
    · rw [a hv]; exact h hd r

theorem SMove.started_fresh {l : SLab} {w w' : World} (m : SMove l w w') (id : Nat) (h : l.started = some id) :
    (∃ hd req, w.opSt id = some (.fresh hd req)) ∧ NotFresh id w' ∧ l.issued = none := by
  cases m with
  | alloc id' hd req fresh notFresh =>
    simp only [SLab.started, Option.some.injEq] at h; subst h
    exact ⟨⟨hd, req, fresh⟩, notFresh, rfl⟩
  | new id' hd req fresh notFresh =>
    simp only [SLab.started, Option.some.injEq] at h; subst h
    exact ⟨⟨hd, req, fresh⟩, notFresh, rfl⟩
  | _ => simp [SLab.started] at h

theorem STrace.no_start {tr : List SLab} {w w' : World} (t : STrace w tr w') (id : Nat) (h : NotFresh id w)
    (hi : id ∉ issuedOf tr) : id ∉ startedOf tr := by
  induction t with
  | refl => simp [startedOf]
  | @cons a b c l tr' m _ ih =>
    rw [issuedOf_cons] at hi
    rw [startedOf_cons]
    have hl : l.issued ≠ some id := by
      intro e; apply hi; rw [e]; simp
    intro hm
    rcases List.mem_append.mp hm with e | e
    · have hs : l.started = some id := by
        cases hst : l.started with
        | none => rw [hst] at e; simp at e
        | some x => rw [hst] at e; simp at e; rw [e]
      obtain ⟨⟨hd, req, hf⟩, _, _⟩ := m.started_fresh id hs
      exact h hd req hf
    · exact ih (h.move m hl) (fun x => hi (List.mem_append_right _ x)) e

theorem STrace.no_new {tr : List SLab} {w w' : World} (t : STrace w tr w') (id : Nat) (h : NotFresh id w)
    (hi : id ∉ issuedOf tr) : .new id ∉ tr :=
  fun hm => t.no_start id h hi (List.mem_filterMap.mpr ⟨_, hm, rfl⟩)

theorem STrace.conservation {tr : List SLab} {w w' : World} (t : STrace w tr w') (U : Nat → Prop) (id : Nat)
    (wf : ChanWf w) (hu : OpsU U w) (h0 : w.chan id = none) (hi : itemsOf id w.out = [])
    (hnd : (issuedOf tr).Nodup) (hnew : ∀ n ∈ issuedOf tr, ¬ U n) :
    (∀ ch, w'.chan id = some ch → itemsOf id w'.out ++ ch.buf = delivered id tr) ∧
    (∃ rest, itemsOf id w'.out ++ rest = delivered id tr) := by
  induction t generalizing U with
  | refl =>
    exact ⟨fun ch hc => (by rw [h0] at hc; cases hc), ⟨[], by simp [hi]⟩⟩
  | @cons a b c l tr' m t' ih =>
    obtain ⟨_, hnd', hnew', _⟩ := filterMap_cons_fresh hnd hnew
    by_cases hl : l = .new id
    · -- the channel is created now; it is never created again
      subst hl
      cases m with
      | new _ hd req fresh notFresh ops chans c_eq out =>
        have hU : U id := hu id (by rw [fresh]; simp)
        have hnot : id ∉ issuedOf tr' := fun hm => hnew' id hm (Or.inl hU)
        have hn' : .new id ∉ tr' := t'.no_new id notFresh hnot
        have hb : b.chan id = some {} := by rw [chan_setAssoc chans]; simp
        have wfb : ChanWf b := chanWf_setAssoc wf chans rfl
        have hib : itemsOf id b.out = [] := by rw [out]; exact hi
        obtain ⟨rest, e, hr⟩ := t'.hist wfb id {} hb hn'
        have e' : itemsOf id c.out ++ rest = delivered id (.new id :: tr') := by rw [e, hib]; simp [SLab.effs]
        exact ⟨fun ch hc => hr ch hc ▸ e', rest, e'⟩
    · obtain ⟨hb, u, v⟩ := m.none_quiet id h0 hl
      have := ih (fun x => U x ∨ l.issued = some x) (wf.move m) (hu.move m) hb (by rw [u]; exact hi) hnd' hnew'
      rw [delivered_cons, v]
      simpa using this

theorem STrace.conservation_init {tr : List SLab} {cfg : Cfg} {w' : World} (t : STrace { cfg := cfg } tr w') (id : Nat)
    (hnd : (issuedOf tr).Nodup) :
    (∀ ch, w'.chan id = some ch → itemsOf id w'.out ++ ch.buf = delivered id tr) ∧
    (∃ rest, itemsOf id w'.out ++ rest = delivered id tr) :=
  t.conservation (fun _ => False) id (chanWf_init cfg) (fun _ h => absurd rfl h) rfl rfl hnd (fun _ _ h => h)

/-- written out in `SMove.closed` and `STrace.closed`, which do not name it (not the `Closes` of Lemmas/WorldDrop.lean) -/
def Closes' (src : CtxSrc) (id : Nat) : Prop := Eff.dropChan id ∈ src.effs

theorem SMove.closed {l : SLab} {w w' : World} (m : SMove l w w') (wf : ChanWf w) (id : Nat) (ch' : Chan)
    (h' : w'.chan id = some ch') (ht : ch'.txAlive = false) :
    (∃ ch, w.chan id = some ch ∧ ch.txAlive = false) ∨
    (∃ src ch, l = .ctx src ∧ w.chan id = some ch ∧ ch.txAlive = true ∧ Eff.dropChan id ∈ src.effs) := by
  rw [m.chan_at id (.inl wf.nodup)] at h'
  -- an entry that a label other than `ctx` leaves or makes has the sender it had (a new one has its sender)
  have same : ∀ {e : Option Chan}, e = some ch' → (∀ ch, e = some ch → ∃ c0, w.chan id = some c0 ∧ ch.txAlive = c0.txAlive) →
      ∃ ch, w.chan id = some ch ∧ ch.txAlive = false := fun he hk => by
    obtain ⟨c0, h0, e0⟩ := hk ch' he
    exact ⟨c0, h0, e0 ▸ ht⟩
  cases l with
  | ctx src =>
    cases hv : w.chan id with
    | none => rw [hv] at h'; cases h'
    | some c0 =>
      rw [hv] at h'
      obtain ⟨_, _, d⟩ := effUpds_spec id src.effs c0
      cases h'
      rw [ht] at d
      cases htx : c0.txAlive with
      | false => exact Or.inl ⟨c0, rfl, htx⟩
      | true => exact Or.inr ⟨src, c0, rfl, rfl, htx, by rw [htx] at d; simpa using d⟩
  | new c =>
    left
    simp only [SLab.chanAt] at h'
    split at h'
    · cases h'; cases ht
    · exact ⟨ch', h', ht⟩
  | dropRx c | endS c =>
    left
    simp only [SLab.chanAt] at h'
    split at h'
    · cases h'
    · exact ⟨ch', h', ht⟩
  | pop c p | park c =>
    left
    simp only [SLab.chanAt] at h'
    split at h'
    · cases hv : w.chan id with
      | none => rw [hv] at h'; cases h'
      | some c0 => rw [hv] at h'; cases h'; exact ⟨c0, rfl, ht⟩
    · exact ⟨ch', h', ht⟩
  | _ => exact Or.inl ⟨ch', h', ht⟩

theorem STrace.closed {tr : List SLab} {w w' : World} (t : STrace w tr w') (wf : ChanWf w) (id : Nat) (ch' : Chan)
    (h' : w'.chan id = some ch') (ht : ch'.txAlive = false) :
    (∃ ch, w.chan id = some ch ∧ ch.txAlive = false) ∨
    (∃ t1 src t2 a b ch, tr = t1 ++ .ctx src :: t2 ∧ STrace w t1 a ∧ SMove (.ctx src) a b ∧ STrace b t2 w' ∧
      a.chan id = some ch ∧ ch.txAlive = true ∧ Eff.dropChan id ∈ src.effs) := by
  induction t with
  | refl => exact Or.inl ⟨ch', h', ht⟩
  | @cons a b c l tr' m t' ih =>
    rcases ih (wf.move m) h' with ⟨cb, hb, hbt⟩ | ⟨t1, src, t2, x, y, ch, e, s1, mv, s2, hx, hxt, hmem⟩
    · rcases m.closed wf id cb hb hbt with hl | ⟨src, ch, rfl, ha, hat, hmem⟩
      · exact Or.inl hl
      · exact Or.inr ⟨[], src, tr', a, b, ch, rfl, .refl a, m, t', ha, hat, hmem⟩
    · exact Or.inr ⟨l :: t1, src, t2, x, y, ch, by rw [e]; rfl, .cons m s1, mv, s2, hx, hxt, hmem⟩

theorem STrace.end_logged {tr : List SLab} {w w' : World} (t : STrace w tr w') (id : Nat)
    (h : Obs.endStream id ∈ w'.out) : Obs.endStream id ∈ w.out ∨ SLab.endS id ∈ tr := by
  induction t with
  | refl => exact Or.inl h
  | @cons a b c l tr' m t' ih =>
    rcases ih h with hb | hb
    · rcases m.out_cases with ⟨_, added, e, hq⟩ | ⟨o, hl, e⟩
      · -- the move appended lines no stream logs
        rw [e] at hb
        rcases List.mem_append.mp hb with hb | hb
        · exact Or.inl hb
        · exact absurd rfl ((hq _ hb).2 id)
      · -- the move appended the line of its label: it is `endS id`
        rw [e] at hb
        rcases List.mem_append.mp hb with hb | hb
        · exact Or.inl hb
        · rw [← List.mem_singleton.mp hb] at hl
          cases l <;> cases hl
          exact Or.inr List.mem_cons_self
    · exact Or.inr (List.mem_cons_of_mem _ hb)

end World
end Poster

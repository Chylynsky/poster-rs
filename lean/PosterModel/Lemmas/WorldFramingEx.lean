/-
  Lemmas/WorldFramingEx.lean — a concrete script evaluated stage by stage for the non-vacuity examples of
  Properties/C03World.lean: `SETUP`, a PINGRESP fed in two one-byte chunks, `run()`.
  `Framing.pollNext` is opaque to `decide`; the one poll of the `run()` loop is peeled by hand (as in Lemmas/WorldOpsEx.lean).
-/
import PosterModel.Lemmas.WorldFramingScript
import PosterModel.Lemmas.WorldOpsEx


namespace Poster
open Framing
namespace World
namespace W12

deriving instance DecidableEq for FLog

theorem loopFrames_pkt (f : Nat) (w : World) (fr : Bytes) (p : RxPacket) (hf : 0 < f) (hq : w.queue = [])
    (hs : w.senders ≠ 0) (hpn : pollNext w.rx w.reader = ({}, [], .item fr)) (hd : decodeRx fr = .ok p)
    (hfl : (({ w with rx := {}, reader := [] }).runHandler
      (fun wok => w.c.handlePkt w.chanRxAlive p wok)).2 = .cont) :
    loopFrames f w = fr :: loopFrames (f - 1) (({ w with rx := {}, reader := [] }).runHandler
      (fun wok => w.c.handlePkt w.chanRxAlive p wok)).1 := by
  obtain ⟨f, rfl⟩ : ∃ g, f = g + 1 := ⟨f - 1, by omega⟩
  have hc : RunCont w _ := .pkt {} [] fr p _ hq hs hpn hd (Prod.ext rfl hfl)
  simp only [loopFrames, hc.iter, iterFrames_poll hq hs, nextFrame_eq hpn, outFrames, Nat.add_sub_cancel,
    List.singleton_append]

theorem loopFrames_idle (f : Nat) (w : World) (hq : w.queue = []) (hs : w.senders ≠ 0)
    (hrx : w.rx = {}) (hrd : w.reader = []) : loopFrames f w = [] := by
  cases f with
  | zero => rfl
  | succ f =>
    have hp : pollNext w.rx w.reader = ({}, [], .pending) := by rw [hrx, hrd]; exact pn_nil
    simp only [loopFrames, (RunEnd.pending {} [] hq hs hp).iter, iterFrames_poll hq hs, nextFrame_eq hp, outFrames,
      List.append_nil]

theorem drainG_of_idle (f : Nat) (w : World) (g : FLog) (h : w.pick = none) : drainG f w g = g := by
  rw [drainG_eq, drainAcc_none _ _ _ f w h]; rfl

theorem drainG_pick (f : Nat) (w : World) (g : FLog) (t : Task) (hf : 0 < f) (h : w.pick = some t) :
    drainG f w g = drainG (f - 1) (w.pollTask t) (g.poll w t) := by
  rw [drainG_eq, drainG_eq, drainAcc_pick _ _ _ f w t hf h]; rfl

end W12
end World

namespace Ex
open World World.W12

/-- PINGRESP arriving in two reads of one byte each -/
theorem pn_ping2 : pollNext {} [.data [0xD0], .data [0]] = ({}, [], .item pingresp) := by
  simp [pollNext, cap, frameLen, decVar, decVarAux, varMax, pingresp]

/-- `SETUP`, a PINGRESP fed in two one-byte chunks, then `run()` -/
def evsPing : List Ev := [.setup, .feed [[0xD0], [0]], .run]

/-- the world after `SETUP` and the `feed` -/
def wPing2 : World :=
  { hasCtx := true, handles := [0], reader := [.data [0xD0], .data [0]],
    out := [.ev .setup, .ev (.feed [[0xD0], [0]])] }

theorem wPing2_eq : ([Ev.setup, .feed [[0xD0], [0]]].foldl World.step {}) = wPing2 := by decide

theorem gPing2_eq : stepsG [Ev.setup, .feed [[0xD0], [0]]] {} {} =
    { fed := [.data [0xD0], .data [0]], dec := [], mark := 1 } := by decide

/-- … after the `run` event was logged and applied -/
def wPing3a : World :=
  { wPing2 with task := .running false, woken := [.ctx], out := wPing2.out ++ [.ev .run] }

theorem wPing3a_eq : (wPing2.emit (.ev .run)).apply .run = wPing3a := by decide

/-- … and after the context task was polled: the PINGRESP was read, decoded and handled; both wakers are armed -/
def wPing3 : World :=
  { wPing2 with task := .running true, reader := [], queueReg := true, readerReg := true,
                out := wPing2.out ++ [.ev .run] }

/-- the world in which the loop of `run()` starts: session resumed (nothing to resume), nothing re-sent -/
def wPingB : World :=
  { wPing2 with task := .running true, out := wPing2.out ++ [.ev .run] }

/-- … after the iteration that handled the PINGRESP -/
def wPingC : World := { wPingB with reader := [] }

theorem wPing3a_resent : (wPing3a.unwake .ctx).resent = wPingB := by decide

theorem wPingB_handled :
    (({ wPingB with rx := {}, reader := [] }).runHandler
      (fun wok => wPingB.c.handlePkt wPingB.chanRxAlive .pingresp wok)) = (wPingC, .cont) := by decide

theorem wPing3a_poll : wPing3a.pollTask .ctx = wPing3 := by
  rw [pollTask_ctx_first wPing3a rfl (by decide), wPing3a_resent]
  have hf : wPingB.loopFuel = 12 := by decide
  rw [hf, runLoop_pkt 12 wPingB pingresp .pingresp (by decide) rfl (by decide) pn_ping2 dec_pingresp
    (by rw [wPingB_handled]), wPingB_handled]
  rw [runLoop_idle _ wPingC (by decide) rfl (by decide) rfl rfl]
  decide

theorem wPing3a_frames : ctxFrames (wPing3a.unwake .ctx) = [pingresp] := by
  have h0 : ctxFrames (wPing3a.unwake .ctx) =
      if (wPing3a.unwake .ctx).resumed.canWrite (((wPing3a.unwake .ctx).c.resume.2.2.map List.length).sum) then
        loopFrames (wPing3a.unwake .ctx).resent.loopFuel (wPing3a.unwake .ctx).resent else [] := rfl
  rw [h0, if_pos (by decide), wPing3a_resent]
  have hf : wPingB.loopFuel = 12 := by decide
  rw [hf, loopFrames_pkt 12 wPingB pingresp .pingresp (by decide) rfl (by decide) pn_ping2 dec_pingresp
    (by rw [wPingB_handled]), wPingB_handled]
  rw [loopFrames_idle _ wPingC rfl (by decide) rfl rfl]

theorem wPing3a_drain : drain wPing3a.drainFuel wPing3a = wPing3 := by
  rw [drain_pick _ _ .ctx (by decide) (by decide), wPing3a_poll, drain_none _ _ (by decide)]

theorem evsPing_world : evsPing.foldl World.step {} = wPing3 := by
  have e0 : evsPing.foldl World.step {} = ([Ev.setup, .feed [[0xD0], [0]]].foldl World.step {}).step .run := rfl
  rw [e0, wPing2_eq]
  exact step_eq wPing2 .run wPing3 (by decide) (by rw [wPing3a_eq]; decide) (by rw [wPing3a_eq]; exact wPing3a_drain)
    (by decide) (by decide)

theorem evsPing_flog : flog {} evsPing = { fed := [.data [0xD0], .data [0]], dec := [pingresp], mark := 1 } := by
  have e0 : flog {} evsPing =
      stepG ([Ev.setup, .feed [[0xD0], [0]]].foldl World.step {}) .run (stepsG [Ev.setup, .feed [[0xD0], [0]]] {} {}) := rfl
  rw [e0, wPing2_eq, gPing2_eq]
  unfold stepG
  simp only [show wPing2.bad = false by decide, Bool.false_eq_true, ↓reduceIte, wPing3a_eq,
    show wPing3a.bad = false by decide]
  rw [wPing3a_drain]
  simp only [show wPing3.cfg.sweep = false by decide, Bool.false_eq_true, ↓reduceIte]
  rw [drainG_pick _ _ _ .ctx (by decide) (by decide), wPing3a_poll, drainG_of_idle _ _ _ (by decide)]
  simp only [FLog.apply, FLog.poll, wPing3a_frames]
  rfl

theorem evsPing_ok : (evsPing.foldl World.step {}).bad = false := by rw [evsPing_world]; decide

/-- one more PINGRESP, again in two one-byte chunks -/
def morePing : List Ev := [.feed [[0xD0], [0]]]

theorem evsPing_more_ok : ((evsPing ++ morePing).foldl World.step {}).bad = false := by
  have e : (evsPing ++ morePing).foldl World.step {} = (evsPing.foldl World.step {}).step (.feed [[0xD0], [0]]) := by
    rw [List.foldl_append]; rfl
  rw [e, step_bad_eq _ _ evsPing_ok, evsPing_world]
  decide

/-- a PUBLISH header followed by a remaining-length field of five continuation bytes: malformed -/
def malformed : Bytes := [0x30, 0xff, 0xff, 0xff, 0xff, 0xff, 1]

theorem pn_malformed :
    pollNext {} [.data malformed] = ({ valid := malformed, pend := 0, st := .len }, [], .none) := by
  simp [pollNext, cap, frameLen, decVar, decVarAux, varMax, malformed]

/-- `run()` serving with the malformed bytes readable: the poll returns `SocketClosed` although the transport has
    reported neither end-of-stream nor an error -/
theorem wServe_malformed_closed :
    (wServe [.data malformed]).pollCtx.out = [.ret .run (.err .socketClosed)] := by
  have h0 : (wServe [.data malformed]).pollCtx =
      runLoop (wServe [.data malformed]).loopFuel (wServe [.data malformed]) := rfl
  have hf : (wServe [.data malformed]).loopFuel = 19 + 1 := by decide
  rw [h0, hf, (RunEnd.sock _ _ rfl (by decide) pn_malformed).loop]
  rfl

end Ex
end Poster

/-
  What the futures of `publish()` queue and report, at every moment of an execution. A predicate on what the context holds
  for the callers (queue, `awaiting_ack`, retransmit queue) is kept by every transition (`Kept`); hence every PUBREL it
  holds answers a PUBREC with reason < 0x80 and every queued PUBLISH is a first transmission. A `DONE` line comes from the
  poll of its own future, with the result `ResumeRes` tells. Properties/C06.lean is imported for `encode_dup_clear`.
-/
import PosterModel.Lemmas.WorldOpsUnit
import PosterModel.Properties.C06
import PosterModel.Lemmas.CtxRetx


namespace Poster
open Framing
namespace World
namespace W7

/-- a queued message of packet type 6 is a PUBREL built by `publish()` -/
def MsgForm (m : Msg) : Prop := pktType m.pkt = 6 → ∃ pid s, m = pubrelMsg pid s

/-- the retransmit-queue entry of such a PUBREL: stored under its PUBCOMP action identifier, bytes unchanged -/
def PubrelEntry (x : Nat × Bytes) : Prop := ∃ pid, x = (actionId 7 pid, ackBytes 0x62 pid)

def RetxForm (x : Nat × Bytes) : Prop := pktType x.2 = 6 → PubrelEntry x

/-- the `Kept` below that asks nothing of `awaiting_ack` and `R` of the retransmit entries of type 6 only (`held_iff_kept`) -/
structure Held (Q : Msg → Prop) (R : Nat × Bytes → Prop) (w : World) : Prop where
  queue : ∀ m ∈ w.queue, Q m
  retx : ∀ x ∈ w.c.retx, pktType x.2 = 6 → R x

abbrev PubrelForm (w : World) : Prop := Held MsgForm PubrelEntry w

/-- a predicate on everything the context holds for the callers: queued messages, `awaiting_ack`, the retransmit queue -/
structure Kept (Q : Msg → Prop) (A : Nat × Nat → Prop) (R : Nat × Bytes → Prop) (w : World) : Prop where
  queue : ∀ m ∈ w.queue, Q m
  awaiting : ∀ e ∈ w.c.awaiting, A e
  retx : ∀ x ∈ w.c.retx, R x

section KeptInv
variable {Q : Msg → Prop} {A : Nat × Nat → Prop} {R : Nat × Bytes → Prop}

theorem Kept.congr {w w' : World} (h : Kept Q A R w) (hq : w'.queue = w.queue) (ha : w'.c.awaiting = w.c.awaiting)
    (hr : w'.c.retx = w.c.retx) : Kept Q A R w' :=
  ⟨by rw [hq]; exact h.queue, by rw [ha]; exact h.awaiting, by rw [hr]; exact h.retx⟩

theorem Kept.msg (f : KeptFlow Q A R) (w : World) (m : Msg) (q : List Msg) (hq : w.queue = m :: q)
    (h : Kept Q A R w) : Kept Q A R (({ w with queue := q }).runHandler (fun wok => w.c.handleMsg m wok)).1 := by
  rw [runHandler_eq_stepIn_msg, stepIn_inMsg]
  obtain ⟨h1, h2⟩ := Ctx.handleMsg_kept f w.c m (w.wokMsg m) (h.queue m (by rw [hq]; exact List.mem_cons_self))
    h.awaiting h.retx
  refine ⟨fun m' hm' => ?_, by rw [applyEffs_c]; exact h1, by rw [applyEffs_c]; exact h2⟩
  rw [applyEffs_queue] at hm'
  exact h.queue m' (by rw [hq]; exact List.mem_cons_of_mem _ hm')

theorem Kept.pkt (w : World) (rx' : Rx) (rd' : List ReadEv) (p : RxPacket) (h : Kept Q A R w) :
    Kept Q A R (({ w with rx := rx', reader := rd' }).runHandler
      (fun wok => w.c.handlePkt w.chanRxAlive p wok)).1 := by
  rw [runHandler_eq_stepIn_pkt, stepIn_inPkt]
  obtain ⟨h1, h2⟩ := Ctx.handlePkt_kept w.c w.chanRxAlive p (w.wokPkt p) h.awaiting h.retx
  refine ⟨fun m' hm' => ?_, by rw [applyEffs_c]; exact h1, by rw [applyEffs_c]; exact h2⟩
  rw [applyEffs_queue] at hm'
  exact h.queue m' hm'

theorem Kept.pollCtx (f : KeptFlow Q A R) (w : World) (h : Kept Q A R w) : Kept Q A R w.pollCtx := by
  refine pollCtx_via (R := fun w w' => Kept Q A R w → Kept Q A R w') (fun f g h => g (f h))
    (fun i h => h.congr i.queue i.tables.2.1 i.tables.2.2.2.1) (fun _ h => h) (fun w m q hq h => h.msg f w m q hq)
    (fun w rx' rd' _ p _ _ h => h.pkt w rx' rd' p) (fun w h => ?_) w h
  unfold resumed
  -- session resumption keeps the two tables or empties them
  refine ⟨by rw [applyEffs_queue]; exact h.queue, ?_, ?_⟩ <;> rw [applyEffs_c] <;>
    rcases Ctx.resume_fst_cases w.c with e | e | e <;> rw [e]
  · exact h.awaiting
  · exact h.awaiting
  · simp
  · exact h.retx
  · exact h.retx
  · simp

theorem Kept.applied {w w' : World} {e : Ev} (h : Kept Q A R w) (a : Applied w e w') (hp : ∀ t, e ≠ .poll t) :
    Kept Q A R w' := by
  cases a.norm with
  | poll t => exact absurd rfl (hp t)
  | newCtx => exact ⟨h.queue, by simp, by simp⟩
  | dropCtx => exact ⟨by simp, by simp, by simp⟩
  | _ => exact { h with }

end KeptInv

section HeldInv
variable {Q : Msg → Prop} {R : Nat × Bytes → Prop}

theorem held_iff_kept {w : World} : Held Q R w ↔ Kept Q (fun _ => True) (fun x => pktType x.2 = 6 → R x) w :=
  ⟨fun h => ⟨h.queue, fun _ _ => trivial, h.retx⟩, fun h => ⟨h.queue, h.retx⟩⟩

/-- a PUBLISH kept with DUP set still has packet type 3, so only a handled PUBREL matters for `Held` -/
theorem held_flow (hQR : ∀ aid pkt s, Q (.awaitAck aid pkt s) → pktType pkt = 6 → R (aid, pkt)) :
    KeptFlow Q (fun _ => True) (fun x => pktType x.2 = 6 → R x) where
  aw := fun _ _ _ _ => trivial
  pub := fun aid pkt s _ h3 h6 => by
    have h6' : pktType (setDup pkt) = 6 := h6
    rw [pktType_setDup, h3] at h6'
    exact absurd h6' (by decide)
  rel := fun aid pkt s hq h6 _ => hQR aid pkt s hq h6

theorem held_pollCtx (hQR : ∀ aid pkt s, Q (.awaitAck aid pkt s) → pktType pkt = 6 → R (aid, pkt)) (w : World)
    (hi : Held Q R w) : Held Q R w.pollCtx :=
  held_iff_kept.2 (Kept.pollCtx (held_flow hQR) w (held_iff_kept.1 hi))

end HeldInv

theorem pubrel_hQR : ∀ aid pkt s, MsgForm (.awaitAck aid pkt s) → pktType pkt = 6 → PubrelEntry (aid, pkt) := by
  intro aid pkt s hf h6
  obtain ⟨pid, s', e⟩ := hf h6
  simp only [pubrelMsg, Msg.awaitAck.injEq] at e
  exact ⟨pid, by rw [e.1, e.2.1]⟩

theorem pubrelForm_congr {w w' : World} (hi : PubrelForm w) (hq : w'.queue = w.queue) (hc : w'.c.retx = w.c.retx) :
    PubrelForm w' := ⟨by rw [hq]; exact hi.queue, by rw [hc]; exact hi.retx⟩

theorem pubrelForm_pollCtx (w : World) (hi : PubrelForm w) : PubrelForm w.pollCtx :=
  held_pollCtx pubrel_hQR w hi

def QosOk (w : World) : Prop := ∀ id h t, (id, OpSt.fresh h (.publish t)) ∈ w.ops → t.qos ≤ 2

theorem reqMsg_publish_of_type {w : World} {id : Nat} {req : Req} (h3 : pktType (w.reqMsg id req).pkt = 3) :
    ∃ t, req = .publish t := by
  cases req with
  | publish t => exact ⟨t, rfl⟩
  | subscribe t => simp [reqMsg, Msg.pkt, SubscribeTx.encode] at h3
  | unsubscribe t => simp [reqMsg, Msg.pkt, UnsubscribeTx.encode] at h3
  | ping => simp [reqMsg, Msg.pkt, pingreqBytes, pktType] at h3
  | disconnect t => simp [reqMsg, Msg.pkt, DisconnectTx.encode] at h3

theorem reqMsg_publish_pkt (w : World) (id : Nat) (t : PublishTx) :
    ∃ t' : PublishTx, (w.reqMsg id (.publish t)).pkt = t'.encode ∧ t'.qos = t.qos ∧ t'.dup = t.dup := by
  simp only [reqMsg]
  split
  · exact ⟨t, rfl, rfl, rfl⟩
  · exact ⟨_, rfl, rfl, rfl⟩

theorem pubrelMsg_type (pid s : Nat) : pktType (pubrelMsg pid s).pkt = 6 := by
  simp only [pubrelMsg, Msg.pkt]
  rw [User.pktType_ackBytes]

theorem pollStream_queue (w : World) (id : Nat) : (w.pollStream id).queue = w.queue := by
  obtain ⟨ch, st, wk, ou, e, _⟩ := pollStream_footprint w id; rw [e]

theorem moves_ctx_queue {w w' : World} (hm : Moves CtxTag w w') : ∀ m ∈ w'.queue, m ∈ w.queue := by
  induction hm with
  | refl => exact fun _ h => h
  | cons ht hmv _ ih =>
    have : _ = none := ht
    subst this
    exact fun m hmem => hmv.ctx_frame.queue.subset (ih m hmem)

theorem Micro.queue_cases {w w' : World} (hm : Micro w w') :
    (∀ m ∈ w'.queue, m ∈ w.queue) ∨
    ∃ id, w' = w.pollTask (.op id) ∧
      ((∃ h req, w.opSt id = some (.fresh h req) ∧ w'.queue = w.queue ++ [w.reqMsg id req] ∧
        w'.opSt id = some (.wait (2 * id) req.wait)) ∨
       (∃ s a, w.opSt id = some (.wait s .pubrec) ∧ w.slot s = some (.full (.pkt (.pubrec a))) ∧ a.reason < 128 ∧
        w'.queue = w.queue ++ [pubrelMsg a.packetId (s + 1)])) := by
  have same : ∀ {w w' : World}, w'.queue = w.queue → ∀ m ∈ w'.queue, m ∈ w.queue := fun e m h => e ▸ h
  -- only the poll of a handle future adds to the queue
  rcases hm.lift_rest (R := fun w w' => ∀ m ∈ w'.queue, m ∈ w.queue) (fun f g m h => f m (g m h))
      (fun w id => same (pollStream_queue w id)) (fun _ _ => same rfl)
      (fun _ _ _ => same rfl)
      (fun w e he => by
        rcases apply_cases w e with ⟨t, rfl, _⟩ | ⟨tk, _, h4⟩ | hpas
        · exact absurd rfl (he t)
        · exact same (by rw [h4]; exact wake_queue _ _)
        · rcases hpas.queue with e | e
          · exact same e
          · rw [e]; exact fun _ h => nomatch h)
      (fun w => same (flushRaw_queue w)) with rfl | ⟨id, rfl⟩ | h
  · exact Or.inl (moves_ctx_queue (pollCtx_moves w))
  · rcases pollOp_sends (w.unwake (.op id)) id with ⟨_, _, e⟩ | ⟨h, req, ho, _, _, e | ⟨_, e, o⟩⟩ |
      ⟨s, a, ho, hs, ha, _, _, _, e⟩
    · exact Or.inl (same e)
    · exact Or.inl (same e)
    · exact Or.inr ⟨id, rfl, Or.inl ⟨h, req, ho, e, o⟩⟩
    · exact Or.inr ⟨id, rfl, Or.inr ⟨s, a, ho, hs, ha, e⟩⟩
  · exact Or.inl h

section KeptUser
variable {Q : Msg → Prop} {A : Nat × Nat → Prop} {R : Nat × Bytes → Prop}

theorem Kept.micro (f : KeptFlow Q A R) {w w' : World} (hm : Micro w w') (h : Kept Q A R w)
    (start : ∀ id hd req, w.opSt id = some (.fresh hd req) → Q (w.reqMsg id req))
    (rel : ∀ id s a, w.opSt id = some (.wait s .pubrec) → w.slot s = some (.full (.pkt (.pubrec a))) →
      a.reason < 128 → Q (pubrelMsg a.packetId (s + 1))) : Kept Q A R w' := by
  rcases hm.lift_rest (R := fun w w' => Kept Q A R w → Kept Q A R w') (fun f g h => g (f h))
      (fun w id h => h.congr (pollStream_queue w id) (by rw [pollStream_c]) (by rw [pollStream_c]))
      (fun _ _ h => { h with }) (fun _ _ _ h => { h with })
      (fun w e he h => Kept.applied h (apply_spec w e) he)
      (fun w h => h.congr (flushRaw_queue w) (by rw [flushRaw_c]) (by rw [flushRaw_c])) with rfl | ⟨id, rfl⟩ | hr
  · exact h.pollCtx f w
  · -- the poll of a handle future: the one step that queues a message (`Micro.queue_cases`)
    refine ⟨?_, by show ∀ e ∈ ((w.unwake (.op id)).pollOp id).c.awaiting, A e; rw [pollOp_c]; exact h.awaiting,
      by show ∀ x ∈ ((w.unwake (.op id)).pollOp id).c.retx, R x; rw [pollOp_c]; exact h.retx⟩
    rcases (Micro.user w (.op id) nofun).queue_cases with old | ⟨j, _, ⟨hd, req, ho, e, _⟩ | ⟨s, a, h1, h2, h3, e⟩⟩
    · exact fun m hm => h.queue m (old m hm)
    · rw [e]; exact List.forall_mem_append.2 ⟨h.queue, List.forall_mem_singleton.2 (start j hd req ho)⟩
    · rw [e]; exact List.forall_mem_append.2 ⟨h.queue, List.forall_mem_singleton.2 (rel j s a h1 h2 h3)⟩
  · exact hr h

end KeptUser

theorem held_micro {Q : Msg → Prop} {R : Nat × Bytes → Prop} {w w' : World} (hm : Micro w w') (hq : QosOk w)
    (hi : Held Q R w) (hQR : ∀ aid pkt s, Q (.awaitAck aid pkt s) → pktType pkt = 6 → R (aid, pkt))
    (hne : ∀ m, pktType m.pkt ≠ 6 → Q m)
    (hpub : ∀ id s a, w.opSt id = some (.wait s .pubrec) → w.slot s = some (.full (.pkt (.pubrec a))) →
      a.reason < 128 → Q (pubrelMsg a.packetId (s + 1))) :
    Held Q R w' :=
  held_iff_kept.2 (Kept.micro (held_flow hQR) hm (held_iff_kept.1 hi)
    (fun id hd req ho => hne _ (User.reqMsg_ne_pubrel w id req fun t ht => hq id hd t (ht ▸ mem_of_opSt ho))) hpub)

/-- every publish request logged in a transcript has QoS 0, 1 or 2 (all the `QoS` enum of the library has) -/
def PubQos (out : List Obs) : Prop := ∀ id h t, Obs.ev (.op id h (.publish t)) ∈ out → t.qos ≤ 2

theorem qosOk_of_logged {w : World} (h : FreshLogged w) (hq : PubQos w.out) : QosOk w :=
  fun id hh t hmem => hq id hh t (h id hh (.publish t) hmem)

theorem pubQos_of_script (cfg : Cfg) (evs : List Ev)
    (hq : ∀ id h t, Ev.op id h (.publish t) ∈ evs → t.qos ≤ 2) :
    PubQos (World.run cfg evs) ∧ PubQos (evs.foldl World.step { cfg := cfg }).out := by
  refine ⟨fun id h t hm => hq id h t (run_ev_lines cfg evs _ hm), fun id h t hm => ?_⟩
  rcases steps_ev_lines evs _ _ hm with h1 | h1
  · simp at h1
  · exact hq id h t h1

/-- at an earlier moment of the same execution the future of a QoS 2 publish, waiting for its PUBREC, found in its
    oneshot a PUBREC with reason < 0x80 and the packet identifier `pid` -/
def PubrecSeen (cfg : Cfg) (w : World) (pid : Nat) : Prop :=
  ∃ w0 id s a, During cfg w0 ∧ Reaches w0 w ∧ w0.opSt id = some (.wait s .pubrec) ∧
    w0.slot s = some (.full (.pkt (.pubrec a))) ∧ a.reason < 128 ∧ a.packetId = pid

theorem Reaches.trans {a b c : World} (h1 : Reaches a b) (h2 : Reaches b c) : Reaches a c := by
  induction h2 with
  | refl => exact h1
  | tail _ hm ih => exact ih.tail hm

theorem PubrecSeen.mono {cfg : Cfg} {w w' : World} {pid : Nat} (h : PubrecSeen cfg w pid) (hr : Reaches w w') :
    PubrecSeen cfg w' pid := by
  obtain ⟨w0, id, s, a, h1, h2, h3⟩ := h
  exact ⟨w0, id, s, a, h1, h2.trans hr, h3⟩

def SeenMsg (cfg : Cfg) (w : World) (m : Msg) : Prop :=
  pktType m.pkt = 6 → ∃ pid s, m = pubrelMsg pid s ∧ PubrecSeen cfg w pid

def SeenEntry (cfg : Cfg) (w : World) (x : Nat × Bytes) : Prop :=
  ∃ pid, x = (actionId 7 pid, ackBytes 0x62 pid) ∧ PubrecSeen cfg w pid

theorem Held.mono {Q Q' : Msg → Prop} {R R' : Nat × Bytes → Prop} {w : World} (h : Held Q R w)
    (hq : ∀ m, Q m → Q' m) (hr : ∀ x, R x → R' x) : Held Q' R' w :=
  ⟨fun m hm => hq m (h.queue m hm), fun x hx h6 => hr x (h.retx x hx h6)⟩

theorem during_pubrelSeen {cfg : Cfg} {w : World} (hd : During cfg w) (hq : PubQos w.out) :
    Held (SeenMsg cfg w) (SeenEntry cfg w) w := by
  refine hd.inv_out (H := PubQos) (I := fun w => Held (SeenMsg cfg w) (SeenEntry cfg w) w)
    (fun a b h id hh t hm => h id hh t (List.mem_append_left _ hm)) ⟨by simp, by simp⟩ ?_ hq
  · intro w w' hd hq0 ih hm
    have hstep : Reaches w w' := .tail (.refl w) hm
    have ih' : Held (SeenMsg cfg w') (SeenEntry cfg w') w := by
      refine ih.mono ?_ ?_
      · intro m hf h6
        obtain ⟨pid, s, e, hs⟩ := hf h6
        exact ⟨pid, s, e, hs.mono hstep⟩
      · rintro x ⟨pid, e, hs⟩
        exact ⟨pid, e, hs.mono hstep⟩
    refine held_micro hm (qosOk_of_logged (during_freshLogged hd) hq0) ih' ?_ ?_ ?_
    · intro aid pkt s hf h6
      obtain ⟨pid, s', e, hseen⟩ := hf h6
      simp only [pubrelMsg, Msg.awaitAck.injEq] at e
      exact ⟨pid, by rw [e.1, e.2.1], hseen⟩
    · intro m hm6 h6; exact absurd h6 hm6
    · intro id s a h1 h2 h3 _
      exact ⟨a.packetId, s + 1, rfl, w, id, s, a, hd, hstep, h1, h2, h3, rfl⟩

theorem during_pubrelForm {cfg : Cfg} {w : World} (hd : During cfg w) (hq : PubQos w.out) : PubrelForm w := by
  have h := during_pubrelSeen hd hq
  refine ⟨fun m hm h6 => ?_, fun x hx h6 => ?_⟩
  · obtain ⟨pid, s, e, _⟩ := h.queue m hm h6; exact ⟨pid, s, e⟩
  · obtain ⟨pid, e, _⟩ := h.retx x hx h6; exact ⟨pid, e⟩

theorem pubrel_queue_origin {w w' : World} (hm : Micro w w') (hq : QosOk w) :
    ∀ m ∈ w'.queue, pktType m.pkt = 6 → m ∈ w.queue ∨
      ∃ id s a, w' = w.pollTask (.op id) ∧ w.opSt id = some (.wait s .pubrec) ∧
        w.slot s = some (.full (.pkt (.pubrec a))) ∧ a.reason < 128 ∧ m = pubrelMsg a.packetId (s + 1) := by
  intro m hmem h6
  rcases hm.queue_cases with old | ⟨id, rfl, ⟨h, req, ho, e, _⟩ | ⟨s, a, ho, hs, ha, e⟩⟩
  · exact Or.inl (old m hmem)
  · -- the message of a request is not a PUBREL
    rw [e] at hmem
    rcases List.mem_append.mp hmem with hmem | hmem
    · exact Or.inl hmem
    · rw [List.mem_singleton] at hmem
      rw [hmem] at h6
      exact absurd h6 (User.reqMsg_ne_pubrel w id req fun t ht => hq id h t (ht ▸ mem_of_opSt ho))
  · rw [e] at hmem
    rcases List.mem_append.mp hmem with hmem | hmem
    · exact Or.inl hmem
    · exact Or.inr ⟨id, s, a, rfl, ho, hs, ha, List.mem_singleton.mp hmem⟩

/-- the message `publish()` queues at the first poll of its future: fire-and-forget for QoS 0, otherwise the PUBLISH
    carrying `pid`, registered for `PUBACK pid` (QoS 1) resp. `PUBREC pid` (QoS 2) -/
def publishMsg (t : PublishTx) (id pid : Nat) : Msg :=
  if t.qos = 0 then .ff t.encode (2 * id)
  else .awaitAck (actionId (if t.qos = 1 then 4 else 5) pid) ({ t with packetId := some pid } : PublishTx).encode (2 * id)

theorem snoc_done_inj {l : List Obs} {id : Nat} {r r' : DoneRes} (h : l ++ [.done id r] = l ++ [.done id r']) :
    r = r' := by
  have := List.append_cancel_left h
  simpa using this

theorem sendAwait_done (w w0 : World) (m : Msg) (id s : Nat) (k : Wait) (r : DoneRes) (h0 : w0.out = w.out)
    (hc0 : w0.hasCtx = w.hasCtx) (h : (w0.sendAwait m id s k).out = w.out ++ [.done id r]) :
    r = .err .contextExited ∧ w.hasCtx = false := by
  cases hc : w.hasCtx with
  | true =>
    obtain ⟨wk, qr, e⟩ := User.sendAwait_ctx w0 m id s k (by rw [hc0, hc])
    rw [e] at h
    simp only [h0] at h
    exact absurd h (ne_snoc_self _ _)
  | false =>
    rw [User.sendAwait_no_ctx w0 m id s k (by rw [hc0, hc])] at h
    simp only [User.finishOp_out, h0] at h
    exact ⟨(snoc_done_inj h).symm, rfl⟩

theorem finishOp_done_eq {w w0 : World} {id : Nat} {r r' : DoneRes} (h0 : w0.out = w.out)
    (h : (w0.finishOp id r').out = w.out ++ [.done id r]) : r' = r := by
  rw [User.finishOp_out, h0] at h; exact snoc_done_inj h

theorem resumeOp_done (w : World) (id s : Nat) (k : Wait) (v : SlotVal) (r : DoneRes)
    (h : (w.resumeOp id s k v).out = w.out ++ [.done id r]) : ResumeRes k v w.hasCtx r := by
  have h0 := clearSlot_out w s
  rcases resumeOp_cases id s k v with ⟨r', hr, e⟩ | ⟨a, rfl, rfl, e⟩ | ⟨a, rfl, rfl, ha, e⟩ | ⟨p, rfl, _, e⟩ <;>
    rw [e] at h
  · obtain rfl := finishOp_done_eq h0 h; exact hr _
  · obtain rfl := finishOp_done_eq (w0 := { w.clearSlot s with rsps := w.rsps ++ [id] }) h0 h; exact .suback _ _
  · -- the PUBREL is sent: a `DONE` line then means that there is no context to send it to
    obtain ⟨rfl, hc⟩ := sendAwait_done w _ _ id _ _ r h0 (clearSlot_hasCtx w s) h
    rw [hc]; exact .pubrecNoCtx a ha
  · rw [endOp_out, h0] at h
    have := List.append_cancel_left h
    simp at this

theorem startOp_done (w : World) (id : Nat) (req : Req) (r : DoneRes)
    (h : (w.startOp id req).out = w.out ++ [.done id r]) :
    r = .err .codecError ∨ (r = .err .contextExited ∧ w.hasCtx = false) := by
  obtain ⟨w0, hp, ⟨k, hk, e, _⟩ | ⟨hc, e, _⟩⟩ := startOp_spec w id req <;> rw [e] at h
  · rw [User.finishOp_out, (hp 0).out] at h
    obtain rfl := snoc_done_inj h
    exact hk.imp (fun e => by rw [e]) fun ⟨e, hc⟩ => ⟨by rw [e], hc⟩
  · -- the message was sent: nothing is logged
    obtain ⟨wk, qr, e'⟩ := User.sendAwait_ctx w0 _ id (2 * id) req.wait ((hp 0).hasCtx.trans hc)
    rw [e'] at h
    exact absurd ((hp 0).out.symm.trans h) (ne_snoc_self _ _)

theorem pollOp_done_cases (w : World) (id : Nat) (r : DoneRes) (h : (w.pollOp id).out = w.out ++ [.done id r]) :
    (∃ hd req, w.opSt id = some (.fresh hd req) ∧
      (r = .err .codecError ∨ (r = .err .contextExited ∧ w.hasCtx = false))) ∨
    (∃ s k, w.opSt id = some (.wait s k) ∧
      ((w.slot s = some .closed ∧ r = .err .contextExited) ∨
       ∃ v, w.slot s = some (.full v) ∧ w.pollOp id = w.resumeOp id s k v ∧ ResumeRes k v w.hasCtx r)) := by
  rcases pollOp_cases w id with ⟨_, e⟩ | ⟨hd, req, ho, e⟩ | ⟨s, k, v, ho, hs, e⟩ | ⟨s, k, ho, hs, e⟩ | ⟨s, k, _, _, e⟩
  · rw [e] at h; exact absurd h (ne_snoc_self _ _)
  · rw [e] at h; exact Or.inl ⟨hd, req, ho, startOp_done w id req r h⟩
  · exact Or.inr ⟨s, k, ho, Or.inr ⟨v, hs, e, resumeOp_done w id s k v r (e ▸ h)⟩⟩
  · rw [e, User.finishOp_out, clearSlot_out] at h
    exact Or.inr ⟨s, k, ho, Or.inl ⟨hs, (snoc_done_inj h).symm⟩⟩
  · rw [e] at h; exact absurd h (ne_snoc_self _ _)

theorem ResumeRes.accepts {k : Wait} {v : SlotVal} {b : Bool} {r : DoneRes} (h : ResumeRes k v b r)
    (hr : ∀ e, r ≠ .err e) : (v = .unit ∧ k = .ff) ∨ ∃ p, v = .pkt p ∧ Wait.accepts k p = true := by
  cases h <;> first | exact absurd rfl (hr _) | exact .inl ⟨rfl, rfl⟩ | exact .inr ⟨_, rfl, rfl⟩

theorem pollOp_done_resumed {w : World} {id : Nat} {r : DoneRes} (h : (w.pollOp id).out = w.out ++ [.done id r])
    (h1 : r ≠ .err .codecError) (h2 : r ≠ .err .contextExited) :
    ∃ s k v, w.opSt id = some (.wait s k) ∧ w.slot s = some (.full v) ∧ w.pollOp id = w.resumeOp id s k v ∧
      ∃ b, w.hasCtx = b ∧ ResumeRes k v b r := by
  rcases pollOp_done_cases w id r h with ⟨_, _, _, e | ⟨e, _⟩⟩ | ⟨s, k, ho, ⟨_, e⟩ | ⟨v, hs, e, hr⟩⟩
  · exact absurd e h1
  · exact absurd e h2
  · exact absurd e h2
  · exact ⟨s, k, v, ho, hs, e, _, rfl, hr⟩

theorem during_done_origin {cfg : Cfg} {w : World} (h : During cfg w) {pre post : List Obs} {id : Nat} {r : DoneRes}
    (ho : w.out = pre ++ .done id r :: post) :
    ∃ w0, During cfg w0 ∧ (w0.pollOp id).out = pre ++ [.done id r] ∧ w0.out = pre ∧ Reaches (w0.pollOp id) w := by
  obtain ⟨w0, w1, a, b, hd, hm, hr, hpre, ho1⟩ := h.line_origin ho
  have mem : ∀ {added}, w1.out = w0.out ++ added → Obs.done id r ∈ added := fun e =>
    List.append_cancel_left (e.symm.trans ho1) ▸ List.mem_append_right a List.mem_cons_self
  -- only the poll of a handle future logs a `DONE`
  rcases hm.line with ⟨_, _, e, hP⟩ | ⟨t, ht, rfl, _, e, hP⟩ | ⟨_, e, hP⟩
  · rcases hP _ (mem e) with ⟨_, h | h⟩ | ⟨_, _, h⟩ | ⟨_, h⟩ <;> cases h
  · cases t with
    | ctx => exact absurd rfl ht
    | st j => rcases hP _ (mem e) with ⟨_, h⟩ | h <;> cases h
    | op id' =>
      rcases pollOp_out (w0.unwake (.op id')) id' with e | ⟨o, ho, e⟩
      · exact absurd (e.symm.trans ho1) (by simp)
      · obtain ⟨rfl, e2, rfl⟩ := snoc_eq_append_cons (l := []) (List.append_cancel_left (e.symm.trans ho1)) (by simp)
        rcases ho with rfl | ⟨r', rfl⟩ <;> cases e2
        rw [List.append_nil] at hpre
        exact ⟨w0.unwake (.op id), hd.next (.unwake w0 _), by rw [e, hpre]; rfl, hpre.symm, hr⟩
  · rcases hP _ (mem e) with ⟨_, h⟩ | h | h | ⟨_, h⟩ | ⟨_, h⟩ <;> cases h

/-- bit 3 of the first byte (the DUP flag of a PUBLISH) is clear -/
def DupClear (pkt : Bytes) : Prop := ∃ b rest, pkt = b :: rest ∧ b.toNat / 8 % 2 = 0

def DupSet (pkt : Bytes) : Prop := ∃ b rest, pkt = b :: rest ∧ b.toNat / 8 % 2 = 1

/-- what the publish requests of a script are assumed to be: `publish()` never sets the DUP flag, a QoS is at most 2 -/
def PlainOk (w : World) : Prop :=
  ∀ id h t, (id, OpSt.fresh h (.publish t)) ∈ w.ops → t.qos ≤ 2 ∧ t.dup = false

def PubPlain (out : List Obs) : Prop :=
  ∀ id h t, Obs.ev (.op id h (.publish t)) ∈ out → t.qos ≤ 2 ∧ t.dup = false

theorem PlainOk.qos {w : World} (h : PlainOk w) : QosOk w := fun id hh t hmem => (h id hh t hmem).1

theorem dupClear_encode (t : PublishTx) (hd : t.dup = false) (hq : t.qos ≤ 2) :
    DupClear t.encode ∧ pktType t.encode = 3 := by
  obtain ⟨rest, e, _, h3, h4⟩ := encode_dup_clear t hd hq
  refine ⟨⟨_, rest, e, ?_⟩, h4⟩
  rw [h3]
  have := b2n_le t.retain
  omega

/-- a PUBLISH (packet type 3) as `publish()` queues it -/
def FirstTx (m : Msg) : Prop := pktType m.pkt = 3 → DupClear m.pkt

theorem during_firstTx {cfg : Cfg} {w : World} (hd : During cfg w) (hq : PubPlain w.out) :
    ∀ m ∈ w.queue, FirstTx m := by
  refine hd.inv_out (H := PubPlain) (I := fun w => ∀ m ∈ w.queue, FirstTx m)
    (fun a b h id hh t hm => h id hh t (List.mem_append_left _ hm)) (by simp) ?_ hq
  · intro w w' hd hq0 ih0 hm
    have hpl : PlainOk w := fun id hh t hmem => hq0 id hh t (during_freshLogged hd id hh (.publish t) hmem)
    have grown : ∀ m0, w'.queue = w.queue ++ [m0] → FirstTx m0 → ∀ m ∈ w'.queue, FirstTx m := by
      intro m0 e h0
      rw [e]
      exact List.forall_mem_append.2 ⟨ih0, List.forall_mem_singleton.2 h0⟩
    rcases hm.queue_cases with old | ⟨id, rfl, ⟨h, req, ho, e, _⟩ | ⟨s, a, _, _, _, e⟩⟩
    · exact fun m hmem => ih0 m (old m hmem)
    · refine grown _ e fun h3 => ?_
      -- the message of a request of packet type 3 is the encoded publish request, whose DUP flag is clear
      obtain ⟨t, rfl⟩ := reqMsg_publish_of_type h3
      obtain ⟨hq2, hdup⟩ := hpl id h t (mem_of_opSt ho)
      obtain ⟨t', e1, e2, e3⟩ := reqMsg_publish_pkt w id t
      rw [e1]; exact (dupClear_encode t' (e3 ▸ hdup) (e2 ▸ hq2)).1
    · exact grown _ e fun h3 => by rw [pubrelMsg_type] at h3; omega

theorem dupSet_setDup (pkt : Bytes) (h : pkt ≠ []) : DupSet (setDup pkt) := by
  cases pkt with
  | nil => exact absurd rfl h
  | cons b t =>
    refine ⟨_, t, rfl, ?_⟩
    have hb : b.toNat < 256 := UInt8.toNat_lt b
    obtain ⟨_, _, h3, h4⟩ := lor8_bits b.toNat hb
    rw [UInt8.toNat_ofNat', Nat.mod_eq_of_lt h4, h3]

theorem runCont_queue {w w1 : World} (h : RunCont w w1) : (∃ m, w.queue = m :: w1.queue) ∨ w1.queue = w.queue := by
  cases h with
  | msg m q w1 hq hr =>
    have e : w1 = (World.runHandler { w with queue := q } (fun wok => w.c.handleMsg m wok)).1 := by rw [hr]
    exact Or.inl ⟨m, by simp [hq, e]⟩
  | pkt rx' rd' fr p w1 hq hs hp hd hr =>
    have e : w1 = (World.runHandler { w with rx := rx', reader := rd' }
        (fun wok => w.c.handlePkt w.chanRxAlive p wok)).1 := by rw [hr]
    exact Or.inr (by simp [e])

theorem pubPlain_of_script (cfg : Cfg) (evs : List Ev)
    (hq : ∀ id h t, Ev.op id h (.publish t) ∈ evs → t.qos ≤ 2 ∧ t.dup = false) :
    PubPlain (evs.foldl World.step { cfg := cfg }).out := by
  intro id h t hm
  rcases steps_ev_lines evs _ _ hm with h1 | h1
  · simp at h1
  · exact hq id h t h1

end W7
end World
end Poster

/-
  Lemmas/WorldCancelStep.lean — `hide id` (Lemmas/WorldCancelHide.lean) commutes with the poll of every task but
  `op id`, as long as a handle is alive and task `op id` is frozen (its future is gone, or the script holds it).
-/
import PosterModel.Lemmas.WorldCancelHide
import PosterModel.Lemmas.WorldCancelLock
import PosterModel.Lemmas.WorldOps

namespace Poster
open Framing
namespace World
namespace W11

/-- what the commutation needs of a world: a handle is alive (so no sender count reaches zero), the operation table is
    well formed (every operation waits on one of its own two oneshots), task `op id` is frozen -/
structure Side (id : Nat) (w : World) : Prop where
  handles : w.handles ≠ []
  ops : OpsInv w
  frozen : Frozen id w

theorem Side.pollTask {id : Nat} {w : World} (h : Side id w) (t : Task) (ht : t ≠ .op id) : Side id (w.pollTask t) := by
  refine ⟨by rw [(pollTask_pollFrame w t).handles]; exact h.handles, h.ops.pollTask t, ?_⟩
  rcases h.frozen with hf | hf
  · exact Or.inl (by rw [(pollTask_pollFrame w t).held]; exact hf)
  · exact Or.inr (by rw [pollTask_opSt_ne w t id ht]; exact hf)

theorem own_of_opsInv {w : World} (h : OpsInv w) (j s : Nat) (k : Wait) (hst : w.opSt j = some (.wait s k)) :
    s / 2 = j ∧ (k = .pubrec → (s + 1) / 2 = j) := by
  have hm := mem_of_opSt hst
  refine ⟨h.owner hm, fun hk => ?_⟩
  rcases (h.shape j s k hm).1 with ⟨e, _⟩ | ⟨_, e⟩
  · omega
  · rw [hk] at e; cases e

theorem pollTask_hide (id) (w : World) (t : Task) (ht : t ≠ .op id) (h : Side id w) :
    (hide id w).pollTask t = hide id (w.pollTask t) := by
  rw [hide_eq]
  exact Era.pollTask_app (hideE_wf id) (hideE_ctxSide id) w t (hideE_sees ht) h.handles (Or.inl h.handles)
    (Era.keepsSlots_of_slotOf (own_of_opsInv h.ops))

end W11
end World
end Poster

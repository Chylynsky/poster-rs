/-
  Every subscription identifier of a decoded PUBLISH costs at least two bytes of its frame: every
  property the decoder reads takes at least two bytes (`decProp_len`) and adds at most one identifier.
-/
import PosterModel.Lemmas.NoPanic

namespace Poster

theorem PublishRx.step_subIds {b b' : PublishRx} {p : Property} (h : PublishRx.step b p = some b') :
    b'.subIds.length ≤ b.subIds.length + 1 := by
  unfold PublishRx.step at h
  split at h <;> simp only [Option.some.injEq, reduceCtorEq] at h <;> subst h
  case h_4 => simp only [List.length_append, List.length_singleton]; exact Nat.le_refl _
  all_goals exact Nat.le_succ _

theorem foldProps_subIds_len (f : Nat) (bs : Bytes) (b b' : PublishRx)
    (h : foldProps PublishRx.step f bs b = .ok b') : 2 * b'.subIds.length ≤ 2 * b.subIds.length + bs.length := by
  refine foldProps_ok_induct (motive := fun bs b => 2 * b'.subIds.length ≤ 2 * b.subIds.length + bs.length)
    (Nat.le_refl _) ?_ f bs b h
  intro bs p r b b1 hd hs h1
  obtain ⟨hp, _, rfl⟩ := tryDec_ok hd
  have := (decProp_len hp).1
  have := (decProp_len hp).2
  have := PublishRx.step_subIds hs
  rw [List.length_drop] at h1
  omega

theorem decPublish_subIds_len (fr : Bytes) (pb : PublishRx) (h : decPublish fr = .ok pb) :
    2 * pb.subIds.length ≤ fr.length := by
  simp only [decPublish, Res.bind_eq_ok, Res.ite_err_eq_ok, Res.ok.injEq] at h
  obtain ⟨⟨hdr, d0⟩, h0, _, _, ⟨rl, d1⟩, h1, _, ⟨topic, d2⟩, h2, ⟨pid, d3⟩, h3, ⟨pl, d4⟩, h4, _, c, h5, d5, _, rfl⟩ := h
  have l0 := tryDec_length_le h0
  have l1 := tryDec_length_le h1
  have l2 := tryDec_length_le h2
  have l4 := tryDec_length_le h4
  have l3 : d3.length ≤ d2.length := by
    split at h3
    · cases h3; exact Nat.le_refl _
    · obtain ⟨⟨p, d'⟩, hp, he⟩ := (Res.map_eq_ok ..).mp h3
      cases he
      exact tryDec_length_le hp
  have l5 := foldProps_subIds_len _ _ _ _ h5
  simp only [List.length_nil, List.length_take] at l0 l1 l2 l4 l5 ⊢
  omega

theorem decodeRx_publish_subIds_len (fr : Bytes) (pb : PublishRx) (h : decodeRx fr = .ok (.publish pb)) :
    2 * pb.subIds.length ≤ fr.length :=
  decPublish_subIds_len fr pb (decodeRx_ok h)

end Poster

#print axioms Poster.decPublish_subIds_len
#print axioms Poster.decodeRx_publish_subIds_len

/-
  Lemmas/WorldEx.lean — concrete worlds and server frames with their decodings (`namespace Ex`): the inputs on which the
  non-vacuity examples evaluate the model; and the stage evaluators with which the concrete scripts of the `*Ex` modules
  are run poll by poll. `World` gets its `DecidableEq` here.
-/
import PosterModel.Lemmas.WorldPanic
import PosterModel.Lemmas.WorldDrop

namespace Poster
open Framing
namespace Ex

/-- a serving client: one handle, operation 1 waiting (registered) for the PUBACK of packet 1, operation 5 not
    yet polled, stream 3 subscribed under identifier 7 and registered, nothing to read, framing idle -/
def wRun : World :=
  { hasCtx := true, handles := [0], task := .running true,
    ops := [(1, .wait 2 .puback), (5, .fresh 0 .ping)], slots := [(2, .empty)], slotReg := [2],
    c := { awaiting := [(actionId 4 1, 2)], subs := [(7, 3)] },
    chans := [(3, { buf := [], reg := true })], streams := [3] }

/-- CONNACK, reason 0, no properties -/
def connackOk : Bytes := [0x20, 3, 0, 0, 0]
/-- CONNACK, reason 0x87 (not authorized) -/
def connackRefused : Bytes := [0x20, 3, 0, 0x87, 0]
/-- CONNACK, reason 0, property "subscription identifiers available" = 0 -/
def connackNoSubId : Bytes := [0x20, 5, 0, 0, 2, 0x29, 0]
/-- server DISCONNECT, short form (reason 0) -/
def disconnect0 : Bytes := [0xE0, 0]
/-- server DISCONNECT, reason 0x8B (server shutting down) -/
def disconnect8B : Bytes := [0xE0, 1, 0x8B]
/-- PINGRESP -/
def pingresp : Bytes := [0xD0, 0]
/-- a PUBACK-typed frame that is too short to decode -/
def badPuback : Bytes := [0x40, 0]

/-- `connect()` awaiting its first response, with `fr` delivered by the transport in one read -/
def wConn (fr : Bytes) : World :=
  { hasCtx := true, handles := [0], task := .connecting .connect {} {} true, reader := [.data fr] }

/-- `run()` serving, one handle alive, `evs` pending at the transport -/
def wServe (evs : List ReadEv) : World :=
  { hasCtx := true, handles := [0], task := .running true, reader := evs }

/-- `run()` with the user's DISCONNECT queued (oneshot 4) and a PINGREQ behind it (oneshot 6) -/
def wBye : World :=
  { hasCtx := true, handles := [0], task := .running true,
    ops := [(2, .wait 4 .ff), (3, .wait 6 .pingresp)], slots := [(4, .empty), (6, .empty)], slotReg := [4, 6],
    queue := [.ff [0xE0, 0] 4, .awaitAck (actionId 13 0) pingreqBytes 6] }

theorem pollNext_whole (fr : Bytes) (h2 : 2 ≤ fr.length) (h512 : fr.length ≤ 512)
    (hf : frameLen fr = .ok fr.length 1) :
    pollNext {} [.data fr] = ({}, [], .item fr) := by
  have h0 : ¬ fr.length = 0 := by omega
  rw [pollNext]
  simp only [h0, cap, List.length_nil, Nat.zero_sub, Nat.zero_lt_succ, ↓reduceIte, h512,
    List.nil_append, h2, ↓reduceDIte]
  rw [pollNext]; simp only [hf]
  rw [pollNext]; simp

/-- the PUBACK for packet identifier 1 (short form, reason 0) as bytes: what it decodes to, and how the framing layer
    hands it over; the examples of several clusters name these bytes (`W11.pubackFr`, `W13.puback1`, `Ex.puback1`) -/
theorem dec_pubackBytes : decodeRx [0x40, 2, 0, 1] = .ok (.puback { packetId := 1 }) := by decide
theorem pn_pubackBytes : pollNext {} [.data [0x40, 2, 0, 1]] = ({}, [], .item [0x40, 2, 0, 1]) :=
  pollNext_whole _ (by decide) (by decide) (by decide)

def kOk : ConnackRx := { sessionPresent := false, reason := 0 }
def kRefused : ConnackRx := { sessionPresent := false, reason := 0x87 }
def kNoSubId : ConnackRx := { sessionPresent := false, reason := 0, subIdAvail := false }

theorem dec_connackOk : decodeRx connackOk = .ok (.connack kOk) := by decide
theorem dec_connackRefused : decodeRx connackRefused = .ok (.connack kRefused) := by decide
theorem dec_connackNoSubId : decodeRx connackNoSubId = .ok (.connack kNoSubId) := by decide
theorem dec_disconnect0 : decodeRx disconnect0 = .ok (.disconnect {}) := by decide
theorem dec_disconnect8B : decodeRx disconnect8B = .ok (.disconnect { reason := 0x8B }) := by decide
theorem dec_pingresp : decodeRx pingresp = .ok .pingresp := by decide
theorem dec_badPuback : decodeRx badPuback = .err := by decide

theorem pn_connackOk : pollNext {} [.data connackOk] = ({}, [], .item connackOk) :=
  pollNext_whole _ (by decide) (by decide) (by decide)
theorem pn_connackRefused : pollNext {} [.data connackRefused] = ({}, [], .item connackRefused) :=
  pollNext_whole _ (by decide) (by decide) (by decide)
theorem pn_connackNoSubId : pollNext {} [.data connackNoSubId] = ({}, [], .item connackNoSubId) :=
  pollNext_whole _ (by decide) (by decide) (by decide)
theorem pn_disconnect0 : pollNext {} [.data disconnect0] = ({}, [], .item disconnect0) :=
  pollNext_whole _ (by decide) (by decide) (by decide)
theorem pn_disconnect8B : pollNext {} [.data disconnect8B] = ({}, [], .item disconnect8B) :=
  pollNext_whole _ (by decide) (by decide) (by decide)
theorem pn_pingresp : pollNext {} [.data pingresp] = ({}, [], .item pingresp) :=
  pollNext_whole _ (by decide) (by decide) (by decide)
theorem pn_badPuback : pollNext {} [.data badPuback] = ({}, [], .item badPuback) :=
  pollNext_whole _ (by decide) (by decide) (by decide)
theorem pn_eof : pollNext {} [.eof] = ({}, [.eof], .none) := by rw [pollNext]
theorem pn_pending : pollNext {} [.data [0x20]] = ({ valid := [0x20] }, [], .pending) := by
  simp [pollNext, cap]

/-- stream 3 with two messages buffered and the sending half already gone -/
def wDrain : World :=
  { streams := [3],
    chans := [(3, { buf := [{ topic := [0x61] }, { topic := [0x62] }], txAlive := false })] }

/-- a session with a flow-control window of 10 of which 4 are free, QoS 1 packet 1 in flight (waiter: oneshot 2) -/
def cFlight : Ctx :=
  { awaiting := [(actionId 4 1, 2)], retx := [(actionId 4 1, [0x32, 0])], quota := 4, recvMax := 10 }

/-- an inbound QoS 2 PUBLISH: topic "a", packet identifier 9, no properties, empty payload -/
def q2frame : Bytes := [0x34, 6, 0, 1, 0x61, 0, 9, 0]
def q2pub : PublishRx := { topic := [0x61], qos := 2, packetId := some 9 }

-- `utf8Valid` is a well-founded recursion (on the length of its argument): `decide` does not unfold it, the kernel does
theorem dec_q2 : decodeRx q2frame = .ok (.publish q2pub) := by decide +kernel

theorem pn_q2 : pollNext {} [.data q2frame] = ({}, [], .item q2frame) :=
  pollNext_whole q2frame (by decide) (by decide) (by decide)

end Ex

deriving instance DecidableEq for Poster.World

namespace World

/-! ## stage evaluators

`World.step` is computable except for `Framing.pollNext` (well-founded recursion, opaque to `decide`); these peel one poll of
the `run()` loop, one poll of the executor, one script event at a time, so that every remaining side condition of a concrete
script is closed by `decide`. -/

theorem pn_nil : pollNext {} [] = ({}, [], .pending) := pollNext_idle_nil {} rfl

theorem runLoop_idle (f : Nat) (w : World) (hf : 0 < f) (hq : w.queue = []) (hs : w.senders ≠ 0)
    (hrx : w.rx = {}) (hrd : w.reader = []) :
    runLoop f w = { w with queueReg := true, readerReg := true } := by
  obtain ⟨f, rfl⟩ : ∃ g, f = g + 1 := ⟨f - 1, by omega⟩
  rw [(RunEnd.pending {} [] hq hs (by rw [hrx, hrd, pn_nil])).loop f, if_pos rfl, ← hrx, ← hrd]

theorem runLoop_msg (f : Nat) (w : World) (m : Msg) (q : List Msg) (hf : 0 < f) (hq : w.queue = m :: q)
    (hfl : (({ w with queue := q }).runHandler (fun wok => w.c.handleMsg m wok)).2 = .cont) :
    runLoop f w = runLoop (f - 1) (({ w with queue := q }).runHandler (fun wok => w.c.handleMsg m wok)).1 := by
  obtain ⟨f, rfl⟩ : ∃ g, f = g + 1 := ⟨f - 1, by omega⟩
  exact (RunCont.msg m q _ hq (Prod.ext rfl hfl)).loop f

theorem runLoop_pkt (f : Nat) (w : World) (fr : Bytes) (p : RxPacket) (hf : 0 < f) (hq : w.queue = [])
    (hs : w.senders ≠ 0) (hpn : pollNext w.rx w.reader = ({}, [], .item fr)) (hd : decodeRx fr = .ok p)
    (hfl : (({ w with rx := {}, reader := [] }).runHandler
      (fun wok => w.c.handlePkt w.chanRxAlive p wok)).2 = .cont) :
    runLoop f w = runLoop (f - 1) (({ w with rx := {}, reader := [] }).runHandler
      (fun wok => w.c.handlePkt w.chanRxAlive p wok)).1 := by
  obtain ⟨f, rfl⟩ : ∃ g, f = g + 1 := ⟨f - 1, by omega⟩
  exact (RunCont.pkt {} [] fr p _ hq hs hpn hd (Prod.ext rfl hfl)).loop f

/-! ### a poll of the context task, by the state of the call (`w.pollTask .ctx` is `(w.unwake .ctx).pollCtx`) -/

theorem pollTask_ctx_running (w : World) (h : (w.unwake .ctx).task = .running true) :
    w.pollTask .ctx = runLoop (w.unwake .ctx).loopFuel (w.unwake .ctx) := pollCtx_running h

theorem pollTask_ctx_connecting (w : World) (call : Call) (t : ConnectTx) (a : AuthTx) (started : Bool)
    (h : (w.unwake .ctx).task = .connecting call t a started) :
    w.pollTask .ctx = (w.unwake .ctx).pollConnect call t a started := pollCtx_connecting h

theorem pollTask_ctx_first (w : World) (h : (w.unwake .ctx).task = .running false)
    (hc : (w.unwake .ctx).resumed.canWrite (((w.unwake .ctx).c.resume.2.2.map List.length).sum) = true) :
    w.pollTask .ctx = runLoop (w.unwake .ctx).resent.loopFuel (w.unwake .ctx).resent :=
  (pollCtx_running h).trans ((pollRun_first_eq _).trans (if_pos hc))

theorem pollTask_ctx_start (w : World) (h : (w.unwake .ctx).task = .running false)
    (hd : (w.unwake .ctx).c.disc = none) (hw : w.cfg.wlimit = none) :
    w.pollTask .ctx = runLoop ({ w.unwake .ctx with task := .running true }).loopFuel
      { w.unwake .ctx with task := .running true } := by
  have hw' : (w.unwake .ctx).cfg.wlimit = none := hw
  rw [show w.pollTask .ctx = _ from pollCtx_running h]
  simp only [pollRun, Bool.false_eq_true, ↓reduceIte, Ctx.resume, hd, applyEffs, List.foldl_nil, canWrite, hw']

theorem awaitFirst_idle (w : World) (call : Call) (t : ConnectTx) (a : AuthTx) (hrx : w.rx = {}) (hrd : w.reader = []) :
    w.awaitFirst call t a =
      { w with rx := {}, reader := [], task := .connecting call t a true, readerReg := true } :=
  (FirstEnd.pending {} [] (by rw [hrx, hrd, pn_nil])).eq.trans (if_pos rfl)

theorem awaitFirst_connack_ok (w : World) (call : Call) (t : ConnectTx) (a : AuthTx) (fr : Bytes) (k : ConnackRx)
    (hp : pollNext w.rx w.reader = ({}, [], .item fr)) (hd : decodeRx fr = .ok (.connack k)) (hr : ¬ k.reason ≥ 128)
    (hs : k.subIdAvail = true) :
    w.awaitFirst call t a =
      ({ w with rx := {}, reader := [], c := w.c.handleConnack k } : World).finish call (.connack k) :=
  (FirstEnd.connack {} [] fr k hp hd (by omega) hs).eq

theorem pollTask_ctx_connect_first (w : World) (call : Call) (t : ConnectTx) (a : AuthTx)
    (h : (w.unwake .ctx).task = .connecting call t a false) (hv : reqValid call t a = true)
    (hw : (w.unwake .ctx).canWrite (W7.reqBytes call t a).length = true) (hrx : w.rx = {}) (hrd : w.reader = []) :
    w.pollTask .ctx =
      { (W7.seiSet (w.unwake .ctx) call t).writeBytes (W7.reqBytes call t a) with
        rx := {}, reader := [], task := .connecting call t a true, readerReg := true } := by
  rw [pollTask_ctx_connecting w call t a false h, pollConnect_false_eq, hv, hw]
  exact awaitFirst_idle _ call t a (by rw [writeBytes_rx]; cases call <;> exact hrx)
    (by rw [writeBytes_reader]; cases call <;> exact hrd)

theorem pollTask_ctx_connect_resp (w : World) (call : Call) (t : ConnectTx) (a : AuthTx) (fr : Bytes) (k : ConnackRx)
    (h : (w.unwake .ctx).task = .connecting call t a true)
    (hpn : pollNext w.rx w.reader = ({}, [], .item fr)) (hd : decodeRx fr = .ok (.connack k)) (hk : k.reason < 128)
    (hs : k.subIdAvail = true) :
    w.pollTask .ctx =
      ({ w.unwake .ctx with rx := {}, reader := [], c := w.c.handleConnack k } : World).finish call (.connack k) :=
  (pollTask_ctx_connecting w call t a true h).trans
    (awaitFirst_connack_ok _ call t a fr k hpn hd (Nat.not_le.mpr hk) hs)

theorem pollTask_ctx_frame (w : World) (fr : Bytes) (p : RxPacket) (ht : (w.unwake .ctx).task = .running true)
    (hq : w.queue = []) (hs : w.senders ≠ 0) (hpn : pollNext w.rx w.reader = ({}, [], .item fr)) (hd : decodeRx fr = .ok p)
    (hfl : (({ w.unwake .ctx with rx := {}, reader := [] }).runHandler
      (fun wok => w.c.handlePkt w.chanRxAlive p wok)).2 = .cont) :
    w.pollTask .ctx =
      { (({ w.unwake .ctx with rx := {}, reader := [] }).runHandler
          (fun wok => w.c.handlePkt w.chanRxAlive p wok)).1 with queueReg := true, readerReg := true } := by
  rw [pollTask_ctx_running w ht, runLoop_pkt _ (w.unwake .ctx) fr p (by unfold loopFuel; omega) hq hs hpn hd hfl,
    runLoop_idle _ _ (by unfold loopFuel; omega) (by rw [runHandler_queue]; exact hq)
      (by rw [runHandler_senders]; exact hs) (runHandler_rx _ _) (runHandler_reader _ _)]
  rfl

theorem pollTask_ctx_msg (w : World) (m : Msg) (ht : (w.unwake .ctx).task = .running true) (hq : w.queue = [m])
    (hs : w.senders ≠ 0) (hrx : w.rx = {}) (hrd : w.reader = [])
    (hfl : (({ w.unwake .ctx with queue := [] }).runHandler (fun wok => w.c.handleMsg m wok)).2 = .cont) :
    w.pollTask .ctx =
      { (({ w.unwake .ctx with queue := [] }).runHandler (fun wok => w.c.handleMsg m wok)).1 with
        queueReg := true, readerReg := true } := by
  rw [pollTask_ctx_running w ht, runLoop_msg _ (w.unwake .ctx) m [] (by unfold loopFuel; omega) hq hfl,
    runLoop_idle _ _ (by unfold loopFuel; omega) (runHandler_queue _ _) (by rw [runHandler_senders]; exact hs)
      (by rw [runHandler_rx]; exact hrx) (by rw [runHandler_reader]; exact hrd)]
  rfl

theorem drain_pick (f : Nat) (w : World) (t : Task) (hf : 0 < f) (h : w.pick = some t) :
    drain f w = drain (f - 1) (w.pollTask t) := by
  obtain ⟨f, rfl⟩ : ∃ g, f = g + 1 := ⟨f - 1, by omega⟩
  simp only [drain, h, Nat.add_sub_cancel]

theorem step_eq (w : World) (e : Ev) (wd : World) (hb : w.bad = false)
    (hab : ((w.emit (.ev e)).apply e).bad = false)
    (hd : drain ((w.emit (.ev e)).apply e).drainFuel ((w.emit (.ev e)).apply e) = wd)
    (hsw : wd.cfg.sweep = false) (hst : ¬ (wd.task ≠ .none ∧ wd.reader ≠ [])) : w.step e = wd := by
  unfold step
  simp only [hb, Bool.false_eq_true, ↓reduceIte, hab, hd, hsw, hst]

end World
end Poster

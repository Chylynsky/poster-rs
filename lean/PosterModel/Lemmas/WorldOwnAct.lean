/-
  Lemmas/WorldOwnAct.lean — the common ground of the ownership (WorldOwn*) and registration (WorldQuiet*) invariants:
  `ActInv w w'`, what the effects of the context's handlers can do to the oneshots, the channels and the wakers. It is
  reflexive, transitive and holds for every primitive effect.
-/
import PosterModel.Lemmas.WorldWalk
import PosterModel.Lemmas.WorldDrop
import PosterModel.Lemmas.UserWorld


namespace Poster
open Framing

theorem Req.wait_suback {req : Req} (h : req.wait = .suback) : ∃ t, req = .subscribe t := by
  cases req with
  | subscribe t => exact ⟨t, rfl⟩
  | publish t => simp only [Req.wait] at h; split at h <;> (try split at h) <;> cases h
  | _ => cases h

namespace World

@[simp] theorem endOp_rsps (w : World) (id : Nat) (o : Obs) : (w.endOp id o).rsps = w.rsps := by
  obtain ⟨wk, qr, e⟩ := endOp_shape w id o; rw [e]
@[simp] theorem endOp_chans (w : World) (id : Nat) (o : Obs) : (w.endOp id o).chans = w.chans := by
  obtain ⟨wk, qr, e⟩ := endOp_shape w id o; rw [e]

/-- what the effects of the context's handlers can do to the user-visible plumbing: a oneshot without a value
    may get one (or be closed) — and then the operation registered on it is woken —, a oneshot with a value or
    closed stays as it is; a channel whose sender is gone stays so; a channel that changes wakes the stream
    registered on it; no wakeup is lost; operations, streams, responses are untouched. -/
structure ActInv (w w' : World) : Prop where
  hasCtx_eq : w'.hasCtx = w.hasCtx
  ctxDropped_eq : w'.ctxDropped = w.ctxDropped
  ops_eq : w'.ops = w.ops
  streams_eq : w'.streams = w.streams
  rsps_eq : w'.rsps = w.rsps
  held_eq : w'.held = w.held
  bad_eq : w'.bad = w.bad
  wokenMono : ∀ t, t ∈ w.woken → t ∈ w'.woken
  slotNone : ∀ s, w.slot s = none → w'.slot s = none
  slotFull : ∀ s v, w.slot s = some (.full v) → w'.slot s = some (.full v)
  slotClosed : ∀ s, w.slot s = some .closed → w'.slot s = some .closed
  slotEmpty : ∀ s, w.slot s = some .empty →
    (w'.slot s = some .empty ∧ (s ∈ w.slotReg → s ∈ w'.slotReg)) ∨
    (w'.slot s ≠ some .empty ∧ w'.slot s ≠ none ∧ (s ∈ w.slotReg → .op (s / 2) ∈ w'.woken))
  chanKeys : w'.chans.map (·.1) = w.chans.map (·.1)
  chanNone : ∀ c, w.chan c = none → w'.chan c = none
  chanSome : ∀ c c0, w.chan c = some c0 → ∃ c1, w'.chan c = some c1 ∧
    (c0.txAlive = false → c1.txAlive = false) ∧ (c1 = c0 ∨ (c0.reg = true → .st c ∈ w'.woken))

theorem actInv_refl (w : World) : ActInv w w where
  hasCtx_eq := rfl
  ctxDropped_eq := rfl
  ops_eq := rfl
  streams_eq := rfl
  rsps_eq := rfl
  held_eq := rfl
  bad_eq := rfl
  wokenMono := fun _ h => h
  slotNone := fun _ h => h
  slotFull := fun _ _ h => h
  slotClosed := fun _ h => h
  slotEmpty := fun _ h => Or.inl ⟨h, id⟩
  chanKeys := rfl
  chanNone := fun _ h => h
  chanSome := fun _ c0 h => ⟨c0, h, id, Or.inl rfl⟩

theorem ActInv.slot_ne_empty {w w' : World} (h : ActInv w w') (s : Nat) (hs : w.slot s ≠ some .empty) :
    w'.slot s = w.slot s := by
  cases hv : w.slot s with
  | none => exact h.slotNone s hv
  | some v =>
    cases v with
    | empty => exact absurd hv hs
    | full x => exact h.slotFull s x hv
    | closed => exact h.slotClosed s hv

theorem ActInv.slot_empty_inv {w w' : World} (h : ActInv w w') (s : Nat) (hs : w'.slot s = some .empty) :
    w.slot s = some .empty := by
  apply Classical.byContradiction
  intro hne
  rw [h.slot_ne_empty s hne] at hs
  exact hne hs

theorem ActInv.slot_ne_none {w w' : World} (h : ActInv w w') (s : Nat) (hs : w.slot s ≠ none) :
    w'.slot s ≠ none := by
  by_cases he : w.slot s = some .empty
  · rcases h.slotEmpty s he with ⟨a, _⟩ | ⟨_, a, _⟩
    · rw [a]; simp
    · exact a
  · rw [h.slot_ne_empty s he]; exact hs

theorem actInv_trans {a b c : World} (h1 : ActInv a b) (h2 : ActInv b c) : ActInv a c where
  hasCtx_eq := h2.hasCtx_eq.trans h1.hasCtx_eq
  ctxDropped_eq := h2.ctxDropped_eq.trans h1.ctxDropped_eq
  ops_eq := h2.ops_eq.trans h1.ops_eq
  streams_eq := h2.streams_eq.trans h1.streams_eq
  rsps_eq := h2.rsps_eq.trans h1.rsps_eq
  held_eq := h2.held_eq.trans h1.held_eq
  bad_eq := h2.bad_eq.trans h1.bad_eq
  wokenMono := fun t ht => h2.wokenMono t (h1.wokenMono t ht)
  slotNone := fun s hs => h2.slotNone s (h1.slotNone s hs)
  slotFull := fun s v hs => h2.slotFull s v (h1.slotFull s v hs)
  slotClosed := fun s hs => h2.slotClosed s (h1.slotClosed s hs)
  slotEmpty := fun s hs => by
    rcases h1.slotEmpty s hs with ⟨e1, r1⟩ | ⟨n1, m1, k1⟩
    · rcases h2.slotEmpty s e1 with ⟨e2, r2⟩ | ⟨n2, m2, k2⟩
      · exact Or.inl ⟨e2, fun hr => r2 (r1 hr)⟩
      · exact Or.inr ⟨n2, m2, fun hr => k2 (r1 hr)⟩
    · refine Or.inr ⟨?_, h2.slot_ne_none s m1, fun hr => h2.wokenMono _ (k1 hr)⟩
      rw [h2.slot_ne_empty s n1]; exact n1
  chanKeys := h2.chanKeys.trans h1.chanKeys
  chanNone := fun c hc => h2.chanNone c (h1.chanNone c hc)
  chanSome := fun c c0 hc => by
    obtain ⟨c1, e1, t1, k1⟩ := h1.chanSome c c0 hc
    obtain ⟨c2, e2, t2, k2⟩ := h2.chanSome c c1 e1
    refine ⟨c2, e2, fun ht => t2 (t1 ht), ?_⟩
    rcases k1 with k1 | k1
    · subst k1; exact k2
    · exact Or.inr fun hr => h2.wokenMono _ (k1 hr)

theorem actInv_of_eq {w w' : World} (h1 : w'.hasCtx = w.hasCtx) (h2 : w'.ctxDropped = w.ctxDropped)
    (h3 : w'.ops = w.ops) (h4 : w'.streams = w.streams) (h5 : w'.rsps = w.rsps) (h6 : w'.held = w.held)
    (h7 : ∀ t, t ∈ w.woken → t ∈ w'.woken) (h8 : w'.slots = w.slots) (h9 : w'.slotReg = w.slotReg)
    (h10 : w'.chans = w.chans) (h11 : w'.bad = w.bad) : ActInv w w' := by
  have hs : ∀ s, w'.slot s = w.slot s := fun s => by simp [slot, h8]
  have hc : ∀ c, w'.chan c = w.chan c := fun c => by simp [chan, h10]
  exact {
    hasCtx_eq := h1, ctxDropped_eq := h2, ops_eq := h3, streams_eq := h4, rsps_eq := h5, held_eq := h6
    bad_eq := h11
    wokenMono := h7
    slotNone := fun s h => by rw [hs]; exact h
    slotFull := fun s v h => by rw [hs]; exact h
    slotClosed := fun s h => by rw [hs]; exact h
    slotEmpty := fun s h => Or.inl ⟨by rw [hs]; exact h, fun hr => by rw [h9]; exact hr⟩
    chanKeys := by rw [h10]
    chanNone := fun c h => by rw [hc]; exact h
    chanSome := fun c c0 h => ⟨c0, by rw [hc]; exact h, id, Or.inl rfl⟩ }

theorem actInv_fill (w : World) (s : Nat) (x : Slot) (hx : x ≠ .empty) (he : w.slot s = some .empty) :
    ActInv w (w.fillSlot s x) := by
  -- a oneshot in another state is not `s`
  have other : ∀ {s' v}, w.slot s' = some v → v ≠ .empty → (w.fillSlot s x).slot s' = w.slot s' := by
    intro s' v h hv
    rw [fillSlot_slot, if_neg]
    intro e; subst e; rw [he] at h; cases h; exact hv rfl
  refine { actInv_refl w with
    wokenMono := fun _ ht => fillSlot_woken_mono w s x ht
    slotNone := fun s' h => ?_
    slotFull := fun s' v h => (other h nofun).trans h
    slotClosed := fun s' h => (other h nofun).trans h
    slotEmpty := fun s' h => ?_
    chanSome := fun c c0 h => ⟨c0, h, id, Or.inl rfl⟩ }
  · rw [fillSlot_slot, if_neg]; exact h
    intro e; subst e; rw [he] at h; cases h
  · rw [fillSlot_slot]
    by_cases hs : s' = s
    · subst hs
      rw [if_pos rfl]
      exact Or.inr ⟨fun e => hx (Option.some.inj e), nofun, fillSlot_wakes w s' x⟩
    · rw [if_neg hs]
      exact Or.inl ⟨h, (fillSlot_slotReg_ne w s x hs).mpr⟩

theorem actInv_sendSlot (w : World) (s : Nat) (v : SlotVal) : ActInv w (w.sendSlot s v) := by
  rw [sendSlot_eq]
  split
  · rename_i he; exact actInv_fill w s (.full v) (by intro h; cases h) he
  · exact actInv_refl w

theorem actInv_dropSlotTx (w : World) (s : Nat) : ActInv w (w.dropSlotTx s) := by
  rw [dropSlotTx_eq]
  split
  · rename_i he; exact actInv_fill w s .closed (by intro h; cases h) he
  · exact actInv_refl w

theorem actInv_setChan (w : World) (c : Nat) (ch c1 : Chan) (hc : w.chan c = some ch)
    (ht : ch.txAlive = false → c1.txAlive = false) :
    ActInv w (w.putChan c ch c1) := by
  refine { actInv_refl w with
    wokenMono := fun _ h => putChan_woken_mono w c ch c1 h
    slotEmpty := fun s h => Or.inl ⟨h, id⟩
    chanKeys := keys_setAssoc_of_lookup c c1 ch w.chans hc
    chanNone := fun c' h => ?_
    chanSome := fun c' c0 h => ?_ }
  · rw [putChan_chan, if_neg]; exact h
    intro e; subst e; rw [hc] at h; cases h
  · rw [putChan_chan]
    by_cases hcc : c' = c
    · subst hcc
      rw [hc] at h; cases h
      rw [if_pos rfl]
      exact ⟨c1, rfl, ht, Or.inr (putChan_wakes w c' ch c1)⟩
    · rw [if_neg hcc]; exact ⟨c0, h, id, Or.inl rfl⟩

theorem actInv_onChan (w : World) (c : Nat) (f : Chan → Chan) (ht : ∀ ch, ch.txAlive = false → (f ch).txAlive = false) :
    ActInv w (w.onChan c f) := by
  cases h : w.chan c with
  | none => rw [onChan_none h]; exact actInv_refl w
  | some ch => rw [onChan_some h]; exact actInv_setChan w c ch _ h (ht ch)

theorem actInv_deliver (w : World) (c : Nat) (p : PublishRx) : ActInv w (w.deliver c p) := by
  rw [deliver_eq]; exact actInv_onChan w c _ fun _ h => h

theorem actInv_dropChanTx (w : World) (c : Nat) : ActInv w (w.dropChanTx c) := by
  rw [dropChanTx_eq]; exact actInv_onChan w c _ fun _ _ => rfl

theorem actInv_writeBytes (w : World) (bs : Bytes) : ActInv w (w.writeBytes bs) := by
  obtain ⟨_, _, _, e⟩ := writeBytes_shape w bs
  rw [e]; exact { actInv_refl w with }

theorem actInv_applyEff (w : World) (e : Eff) : ActInv w (w.applyEff e) := by
  cases e with
  | write bs => exact actInv_writeBytes w bs
  | send s v => exact actInv_sendSlot w s v
  | dropSlot s => exact actInv_dropSlotTx w s
  | deliver c p => exact actInv_deliver w c p
  | dropChan c => exact actInv_dropChanTx w c

theorem actInv_applyEffs (w : World) (es : List Eff) : ActInv w (w.applyEffs es) :=
  applyEffs_lift actInv_refl actInv_trans (fun w e _ => actInv_applyEff w e) w

theorem actInv_closes {w w' : World} (h : Closes w w') : ActInv w w' := by
  obtain ⟨es, _, rfl⟩ := h.effs
  exact actInv_applyEffs w es

end World
end Poster

/-
  Lemmas/WorldSelectIndep.lean — what one poll of the loop does NOT owe to the scheduler: the messages handled are a
  prefix of the queue and the packets handled a prefix of the decoded frames (`loopHistS_msgs`, `loopHistS_pkts`); inbound
  packets whose handler writes nothing and never ends the loop (`RxPacket.silent`) can be deleted from a served history
  without changing what the message handlers do (`Ctx.serve_msgObs_indep`), provided the send quota cannot make a
  difference (`Ctx.SilentHist`, `Ctx.QSim`: the packets are `neutral`, or the quota covers every queued QoS>0 PUBLISH);
  hence two such resolutions of a poll on an unlimited transport that leave the same queue write the same bytes
  (`sent_of_silent_poll`, `sent_scheduler_independent`).
-/
import PosterModel.Lemmas.WorldCtx
import PosterModel.Lemmas.WorldAny
import PosterModel.Lemmas.WorldSelectCommute


namespace Poster
open Framing

def CIn.isMsg : CIn → Bool
  | .msg _ _ => true
  | .pkt _ _ _ => false

def CObs.isMsg : CObs → Bool
  | .msg _ _ _ => true
  | .pkt _ _ _ => false

def msgIns (is : List CIn) : List CIn := is.filter CIn.isMsg
def msgObs (t : List CObs) : List CObs := t.filter CObs.isMsg

def CIn.msg? : CIn → Option Msg
  | .msg m _ => some m
  | .pkt _ _ _ => none
def CIn.pkt? : CIn → Option RxPacket
  | .msg _ _ => none
  | .pkt p _ _ => some p

def histMsgs (is : List CIn) : List Msg := is.filterMap CIn.msg?
def histPkts (is : List CIn) : List RxPacket := is.filterMap CIn.pkt?

/-- an inbound packet whose handler writes nothing and never ends the loop: everything except a PUBLISH with a
    packet identifier (QoS > 0: PUBACK / PUBREC owed), PUBREL (PUBCOMP owed) and DISCONNECT
    (independent of `RxPacket.neutral`, Lemmas/WorldSelectCommute.lean, "leaves the send quota alone": a PUBACK is
    silent and not neutral) -/
def RxPacket.silent : RxPacket → Bool
  | .publish p => p.packetId.isNone
  | .pubrel _ => false
  | .disconnect _ => false
  | _ => true

def pubCountM (ms : List Msg) : Nat := (ms.filter Msg.isPub).length
def pubCount (is : List CIn) : Nat := pubCountM (histMsgs is)

theorem pubCountM_cons (m : Msg) (ms : List Msg) :
    pubCountM (m :: ms) = (if m.isPub then 1 else 0) + pubCountM ms := by
  unfold pubCountM
  by_cases h : m.isPub = true
  · rw [List.filter_cons_of_pos h, if_pos h, List.length_cons, Nat.add_comm]
  · rw [List.filter_cons_of_neg h, if_neg h, Nat.zero_add]

theorem pubCount_cons_msg (m : Msg) (wok : Bool) (is : List CIn) :
    pubCount (.msg m wok :: is) = (if m.isPub then 1 else 0) + pubCount is :=
  pubCountM_cons m (histMsgs is)

theorem pubCount_cons_pkt (p : RxPacket) (d : List Nat) (wok : Bool) (is : List CIn) :
    pubCount (.pkt p d wok :: is) = pubCount is := rfl

namespace Ctx

/-- the two contexts cannot be told apart by a message handler: same packet-size limit, and the send quota
    either equal (`nb = true`) or, in both, enough for the `k` quota-limited requests still to come -/
def QSim (nb : Bool) (k : Nat) (c c' : Ctx) : Prop :=
  c.maxPkt = c'.maxPkt ∧ (if nb then c.quota = c'.quota else k ≤ c.quota ∧ k ≤ c'.quota)

theorem handleMsg_sim (nb : Bool) (c c' : Ctx) (m : Msg) (wok : Bool) (k k' : Nat)
    (hk : k' + (if m.isPub then 1 else 0) ≤ k) (h : QSim nb k c c') :
    (c.handleMsg m wok).2 = (c'.handleMsg m wok).2 ∧ QSim nb k' (c.handleMsg m wok).1 (c'.handleMsg m wok).1 := by
  obtain ⟨hm, hq⟩ := h
  have hd : msgDelta c.sizeOk (decide (c.quota = 0)) m wok = msgDelta c'.sizeOk (decide (c'.quota = 0)) m wok := by
    refine msgDelta_congr m wok hm fun hp => ?_
    cases nb with
    | true => rw [show c.quota = c'.quota from hq]
    | false =>
      -- the quota covers this PUBLISH in both contexts: it is not 0
      have hk1 : k' + 1 ≤ k := by rw [hp] at hk; exact hk
      have pos : ∀ q, k ≤ q → q ≠ 0 := fun q h =>
        Nat.ne_of_gt (Nat.lt_of_lt_of_le (Nat.succ_pos k') (Nat.le_trans hk1 h))
      exact ⟨fun h => absurd h (pos _ hq.1), fun h => absurd h (pos _ hq.2)⟩
  rw [handleMsg_eq_delta c, handleMsg_eq_delta c', hd]
  have k4 := (msgDelta_keys c'.sizeOk (decide (c'.quota = 0)) m wok).dq_le
  have k5 := (msgDelta_keys c'.sizeOk (decide (c'.quota = 0)) m wok).dq_pub
  refine ⟨rfl, hm, ?_⟩
  generalize (msgDelta c'.sizeOk (decide (c'.quota = 0)) m wok).1 = d at k4 k5
  have hdq : d.dq ≤ if m.isPub then 1 else 0 := by
    cases hp : m.isPub with
    | true => exact k4
    | false =>
      have h0 : d.dq ≠ 1 := fun h1 => by rw [(k5 h1).1] at hp; cases hp
      exact Nat.le_of_lt_succ (Nat.lt_of_le_of_ne k4 h0)
  generalize (if m.isPub then 1 else 0) = n at hk hdq
  show if nb then c.quota - d.dq = c'.quota - d.dq else k' ≤ c.quota - d.dq ∧ k' ≤ c'.quota - d.dq
  cases nb with
  | true => rw [show c.quota = c'.quota from hq]; rfl
  | false =>
    have hq : k ≤ c.quota ∧ k ≤ c'.quota := hq
    have sub : ∀ q, k ≤ q → k' ≤ q - d.dq := fun q h =>
      Nat.le_sub_of_add_le (Nat.le_trans (Nat.add_le_add_left hdq k') (Nat.le_trans hk h))
    exact ⟨sub _ hq.1, sub _ hq.2⟩

theorem handlePkt_silent (c : Ctx) (alive : Nat → Bool) (p : RxPacket) (wok : Bool) (hs : p.silent = true) :
    (c.handlePkt alive p wok).2.2 = .cont ∧ writesOf (c.handlePkt alive p wok).2.1 = [] ∧
    (c.handlePkt alive p wok).1.maxPkt = c.maxPkt ∧ c.quota ≤ (c.handlePkt alive p wok).1.quota ∧
    (p.neutral = true → (c.handlePkt alive p wok).1.quota = c.quota) := by
  rw [handlePkt_quota, handlePkt_writes, (handlePkt_frame ..).2]
  refine ⟨?_, ?_, rfl, ?_, fun h => if_neg (by rw [RxPacket.neutral_eq] at h; simpa using h)⟩
  · cases p with
    | publish pb => rw [handlePkt_publish_eq]; simp only [show pb.packetId = none by simpa [RxPacket.silent] using hs]
    | disconnect d | pubrel a => cases hs
    | _ => rfl
  · cases p with
    | publish pb => simp only [show pb.packetId = none by simpa [RxPacket.silent] using hs]
    | disconnect d | pubrel a => cases hs
    | _ => rfl
  · split
    · exact bump_quota_ge c
    · exact Nat.le_refl _

/-- every inbound packet of the history is silent (and, in mode `nb`, neutral) -/
def SilentHist (nb : Bool) (is : List CIn) : Prop :=
  ∀ p d wok, CIn.pkt p d wok ∈ is → p.silent = true ∧ (nb = true → p.neutral = true)

theorem msgIns_cons_msg (m : Msg) (wok : Bool) (is : List CIn) :
    msgIns (.msg m wok :: is) = .msg m wok :: msgIns is := rfl
theorem msgIns_cons_pkt (p : RxPacket) (d : List Nat) (wok : Bool) (is : List CIn) :
    msgIns (.pkt p d wok :: is) = msgIns is := rfl

theorem serve_msgObs_indep (nb : Bool) (is : List CIn) (c c' : Ctx) (hs : SilentHist nb is)
    (h : QSim nb (pubCount is) c c') : msgObs (c.serve is).2 = (c'.serve (msgIns is)).2 := by
  induction is generalizing c c' with
  | nil => rfl
  | cons i is ih =>
    have hs' : SilentHist nb is := fun p d wok hm => hs p d wok (List.mem_cons_of_mem _ hm)
    cases i with
    | msg m wok =>
      obtain ⟨e1, e2⟩ := handleMsg_sim nb c c' m wok (pubCount (.msg m wok :: is)) (pubCount is)
        (by rw [pubCount_cons_msg]; exact Nat.le_of_eq (Nat.add_comm _ _)) h
      have eo : (c.stepIn (.msg m wok)).2 = (c'.stepIn (.msg m wok)).2 := congrArg (fun r : List Eff × Flow => CObs.msg m r.1 r.2) e1
      rw [msgIns_cons_msg, serve_cons, serve_cons, eo]
      by_cases hf : (c'.stepIn (.msg m wok)).2.flow = .cont
      · rw [if_pos hf, if_pos hf]
        exact congrArg ((c'.stepIn (.msg m wok)).2 :: ·) (ih _ _ hs' e2)
      · rw [if_neg hf, if_neg hf]
        rfl
    | pkt p d wok =>
      obtain ⟨s1, s2⟩ := hs p d wok List.mem_cons_self
      obtain ⟨f1, f2, f3, f4, f5⟩ := handlePkt_silent c (fun ch => ch ∉ d) p wok s1
      rw [msgIns_cons_pkt, serve_cons, if_pos (show (c.stepIn (.pkt p d wok)).2.flow = .cont from f1)]
      apply ih _ _ hs'
      rw [pubCount_cons_pkt] at h
      obtain ⟨hm, hq⟩ := h
      refine ⟨f3.trans hm, ?_⟩
      cases nb with
      | false => exact ⟨Nat.le_trans hq.1 f4, hq.2⟩
      | true => exact (f5 (s2 rfl)).trans hq

theorem histWrites_filter (t : List CObs) (h : ∀ o ∈ t, o.isMsg = false → writesOf o.effs = []) :
    World.histWrites t = World.histWrites (msgObs t) := by
  induction t with
  | nil => rfl
  | cons o t ih =>
    have ih := ih fun o ho => h o (List.mem_cons_of_mem _ ho)
    rw [World.histWrites_cons, msgObs]
    cases hm : o.isMsg with
    | true => rw [List.filter_cons_of_pos hm, World.histWrites_cons, ih]; rfl
    | false => rw [List.filter_cons_of_neg (by simp [hm]), h o List.mem_cons_self hm, ih]; rfl

theorem histWrites_msgObs (is : List CIn) (c : Ctx) (hs : SilentHist false is) :
    World.histWrites (c.serve is).2 = World.histWrites (msgObs (c.serve is).2) := by
  refine histWrites_filter _ fun o ho hm => ?_
  obtain ⟨c', i, hi, rfl⟩ := serve_obs c is o ho
  cases i with
  | msg m wok => cases hm
  | pkt p d wok => exact (handlePkt_silent c' _ p wok (hs p d wok hi).1).2.1

theorem SilentHist.weaken {nb : Bool} {is : List CIn} (h : SilentHist nb is) : SilentHist false is :=
  fun p d wok hm => ⟨(h p d wok hm).1, fun hx => by cases hx⟩

end Ctx

namespace World

theorem histPkts_cons (i : CIn) (is : List CIn) : histPkts (i :: is) = i.pkt?.toList ++ histPkts is := by
  cases i <;> rfl

theorem runLoopS_zero (sched : Nat → Bool) (w : World) : runLoopS sched 0 w = w := rfl

theorem loopAccS_hist (sched : Nat → Bool) (f : Nat) (w : World) :
    loopAccS [] (· ++ ·) (fun _ i => [i]) sched f w = loopHistS sched f w := by
  induction f generalizing w with
  | zero => rfl
  | succ f ih =>
    rw [loopAccS_succ, loopHistS_succ]
    cases iterInS (sched f) w with
    | none => rfl
    | some i =>
      cases runIterS (sched f) w with
      | inl w1 => exact congrArg (i :: ·) (ih w1)
      | inr r => rfl

theorem runLoopS_pending_queue (sched : Nat → Bool) (w : World) (hok : w.rx.Ok)
    (h : (runLoopS sched w.loopFuel w).task ≠ .none) : (runLoopS sched w.loopFuel w).queue = [] := by
  obtain ⟨wm, _, he⟩ := runLoopS_full sched w hok
  rcases sEnd_out he with over | waits
  · exact absurd over.task h
  · exact waits.queue

theorem runLoopS_succ_outW (sched : Nat → Bool) (f : Nat) (w : World) :
    (runLoopS sched (f + 1) w).queue =
      (match runIterS (sched f) w with
       | .inl w1 => runLoopS sched f w1
       | .inr r => r).queue := rfl

theorem loopHistS_msgs (sched : Nat → Bool) (f : Nat) (w : World) :
    histMsgs (loopHistS sched f w) ++ (runLoopS sched f w).queue = w.queue := by
  rw [← loopAccS_hist]
  -- a handled message is the head of the queue and leaves it; no other move of the loop touches the queue
  exact LoopAcc.runLoopS (R := fun w r l => histMsgs l ++ r.queue = w.queue)
    ⟨⟨fun _ => rfl, fun h1 h2 => by rw [histMsgs, List.filterMap_append, List.append_assoc]; exact (congrArg _ h2).trans h1,
      List.append_nil, List.nil_append⟩, fun w m q hq => by rw [runHandler_queue, hq]; rfl,
      fun w rx' rd' fr p _ _ _ => by rw [runHandler_queue]; rfl, fun w rx' rd' qr _ => (armReader_in _).2.2.1,
      fun _ _ => rfl, fun _ _ _ _ _ => rfl, fun _ _ _ _ _ _ => rfl⟩ f w

theorem loopHistS_wok (sched : Nat → Bool) (f : Nat) (w : World) (hl : w.cfg.wlimit = none) :
    ∀ i ∈ loopHistS sched f w, i.wok = true := by
  rw [← loopAccS_hist]
  -- no move of the loop changes the configuration, and an unlimited transport takes every write
  have quiet : ∀ {w r : World}, r.cfg = w.cfg → w.cfg.wlimit = none →
      r.cfg.wlimit = none ∧ ∀ i ∈ ([] : List CIn), i.wok = true :=
    fun e h => ⟨e ▸ h, fun _ hi => absurd hi List.not_mem_nil⟩
  have one : ∀ {w r : World} {i : CIn}, r.cfg = w.cfg → (w.cfg.wlimit = none → i.wok = true) → w.cfg.wlimit = none →
      r.cfg.wlimit = none ∧ ∀ j ∈ [i], j.wok = true :=
    fun e hi h => ⟨e ▸ h, fun j hj => List.mem_singleton.mp hj ▸ hi h⟩
  refine (LoopAcc.runLoopS (R := fun w r (l : List CIn) => w.cfg.wlimit = none → r.cfg.wlimit = none ∧ ∀ i ∈ l, i.wok = true)
    ⟨⟨fun _ => quiet rfl, fun h1 h2 h => ⟨(h2 (h1 h).1).1, fun i hi => (List.mem_append.mp hi).elim ((h1 h).2 i)
        ((h2 (h1 h).1).2 i)⟩, List.append_nil, List.nil_append⟩,
      fun w m q _ => one (w := w) (i := w.inMsg m) (runHandler_cfg { w with queue := q } _) fun h => canWrite_unlimited w h _,
      fun w rx' rd' fr p _ _ _ => one (w := w) (i := w.inPkt p) (runHandler_cfg { w with rx := rx', reader := rd' } _) fun h => canWrite_unlimited w h _,
      fun w rx' rd' qr _ => quiet ?_, fun _ _ => quiet rfl, fun _ _ _ _ _ => quiet rfl,
      fun _ _ _ _ _ _ => quiet rfl⟩ f w hl).2
  obtain ⟨_, _, e, _⟩ := armReader_spec { w with rx := rx', reader := rd', queueReg := qr }
  rw [e]

theorem msgIns_eq_of_wok (is : List CIn) (h : ∀ i ∈ is, i.wok = true) :
    msgIns is = (histMsgs is).map (fun m => CIn.msg m true) := by
  induction is with
  | nil => rfl
  | cons i is ih =>
    have h' := ih (fun j hj => h j (List.mem_cons_of_mem _ hj))
    cases i with
    | msg m wok =>
      have : wok = true := h _ List.mem_cons_self
      subst this
      rw [Ctx.msgIns_cons_msg, h']
      simp [histMsgs, CIn.msg?]
    | pkt p d wok =>
      rw [Ctx.msgIns_cons_pkt, h']
      rfl

theorem sent_of_silent_poll (nb : Bool) (sched : Nat → Bool) (f : Nat) (w : World) (hl : w.cfg.wlimit = none)
    (hs : Ctx.SilentHist nb (loopHistS sched f w))
    (hq : nb = false → pubCountM w.queue ≤ w.c.quota) :
    (runLoopS sched f w).sent = w.sent ++ (histWrites
      (w.c.serve ((histMsgs (loopHistS sched f w)).map (fun m => CIn.msg m true))).2).flatten := by
  have hp := runLoopS_pollServe sched f w
  rw [hp.sent_eq hl, Ctx.histWrites_msgObs _ _ hs.weaken]
  have hk : pubCount (loopHistS sched f w) ≤ pubCountM w.queue := by
    unfold pubCount
    have h := loopHistS_msgs sched f w
    rw [← h]
    unfold pubCountM
    rw [List.filter_append, List.length_append]
    omega
  have hsim : Ctx.QSim nb (pubCount (loopHistS sched f w)) w.c w.c := by
    cases nb
    · exact ⟨rfl, Nat.le_trans hk (hq rfl), Nat.le_trans hk (hq rfl)⟩
    · exact ⟨rfl, rfl⟩
  rw [Ctx.serve_msgObs_indep nb _ w.c w.c hs hsim, msgIns_eq_of_wok _ (loopHistS_wok sched f w hl)]

theorem sent_scheduler_independent (nb : Bool) (s1 s2 : Nat → Bool) (f1 f2 : Nat) (w : World)
    (hl : w.cfg.wlimit = none)
    (h1 : Ctx.SilentHist nb (loopHistS s1 f1 w)) (h2 : Ctx.SilentHist nb (loopHistS s2 f2 w))
    (hq : nb = false → pubCountM w.queue ≤ w.c.quota)
    (hleft : (runLoopS s1 f1 w).queue = (runLoopS s2 f2 w).queue) :
    (runLoopS s1 f1 w).sent = (runLoopS s2 f2 w).sent := by
  -- the same remainder of the queue: the same handled prefix
  rw [sent_of_silent_poll nb s1 f1 w hl h1 hq, sent_of_silent_poll nb s2 f2 w hl h2 hq,
    List.append_cancel_right ((loopHistS_msgs s1 f1 w).trans (hleft ▸ (loopHistS_msgs s2 f2 w).symm))]

/-- the reference sequence of inbound packets: what repeated calls of `poll_next` on the framing state `rx` and the
    transport `rd` decode, in order (`Pending` results are skipped; the sequence ends with the stream, with a frame that
    does not decode, or with the fuel) -/
def pktStream : Nat → Rx → List ReadEv → List RxPacket
  | 0, _, _ => []
  | f+1, rx, rd =>
    match pollNext rx rd with
    | (rx', rd', .item fr) =>
      (match decodeRx fr with
       | .ok p => p :: pktStream f rx' rd'
       | _ => [])
    | (rx', rd', .pending) => pktStream f rx' rd'
    | (_, _, .none) => []

theorem pktStream_succ (f : Nat) (rx : Rx) (rd : List ReadEv) :
    pktStream (f + 1) rx rd = match pollNext rx rd with
      | (rx', rd', .item fr) =>
        (match decodeRx fr with
         | .ok p => p :: pktStream f rx' rd'
         | _ => [])
      | (rx', rd', .pending) => pktStream f rx' rd'
      | (_, _, .none) => [] := rfl

theorem histPkts_cons_msg (m : Msg) (wok : Bool) (is : List CIn) : histPkts (.msg m wok :: is) = histPkts is := rfl
theorem histPkts_cons_pkt (p : RxPacket) (d : List Nat) (wok : Bool) (is : List CIn) :
    histPkts (.pkt p d wok :: is) = p :: histPkts is := rfl

theorem handled_rx {w w1 : World} {i : CIn} {fl : Flow} (h : Handled w i w1 fl) :
    (i.pkt? = none ∧ w1.rx = w.rx ∧ w1.reader = w.reader) ∨
    (∃ p fr, i.pkt? = some p ∧ pollNext w.rx w.reader = (w1.rx, w1.reader, .item fr) ∧ decodeRx fr = .ok p) := by
  cases h with
  | msg m q hq => exact Or.inl ⟨rfl, runHandler_rx _ _, runHandler_reader _ _⟩
  | pkt rx' rd' fr p hp hd => exact Or.inr ⟨p, fr, rfl, by rw [runHandler_rx, runHandler_reader]; exact hp, hd⟩

theorem pktStream_mono {g g' : Nat} (h : g ≤ g') (rx : Rx) (rd : List ReadEv) :
    pktStream g rx rd <+: pktStream g' rx rd := by
  induction g generalizing g' rx rd with
  | zero => exact List.nil_prefix
  | succ g ih =>
    obtain ⟨g', rfl⟩ : ∃ k, g' = k + 1 := ⟨g' - 1, by omega⟩
    have ih := fun rx rd => ih (Nat.le_of_succ_le_succ h) rx rd
    rw [pktStream_succ, pktStream_succ]
    split
    · split
      · exact (List.prefix_cons_inj _).mpr (ih _ _)
      · exact List.prefix_refl _
    · exact ih _ _
    · exact List.prefix_refl _

theorem loopHistS_pkts (sched : Nat → Bool) (f : Nat) (w : World) :
    histPkts (loopHistS sched f w) <+: pktStream f w.rx w.reader := by
  induction f generalizing w with
  | zero => exact List.nil_prefix
  | succ f ih =>
    rw [loopHistS_succ]
    obtain ⟨wa, ha, h, hpk, _⟩ := runIterS_spec (sched f) w
    rcases h with ⟨i, w1, fl, hh, hi, e⟩ | ⟨r, hr, hi, e⟩
    · have tail : histPkts (match afterHandler w1 fl with | .inl w1 => loopHistS sched f w1 | .inr _ => []) <+:
          pktStream f w1.rx w1.reader := by
        by_cases hfl : fl = .cont
        · subst hfl; exact ih w1
        · rw [afterHandler_exit hfl]; exact List.nil_prefix
      rw [hi, e, histPkts_cons]
      rcases handled_rx hh with ⟨hi', hrx, hrd⟩ | ⟨p, fr, hi', hp, hd⟩
      · -- a message: no call of `poll_next` was spent, or one that returned `Pending`
        rw [hi']
        rw [hrx, hrd] at tail
        rcases ha with rfl | ⟨rx', rd', hp, rfl⟩
        · exact tail.trans (pktStream_mono (Nat.le_succ f) _ _)
        · obtain ⟨_, _, e', _⟩ := armReader_spec { w with rx := rx', reader := rd' }
          rw [e'] at tail
          rw [pktStream_succ, hp]
          exact tail
      · rcases hpk with rfl | hpk
        · rw [hi', pktStream_succ, hp]
          simp only [hd]
          exact (List.prefix_cons_inj p).mpr tail
        · cases i with
          | msg m k => cases hi'
          | pkt p' d k => exact absurd hi (hpk _ _ _)
    · rw [hi]; exact List.nil_prefix

end World
end Poster

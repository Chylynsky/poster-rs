/-
  Lemmas/WorldCancelK1.lean — the notions and the step lemmas of the known finding K1 (stated in Properties/C15World.lean,
  section 4): a QoS 2 publish whose future is dropped between its two phases never sends its PUBREL (that step is driven
  by the caller's future), and its flow-control slot stays taken until the broker itself completes the exchange. "The
  context holds no PUBREL for `pid`" (`NoPubrel`) is kept by every elementary transition from a world in which no future
  is about to send it and the publishes have QoS ≤ 2 (`noPubrel_micro`); the send-quota monitor, followed along a history
  without the completing acknowledgement (`completesQ2`, `follow`), keeps the exchange outstanding.
-/
import PosterModel.Lemmas.WorldCancelScript
import PosterModel.Lemmas.CtxQuota
import PosterModel.Lemmas.UserCtx
import PosterModel.Properties.C10

namespace Poster
open Framing
namespace World
namespace W11
open W7

def NotPubrelMsg (pid : Nat) (m : Msg) : Prop := ∀ s, m ≠ pubrelMsg pid s

def NotPubrelEntry (pid : Nat) (x : Nat × Bytes) : Prop := x ≠ (actionId 7 pid, ackBytes 0x62 pid)

/-- none is queued, none is kept for retransmission -/
abbrev NoPubrel (pid : Nat) (w : World) : Prop := Held (NotPubrelMsg pid) (NotPubrelEntry pid) w

/-- no handle future is about to send the PUBREL for `pid`: no QoS 2 publish future waiting for its PUBREC has a
    successful PUBREC for `pid` in its oneshot -/
def NoPubrecSeen (pid : Nat) (w : World) : Prop :=
  ∀ id s a, w.opSt id = some (.wait s .pubrec) → w.slot s = some (.full (.pkt (.pubrec a))) → a.reason < 128 →
    a.packetId ≠ pid

theorem pubrelMsg_inj {p q s t : Nat} (h : pubrelMsg p s = pubrelMsg q t) : p = q := by
  unfold pubrelMsg at h
  simp only [Msg.awaitAck.injEq, actionId] at h
  omega

/-- a PUBREL enters the queue only through a QoS 2 publish future resumed with a successful PUBREC, and the
    retransmit queue only from the queue -/
theorem noPubrel_micro {pid : Nat} {w w' : World} (hm : Micro w w') (hq : QosOk w) (hi : NoPubrel pid w)
    (hs : NoPubrecSeen pid w) : NoPubrel pid w' := by
  refine held_micro hm hq hi ?_ ?_ ?_
  · intro aid pkt s hQ h6 e
    simp only [Prod.mk.injEq] at e
    exact hQ s (by rw [e.1, e.2]; rfl)
  · intro m hne s e
    rw [e] at hne
    exact hne (by simp [pubrelMsg, Msg.pkt, User.pktType_ackBytes])
  · intro id s a h1 h2 h3 s' e
    exact hs id s a h1 h2 h3 (pubrelMsg_inj e)

/-- `Reaches` (Lemmas/WorldDuring.lean) through worlds that satisfy `P`: `P` is asked of the source of every transition,
    not of the last world. No lemma produces one from a script. -/
inductive ReachesP (P : World → Prop) : World → World → Prop
  | refl (w : World) : ReachesP P w w
  | tail {a b c : World} : ReachesP P a b → P b → Micro b c → ReachesP P a c

/-- the input completes the QoS 2 exchange of `pid` from the broker's side: its PUBCOMP, or a PUBREC carrying an error -/
def completesQ2 (pid : Nat) : CIn → Prop
  | .pkt (.pubcomp a) _ _ => a.packetId = pid
  | .pkt (.pubrec a) _ _ => a.packetId = pid ∧ a.reason ≥ 128
  | _ => False

/-- follow the send-quota monitor through a history, giving up when it rejects the history or the history leaves the
    monitor's domain (an acknowledgement that completes nothing outstanding) -/
def follow (m : QMon) : List CObs → Option QMon
  | [] => some m
  | o :: t =>
    match m.next o with
    | some (m', true) => follow m' t
    | _ => none

theorem _root_.Poster.QMon.next_out {m m' : QMon} {o : CObs} (h : m.next o = some (m', true)) :
    m'.out = m.out ∨ (∃ x, m'.out = m.out ++ [x]) ∨
    ∃ p e f x, o = .pkt p e f ∧ p.frees = some x ∧ m'.out = m.out.erase x := by
  cases o with
  | pkt p e f =>
    rw [QMon.next_pkt] at h
    cases hf : p.frees with
    | none => rw [hf] at h; cases h; exact Or.inl rfl
    | some x =>
      rw [hf] at h
      simp only at h
      by_cases hx : x ∈ m.out
      · rw [if_pos hx] at h; cases h; exact Or.inr (Or.inr ⟨p, e, f, x, rfl, hf, rfl⟩)
      · rw [if_neg hx] at h; cases h
  | msg msg e f =>
    -- the splits follow the arms and the `if`s of `QMon.next`
    unfold QMon.next at h
    split at h
    · -- `awaitAck`: a PUBLISH that is written joins `out`, everything else leaves it alone
      split at h
      · split at h
        · split at h
          · split at h
            · cases h; exact Or.inl rfl
            · cases h
          · cases h; exact Or.inl rfl
        · split at h
          · cases h; exact Or.inr (Or.inl ⟨_, rfl⟩)
          · cases h
      · split at h
        · cases h
        · cases h; exact Or.inl rfl
    · -- any other message
      split at h
      · cases h
      · cases h; exact Or.inl rfl
    all_goals rename_i hc; cases hc

theorem completesQ2_of_frees {pid : Nat} {p : RxPacket} {dead : List Nat} {wok : Bool} (h : p.frees = some (pid, 2)) :
    completesQ2 pid (.pkt p dead wok) := by
  cases p with
  | puback a => cases h
  | pubcomp a => cases h; rfl
  | pubrec a =>
    by_cases hr : a.reason ≥ 128
    · rw [RxPacket.frees, if_pos hr] at h; cases h; exact ⟨rfl, hr⟩
    · rw [RxPacket.frees, if_neg hr] at h; cases h
  | _ => cases h

theorem next_keeps (pid : Nat) (c : Ctx) (m m' : QMon) (i : CIn) (hp : (pid, 2) ∈ m.out) (hn : ¬ completesQ2 pid i)
    (h : m.next (c.stepIn i).2 = some (m', true)) : (pid, 2) ∈ m'.out := by
  rcases QMon.next_out h with e | ⟨x, e⟩ | ⟨p, ef, ff, x, ho, hf, e⟩ <;> rw [e]
  · exact hp
  · exact List.mem_append_left _ hp
  · cases i with
    | msg m wok => cases ho
    | pkt p' dead wok => cases ho; exact (List.mem_erase_of_ne fun e : (pid, 2) = x => hn (completesQ2_of_frees (hf.trans (congrArg some e.symm)))).mpr hp

theorem follow_cons {m m' : QMon} {o : CObs} {t : List CObs} (h : follow m (o :: t) = some m') :
    ∃ m1, m.next o = some (m1, true) ∧ follow m1 t = some m' := by
  unfold follow at h
  split at h
  · exact ⟨_, ‹_›, h⟩
  · cases h

theorem follow_keeps (pid : Nat) (c : Ctx) (m : QMon) (is : List CIn) (h : QRel c m) (hp : (pid, 2) ∈ m.out)
    (hn : ∀ i ∈ is, ¬ completesQ2 pid i) :
    ∀ m', follow m (c.serve is).2 = some m' → QRel (c.serve is).1 m' ∧ (pid, 2) ∈ m'.out := by
  -- one followed input keeps the books in agreement (`step_sim`) and the exchange outstanding (`next_keeps`)
  have one : ∀ c m i m1, QRel c m → (pid, 2) ∈ m.out → ¬ completesQ2 pid i → m.next (c.stepIn i).2 = some (m1, true) →
      QRel (c.stepIn i).1 m1 ∧ (pid, 2) ∈ m1.out := fun c m i m1 h hp hn hnx => by
    obtain ⟨m2, b, e, hrel⟩ := step_sim c m i h
    have hb : m2 = m1 ∧ b = true := by rw [hnx] at e; cases e; exact ⟨rfl, rfl⟩
    exact ⟨hb.1 ▸ hrel hb.2, next_keeps pid c m m1 i hp hn hnx⟩
  refine Ctx.serve_induction (P := fun c is c' t => ∀ m, QRel c m → (pid, 2) ∈ m.out →
    (∀ i ∈ is, ¬ completesQ2 pid i) → ∀ m', follow m t = some m' → QRel c' m' ∧ (pid, 2) ∈ m'.out)
    (fun c m h hp _ m' hf => by cases hf; exact ⟨h, hp⟩) (fun c i is _ m h hp hn m' hf => ?_)
    (fun c i is c' t _ ih m h hp hn m' hf => ?_) c is m h hp hn
  · obtain ⟨m1, hnx, hf⟩ := follow_cons hf
    exact (Option.some.inj hf : m1 = m') ▸ one c m i m1 h hp (hn i List.mem_cons_self) hnx
  · obtain ⟨m1, hnx, hf⟩ := follow_cons hf
    obtain ⟨h1, hp1⟩ := one c m i m1 h hp (hn i List.mem_cons_self) hnx
    exact ih m1 h1 hp1 (fun j hj => hn j (List.mem_cons_of_mem _ hj)) m' hf

theorem quota_below_max_while_outstanding (pid : Nat) (c : Ctx) (m : QMon) (h : QRel c m) (hp : (pid, 2) ∈ m.out) :
    c.quota < c.recvMax := by
  have := List.length_pos_of_mem hp
  have := h.1
  omega

end W11
end World
end Poster

/-
  Which moves keep a registration, which moves leave a channel alone; and the reachability invariant "a channel that exists
  belongs to an issued operation whose future has been polled" (`SInv`).
-/
import PosterModel.Lemmas.WorldStreamGives
import PosterModel.Lemmas.WorldStreamEnd

namespace Poster
open Framing
namespace World

theorem subs_handleMsg (c : Ctx) (m : Msg) (wok : Bool) (e : Nat × Nat) (h : e ∈ c.subs) :
    e ∈ (c.handleMsg m wok).1.subs := by
  rw [Ctx.handleMsg_subs]; exact List.mem_append_left _ h

theorem subs_handlePkt (c : Ctx) (alive : Nat → Bool) (p : RxPacket) (wok : Bool) (e : Nat × Nat) (h : e ∈ c.subs)
    (ha : alive e.2 = true) : e ∈ (c.handlePkt alive p wok).1.subs := by
  by_cases hp : ∃ pb, p = .publish pb
  · obtain ⟨pb, rfl⟩ := hp
    have := ((subs_changed_only_by_subscribe_and_dead_receivers c).2.2 alive pb wok).2
    have hm : e ∈ c.subs.filter (fun e => alive e.2) := List.mem_filter.mpr ⟨h, ha⟩
    rw [← this] at hm
    exact (List.mem_filter.mp hm).1
  · rw [(subs_changed_only_by_subscribe_and_dead_receivers c).2.1 alive p wok (fun pb e => hp ⟨pb, e⟩)]; exact h

theorem SMove.registration {l : SLab} {w w' : World} (m : SMove l w w') (wf : ChanWf w) (sid id : Nat)
    (hreg : (sid, id) ∈ w.c.subs) (hch : w.chan id ≠ none) :
    (sid, id) ∈ w'.c.subs ∨ (∃ q c, l = .ctx (.dropCtx q c)) ∨ l = .ctx .fresh ∨
      (∃ c el, l = .ctx (.resume c) ∧ c.disc = some el ∧ c.sessionExpired el = true) := by
  cases m with
  | tau chans subs => left; rw [subs]; exact hreg
  | ctx src ok chans c_eq =>
    cases src with
    | handler c i =>
      left
      obtain ⟨hc, hi⟩ := ok
      subst hc
      rw [c_eq]
      rcases hi with ⟨m0, q, _, rfl⟩ | ⟨p, _, _, rfl, _⟩
      · exact subs_handleMsg _ _ _ _ hreg
      · show (sid, id) ∈ (w.c.handlePkt (fun ch => decide (ch ∉ w.deadOf)) p _).1.subs
        exact subs_handlePkt _ _ _ _ _ hreg (by simpa using not_dead_of_chan w wf id hch)
    | resume c =>
      have hc : c = w.c := ok
      subst hc
      rw [c_eq]
      show _ ∈ (w.c.resume).1.subs ∨ _
      cases hd : w.c.disc with
      | none => left; rw [w.c.resume_none hd]; exact hreg
      | some el =>
        cases hx : w.c.sessionExpired el with
        | true => right; right; right; exact ⟨w.c, el, rfl, hd, hx⟩
        | false => left; rw [w.c.resume_alive el hd hx]; exact hreg
    | dropCtx q c => right; left; exact ⟨q, c, rfl⟩
    | fresh => right; right; left; rfl
  | addOp id' hd req absent ops chans c_eq => left; rw [c_eq]; exact hreg
  | alloc id' hd req fresh notFresh ops chans c_eq => left; rw [c_eq]; exact hreg
  | new id' hd req fresh notFresh ops chans c_eq => left; rw [c_eq]; exact hreg
  | dropRx id' chans c_eq => left; rw [c_eq]; exact hreg
  | pop c p c0 rest hch' hbuf chans c_eq => left; rw [c_eq]; exact hreg
  | park c c0 hch' hbuf htx chans c_eq => left; rw [c_eq]; exact hreg
  | endS id' c0 hch' hbuf htx chans c_eq => left; rw [c_eq]; exact hreg

/-- the label does not concern channel `id`: it is no effect batch of the context, and it creates, drops, pops,
    parks or ends another channel -/
def SLab.away (id : Nat) : SLab → Prop
  | .tau => True
  | .ctx _ => False
  | .addOp _ => True
  | .alloc _ => True
  | .new c => c ≠ id
  | .dropRx c => c ≠ id
  | .pop c _ => c ≠ id
  | .park c => c ≠ id
  | .endS c => c ≠ id

theorem SMove.away {l : SLab} {w w' : World} (m : SMove l w w') (id : Nat) (h : l.away id) :
    w'.chan id = w.chan id ∧ itemsOf id w'.out = itemsOf id w.out := by
  refine ⟨?_, ?_⟩
  · rw [m.chan_at id (.inr (.inr ⟨fun e => by rw [e] at h; exact h rfl, fun e => by rw [e] at h; exact h rfl⟩))]
    cases l with
    | ctx src => exact h.elim
    | new c | dropRx c | endS c | pop c _ | park c => exact if_neg fun e => h e.symm
    | _ => rfl
  · rw [m.items id]
    cases m with
    | pop c p c0 rest hch hbuf chans =>
      have : c ≠ id := h
      simp [SLab.yield, this]
    | _ => simp [SLab.yield]

theorem STrace.away {tr : List SLab} {w w' : World} (t : STrace w tr w') (id : Nat) (h : ∀ l ∈ tr, l.away id) :
    w'.chan id = w.chan id ∧ itemsOf id w'.out = itemsOf id w.out := by
  induction t with
  | refl => exact ⟨rfl, rfl⟩
  | @cons a b c l tr' m _ ih =>
    obtain ⟨x, y⟩ := m.away id (h l (by simp))
    obtain ⟨x', y'⟩ := ih (fun l' hl' => h l' (by simp [hl']))
    exact ⟨x'.trans x, y'.trans y⟩

theorem Dec.away {A : SLab → Prop} {w w' : World} (d : Dec A w w') (id : Nat) (h : ∀ l, A l → l.away id) :
    w'.chan id = w.chan id ∧ itemsOf id w'.out = itemsOf id w.out := by
  obtain ⟨tr, t, a⟩ := d
  exact t.away id (fun l hl => h l (a l hl))

theorem away_of_opLab {id id' : Nat} (hne : id' ≠ id) {l : SLab} (h : OpLab id' l) : l.away id := by
  rcases h with rfl | rfl | rfl | rfl
  · trivial
  · exact hne
  · exact hne
  · trivial

theorem away_of_stLab {id id' : Nat} (hne : id' ≠ id) {l : SLab} (h : StLab id' l) : l.away id := by
  rcases h with rfl | ⟨p, rfl⟩ | rfl | rfl
  · trivial
  · exact hne
  · exact hne
  · exact hne

structure SInv (U : Nat → Prop) (w : World) : Prop where
  wf : ChanWf w
  opsU : OpsU U w
  polled : ∀ id, w.chan id ≠ none → U id ∧ NotFresh id w

theorem sInv_init (U : Nat → Prop) (cfg : Cfg) : SInv U { cfg := cfg } :=
  ⟨chanWf_init cfg, fun _ h => absurd rfl h, fun _ h => absurd rfl h⟩

theorem SInv.mono {U V : Nat → Prop} {w : World} (h : SInv U w) (huv : ∀ x, U x → V x) : SInv V w :=
  ⟨h.wf, fun n hn => huv n (h.opsU n hn), fun id hid => ⟨huv id (h.polled id hid).1, (h.polled id hid).2⟩⟩

theorem SInv.move {U : Nat → Prop} {l : SLab} {w w' : World} (h : SInv U w) (m : SMove l w w')
    (hnew : ∀ n, l.issued = some n → ¬ U n) : SInv (fun x => U x ∨ l.issued = some x) w' := by
  refine ⟨h.wf.move m, h.opsU.move m, fun id hid => ?_⟩
  by_cases hl : l = .new id
  · subst hl
    cases m with
    | new _ hd req fresh notFresh => exact ⟨Or.inl (h.opsU id (by rw [fresh]; simp)), notFresh⟩
  · have hw : w.chan id ≠ none := fun e => hid (m.chan_none id e hl)
    obtain ⟨a, b⟩ := h.polled id hw
    exact ⟨Or.inl a, b.move m (fun e => hnew id e a)⟩

theorem SInv.trace {U : Nat → Prop} {tr : List SLab} {w w' : World} (h : SInv U w) (t : STrace w tr w')
    (hnd : (issuedOf tr).Nodup) (hnew : ∀ n ∈ issuedOf tr, ¬ U n) : SInv (fun x => U x ∨ x ∈ issuedOf tr) w' := by
  induction t generalizing U with
  | refl => exact h.mono fun x hx => Or.inl hx
  | @cons a b c l tr' m _ ih =>
    obtain ⟨h0, hnd', hnew', hsub⟩ := filterMap_cons_fresh hnd hnew
    exact (ih (h.move m h0) hnd' hnew').mono hsub

end World
end Poster

/-
  Subscription identifiers are registered once: along every trace of stream moves the subscription identifiers in flight
  (those of queued SUBSCRIBE messages and those in the context's subscription table) are pairwise distinct, as long as the
  allocation counter has not wrapped around (it wraps after 268 435 455 allocations; every allocation is the first poll of
  a distinct `subscribe()` future).
-/
import PosterModel.Lemmas.WorldStreamWho

namespace Poster
open Framing
namespace World

/-- the identifiers in flight are pairwise distinct and were all allocated before the counter's current value -/
structure SidInv (w : World) : Prop where
  nodup : (psids w).Nodup
  lt : ∀ s ∈ psids w, s < w.subCtr

theorem sidInv_init (cfg : Cfg) : SidInv { cfg := cfg } := ⟨by simp [psids], by simp [psids]⟩

theorem SMove.subRel {l : SLab} {w w' : World} (m : SMove l w w') :
    (l.started = none ∧ SubFrame w w') ∨ (l.started ≠ none ∧ NewFrame w w') := by
  cases m with
  | tau chans subs ops out sub => exact Or.inl ⟨rfl, sub⟩
  | ctx src ok chans c_eq ops out live sub => exact Or.inl ⟨rfl, sub⟩
  | addOp id hd req absent ops chans c_eq out sub => exact Or.inl ⟨rfl, sub⟩
  | alloc id hd req fresh notFresh ops chans c_eq out sub => exact Or.inr ⟨nofun, sub⟩
  | new id hd req fresh notFresh ops chans c_eq out sub => exact Or.inr ⟨nofun, sub⟩
  | dropRx id chans c_eq ops out sub => exact Or.inl ⟨rfl, sub⟩
  | pop id p ch rest hch hbuf chans c_eq ops out sub => exact Or.inl ⟨rfl, sub⟩
  | park id ch hch hbuf htx chans c_eq ops out sub => exact Or.inl ⟨rfl, sub⟩
  | endS id ch hch hbuf htx chans c_eq ops out sub => exact Or.inl ⟨rfl, sub⟩

theorem SidInv.move {l : SLab} {w w' : World} (h : SidInv w) (m : SMove l w w') (hN : w.subCtr < 268435455) :
    SidInv w' ∧ w'.subCtr = w.subCtr + l.started.toList.length := by
  rcases m.subRel with ⟨hs, sc, nd, sub⟩ | ⟨hs, sc, nd, sub⟩
  · refine ⟨⟨nd h.nodup, fun s hm => ?_⟩, by rw [sc, hs]; rfl⟩
    rw [sc]; exact h.lt s (sub s hm)
  · have e : w'.subCtr = w.subCtr + 1 := by
      rw [sc]; unfold nextSub; split
      · omega
      · rfl
    refine ⟨⟨nd h.nodup (fun s hm e' => by have := h.lt s hm; omega), fun s hm => ?_⟩, ?_⟩
    · rw [e]
      rcases sub s hm with h1 | h1
      · have := h.lt s h1; omega
      · omega
    · rw [e]
      cases hst : l.started with
      | none => exact absurd hst hs
      | some x => rfl

theorem STrace.sidInv {tr : List SLab} {w w' : World} (t : STrace w tr w') (h : SidInv w)
    (hN : w.subCtr + (startedOf tr).length < 268435455) :
    SidInv w' ∧ w'.subCtr = w.subCtr + (startedOf tr).length ∧ ∀ l ∈ tr, l.subsOnce := by
  induction t with
  | refl => exact ⟨h, rfl, by simp⟩
  | @cons a b c l tr' m _ ih =>
    rw [startedOf_cons, List.length_append] at hN ⊢
    obtain ⟨hb, eb⟩ := h.move m (by omega)
    obtain ⟨x, y, z⟩ := ih hb (by rw [eb]; omega)
    refine ⟨x, by rw [y, eb]; omega, fun l' hl' => ?_⟩
    rcases List.mem_cons.mp hl' with e | e
    · subst e
      cases l' with
      | ctx src =>
        cases src with
        | handler c0 i =>
          cases i with
          | msg m0 wok => trivial
          | pkt p dead wok => exact Or.inl (by rw [m.srcOk.1]; exact (List.sublist_append_right _ _).nodup h.nodup)
        | _ => trivial
      | _ => trivial
    · exact z l' e

theorem STrace.started {tr : List SLab} {w w' : World} (t : STrace w tr w') (U : Nat → Prop) (hu : OpsU U w)
    (hnd : (issuedOf tr).Nodup) (hnew : ∀ n ∈ issuedOf tr, ¬ U n) :
    (startedOf tr).Nodup ∧ ∀ n ∈ startedOf tr, U n ∨ n ∈ issuedOf tr := by
  induction t generalizing U with
  | refl => exact ⟨by simp [startedOf], by simp [startedOf]⟩
  | @cons a b c l tr' m t' ih =>
    obtain ⟨_, hnd', hnew', hsub⟩ := filterMap_cons_fresh hnd hnew
    obtain ⟨x, y⟩ := ih (fun x => U x ∨ l.issued = some x) (hu.move m) hnd' hnew'
    rw [startedOf_cons]
    have ymem : ∀ n ∈ startedOf tr', U n ∨ n ∈ issuedOf (l :: tr') := fun n hn => hsub n (y n hn)
    cases hs : l.started with
    | none => exact ⟨by simpa using x, by simpa using ymem⟩
    | some id =>
      obtain ⟨⟨hd, req, hf⟩, hnf, hiss⟩ := m.started_fresh id hs
      have hU : U id := hu id (by rw [hf]; simp)
      have hnot : id ∉ issuedOf tr' := fun hm => hnew' id hm (Or.inl hU)
      have hns : id ∉ startedOf tr' := t'.no_start id hnf hnot
      refine ⟨by simpa using ⟨hns, x⟩, fun n hn => ?_⟩
      simp only [Option.toList, List.cons_append, List.nil_append, List.mem_cons] at hn
      rcases hn with e | e
      · subst e; exact Or.inl hU
      · exact ymem n e

theorem STrace.started_length_le {cfg : Cfg} {tr : List SLab} {w' : World} (t : STrace { cfg := cfg } tr w')
    (hnd : (issuedOf tr).Nodup) : (startedOf tr).length ≤ (issuedOf tr).length := by
  obtain ⟨a, b⟩ := t.started (fun _ => False) (fun n h => absurd rfl h) hnd (fun _ _ h => h)
  exact a.length_le_of_subset fun n hm => (b n hm).resolve_left id

end World
end Poster

/-
  The packet encoders of `Tx.lean` against `Spec.parseClient`. Generic part: property lists, the property block, "which
  properties / at most once", the fixed-header frame. Then per packet kind K (Lemmas/TxConnect, TxPublish, TxSubscribe, TxAck): `K_propertyLen_eq` and
  `K_remainingLen_eq` catch a term missing from `property_len()` / `remaining_len()`, `K_encode_eq` is the layout,
  `K_body_parses` the round trip under `valid` and the domain; `K_layout : Layout …` packs the equations into the one fact
  Properties/C01.lean reads. At the end, the `Decidable` instances of the domains `XInDomain`.
-/
import PosterModel.Lemmas.CodecPrim

namespace Poster
open Spec

@[simp] theorem oEnc_none {α} (f : α → Bytes) : oEnc f none = [] := rfl
@[simp] theorem oEnc_some {α} (f : α → Bytes) (a : α) : oEnc f (some a) = f a := rfl
@[simp] theorem oLen_none {α} (f : α → Nat) : oLen f none = 0 := rfl
@[simp] theorem oLen_some {α} (f : α → Nat) (a : α) : oLen f (some a) = f a := rfl
theorem oEnc_id (o : Option Bytes) : oEnc id o = o.getD [] := by cases o <;> rfl

@[simp] theorem encProps_nil : encProps [] = [] := rfl
@[simp] theorem encProps_cons (p : Property) (ps : List Property) : encProps (p :: ps) = encProp p ++ encProps ps := by
  simp [encProps]
theorem encProps_append (a b : List Property) : encProps (a ++ b) = encProps a ++ encProps b := by
  simp [encProps]
@[simp] theorem propsLen_nil : propsLen [] = 0 := rfl
@[simp] theorem propsLen_cons (p : Property) (ps : List Property) : propsLen (p :: ps) = propLen p + propsLen ps := by
  simp [propsLen]
theorem propsLen_append (a b : List Property) : propsLen (a ++ b) = propsLen a + propsLen b := by
  simp [propsLen]

/-- the value has the shape the model's table gives the identifier (no ranges) -/
def TypeOk (p : Property) : Prop :=
  match propKind p.id, p.val with
  | some .bool, .bool _ => True
  | some .u16, .num _ => True
  | some .nzu16, .num _ => True
  | some .u32, .num _ => True
  | some .nzu32, .num _ => True
  | some .qos, .num _ => True
  | some .var, .var v l => l = varLen v
  | some .str, .bytes _ => True
  | some .bin, .bytes _ => True
  | some .pair, .pair _ _ => True
  | _, _ => False

theorem propLen_eq_length (p : Property) (h : TypeOk p) : propLen p = (encProp p).length := by
  obtain ⟨id, val⟩ := p
  unfold TypeOk at h
  split at h
  case h_11 => exact h.elim -- the last arm: a value that does not fit the identifier
  all_goals
    rename_i hk hv
    simp only at hk hv
    subst hv
    simp only [propLen, encProp, hk, valLen, encVal, List.length_append, encU8, encU16, encU32, encStr, encPair,
      strLen, pairLen, List.length_cons, List.length_nil, h, varLen_eq]
  -- left: the two length prefixes of a pair, added up in another order
  omega

theorem sum_eq_length_flatten {α} {f : α → Nat} {g : α → Bytes} (l : List α) (h : ∀ a ∈ l, f a = (g a).length) :
    (l.map f).sum = ((l.map g).flatten).length := by
  induction l with
  | nil => rfl
  | cons a l ih =>
    simp only [List.map_cons, List.sum_cons, List.flatten_cons, List.length_append]
    rw [h a List.mem_cons_self, ih fun b hb => h b (List.mem_cons_of_mem _ hb)]

theorem propsLen_eq_length (ps : List Property) (h : ∀ p ∈ ps, TypeOk p) : propsLen ps = (encProps ps).length :=
  sum_eq_length_flatten ps fun p hp => propLen_eq_length p (h p hp)

/-! the expected lists are built from `optP` and `userPs`; the model writes the same fields one by one -/

theorem encProps_optP {α} (id : Nat) (mk : α → PVal) (o : Option α) :
    encProps (optP id mk o) = oEnc (fun a => encProp ⟨id, mk a⟩) o := by
  cases o <;> simp [optP]

theorem propsLen_optP {α} (id : Nat) (mk : α → PVal) (o : Option α) :
    propsLen (optP id mk o) = oLen (fun a => propLen ⟨id, mk a⟩) o := by
  cases o <;> simp [optP]

theorem encProps_userPs (u : List (Bytes × Bytes)) : encProps (userPs u) = userEnc u := by
  simp only [encProps, userPs, userEnc, List.map_map]; rfl

theorem propsLen_userPs (u : List (Bytes × Bytes)) : propsLen (userPs u) = userLen u := by
  simp only [propsLen, userPs, userLen, List.map_map]; rfl

theorem strLen_eq_length (s : Bytes) : strLen s = (encStr s).length := by
  simp [strLen, encStr, encU16]; omega

theorem oLen_eq_length {α} {f : α → Nat} {g : α → Bytes} (h : ∀ a, f a = (g a).length) (o : Option α) :
    oLen f o = (oEnc g o).length := by
  cases o <;> simp [h]

theorem forall_mem_optP {α} (q : Property → Prop) (id : Nat) (mk : α → PVal) (o : Option α) :
    (∀ p ∈ optP id mk o, q p) ↔ ∀ a ∈ o, q ⟨id, mk a⟩ := by
  cases o <;> simp [optP]
theorem forall_mem_userPs (q : Property → Prop) (u : List (Bytes × Bytes)) :
    (∀ p ∈ userPs u, q p) ↔ ∀ kv ∈ u, q ⟨38, .pair kv.1 kv.2⟩ := by
  constructor
  · intro h kv hkv
    exact h _ (List.mem_map.mpr ⟨kv, hkv, rfl⟩)
  · intro h p hp
    obtain ⟨kv, hkv, rfl⟩ := List.mem_map.mp hp
    exact h kv hkv

/-- simp set turning a statement about all properties of an expected list into statements about the fields -/
macro "props_fields" : tactic =>
  `(tactic| simp only [List.forall_mem_append, forall_mem_optP, forall_mem_userPs, and_assoc])

/-! `PropWF` of the building blocks: the row of table 2-4 is a hypothesis (`rfl` for a numeral), the ranges are
    those of the domains `XInDomain` -/

theorem PropWF_optP_bool {id : Nat} {o : Option Bool} (ht : propType id = some .byte) (h36 : id ≠ 36) :
    ∀ p ∈ optP id .bool o, PropWF p := by
  rw [forall_mem_optP]; intro b _; simp only [PropWF, ht]; exact h36

theorem PropWF_optP_num {id b : Nat} {o : Option Nat}
    (ht : propType id = some .u16 ∧ b = 65535 ∨ propType id = some .u32 ∧ b = 4294967295) (hz : nonZeroProp id = false)
    (ho : ∀ n ∈ o, n ≤ b) : ∀ p ∈ optP id .num o, PropWF p := by
  rw [forall_mem_optP]; intro n hn
  rcases ht with ⟨ht, rfl⟩ | ⟨ht, rfl⟩ <;> simp only [PropWF, ht, hz] <;> exact ⟨Nat.lt_succ_of_le (ho n hn), nofun⟩

theorem PropWF_optP_nznum {id b : Nat} {o : Option Nat}
    (ht : propType id = some .u16 ∧ b = 65535 ∨ propType id = some .u32 ∧ b = 4294967295)
    (ho : ∀ n ∈ o, 1 ≤ n ∧ n ≤ b) : ∀ p ∈ optP id .num o, PropWF p := by
  rw [forall_mem_optP]; intro n hn
  rcases ht with ⟨ht, rfl⟩ | ⟨ht, rfl⟩ <;> simp only [PropWF, ht] <;>
    exact ⟨Nat.lt_succ_of_le (ho n hn).2, fun _ => Nat.ne_of_gt (ho n hn).1⟩

theorem PropWF_optP_bytes {id : Nat} {o : Option Bytes} (ht : propType id = some .str ∨ propType id = some .bin)
    (ho : ∀ s ∈ o, StrOk s) : ∀ p ∈ optP id .bytes o, PropWF p := by
  rw [forall_mem_optP]; intro s hs
  rcases ht with ht | ht <;> simp only [PropWF, ht] <;> exact ho s hs

theorem PropWF_optP_subId {o : Option Nat} (ho : ∀ v ∈ o, 1 ≤ v ∧ v ≤ 268435455) :
    ∀ p ∈ optP 11 subIdVal o, PropWF p := by
  rw [forall_mem_optP]; intro v hv
  exact ⟨Nat.lt_succ_of_le (ho v hv).2, rfl, fun _ => Nat.ne_of_gt (ho v hv).1⟩

theorem PropWF_userPs {u : List (Bytes × Bytes)} (h : UserOk u) : ∀ p ∈ userPs u, PropWF p :=
  (forall_mem_userPs _ u).mpr h

theorem encProp_length_pos (p : Property) (h : PropWF p) : 0 < (encProp p).length := by
  have := pProp_enc p h []
  cases he : encProp p with
  | nil => simp [he, pProp, pVar, pVarAux] at this
  | cons b t => simp

theorem parseProps_enc (ps : List Property) (h : ∀ p ∈ ps, PropWF p) : parseProps (encProps ps) = some ps := by
  have := pMany_enc pProp encProp id ps (fun p hp r => pProp_enc p (h p hp) r)
    (fun p hp => encProp_length_pos p (h p hp))
  simpa [parseProps, encProps] using this

theorem pPropBlock_enc (ps : List Property) (h : ∀ p ∈ ps, PropWF p) (hl : (encProps ps).length < 268435456)
    (r : Bytes) : pPropBlock (encVar (encProps ps).length ++ (encProps ps ++ r)) = some (ps, r) := by
  simp [pPropBlock, pVar_enc _ hl, parseProps_enc ps h]

theorem countId_append (id : Nat) (a b : List Property) : countId id (a ++ b) = countId id a + countId id b := by
  induction a with
  | nil => simp [countId]
  | cons p a ih => simp only [List.cons_append, countId, ih]; omega

theorem countId_userPs {id : Nat} (h : 38 ≠ id) (u : List (Bytes × Bytes)) : countId id (userPs u) = 0 := by
  induction u with
  | nil => rfl
  | cons kv u ih => simp only [userPs, List.map_cons, countId] at ih ⊢; simp [h, ih]

theorem countId_pos_of_mem {p : Property} {ps : List Property} (h : p ∈ ps) : 0 < countId p.id ps := by
  induction ps with
  | nil => cases h
  | cons q ps ih =>
    rcases List.mem_cons.mp h with rfl | h'
    · simp only [countId, ↓reduceIte]; omega
    · have := ih h'; simp only [countId]; omega

theorem propsLegal_of (allowed : List Nat) (ps : List Property) (h1 : ∀ p ∈ ps, p.id ∈ allowed)
    (h2 : ∀ id ∈ allowed, id ≠ 38 → countId id ps ≤ 1) : propsLegal allowed ps = true := by
  unfold propsLegal
  rw [List.all_eq_true]
  intro p hp
  have hpos := countId_pos_of_mem hp
  have hin := h1 p hp
  by_cases h38 : p.id = 38
  · simp [h38] at hin ⊢; exact hin
  · have := h2 p.id hin h38
    have : countId p.id ps = 1 := by omega
    simp [hin, this]

/-- only identifiers from `S` occur in `ps`, each at most once -/
def OnceIn (S : List Nat) (ps : List Property) : Prop := ∀ id, countId id ps ≤ if id ∈ S then 1 else 0

theorem OnceIn.optP {α} (j : Nat) (mk : α → PVal) (o : Option α) : OnceIn [j] (optP j mk o) := by
  intro id
  cases o with
  | none => exact Nat.zero_le _
  | some a =>
    simp only [Spec.optP, countId, List.mem_singleton, eq_comm (a := id)]
    split <;> omega

theorem OnceIn.append_optP {S ps} (h : OnceIn S ps) {α} {j : Nat} {mk : α → PVal} {o : Option α} (hj : j ∉ S) :
    OnceIn (j :: S) (ps ++ Spec.optP j mk o) := by
  intro id
  have h1 := h id
  have h2 := OnceIn.optP j mk o id
  rw [countId_append]
  simp only [List.mem_cons, List.not_mem_nil, or_false] at h2 ⊢
  by_cases hid : id = j
  · subst hid; simp only [hj, ↓reduceIte] at h1; simp only [true_or, ↓reduceIte] at h2 ⊢; omega
  · simp only [hid, ↓reduceIte] at h2; simp only [hid, false_or]; omega

/-- The expected lists all have this form: optional properties with distinct identifiers, then the user properties.
    Such a list is legal for a packet type that allows these identifiers and User Property. -/
theorem OnceIn.legal {S ps} (h : OnceIn S ps) {allowed : List Nat} {u : List (Bytes × Bytes)}
    (hS : ∀ j ∈ 38 :: S, j ∈ allowed) : propsLegal allowed (ps ++ userPs u) = true := by
  apply propsLegal_of
  · intro p hp
    rcases List.mem_append.mp hp with hp | hp
    · have hc := h p.id
      have := countId_pos_of_mem hp
      refine hS _ (List.mem_cons_of_mem _ ?_)
      split at hc
      · assumption
      · omega
    · obtain ⟨kv, -, rfl⟩ := List.mem_map.mp hp
      exact hS 38 (List.mem_cons_self ..)
  · intro id _ h38
    have := h id
    rw [countId_append, countId_userPs (Ne.symm h38)]
    split at this <;> omega

theorem hasId_append (id : Nat) (a b : List Property) : hasId id (a ++ b) = (hasId id a || hasId id b) := by
  simp only [hasId, countId_append]
  cases ha : countId id a <;> cases hb : countId id b <;> simp

theorem hasId_optP {α} (id j : Nat) (mk : α → PVal) (o : Option α) :
    hasId id (optP j mk o) = (j == id && o.isSome) := by
  cases o <;> simp [optP, hasId, countId]
  split <;> simp [*]

theorem hasId_userPs {id : Nat} (h : 38 ≠ id) (u : List (Bytes × Bytes)) : hasId id (userPs u) = false := by
  simp [hasId, countId_userPs h]

theorem parseClient_frame (n : Nat) (hn : n < 256) (body rest : Bytes) (hb : body.length < 268435456) :
    parseClient (UInt8.ofNat n :: (encVar body.length ++ body) ++ rest) =
      (parseBody (n / 16) (n % 16) body).map fun pkt => (pkt, rest) := by
  have hn' : n % 256 = n := Nat.mod_eq_of_lt hn
  simp only [parseClient, List.cons_append, List.append_assoc, pVar_enc _ hb, u8_toNat_ofNat, hn',
    List.length_append, Nat.not_lt.mpr (Nat.le_add_right _ _), ↓reduceIte, List.take_left', List.drop_left']
  cases parseBody (n / 16) (n % 16) body <;> rfl

/-- How every packet encoder lays out its bytes: the first byte, the size of the body as a variable byte integer, the
    body. `remLen` is the model's `remaining_len()`, computed field by field and not from the body, so `rem_eq` is the
    fact that no term is missing from it. -/
structure Layout (hdr remLen : Nat) (enc body : Bytes) : Prop where
  enc_eq : enc = UInt8.ofNat hdr :: (encVar remLen ++ body)
  rem_eq : remLen = body.length

namespace Layout
variable {hdr remLen : Nat} {enc body : Bytes} (L : Layout hdr remLen enc body)
include L

theorem lengths : enc = UInt8.ofNat hdr :: (encVar body.length ++ body) := by rw [L.enc_eq, L.rem_eq]

/-- `packet_len()` = 1 + size of the length field + remaining length is the number of bytes written -/
theorem packetLen : 1 + varLen remLen + remLen = enc.length := by
  rw [L.enc_eq, varLen_eq, L.rem_eq]; simp only [List.length_cons, List.length_append]; omega

theorem parses (hh : hdr < 256) (hs : remLen < 268435456) {pkt : ClientPacket}
    (hb : parseBody (hdr / 16) (hdr % 16) body = some pkt) (rest : Bytes) :
    parseClient (enc ++ rest) = some (pkt, rest) := by
  rw [L.lengths, parseClient_frame hdr hh _ _ (L.rem_eq ▸ hs), hb]; rfl

end Layout

instance (s : Bytes) : Decidable (StrOk s) := by unfold StrOk; infer_instance
instance (u : List (Bytes × Bytes)) : Decidable (UserOk u) := by unfold UserOk; infer_instance

instance (t : PublishTx) : Decidable (PublishInDomain t) :=
  decidable_of_iff
    (t.qos ≤ 2 ∧ (∀ p ∈ t.packetId, 1 ≤ p ∧ p ≤ 65535 ∧ t.qos ≠ 0) ∧ (t.qos = 0 → t.dup = false) ∧
      (∀ s ∈ t.topic, StrOk s) ∧ (∀ n ∈ t.topicAlias, 1 ≤ n ∧ n ≤ 65535) ∧ (∀ n ∈ t.mei, n ≤ 4294967295) ∧
      (∀ s ∈ t.correlationData, StrOk s) ∧ (∀ s ∈ t.responseTopic, StrOk s) ∧ (∀ s ∈ t.contentType, StrOk s) ∧
      UserOk t.userProps ∧ t.remainingLen < 268435456)
    ⟨fun ⟨a, b, c, d, e, f, g, h, i, j, k⟩ => ⟨a, b, c, d, e, f, g, h, i, j, k⟩,
     fun h => ⟨h.qos, h.packetId, h.dup, h.topic, h.topicAlias, h.mei, h.correlationData, h.responseTopic,
       h.contentType, h.userProps, h.size⟩⟩

instance (t : SubscribeTx) : Decidable (SubscribeInDomain t) :=
  decidable_of_iff
    ((1 ≤ t.packetId ∧ t.packetId ≤ 65535) ∧ (∀ v ∈ t.subId, 1 ≤ v ∧ v ≤ 268435455) ∧ UserOk t.userProps ∧
      (∀ fo ∈ t.filters, StrOk fo.1 ∧ fo.2.maxQos ≤ 2 ∧ fo.2.retainHandling ≤ 2) ∧ t.remainingLen < 268435456)
    ⟨fun ⟨a, b, c, d, e⟩ => ⟨a, b, c, d, e⟩, fun h => ⟨h.packetId, h.subId, h.userProps, h.filters, h.size⟩⟩

instance (t : UnsubscribeTx) : Decidable (UnsubscribeInDomain t) :=
  decidable_of_iff
    ((1 ≤ t.packetId ∧ t.packetId ≤ 65535) ∧ UserOk t.userProps ∧ (∀ f ∈ t.filters, StrOk f) ∧
      t.remainingLen < 268435456)
    ⟨fun ⟨a, b, c, d⟩ => ⟨a, b, c, d⟩, fun h => ⟨h.packetId, h.userProps, h.filters, h.size⟩⟩

instance (t : DisconnectTx) : Decidable (DisconnectInDomain t) :=
  decidable_of_iff
    (t.reason ∈ disconnectReasons ∧ (∀ n ∈ t.sessionExpiry, n ≤ 4294967295) ∧ (∀ s ∈ t.reasonString, StrOk s) ∧
      UserOk t.userProps ∧ t.remainingLen < 268435456)
    ⟨fun ⟨a, b, c, d, e⟩ => ⟨a, b, c, d, e⟩, fun h => ⟨h.reason, h.sessionExpiry, h.reasonString, h.userProps, h.size⟩⟩

instance (t : AuthTx) : Decidable (AuthInDomain t) :=
  decidable_of_iff
    ((∀ r ∈ t.reason, r ∈ authReasons) ∧ (∀ s ∈ t.authMethod, StrOk s) ∧ (∀ s ∈ t.authData, StrOk s) ∧
      (∀ s ∈ t.reasonString, StrOk s) ∧ UserOk t.userProps ∧ t.remainingLen < 268435456)
    ⟨fun ⟨a, b, c, d, e, f⟩ => ⟨a, b, c, d, e, f⟩,
     fun h => ⟨h.reason, h.authMethod, h.authData, h.reasonString, h.userProps, h.size⟩⟩

instance (t : ConnectTx) : Decidable (ConnectInDomain t) :=
  decidable_of_iff
    (t.keepAlive ≤ 65535 ∧ (∀ n ∈ t.sessionExpiry, n ≤ 4294967295) ∧ (∀ n ∈ t.receiveMaximum, 1 ≤ n ∧ n ≤ 65535) ∧
      (∀ n ∈ t.maxPacketSize, 1 ≤ n ∧ n ≤ 4294967295) ∧ (∀ n ∈ t.topicAliasMax, n ≤ 65535) ∧
      (∀ s ∈ t.authMethod, StrOk s) ∧ (∀ s ∈ t.authData, StrOk s) ∧ UserOk t.userProps ∧ StrOk t.clientId ∧
      (∀ s ∈ t.username, StrOk s) ∧ (∀ s ∈ t.password, StrOk s) ∧ t.willQos ≤ 2 ∧
      (∀ n ∈ t.willDelay, n ≤ 4294967295) ∧ (∀ n ∈ t.willMei, n ≤ 4294967295) ∧
      (∀ s ∈ t.willContentType, StrOk s) ∧ (∀ s ∈ t.willResponseTopic, StrOk s) ∧
      (∀ s ∈ t.willCorrelationData, StrOk s) ∧ UserOk t.willUserProps ∧ (∀ s ∈ t.willTopic, StrOk s) ∧
      (∀ s ∈ t.willPayload, StrOk s) ∧ t.willTopic.isSome = t.willPayload.isSome ∧
      (t.willTopic = none →
        t.willQos = 0 ∧ t.willRetain = false ∧ t.willDelay = none ∧ t.willPfi = none ∧ t.willMei = none ∧
        t.willContentType = none ∧ t.willResponseTopic = none ∧ t.willCorrelationData = none ∧
        t.willUserProps = []) ∧
      t.remainingLen < 268435456)
    ⟨fun ⟨a1, a2, a3, a4, a5, a6, a7, a8, a9, a10, a11, a12, a13, a14, a15, a16, a17, a18, a19, a20, a21, a22, a23⟩ =>
       ⟨a1, a2, a3, a4, a5, a6, a7, a8, a9, a10, a11, a12, a13, a14, a15, a16, a17, a18, a19, a20, a21, a22, a23⟩,
     fun h => ⟨h.keepAlive, h.sessionExpiry, h.receiveMaximum, h.maxPacketSize, h.topicAliasMax, h.authMethod,
       h.authData, h.userProps, h.clientId, h.username, h.password, h.willQos, h.willDelay, h.willMei,
       h.willContentType, h.willResponseTopic, h.willCorrelationData, h.willUserProps, h.willTopic, h.willPayload,
       h.willBoth, h.noWill, h.size⟩⟩

instance (t : AckTx) : Decidable (AckInDomain t) :=
  decidable_of_iff
    ((t.hdr = 0x40 ∨ t.hdr = 0x50 ∨ t.hdr = 0x62 ∨ t.hdr = 0x70) ∧ (1 ≤ t.packetId ∧ t.packetId ≤ 65535) ∧
      t.reason ∈ ackReasons t.hdr ∧ (∀ s ∈ t.reasonString, StrOk s) ∧ UserOk t.userProps ∧ t.remainingLen < 268435456)
    ⟨fun ⟨a, b, c, d, e, f⟩ => ⟨a, b, c, d, e, f⟩,
     fun h => ⟨h.hdr, h.packetId, h.reason, h.reasonString, h.userProps, h.size⟩⟩

end Poster

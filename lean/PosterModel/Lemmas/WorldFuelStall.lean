/-
  The ingredients of C04, "never stalls with unread input". `World.step` appends `Obs.stall` exactly when, after
  the executor has run, the context future is alive with unread transport events. The invariant `StallInv` (an
  alive context future that is not flagged woken has read everything and has the transport waker registered) holds
  in every world of every script (`stallInv_script`). `STrk` / `ATrk` say of one poll and of one event that nothing
  but the stall check of `step` appends `Obs.stall` and that `held` is changed by `hold` / `release` events only;
  the theorem that puts the three together is `W5.no_stall` (Lemmas/WorldSelectFuel.lean).
-/
import PosterModel.Lemmas.WorldFuelScript
import PosterModel.Lemmas.WorldPanic
import PosterModel.Lemmas.WorldReach

namespace Poster
open Framing
namespace World
namespace W5

def NotStall (o : Obs) : Prop := o ≠ .stall

theorem notStall_of_taskLine {t : Task} {o : Obs} (h : TaskLine t o) : NotStall o := by
  rintro rfl
  cases t with
  | ctx => rcases h with ⟨_, h | h⟩ | ⟨_, _, h⟩ | ⟨_, h⟩ <;> cases h
  | op => rcases h with h | ⟨_, h⟩ <;> cases h
  | st => rcases h with ⟨_, h⟩ | h <;> cases h

/-- `w'` extends the transcript of `w` without a stall marker and has the same `held` set -/
def STrk (w w' : World) : Prop := OutExtP NotStall w w' ∧ w'.held = w.held

theorem STrk.refl (w : World) : STrk w w := ⟨outExtP_refl _ _, rfl⟩
theorem STrk.trans {a b c : World} (h1 : STrk a b) (h2 : STrk b c) : STrk a c :=
  ⟨outExtP_trans h1.1 h2.1, h2.2.trans h1.2⟩
theorem STrk.of_eq {w w' : World} (ho : w'.out = w.out) (hh : w'.held = w.held) : STrk w w' :=
  ⟨outExtP_of_eq ho, hh⟩
theorem STrk.emit (w : World) (o : Obs) (ho : NotStall o) : STrk w (w.emit o) :=
  ⟨outExtP_one o rfl ho, rfl⟩

theorem pollTaskAny_strk {w : World} {t : Task} {w' : World} (hp : PollTaskAny w t w') : STrk w w' :=
  ⟨outExtP_mono (pollTaskAny_line hp) fun _ => notStall_of_taskLine, (pollTaskAny_pollFrame hp).held⟩

/-- `w'` extends the transcript of `w` without a stall marker; unless the event is `hold ctx`, the context task
    is not held afterwards if it was not held before -/
def ATrk (e : Ev) (w w' : World) : Prop :=
  OutExtP NotStall w w' ∧ (e ≠ .hold .ctx → Task.ctx ∉ w.held → Task.ctx ∉ w'.held)

theorem ATrk.of_strk {e : Ev} {w w' : World} (h : STrk w w') : ATrk e w w' :=
  ⟨h.1, fun _ hh => by rw [h.2]; exact hh⟩

theorem STrk.flushRaw (w : World) : STrk w w.flushRaw :=
  ⟨flushRaw_outExtP w (by intro h; cases h), by obtain ⟨ou, wp, e⟩ := flushRaw_frame w; rw [e]⟩

theorem ATrk.applied {w w' : World} {e : Ev} (h : Applied w e w') : ATrk e w w' := by
  cases h.norm with
  | bad => exact ⟨outExtP_one .badscript rfl (by intro h; cases h), fun _ hh => hh⟩
  | poll t => exact ATrk.of_strk (pollTaskAny_strk (pollTaskAny_pollTask w t))
  | newConn ou wp e => have := (STrk.flushRaw w).1; rw [e] at this; exact ⟨this, fun _ hh => hh⟩
  | snap => exact ATrk.of_strk (STrk.emit w _ (by intro h; cases h))
  | hold t =>
    refine ⟨outExtP_of_eq rfl, fun hne hh => ?_⟩
    show Task.ctx ∉ w.held ++ [t]
    simp only [List.mem_append, List.mem_singleton, not_or]
    exact ⟨hh, fun h => hne (by rw [h])⟩
  | release t => exact ⟨outExtP_of_eq rfl, fun _ hh h => hh (List.mem_filter.mp h).1⟩
  -- the other events touch neither the transcript nor the held set
  | _ => exact ATrk.of_strk (STrk.of_eq rfl rfl)

/-- the context future, if alive and not flagged, has nothing to read and the transport waker registered: the part of
    `CtxParked` (Lemmas/WorldQuietInv.lean) that holds whatever identifiers the script uses -/
def StallInv (w : World) : Prop :=
  w.task ≠ .none → Task.ctx ∉ w.woken → (w.reader = [] ∧ w.readerReg = true)

/-- `w'` is `w` after something that is not a poll of the context future and feeds nothing: the context task, the
    unread input and the transport registration are as before, and the context's flag is not taken away -/
structure SFrame (w w' : World) : Prop where
  task_eq : w'.task = w.task
  reader_eq : w'.reader = w.reader
  readerReg_eq : w'.readerReg = w.readerReg
  wk : Task.ctx ∈ w.woken → Task.ctx ∈ w'.woken

theorem SFrame.trans {a b c : World} (h1 : SFrame a b) (h2 : SFrame b c) : SFrame a c :=
  ⟨h2.task_eq.trans h1.task_eq, h2.reader_eq.trans h1.reader_eq, h2.readerReg_eq.trans h1.readerReg_eq,
    fun h => h2.wk (h1.wk h)⟩
-- `SFrame w w'` for a `w'` whose four fields it reads are those of `w` by unfolding
local macro "sframe_rfl" : term => `(⟨rfl, rfl, rfl, fun h => h⟩)

theorem StallInv.of_frame {w w' : World} (h : StallInv w) (f : SFrame w w') : StallInv w' := by
  intro hne hnw
  have := h (by rw [← f.task_eq]; exact hne) (fun x => hnw (f.wk x))
  rw [f.reader_eq, f.readerReg_eq]; exact this

theorem StallInv.of_none {w : World} (h : w.task = .none) : StallInv w := fun hne _ => absurd h hne
theorem StallInv.of_woken {w : World} (h : Task.ctx ∈ w.woken) : StallInv w := fun _ hnw => absurd h hnw

theorem SFrame.of_userMove {P : Obs → Prop} {w w' : World} (m : UserMove P w w') : SFrame w w' :=
  ⟨m.frame.task, m.frame.reader, m.frame.readerReg, m.woken _⟩

theorem SFrame.unwake (w : World) (t : Task) (ht : t ≠ .ctx) : SFrame w (w.unwake t) := by
  refine ⟨rfl, rfl, rfl, fun h => ?_⟩
  show Task.ctx ∈ w.woken.filter (· ≠ t)
  exact List.mem_filter.mpr ⟨h, by simpa using fun e => ht e.symm⟩

theorem SFrame.senderGone (w : World) : SFrame w w.senderGone :=
  ⟨by simp, by simp, by simp, senderGone_woken_mono w _⟩

/-- reachable framing state, and `StallInv` -/
structure TInv (w : World) : Prop where
  reach : Reach w.rx
  st : StallInv w

theorem TInv.emit {w : World} (h : TInv w) (o : Obs) : TInv (w.emit o) := ⟨h.reach, h.st.of_frame sframe_rfl⟩

theorem pollTaskAny_tinv {w : World} {t : Task} {w' : World} (hp : PollTaskAny w t w') (h : TInv w) : TInv w' := by
  refine ⟨(pollTaskAny_safe hp h.reach).1, ?_⟩
  rcases pollTaskAny_cases hp with ⟨rfl, sched, rfl⟩ | ⟨ht, rfl⟩
  · intro hne hnw
    have hok : (w.unwake .ctx).rx.Ok := reach_ok h.reach
    rcases (pollCtxS_pending sched (w.unwake .ctx) hok hne).armed with h1 | h1
    · exact h1
    · exact absurd h1 hnw
  · exact h.st.of_frame (SFrame.trans (SFrame.unwake w t ht) (SFrame.of_userMove (pollTask_userMove w t ht)))

theorem StallInv.applied {w w' : World} {e : Ev} (h : Applied w e w') (hi : TInv w) : StallInv w' := by
  have hs := hi.st
  -- a flag added to `woken` takes none away
  have add : ∀ {x : World} (t : Task), x.task = w.task → x.reader = w.reader → x.readerReg = w.readerReg →
      x.woken = (if t ∈ w.woken then w.woken else w.woken ++ [t]) → StallInv x := fun t h1 h2 h3 h4 =>
    hs.of_frame ⟨h1, h2, h3, fun hm => by rw [h4]; split; exact hm; exact List.mem_append_left _ hm⟩
  cases h.norm with
  | poll t => exact (pollTaskAny_tinv (pollTaskAny_pollTask w t) hi).st
  | newCtx ht | newConn _ _ _ ht => exact StallInv.of_none ht
  | dropFut | dropCtx | dropCtxNone => exact StallInv.of_none rfl
  | start e tk => exact StallInv.of_woken (by show Task.ctx ∈ (if _ then _ else _); split; assumption; simp)
  | feed e evs rd =>
    by_cases hreg : w.readerReg = true
    · exact StallInv.of_woken (mem_wakeIf_self hreg)
    · exact fun hne hnw => absurd (hs hne fun h => hnw (mem_wakeIf h)).2 hreg
  | op id => exact add (.op id) rfl rfl rfl rfl
  | stream id => exact add (.st id) rfl rfl rfl rfl
  | dropOp id o sl sr ch wk qr e => have := hs.of_frame (SFrame.of_userMove (dropOp_userMove w id)); rw [e] at this; exact this
  | dropHandle hd wk qr _ e =>
    have := hs.of_frame (SFrame.trans (b := { w with handles := w.handles.filter (· ≠ hd) }) sframe_rfl (SFrame.senderGone _))
    rw [e] at this; exact this
  -- the other events touch neither the context task, nor the reader, nor the flags
  | _ => exact hs.of_frame sframe_rfl

theorem TInv.apply (w : World) (e : Ev) (h : TInv w) : TInv (w.apply e) :=
  ⟨(apply_safe w e h.reach).1, StallInv.applied (apply_spec w e) h⟩

theorem TInv.init (cfg : Cfg) : TInv { cfg := cfg } := ⟨Reach.init, StallInv.of_none rfl⟩

theorem tinv_anyInv : AnyInv TInv :=
  ⟨fun _ hi hp => pollTaskAny_tinv hp hi, TInv.apply, fun _ o hi => TInv.emit hi o⟩

theorem stallInv_script (cfg : Cfg) (evs : List Ev) : StallInv (evs.foldl step { cfg := cfg }) :=
  (tinv_anyInv.steps evs _ (TInv.init cfg)).st

end W5
end World
end Poster

#print axioms Poster.World.W5.stallInv_script

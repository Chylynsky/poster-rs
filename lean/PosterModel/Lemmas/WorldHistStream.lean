/-
  What ties the history of the context to the stream traces (for C09; the script-level statement is
  `script_trace_matches_history`, Properties/HistWorld.lean): what a trace delivers into `id` is what its `.ctx` labels
  deliver (`delivered_eq_srcs`), and the labels of the effectful events of a history (`HEv.src?`: handler calls, `run()`
  preludes, the drop and the creation of the context) deliver what its handler calls give (`HEv.gives`, `srcs_gives`).
  `event_in_history`: the context an event of a script's history happens in, with its two session folds.
-/
import PosterModel.Lemmas.WorldHist
import PosterModel.Lemmas.WorldStreamWho
import PosterModel.Lemmas.WorldStreamSid

namespace Poster
open Framing

namespace World

theorem delivered_eq_srcs (id : Nat) (tr : List SLab) :
    delivered id tr = (ctxSrcs tr).flatMap fun s => deliversTo id s.effs := by
  induction tr with
  | nil => rfl
  | cons l t ih =>
    have hc : ctxSrcs (l :: t) = l.src?.toList ++ ctxSrcs t := by
      simp only [ctxSrcs, List.filterMap_cons]
      cases l.src? <;> rfl
    rw [delivered_cons, ih, hc, List.flatMap_append]
    congr 1
    cases l <;> simp [SLab.src?, SLab.effs]

end World

def HEv.gives (id : Nat) : HEv → List PublishRx
  | .handler c i => deliversTo id (c.stepIn i).2.effs
  | _ => []

namespace World

theorem srcs_gives (id : Nat) (h : List HEv) :
    (evSrcs h).flatMap (fun s => deliversTo id s.effs) = h.flatMap (HEv.gives id) := by
  induction h with
  | nil => rfl
  | cons e t ih =>
    rw [evSrcs_cons, List.flatMap_append, ih, List.flatMap_cons]
    congr 1
    cases e with
    | handler c i => simp [HEv.src?, HEv.gives, CtxSrc.effs]
    | resume c => simp [HEv.src?, HEv.gives, CtxSrc.effs, deliversTo_onlyDrops c.resume_effs_drops]
    | dropCtx q c => simp [HEv.src?, HEv.gives, CtxSrc.effs, deliversTo_onlyDrops (onlyDrops_closeEffs q c)]
    | fresh => simp [HEv.src?, HEv.gives, CtxSrc.effs]
    | _ => simp [HEv.src?, HEv.gives]

theorem sessionObs_snoc_handler (a : List HEv) (c : Ctx) (i : CIn) :
    sessionObs (a ++ [.handler c i]) = sessionObs a ++ [(c.stepIn i).2] := by
  unfold sessionObs
  rw [sessFrom_append]
  simp [sessFrom, HEv.resets, HEv.obs?]

theorem flatMap_gives_remove (id : Nat) (a b : List HEv) (e : HEv) (h : e.gives id = []) :
    (a ++ e :: b).flatMap (HEv.gives id) = (a ++ b).flatMap (HEv.gives id) := by
  simp [List.flatMap_append, h]

theorem event_in_history {cfg : Cfg} {evs : List Ev} {a b : List HEv} {e : HEv} {c : Ctx}
    (hh : history cfg evs = a ++ e :: b) (hb : e.before = some c) :
    c = lastCtx {} a ∧ c.retx = unfinished (sessionObs a) ∧ c.inQos2 = pendingQ2 (sessionObs a) := by
  have hch : Chained {} (history cfg evs) := (script_tracks cfg evs).chained
  rw [hh] at hch
  obtain ⟨h1, h2, _⟩ := (chained_append _ _ _).mp hch
  cases h2 c hb
  exact ⟨rfl, session_retx _ h1, session_inQos2 _ h1⟩

end World
end Poster

/-
  Lemmas/ScriptIds.lean — the operation identifiers a script issues. Scripts name oneshots and subscription channels after
  the operation identifier (`2*id`, `2*id+1`, channel `id`); in the library every operation creates fresh channel objects.
  A script that re-issues an identifier while the context still owns a channel of its earlier use therefore makes the
  model share a channel the library would not share. The script-level theorems that depend on channel identity carry the
  hypothesis `(World.opIds evs).Nodup` (pairwise distinct `OP` identifiers); the generators of the correspondence check
  only produce such scripts, and `check` verifies it for every script it runs.
-/
import PosterModel.World

namespace Poster
namespace World

def evOpId : Ev → Option Nat
  | .op id _ _ => some id
  | _ => none

def opIds (evs : List Ev) : List Nat := evs.filterMap evOpId

end World
end Poster

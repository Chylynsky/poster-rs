/-
  The simulation relation `QRel` between the context and the send-quota monitor `QMon` of CtxRun.lean (property C10), and
  what the monitor does on an inbound packet (`RxPacket.frees`); the context's side is `handlePkt_quota`
  (Lemmas/CtxPkt.lean), and `bump_rel_erase` is the step on which the two meet.
-/
import PosterModel.Lemmas.CtxPkt

namespace Poster

/-- the context and the monitor agree: free slots + outstanding QoS>0 publishes = Receive Maximum -/
def QRel (c : Ctx) (m : QMon) : Prop := c.quota + m.out.length = c.recvMax ∧ m.R = c.recvMax

theorem bump_rel_erase (c : Ctx) (m : QMon) (e : Nat × Nat) (h : QRel c m) (he : e ∈ m.out) (c' : Ctx)
    (hq : c'.quota = c.bump.quota) (hr : c'.recvMax = c.recvMax) :
    QRel c' { m with out := m.out.erase e } := by
  obtain ⟨h1, h2⟩ := h
  have hl : (m.out.erase e).length = m.out.length - 1 := List.length_erase_of_mem he
  have hpos : 0 < m.out.length := List.length_pos_of_mem he
  refine ⟨?_, h2.trans hr.symm⟩
  rw [hq, hr, hl]
  unfold Ctx.bump
  split
  · show c.quota + 1 + (m.out.length - 1) = c.recvMax; omega
  · -- the guard of the increment cannot fail while something is outstanding
    omega

/-- the outstanding QoS>0 publish an inbound packet completes, as the monitor counts it: PUBACK (QoS 1), PUBCOMP, and a
    PUBREC that carries an error (QoS 2) -/
def RxPacket.frees : RxPacket → Option (Nat × Nat)
  | .puback a => some (a.packetId, 1)
  | .pubcomp a => some (a.packetId, 2)
  | .pubrec a => if a.reason ≥ 128 then some (a.packetId, 2) else none
  | _ => none

theorem QMon.next_pkt (m : QMon) (p : RxPacket) (e : List Eff) (f : Flow) :
    m.next (.pkt p e f) = match p.frees with
      | none => some (m, true)
      | some x => if x ∈ m.out then some ({ m with out := m.out.erase x }, true) else some (m, false) := by
  cases p with
  | pubrec a => by_cases h : a.reason ≥ 128 <;> simp only [QMon.next, RxPacket.frees, h, ↓reduceIte]
  | _ => rfl

theorem RxPacket.frees_isSome (p : RxPacket) : p.frees.isSome = World.W11.freesSlot p := by
  cases p with
  | pubrec a => by_cases h : a.reason ≥ 128 <;> simp [RxPacket.frees, World.W11.freesSlot, h]
  | _ => rfl

theorem QMon.next_unlimited (m : QMon) (msg : Msg) (effs : List Eff) (f : Flow)
    (hp : ∀ aid pkt slot, msg = .awaitAck aid pkt slot → pktType pkt ≠ 3)
    (h : ∀ s, (s, SlotVal.errQuota) ∉ sendsOf effs) : m.next (.msg msg effs f) = some (m, true) := by
  cases msg with
  | awaitAck aid pkt slot => simp only [QMon.next, hp aid pkt slot rfl, h slot, if_false]
  | ff pkt slot => simp only [QMon.next, h _, if_false]
  | subscribe aid sid pkt slot ch => simp only [QMon.next, h _, if_false]

end Poster

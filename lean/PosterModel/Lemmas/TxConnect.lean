/-
  Lemmas/TxConnect.lean — CONNECT: lengths, layout, and the body parses to the caller's values.
  Split per block: properties, connect flags, will, user name / password, then the composition.
-/
import PosterModel.Lemmas.CodecTx

namespace Poster
open Spec

theorem connect_propertyLen_eq (t : ConnectTx) : t.propertyLen = (encProps (connectProps t)).length := by
  rw [← propsLen_eq_length _ (by unfold connectProps; props_fields; simp [TypeOk])]
  simp only [ConnectTx.propertyLen, connectProps, propsLen_append, propsLen_optP, propsLen_userPs, pNum, pBool,
    Poster.pStr]

theorem connect_willPropertyLen_eq (t : ConnectTx) : t.willPropertyLen = (encProps (willProps t)).length := by
  rw [← propsLen_eq_length _ (by unfold willProps; props_fields; simp [TypeOk])]
  simp only [ConnectTx.willPropertyLen, willProps, propsLen_append, propsLen_optP, propsLen_userPs, pNum, pBool,
    Poster.pStr]

theorem connectProps_wf (t : ConnectTx) (hd : ConnectInDomain t) : ∀ p ∈ connectProps t, PropWF p := by
  simp only [connectProps, List.forall_mem_append, and_assoc]
  exact ⟨PropWF_optP_num (.inr ⟨rfl, rfl⟩) rfl hd.sessionExpiry, PropWF_optP_nznum (.inl ⟨rfl, rfl⟩) hd.receiveMaximum,
    PropWF_optP_nznum (.inr ⟨rfl, rfl⟩) hd.maxPacketSize, PropWF_optP_num (.inl ⟨rfl, rfl⟩) rfl hd.topicAliasMax,
    PropWF_optP_bool rfl (by decide), PropWF_optP_bool rfl (by decide),
    PropWF_optP_bytes (.inl rfl) hd.authMethod, PropWF_optP_bytes (.inr rfl) hd.authData,
    PropWF_userPs hd.userProps⟩

theorem willProps_wf (t : ConnectTx) (hd : ConnectInDomain t) : ∀ p ∈ willProps t, PropWF p := by
  simp only [willProps, List.forall_mem_append, and_assoc]
  exact ⟨PropWF_optP_num (.inr ⟨rfl, rfl⟩) rfl hd.willDelay, PropWF_optP_bool rfl (by decide),
    PropWF_optP_num (.inr ⟨rfl, rfl⟩) rfl hd.willMei,
    PropWF_optP_bytes (.inl rfl) hd.willContentType, PropWF_optP_bytes (.inl rfl) hd.willResponseTopic,
    PropWF_optP_bytes (.inr rfl) hd.willCorrelationData, PropWF_userPs hd.willUserProps⟩

theorem connectProps_legal (t : ConnectTx) : propsLegal connectPropIds (connectProps t) = true :=
  OnceIn.optP 17 .num t.sessionExpiry |>.append_optP (by decide) |>.append_optP (by decide)
    |>.append_optP (by decide) |>.append_optP (by decide) |>.append_optP (by decide) |>.append_optP (by decide)
    |>.append_optP (by decide) |>.legal (by decide)

theorem willProps_legal (t : ConnectTx) : propsLegal willPropIds (willProps t) = true :=
  OnceIn.optP 24 .num t.willDelay |>.append_optP (by decide) |>.append_optP (by decide) |>.append_optP (by decide)
    |>.append_optP (by decide) |>.append_optP (by decide) |>.legal (by decide)

/-- authentication data only together with a method: exactly what `validate` enforces -/
theorem connect_auth_check (t : ConnectTx) (hv : t.valid = true) :
    (hasId 22 (connectProps t) && !hasId 21 (connectProps t)) = false := by
  unfold ConnectTx.valid at hv
  simp only [connectProps, hasId_append, hasId_optP, hasId_userPs (show 38 ≠ 22 by decide),
    hasId_userPs (show 38 ≠ 21 by decide)]
  cases hm : t.authMethod <;> cases hdt : t.authData <;> simp [hm, hdt] at hv ⊢

/-- the will block of the payload: only when both will topic and will payload were given -/
def connectWillBytes (t : ConnectTx) : Bytes :=
  if t.willFlag ≠ 0 then
    encVar (encProps (willProps t)).length ++ (encProps (willProps t)
      ++ (oEnc encStr t.willTopic ++ oEnc encStr t.willPayload))
  else []

def connectBody (t : ConnectTx) : Bytes :=
  encStr [77, 81, 84, 84] ++ (encU8 5 ++ (encU8 t.payloadFlags ++ (encU16 t.keepAlive
    ++ (encVar (encProps (connectProps t)).length ++ (encProps (connectProps t)
    ++ (encStr t.clientId ++ (connectWillBytes t ++ (oEnc encStr t.username ++ oEnc encStr t.password))))))))

theorem connect_encode_eq (t : ConnectTx) :
    t.encode = UInt8.ofNat 16 :: (encVar t.remainingLen ++ connectBody t) := by
  unfold ConnectTx.encode connectBody connectWillBytes
  simp only [connect_propertyLen_eq, connect_willPropertyLen_eq, connectProps, willProps, encProps_append, encProps_optP,
    encProps_userPs, pNum, pBool, Poster.pStr]
  simp only [encU8, List.append_assoc, List.cons_append, List.nil_append]

theorem oLen_strLen (o : Option Bytes) : oLen strLen o = (oEnc encStr o).length :=
  oLen_eq_length strLen_eq_length o

theorem connect_remainingLen_eq (t : ConnectTx) : t.remainingLen = (connectBody t).length := by
  simp only [ConnectTx.remainingLen, ConnectTx.payloadLen, connectBody, connectWillBytes, List.length_append,
    connect_propertyLen_eq, connect_willPropertyLen_eq, varLen_eq, oLen_strLen]
  by_cases hw : t.willFlag ≠ 0
  · simp only [if_pos hw, strLen, encStr, encU16, encU8, List.length_append, List.length_cons, List.length_nil]
    omega
  · simp only [if_neg hw, strLen, encStr, encU16, encU8, List.length_append, List.length_cons, List.length_nil]
    omega

theorem connect_layout (t : ConnectTx) : Layout 16 t.remainingLen t.encode (connectBody t) :=
  ⟨connect_encode_eq t, connect_remainingLen_eq t⟩

theorem connect_flags (u p wr cs : Bool) (wq wf : Nat) (hq : wq ≤ 2) (hf : wf ≤ 1) :
    let fl := b2n u * 128 + b2n p * 64 + b2n wr * 32 + wq * 8 + wf * 4 + b2n cs * 2
    fl < 256 ∧ fl % 2 = 0 ∧ fl / 4 % 2 = wf ∧ fl / 8 % 4 = wq ∧ (fl / 32 % 2 == 1) = wr ∧ (fl / 2 % 2 == 1) = cs
      ∧ (fl / 128 % 2 == 1) = u ∧ (fl / 64 % 2 == 1) = p := by
  intro fl
  have hu := b2n_le u; have hp := b2n_le p; have hwr := b2n_le wr; have hcs := b2n_le cs
  have hlt : fl < 256 := by omega
  -- the byte field by field from the top; the fields are then peeled off from below
  have hH : fl = (((((b2n u * 2 + b2n p) * 2 + b2n wr) * 4 + wq) * 2 + wf) * 2 + b2n cs) * 2 + 0 := by omega
  clear_value fl
  obtain ⟨d2, m2⟩ : fl / 2 = _ ∧ fl % 2 = 0 := hH ▸ div_mod_field (Nat.zero_lt_succ 1)
  obtain ⟨d4, m4⟩ := field_step (m := 2) d2 (Nat.lt_succ_of_le hcs)
  obtain ⟨d8, m8⟩ := field_step (m := 4) d4 (Nat.lt_succ_of_le hf)
  obtain ⟨d32, m32⟩ := field_step (m := 8) d8 (Nat.lt_succ_of_le (Nat.le_succ_of_le hq))
  obtain ⟨d64, m64⟩ := field_step (m := 32) d32 (Nat.lt_succ_of_le hwr)
  obtain ⟨d128, m128⟩ := field_step (m := 64) d64 (Nat.lt_succ_of_le hp)
  have m256 : fl / 128 % 2 = b2n u := by rw [show fl / 128 = b2n u from d128]; exact Nat.mod_eq_of_lt (Nat.lt_succ_of_le hu)
  exact ⟨hlt, m2, m8, m32, beq_one_of_eq_b2n m64, beq_one_of_eq_b2n m4, beq_one_of_eq_b2n m256, beq_one_of_eq_b2n m128⟩

theorem pOptStr_enc (o : Option Bytes) (h : ∀ s ∈ o, StrOk s) (r : Bytes) :
    pOptStr o.isSome (oEnc encStr o ++ r) = some (o, r) := by
  cases o with
  | none => simp [pOptStr]
  | some s =>
    simp [pOptStr, pStr_enc _ (h s rfl)]

theorem pWill_enc (t : ConnectTx) (hd : ConnectInDomain t) (r : Bytes) :
    pWill (t.willFlag == 1) t.willQos t.willRetain (connectWillBytes t ++ r) = some (connectWill t, r) := by
  unfold connectWillBytes connectWill ConnectTx.willFlag
  cases hwt : t.willTopic with
  | none => simp [pWill]
  | some wt =>
    cases hwp : t.willPayload with
    | none => have := hd.willBoth; simp [hwt, hwp] at this
    | some wp =>
      have hl : (encProps (willProps t)).length < 268435456 := by
        have := hd.size; rw [connect_remainingLen_eq] at this
        simp only [connectBody, connectWillBytes, ConnectTx.willFlag, hwt, hwp, List.length_append] at this
        simp at this; omega
      simp [pWill, List.append_assoc, pPropBlock_enc _ (willProps_wf t hd) hl, willProps_legal,
        pStr_enc _ (hd.willTopic wt hwt), pBin_enc _ (hd.willPayload wp hwp)]

theorem connect_body_parses (t : ConnectTx) (hv : t.valid = true) (hd : ConnectInDomain t) :
    parseBody 1 0 (connectBody t) = some (ofConnect t) := by
  have hwf : t.willFlag ≤ 1 := by unfold ConnectTx.willFlag; split <;> omega
  obtain ⟨h256, hres, hwfl, hwq, hwr, hcs, hu, hp⟩ :=
    connect_flags t.username.isSome t.password.isSome t.willRetain t.cleanStart t.willQos t.willFlag hd.willQos hwf
  have hq3 : ¬ t.willQos = 3 := fun e => absurd (e ▸ hd.willQos) (by decide)
  have hka : t.keepAlive < 65536 := by have := hd.keepAlive; omega
  have hl : (encProps (connectProps t)).length < 268435456 := by
    have := hd.size; rw [connect_remainingLen_eq] at this
    simp only [connectBody, List.length_append] at this; omega
  -- without a will, will QoS and will retain are clear
  have hnw : ¬ t.willFlag = 1 → t.willQos = 0 ∧ t.willRetain = false := by
    unfold ConnectTx.willFlag
    cases hwt : t.willTopic with
    | none => obtain ⟨h0, h1, -⟩ := hd.noWill hwt; simp [h0, h1]
    | some wt =>
      have := hd.willBoth; rw [hwt] at this
      simp [← this]
  have hauth := connect_auth_check t hv
  simp only [parseBody, ↓reduceIte, parseConnect, connectBody, pStr_enc [77, 81, 84, 84] (by unfold StrOk; decide),
    pU8_enc 5 (by decide), pU8_enc _ h256, ConnectTx.payloadFlags, hres, hwfl, hwq, hwr, hcs, hu, hp, hq3,
    pU16_enc _ hka, pPropBlock_enc _ (connectProps_wf t hd) hl, connectProps_legal, hauth, pStr_enc _ hd.clientId,
    pWill_enc t hd, pOptStr_enc _ hd.username, ne_eq, not_true_eq_false, Bool.not_true, Bool.false_eq_true]
  have hpw := pOptStr_enc _ hd.password []
  simp only [List.append_nil] at hpw
  simp [hpw, ofConnect]
  exact hnw

end Poster

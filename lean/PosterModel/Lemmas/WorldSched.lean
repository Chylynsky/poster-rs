/-
  Lemmas/WorldSched.lean — the `select!` of `run()` under an ARBITRARY resolution of its choice: the definitions only.

  `run()` (src/client/context.rs) loops around

      futures::select! { packet = pck_fut => …, msg = msg_fut => … }

  `futures::select!` polls its branches in a pseudo-randomly shuffled order; the first branch whose future is
  `Ready` wins and the remaining branches are NOT polled in that round; if every branch is `Pending` the whole
  `select!` is `Pending` (and every branch has registered its waker). `World.runLoop` fixes the order "messages,
  then packets". Here the order is chosen, iteration by iteration, by a scheduler `sched : Nat → Bool`
  (`sched i = true`: in the iteration after which `i` iterations of fuel are left, `pck_fut` is polled first).

  Decisions (read off the Rust code and the semantics of `select!`):

  * packet branch first, `pck_fut` Ready(Some(frame)): the frame is decoded and handled — whatever is queued
    (the queue is not looked at in this round; the message branch is not polled).
  * packet branch first, `pck_fut` Ready(None) (end of stream, read error, malformed length): `run()` returns
    `SocketClosed` AT ONCE, even though messages are queued and even if no sender is left: `HandleClosed` can
    only be observed when the message branch is polled.
  * packet branch first, `pck_fut` Pending: the framing layer has consumed what the transport had (`rx`, `reader`
    advance) and the reader holds the waker (`readerReg`), or — the transport itself returned `Pending` after
    waking the task (a `pending` read event) — the context task is flagged again (`armReader`). Then the message
    branch is polled in the same round: a queued message is handled; no message and no sender: `HandleClosed`;
    no message but senders: the queue keeps the waker (`queueReg`) and the task parks.
  * message branch first: exactly an iteration of `World.runLoop` (`runIterS_false`, Lemmas/WorldIter.lean). As in
    `runLoop`, the queue waker a Pending message branch registers is recorded only when the task parks (a stale
    registration is harmless: it can only cause a spurious poll, and `runLoop` makes the same simplification).

  `runLoop f w` is the resolution `fun _ => false` (`runLoop_is_a_resolution`, Lemmas/WorldIter.lean).
-/
import PosterModel.Lemmas.WorldIn

namespace Poster
open Framing
namespace World

/-- `pck_fut` returned `Pending`: the reader keeps the waker if the transport has nothing; otherwise the transport
    has woken the task itself (a `pending` read event was consumed) -/
def armReader (w : World) : World := if w.reader = [] then { w with readerReg := true } else w.wake .ctx

/-- the message branch of `select!` won with the message `m` (`q` = the rest of the queue) -/
def msgBranch (w : World) (m : Msg) (q : List Msg) : World ⊕ World :=
  let r := ({ w with queue := q }).runHandler (fun wok => w.c.handleMsg m wok)
  match r.2 with
  | .cont => .inl r.1
  | fl => .inr (r.1.finish .run (flowRet fl))

/-- the packet branch of `select!` won with the frame `fr` (`rx'`, `rd'` = framing state and transport afterwards) -/
def pktBranch (w : World) (rx' : Rx) (rd' : List ReadEv) (fr : Bytes) : World ⊕ World :=
  let w1 : World := { w with rx := rx', reader := rd' }
  match decodeRx fr with
  | .ok p =>
    let r := w1.runHandler (fun wok => w.c.handlePkt w.chanRxAlive p wok)
    match r.2 with
    | .cont => .inl r.1
    | fl => .inr (r.1.finish .run (flowRet fl))
  | .err => .inr (w1.finish .run (.err .codecError))
  | .panic => .inr (({ w1 with task := .none }).emit (.panic .ctx "other"))

/-- one iteration of the `select!` loop; `pf = true`: the packet branch is polled first.
    `.inl` = go on with the next iteration, `.inr` = this poll of the task ends -/
def runIterS (pf : Bool) (w : World) : World ⊕ World :=
  if pf then
    match pollNext w.rx w.reader with
    | (rx', rd', .item fr) => pktBranch w rx' rd' fr
    | (rx', rd', .none) => .inr (({ w with rx := rx', reader := rd' }).finish .run (.err .socketClosed))
    | (rx', rd', .pending) =>
      let w := armReader { w with rx := rx', reader := rd' }
      match w.queue with
      | m :: q => msgBranch w m q
      | [] =>
        if w.senders = 0 then .inr (w.finish .run (.err .handleClosed))
        else .inr { w with queueReg := true }
  else
    match w.queue with
    | m :: q => msgBranch w m q
    | [] =>
      if w.senders = 0 then .inr (w.finish .run (.err .handleClosed)) else
      match pollNext w.rx w.reader with
      | (rx', rd', .item fr) => pktBranch w rx' rd' fr
      | (rx', rd', .none) => .inr (({ w with rx := rx', reader := rd' }).finish .run (.err .socketClosed))
      | (rx', rd', .pending) => .inr (armReader { w with rx := rx', reader := rd', queueReg := true })

/-- one poll of the `select!` loop of `run()` under the scheduler `sched` -/
def runLoopS (sched : Nat → Bool) : Nat → World → World
  | 0, w => w
  | f+1, w =>
    match runIterS (sched f) w with
    | .inl w1 => runLoopS sched f w1
    | .inr r => r

/-- one poll of `run()` under `sched`: the session-resumption prelude (first poll), then the loop -/
def pollRunS (sched : Nat → Bool) (w : World) (started : Bool) : World :=
  if started then runLoopS sched w.loopFuel w else
  if w.resumed.canWrite ((w.c.resume.2.2.map List.length).sum) then runLoopS sched w.resent.loopFuel w.resent
  else (w.resumed.writeBytes w.c.resume.2.2.flatten).finish .run (.err .socketClosed)

/-- one poll of the context task under `sched` (only `run()` has a `select!`) -/
def pollCtxS (sched : Nat → Bool) (w : World) : World :=
  match w.task with
  | .none => w
  | .connecting call t a started => w.pollConnect call t a started
  | .running started => w.pollRunS sched started

def pollTaskS (sched : Nat → Bool) (w : World) (t : Task) : World :=
  let w := w.unwake t
  match t with
  | .ctx => w.pollCtxS sched
  | .op n => w.pollOp n
  | .st n => w.pollStream n

/-- `RunLoopAny`, `PollCtxAny`, `PollTaskAny`: the loop, the context task, any task under SOME scheduler; whole scripts
    (Lemmas/WorldAny.lean) are built on `PollTaskAny` alone -/
def RunLoopAny (w r : World) : Prop := ∃ sched, r = runLoopS sched w.loopFuel w

def PollCtxAny (w r : World) : Prop := ∃ sched, r = w.pollCtxS sched

def PollTaskAny (w : World) (t : Task) (r : World) : Prop := ∃ sched, r = w.pollTaskS sched t

/-- the input the iteration hands to a handler (`none`: the iteration ends the poll before any handler is called) -/
def iterInS (pf : Bool) (w : World) : Option CIn :=
  if pf then
    match pollNext w.rx w.reader with
    | (_, _, .item fr) =>
      (match decodeRx fr with
       | .ok p => some (w.inPkt p)
       | _ => none)
    | (_, _, .none) => none
    | (_, _, .pending) =>
      (match w.queue with
       | m :: _ => some (w.inMsg m)
       | [] => none)
  else w.iterIn

/-- the history of one poll of the loop under `sched`: the inputs its iterations hand to the handlers, in order -/
def loopHistS (sched : Nat → Bool) : Nat → World → List CIn
  | 0, _ => []
  | f+1, w =>
    match iterInS (sched f) w with
    | none => []
    | some i => i :: (match runIterS (sched f) w with | .inl w1 => loopHistS sched f w1 | .inr _ => [])

end World
end Poster

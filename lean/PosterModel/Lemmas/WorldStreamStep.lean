/-
  Script events, the executor and whole script steps as sequences of stream moves, and the trace of a whole script: its
  `.ctx` labels are the effectful events of the script's history.
-/
import PosterModel.Lemmas.WorldStreamDec

namespace Poster
open Framing
namespace World

theorem dropCtxClosed_chans (w : World) : (dropCtxClosed w).chans = chEffs w.chans (closeEffs w.queue w.c) := by
  rw [dropCtxClosed_eq, applyEffs_chans_eq]; rfl

theorem smove_dropCtx (w : World) :
    SMove (.ctx (.dropCtx w.queue w.c)) w { dropCtxClosed w with queue := [], c := {} } := by
  have inv := closes_inv (closes_dropCtxClosed w)
  refine .ctx (.dropCtx w.queue w.c) ⟨rfl, rfl⟩ (dropCtxClosed_chans w) rfl inv.ops_eq (outExtP_of_eq inv.out_eq) ?_
    (subFrame_of_sublist inv.subCtr_eq (List.nil_sublist _))
  intro ch q h
  rw [show deliversOf (CtxSrc.dropCtx w.queue w.c).effs = [] from deliversOf_onlyDrops (onlyDrops_closeEffs _ _)] at h
  cases h

theorem applied_tr {w w' : World} {e : Ev} (h : Applied w e w') (hi : OpsInv w) :
    (∃ id h req, e = .op id h req ∧ SMove (.addOp id) w w') ∨ Tr (fun _ => True) w w' [] (evSrcs (w.applyEvs e)) := by
  have tau : (fun _ : SLab => True) .tau := trivial
  have dropRx : ∀ (id : Nat) (w' : World), w'.chans = eraseFirst id w.chans → w'.c = w.c → w'.ops = w.ops →
      w'.out = w.out → w'.queue = w.queue → w'.subCtr = w.subCtr → Tr (fun _ => True) w w' [] [] :=
    fun id w' a b c d q sc =>
      ⟨[.dropRx id], .one (.dropRx id a b (opsKeep_of_eq c) d (subFrame_of_eq sc q (by rw [b]))), fun _ _ => trivial,
        rfl, rfl⟩
  cases h.norm with
  | bad e hr =>
    right; rw [applyEvs_nil (.inl hr)]
    exact .tau tau (.logs (.of_dull (Or.inl rfl)))
  | same e hg => right; rw [applyEvs_nil (.inr (.inl hg))]; exact .refl _ w
  | poll t ht => right; rw [applyEvs_poll ht]; exact (pollTask_tr w t hi).mono fun _ _ => trivial
  | newCtx ht hd hc hh ho =>
    right; rw [applyEvs_newCtx ht hd hc hh ho]
    exact .ctx trivial (.ctx .fresh trivial rfl rfl rfl (outExtP_of_eq rfl) (fun _ _ h => nomatch h)
      (subFrame_of_sublist rfl (List.Sublist.append (List.Sublist.refl _) (List.nil_sublist _))))
  | newConn ou wp hf ht hd hc =>
    right; rw [applyEvs_newConn ht hd hc]
    have ho := flushRaw_outExtP w (StreamQuiet.of_ctxLine (.wraw _))
    rw [hf] at ho
    exact .tau tau (.tau rfl rfl (opsKeep_of_eq rfl) ho)
  | start e tk he hc ht => right; rw [applyEvs_nil (.inr (.inr (.inl ⟨_, he⟩)))]; exact .quiet tau rfl rfl rfl rfl
  | dropCtx sl sr ch wk hf hc =>
    right; rw [show w.applyEvs .dropCtx = [.dropCtx w.queue w.c] from if_pos hc]
    have m := smove_dropCtx w
    rw [hf] at m
    exact .ctx trivial m
  | dropCtxNone hc =>
    right; rw [show w.applyEvs .dropCtx = [] from if_neg (by simp [hc])]
    exact .quiet tau rfl rfl rfl rfl
  | markDisc secs hc ht =>
    right; rw [applyEvs_markDisc secs hc ht]
    exact .tau tau (.tau rfl rfl (opsKeep_of_eq rfl) (outExtP_of_eq rfl))
  | snap hc ht =>
    right
    exact .tau tau (.logs (.of_dull (Or.inr (Or.inr (Or.inr ⟨_, rfl⟩)))))
  | feed e evs rd he hc => right; rw [applyEvs_nil (.inr (.inr (.inr ⟨_, he⟩)))]; exact .quiet tau rfl rfl rfl rfl
  | op id hd req hh ho =>
    exact Or.inl ⟨id, hd, req, rfl, .addOp id hd req ho rfl rfl rfl rfl⟩
  | dropOp id o sl sr ch wk qr hf =>
    right; rw [← hf]
    exact (Tr.of_dec (dropOp_dec w id hi) fun _ => opLab_plain).mono fun _ _ => trivial
  | dropStream id hs => right; exact dropRx id _ rfl rfl rfl rfl rfl rfl
  | dropRsp id hr => right; exact dropRx id _ rfl rfl rfl rfl rfl rfl
  | _ => right; exact .quiet tau rfl rfl rfl rfl

theorem settle_tr (w : World) (hi : OpsInv w) : Tr (fun _ => True) w w.settle [] (evSrcs w.settleEvs) :=
  (settleEvs_lift (R := fun w w' h => OpsInv w → Tr (fun _ => True) w w' [] (evSrcs h) ∧ OpsInv w')
    (fun w hi => ⟨.refl _ w, hi⟩)
    (fun {a b c h1 h2} f g hi => by
      obtain ⟨t1, i1⟩ := f hi
      obtain ⟨t2, i2⟩ := g i1
      exact ⟨by rw [evSrcs_append]; exact t1.trans t2, i2⟩)
    (fun w t _ _ hi => ⟨(pollTask_tr w t hi).mono fun _ _ => trivial, hi.pollTask t⟩)
    (fun w hi => ⟨.tau trivial (.logs (.of_dull (Or.inr (Or.inl rfl)))), hi.emit _⟩) w hi).1

theorem step_tr (w : World) (e : Ev) (hi : OpsInv w) :
    ∃ iss, Tr (fun _ => True) w (w.step e) iss (evSrcs (w.stepEvs e)) ∧
      (iss = [] ∨ ∃ id, evOpId e = some id ∧ iss = [id]) := by
  rw [step_eq_settle, stepEvs_eq_settle]
  split
  · exact ⟨[], .refl _ w, Or.inl rfl⟩
  · have m0 : Tr (fun _ => True) w (w.emit (.ev e)) [] [] :=
      .tau trivial (.logs (sq_ev e))
    have hi0 := hi.emit (.ev e)
    have tail := settle_tr _ (hi0.apply e)
    rw [evSrcs_append]
    rcases applied_tr (apply_spec (w.emit (.ev e)) e) hi0 with ⟨id, h, req, rfl, ha⟩ | ha
    · exact ⟨[id], (m0.trans (.addOp trivial ha)).trans tail, Or.inr ⟨id, rfl, rfl⟩⟩
    · exact ⟨[], (m0.trans ha).trans tail, Or.inl rfl⟩

/-- a sublist of the script's operation identifiers: an `op` event the script is not allowed to issue issues nothing -/
theorem steps_tr (evs : List Ev) (w : World) (hi : OpsInv w) :
    ∃ tr, STrace w tr (evs.foldl step w) ∧ (issuedOf tr).Sublist (opIds evs) ∧
      ctxSrcs tr = evSrcs (scriptEvs w evs) := by
  induction evs generalizing w with
  | nil => exact ⟨[], .refl w, by simp, rfl⟩
  | cons e t ih =>
    obtain ⟨i1, ⟨t1, s1, _, rfl, c1⟩, a1⟩ := step_tr w e hi
    obtain ⟨t2, s2, a2, c2⟩ := ih (w.step e) (hi.step e)
    refine ⟨t1 ++ t2, s1.trans s2, ?_, by rw [ctxSrcs_append, c1, c2, scriptEvs, evSrcs_append]⟩
    rw [issuedOf_append]
    rw [opIds, filterMap_cons_toList]
    refine List.Sublist.append ?_ a2
    rcases a1 with a1 | ⟨id, h1, h2⟩
    · rw [a1]; exact List.nil_sublist _
    · rw [h1, h2]; exact List.Sublist.refl _

theorem steps_dec (evs : List Ev) (w : World) (hi : OpsInv w) :
    ∃ tr, STrace w tr (evs.foldl step w) ∧ (issuedOf tr).Sublist (opIds evs) := by
  obtain ⟨tr, st, h, _⟩ := steps_tr evs w hi
  exact ⟨tr, st, h⟩

end World
end Poster

/-
  Lemmas/WorldFraming.lean — the receive side of one poll of the context task (namespace `Poster.World.W12`): which
  frames the poll hands to the decoder, that they are whole frames off the front of the bytes in flight, and why a poll
  may report the transport closed.
-/
import PosterModel.Lemmas.WorldRet

namespace Poster
open Framing
namespace World
namespace W12

/-- the frame (if any) the next call of `poll_next` yields -/
def nextFrame (s : Rx) (rs : List ReadEv) : List Bytes := outFrames (pollNext s rs).2.2

theorem nextFrame_eq {s : Rx} {rs : List ReadEv} {s' : Rx} {rs' : List ReadEv} {o : Out}
    (hp : pollNext s rs = (s', rs', o)) : nextFrame s rs = outFrames o := by
  simp [nextFrame, hp]

/-- **the bytes in flight on the receive side**: received and buffered but not yet emitted (`rx.valid`), followed by
    what the transport will still deliver before it ends (`dataOf reader`) -/
def inbound (w : World) : Bytes := w.rx.valid ++ dataOf w.reader

/-- `w` becomes `w'` while the framing layer yields the frames `frs` (and the context is not dropped meanwhile) -/
structure WStep (w w' : World) (frs : List Bytes) : Prop where
  fs : FStep w.rx w.reader w'.rx w'.reader frs
  dropped : w'.ctxDropped = w.ctxDropped

theorem fstep_poll {w w' : World} {rx' : Rx} {rd' : List ReadEv} {o : Out}
    (hp : pollNext w.rx w.reader = (rx', rd', o)) (h1 : w'.rx = rx') (h2 : w'.reader = rd') :
    FStep w.rx w.reader w'.rx w'.reader (nextFrame w.rx w.reader) := by
  rw [nextFrame_eq hp, h1, h2]
  exact pollNext_fstep hp

/-- the frame one iteration of the `select!` loop hands to `decodeRx` (none if a message is queued — the loop handles
    it first — or if no sender is left, or if the framing layer yields no frame) -/
def iterFrames (w : World) : List Bytes :=
  match w.queue with
  | _ :: _ => []
  | [] => if w.senders = 0 then [] else nextFrame w.rx w.reader

/-- the frames one poll of the `select!` loop hands to `decodeRx`, in order (same recursion as `runLoop`) -/
def loopFrames : Nat → World → List Bytes
  | 0, _ => []
  | f+1, w => iterFrames w ++ (match runIter w with | .inl w1 => loopFrames f w1 | .inr _ => [])

/-- **the frames one poll of the context task hands to `decodeRx`** (`w.pollCtx`): none if no call is executing;
    `connect()` / `authorize()` hand over the first frame the framing layer yields (on their first poll only if the
    request was valid and written); `run()` hands over the frames of its loop (on its first poll after the session was
    resumed and the unfinished handshakes re-sent, if the transport took them) -/
def ctxFrames (w : World) : List Bytes :=
  match w.task with
  | .none => []
  | .connecting call t a started =>
    if started then nextFrame w.rx w.reader
    else if reqValid call t a && w.canWrite (W7.reqBytes call t a).length then nextFrame w.rx w.reader else []
  | .running started =>
    if started then loopFrames w.loopFuel w
    else if w.resumed.canWrite ((w.c.resume.2.2.map List.length).sum) then loopFrames w.resent.loopFuel w.resent
    else []

theorem iterFrames_msg {w : World} {m : Msg} {q : List Msg} (hq : w.queue = m :: q) : iterFrames w = [] := by
  simp [iterFrames, hq]

theorem iterFrames_closed {w : World} (hq : w.queue = []) (hs : w.senders = 0) : iterFrames w = [] := by
  simp [iterFrames, hq, hs]

theorem iterFrames_poll {w : World} (hq : w.queue = []) (hs : w.senders ≠ 0) :
    iterFrames w = nextFrame w.rx w.reader := by
  simp [iterFrames, hq, hs]

theorem fstep_runHandler {s : Rx} {rs : List ReadEv} {w0 w1 : World} {h : Bool → Ctx × List Eff × Flow} {fl : Flow}
    {frs : List Bytes} (hr : w0.runHandler h = (w1, fl)) (h0 : FStep s rs w0.rx w0.reader frs) :
    FStep s rs w1.rx w1.reader frs := by
  have e : (w0.runHandler h).1 = w1 := congrArg Prod.fst hr
  subst e
  simpa using h0

theorem runCont_fstep {w w1 : World} (h : RunCont w w1) : FStep w.rx w.reader w1.rx w1.reader (iterFrames w) := by
  cases h with
  | msg m q w1 hq hr => rw [iterFrames_msg hq]; exact fstep_runHandler hr (.refl _ _)
  | pkt rx' rd' fr p w1 hq hs hp hd hr =>
    rw [iterFrames_poll hq hs]; exact fstep_runHandler hr (fstep_poll hp rfl rfl)

theorem runEnd_fstep {w r : World} (h : RunEnd w r) : FStep w.rx w.reader r.rx r.reader (iterFrames w) := by
  have fin : ∀ {w0 : World} {frs : List Bytes} (call : Call) (res : RetRes), FStep w.rx w.reader w0.rx w0.reader frs →
      FStep w.rx w.reader (w0.finish call res).rx (w0.finish call res).reader frs := fun _ _ h0 => h0
  cases h with
  | msgExit m q w1 fl hq hr hne => rw [iterFrames_msg hq]; exact fin _ _ (fstep_runHandler hr (.refl _ _))
  | closed hq hs => rw [iterFrames_closed hq hs]; exact .refl _ _
  | pktExit rx' rd' fr p w1 fl hq hs hp hd hr hne =>
    rw [iterFrames_poll hq hs]; exact fin _ _ (fstep_runHandler hr (fstep_poll hp rfl rfl))
  | codec rx' rd' fr hq hs hp hd => rw [iterFrames_poll hq hs]; exact fstep_poll hp rfl rfl
  | panic rx' rd' fr hq hs hp hd => rw [iterFrames_poll hq hs]; exact fstep_poll hp rfl rfl
  | sock rx' rd' hq hs hp => rw [iterFrames_poll hq hs]; exact fstep_poll hp rfl rfl
  | pending rx' rd' hq hs hp =>
    rw [iterFrames_poll hq hs]
    split
    · exact fstep_poll hp rfl rfl
    · exact fstep_poll hp (by simp) (by simp)

theorem runLoop_fstep (f : Nat) (w : World) :
    FStep w.rx w.reader (runLoop f w).rx (runLoop f w).reader (loopFrames f w) := by
  induction f generalizing w with
  | zero => exact .refl _ _
  | succ f ih =>
    rw [runLoop_succ]
    simp only [loopFrames]
    cases h : runIter w with
    | inl w1 => exact (runCont_fstep (runIter_inl h)).trans (ih w1)
    | inr r => simpa using runEnd_fstep (runIter_inr h)

theorem firstEnd_fstep {w r : World} {call : Call} {t : ConnectTx} {a : AuthTx} (h : FirstEnd w call t a r) :
    FStep w.rx w.reader r.rx r.reader (nextFrame w.rx w.reader) := by
  cases h with
  | pending rx' rd' hp =>
    split
    · exact fstep_poll hp rfl rfl
    · exact fstep_poll hp (by simp) (by simp)
  | _ => exact fstep_poll (by assumption) rfl rfl

theorem resent_recv (w : World) : w.resent.rx = w.rx ∧ w.resent.reader = w.reader := by
  obtain ⟨_, _, _, _, e⟩ := resent_shape w
  rw [e]
  simp [resumed]

theorem pollCtx_fstep (w : World) : FStep w.rx w.reader w.pollCtx.rx w.pollCtx.reader (ctxFrames w) := by
  unfold pollCtx ctxFrames
  cases ht : w.task with
  | none => exact .refl _ _
  | connecting call t a started =>
    simp only
    cases started with
    | true =>
      simp only [pollConnect, ↓reduceIte]
      exact firstEnd_fstep (awaitFirst_spec w call t a)
    | false =>
      rw [pollConnect_false_eq]
      simp only [Bool.false_eq_true, ↓reduceIte]
      obtain ⟨s1, s2, _, _, _⟩ := W7.seiSet_facts w call t
      cases hv : reqValid call t a with
      | false =>
        simp only [Bool.not_false, ↓reduceIte, Bool.false_and, Bool.false_eq_true]
        exact .of_eq (by simp) (by simp)
      | true =>
        cases hc : w.canWrite (W7.reqBytes call t a).length with
        | false =>
          simp only [Bool.not_true, Bool.false_eq_true, ↓reduceIte, Bool.and_false]
          exact .of_eq (by simp [s1]) (by simp [s2])
        | true =>
          simp only [Bool.not_true, Bool.false_eq_true, ↓reduceIte, Bool.and_self]
          have h0 := firstEnd_fstep (awaitFirst_spec ((W7.seiSet w call t).writeBytes (W7.reqBytes call t a)) call t a)
          have e1 : ((W7.seiSet w call t).writeBytes (W7.reqBytes call t a)).rx = w.rx := by simp [s1]
          have e2 : ((W7.seiSet w call t).writeBytes (W7.reqBytes call t a)).reader = w.reader := by simp [s2]
          rwa [e1, e2] at h0
  | running started =>
    simp only
    cases started with
    | true =>
      simp only [pollRun, ↓reduceIte]
      exact runLoop_fstep _ w
    | false =>
      rw [pollRun_first_eq]
      simp only [Bool.false_eq_true, ↓reduceIte]
      obtain ⟨e1, e2⟩ := resent_recv w
      split
      · exact e1 ▸ e2 ▸ runLoop_fstep _ w.resent
      · exact .of_eq (by simp [resumed]) (by simp [resumed])

/-- the frames `ctxFrames` lists are whole frames taken from the front of the bytes in flight, in order -/
theorem pollCtx_wstep (w : World) : WStep w w.pollCtx (ctxFrames w) :=
  ⟨pollCtx_fstep w, (pollCtx_ctxFrame w).ctxDropped⟩

theorem pollCtx_idle (w : World) (hok : w.rx.Ok) (h : w.pollCtx.task ≠ .none) : w.pollCtx.rx.st = .idle := by
  obtain ⟨wm, hokm, hp⟩ := (World.pollCtx_pending w hok h).read
  exact ((pollNext_polled hp).ok hokm).2

/-- not a `RET … SocketClosed` line -/
def NoSock (o : Obs) : Prop := ∀ c, o ≠ .ret c (.err .socketClosed)

theorem noSock_of_noRet {o : Obs} (h : W7.NoRet o) : NoSock o := fun c => h c _

/-- **why the transport may be reported closed**, seen from the world `w`: the transport refuses writes at some point
    (a write limit is configured), or an end-of-stream event (`eof`, `err`, zero-length read) is in the transport's
    script, or the bytes in flight contain a malformed remaining-length field -/
def SockCause (w : World) : Prop := w.cfg.wlimit ≠ none ∨ hasEnd w.reader = true ∨ frames (inbound w) = none

theorem sockCause_of_none {w : World} {rx' : Rx} {rd' : List ReadEv} (hok : w.rx.Ok)
    (hp : pollNext w.rx w.reader = (rx', rd', .none)) : SockCause w := by
  have hcons : _ = rx'.valid ++ dataOf rd' := (pollNext_polled hp).conserves
  rcases ((pollNext_polled hp).ok hok).2 with ⟨_, he⟩ | ⟨_, hb⟩
  · exact Or.inr (Or.inl (by rw [← (pollNext_polled hp).ends]; exact atEnd_hasEnd _ he))
  · exact Or.inr (Or.inr (by unfold inbound; rw [hcons]; exact frames_bad _ _ hb))

theorem sockCause_of_refused {w : World} {n : Nat} (h : w.canWrite n = false) : SockCause w := by
  refine Or.inl (fun hl => ?_)
  rw [canWrite_unlimited w hl] at h; cases h

theorem SockCause.back {w wm : World} {frs : List Bytes} (hs : FStep w.rx w.reader wm.rx wm.reader frs) (hok : w.rx.Ok)
    (hc : wm.cfg = w.cfg) (h : SockCause wm) : SockCause w := by
  rcases h with h | h | h
  · exact Or.inl (by rw [← hc]; exact h)
  · exact Or.inr (Or.inl (by rw [← hs.ends]; exact h))
  · refine Or.inr (Or.inr ?_)
    have e : inbound w = frs.flatten ++ inbound wm := hs.inb hok
    rw [e, frames_flatten_append _ _ (hs.whole hok), h]; rfl

theorem serve_fstep {w wm : World} (h : Serve w wm) : ∃ frs, FStep w.rx w.reader wm.rx wm.reader frs := by
  induction h with
  | refl w => exact ⟨[], .refl _ _⟩
  | step hc _ ih =>
    obtain ⟨frs, h2⟩ := ih
    exact ⟨_, (runCont_fstep hc).trans h2⟩

theorem inPoll_fstep {w wm : World} {s : Bool} (h : W7.InPoll w s wm) :
    ∃ frs, FStep w.rx w.reader wm.rx wm.reader frs ∧ wm.cfg = w.cfg := by
  obtain ⟨w1, h1, h2, hs⟩ := h
  obtain ⟨frs, hf⟩ := serve_fstep hs
  have hc : wm.cfg = w1.cfg := (serve_frame hs).ctx.cfg
  cases s with
  | true => cases h1 rfl; exact ⟨frs, hf, hc⟩
  | false =>
    obtain ⟨_, rfl⟩ := h2 rfl
    obtain ⟨e1, e2⟩ := resent_recv w
    exact ⟨frs, e1 ▸ e2 ▸ hf, hc.trans (resent_cfg w)⟩

/-- **why a poll of the context task logs `RET … SocketClosed`**: only for a `SockCause` -/
theorem pollCtx_sock (w : World) (hok : w.rx.Ok) :
    OutExtP (fun o => ∀ c, o = .ret c (.err .socketClosed) → SockCause w) w w.pollCtx := by
  obtain ⟨added, ho, _⟩ := pollCtx_panics w
  refine ⟨added, ho, fun o hm c e => ?_⟩
  obtain ⟨pre, post, rfl⟩ := List.append_of_mem (e ▸ hm)
  obtain ⟨-, ⟨s, ht, -, hc⟩ | ⟨t, a, s, ht, hc⟩⟩ := W7.pollCtx_ret_cause ho
  · cases hc with
    | resendFailed _ hcw =>
      exact (sockCause_of_refused hcw).back (.of_eq (by simp [resumed]) (by simp [resumed])) hok (resumed_cfg w)
    | loop w1 wm _ h1 h2 hs he =>
      obtain ⟨frs, hf, hcm⟩ := inPoll_fstep ⟨w1, h1, h2, hs⟩
      have hokm : wm.rx.Ok := hf.ok hok
      cases he with
      | streamEnded rx' rd' _ _ hpn => exact (sockCause_of_none hokm hpn).back hf hok hcm
      | requestWriteFailed m q _ hcw _ => exact (sockCause_of_refused hcw).back hf hok hcm
      | ackWriteFailed rx' rd' fr p _ _ _ _ hcw _ => exact (sockCause_of_refused hcw).back hf hok hcm
  · cases hc with
    | writeFailed _ _ hcw => exact sockCause_of_refused hcw
    | response w0 _ h1 h2 hf =>
      have e0 : w0.rx = w.rx ∧ w0.reader = w.reader := by
        cases s with
        | true => rw [h1 rfl]; exact ⟨rfl, rfl⟩
        | false => exact ⟨(h2 rfl).2.2.1, (h2 rfl).2.2.2.1⟩
      cases hf with
      | streamEnded rx' rd' hpn =>
        rw [e0.1, e0.2] at hpn
        exact sockCause_of_none hok hpn

def pktOfIn : CIn → Option RxPacket
  | .pkt p _ _ => some p
  | _ => none

def okOf (fr : Bytes) : Option RxPacket :=
  match decodeRx fr with
  | .ok p => some p
  | _ => none

theorem iter_cases {w : World} (hq : w.queue = []) :
    iterFrames w = [] ∧ w.iterIn = none ∨
    ∃ fr, iterFrames w = [fr] ∧ w.iterIn = match decodeRx fr with | .ok p => some (w.inPkt p) | _ => none := by
  unfold iterIn iterFrames nextFrame
  simp only [hq]
  split
  · exact .inl ⟨rfl, rfl⟩
  · generalize pollNext w.rx w.reader = r
    obtain ⟨rx', rd', o⟩ := r
    cases o with
    | item fr => exact .inr ⟨fr, rfl, rfl⟩
    | none => exact .inl ⟨rfl, rfl⟩
    | pending => exact .inl ⟨rfl, rfl⟩

theorem iter_pkts (w : World) : w.iterIn.toList.filterMap pktOfIn = (iterFrames w).filterMap okOf := by
  cases hq : w.queue with
  | cons m q => simp [iterIn, iterFrames, hq, pktOfIn, inMsg]
  | nil =>
    rcases iter_cases hq with ⟨e1, e2⟩ | ⟨fr, e1, e2⟩ <;> rw [e1, e2]
    · rfl
    · cases hd : decodeRx fr <;> simp [okOf, hd, pktOfIn, inPkt]

end W12
end World
end Poster

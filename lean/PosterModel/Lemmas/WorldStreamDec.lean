/-
  Every primitive of `World` is a sequence of stream moves (`SMove`): the context task, the handle futures, the streams,
  one poll of any task. For the context task the trace is built next to the history of the context: its `.ctx` labels
  are, in order, exactly the effectful events of the poll (`HEv.src?`: handler calls, `run()` preludes, the drop and the
  creation of the context).
-/
import PosterModel.Lemmas.WorldStreamInv
import PosterModel.Lemmas.WorldHist
import PosterModel.Lemmas.WorldIdsOp
import PosterModel.Properties.C07

namespace Poster
open Framing

/-- the events of the history that the stream traces label `.ctx src` -/
def HEv.src? : HEv → Option World.CtxSrc
  | .handler c i => some (.handler c i)
  | .resume c => some (.resume c)
  | .dropCtx q c => some (.dropCtx q c)
  | .fresh => some .fresh
  | _ => none

def evSrcs (h : List HEv) : List World.CtxSrc := h.filterMap HEv.src?

@[simp] theorem evSrcs_nil : evSrcs [] = [] := rfl
@[simp] theorem evSrcs_append (a b : List HEv) : evSrcs (a ++ b) = evSrcs a ++ evSrcs b := by
  simp [evSrcs, List.filterMap_append]
theorem evSrcs_cons (e : HEv) (t : List HEv) : evSrcs (e :: t) = e.src?.toList ++ evSrcs t := by
  simp only [evSrcs, List.filterMap_cons]
  cases e.src? <;> rfl

namespace World
open W7

theorem handlePkt_delivers_alive (c : Ctx) (alive : Nat → Bool) (p : RxPacket) (wok : Bool) :
    ∀ ch q, (ch, q) ∈ deliversOf (c.handlePkt alive p wok).2.1 → alive ch = true := by
  intro ch q h
  obtain ⟨e, he, hm⟩ := List.mem_filterMap.mp h
  cases Ctx.handlePkt_effs c alive p wok e he with
  | deliver pb ch' _ ha => cases hm; exact ha
  | write | send | dropChan => cases hm

theorem chanRxAlive_some (w : World) (ch : Nat) (h : w.chanRxAlive ch = true) : w.chan ch ≠ none := by
  unfold chanRxAlive at h
  cases hv : w.chan ch with
  | none => rw [hv] at h; cases h
  | some c0 => simp

theorem live_inMsg (w : World) (m : Msg) :
    ∀ ch q, (ch, q) ∈ deliversOf (w.c.stepIn (w.inMsg m)).2.effs → w.chan ch ≠ none := by
  intro ch q h
  rw [stepIn_inMsg] at h
  simp only [CObs.effs, Ctx.deliversOf_handleMsg] at h
  cases h

theorem live_inPkt (w : World) (p : RxPacket) :
    ∀ ch q, (ch, q) ∈ deliversOf (w.c.stepIn (w.inPkt p)).2.effs → w.chan ch ≠ none := by
  intro ch q h
  rw [stepIn_inPkt] at h
  exact chanRxAlive_some w ch (handlePkt_delivers_alive _ _ _ _ ch q h)

theorem smove_applyEffs (w w0 : World) (src : CtxSrc) (ok : SrcOk w src) (h1 : w0.chans = w.chans)
    (h2 : w0.ops = w.ops) (h3 : w0.out = w.out) (h4 : w0.c = src.after)
    (live : ∀ ch q, (ch, q) ∈ deliversOf src.effs → w.chan ch ≠ none) (hsub : SubFrame w w0) :
    SMove (.ctx src) w (w0.applyEffs src.effs) :=
  .ctx src ok (by rw [applyEffs_chans_eq, h1]) (by simp [h4]) (by simp [h2])
    (sqExt_of_outExt (outExt_trans (outExt_of_eq h3) (applyEffs_outExt w0 _))) live
    (subFrame_trans hsub (subFrame_of_eq (by simp) (by simp) (by simp)))

theorem psids_cons (w : World) (m : Msg) (q : List Msg) (hq : w.queue = m :: q) :
    psids w = m.sid?.toList ++ (q.filterMap Msg.sid? ++ w.c.subs.map (·.1)) := by
  simp only [psids, hq, List.filterMap_cons]
  cases m.sid? <;> rfl

theorem subFrame_handleMsg (w : World) (m : Msg) (q : List Msg) (hq : w.queue = m :: q) (wok : Bool) :
    SubFrame w ({ w with queue := q, c := (w.c.handleMsg m wok).1 } : World) := by
  -- the table gets the message's own identifier or nothing (`Ctx.handleMsg_subs`): up to order, some of those in flight
  have hk : ((Ctx.newSubs w.c m).map (·.1)).Sublist m.sid?.toList := by
    cases m with
    | subscribe aid sid pkt s ch =>
      simp only [Ctx.newSubs]
      split
      · exact List.Sublist.refl _
      · exact List.nil_sublist _
    | ff | awaitAck => exact List.nil_sublist _
  have hsub := hk.append (List.Sublist.refl (q.filterMap Msg.sid? ++ w.c.subs.map (·.1)))
  rw [← psids_cons w m q hq] at hsub
  have hperm : (psids ({ w with queue := q, c := (w.c.handleMsg m wok).1 } : World)).Perm
      ((Ctx.newSubs w.c m).map (·.1) ++ (q.filterMap Msg.sid? ++ w.c.subs.map (·.1))) := by
    simp only [psids, Ctx.handleMsg_subs, List.map_append]
    rw [← List.append_assoc]
    exact List.perm_append_comm
  exact ⟨rfl, fun hn => hperm.nodup_iff.mpr (hsub.nodup hn), fun x hx => hsub.subset (hperm.mem_iff.mp hx)⟩

theorem subFrame_handlePkt (w : World) (rx' : Rx) (rd' : List ReadEv) (alive : Nat → Bool) (p : RxPacket)
    (wok : Bool) : SubFrame w ({ w with rx := rx', reader := rd', c := (w.c.handlePkt alive p wok).1 } : World) := by
  refine subFrame_of_sublist rfl ?_
  exact List.Sublist.append (List.Sublist.refl _) ((Ctx.handlePkt_subs_sublist w.c alive p wok).map _)

theorem subFrame_resume (w : World) : SubFrame w ({ w with c := w.c.resume.1, task := .running true } : World) := by
  refine subFrame_of_sublist rfl ?_
  have hs : w.c.resume.1.subs.Sublist w.c.subs := by
    rcases Ctx.resume_fst_cases w.c with e | e | e <;> rw [e]
    · exact List.Sublist.refl _
    · exact List.Sublist.refl _
    · exact List.nil_sublist _
  exact List.Sublist.append (List.Sublist.refl _) (hs.map _)

theorem smove_finish (w : World) (call : Call) (r : RetRes) : SMove .tau w (w.finish call r) :=
  .logs (.of_ctxLine (.ret call r))

theorem ctxLab_tau : CtxLab .tau := Or.inl rfl
theorem ctxLab_ctx (src : CtxSrc) : CtxLab (.ctx src) := Or.inr ⟨src, rfl⟩

theorem smove_handler_msg (w : World) (m : Msg) (q : List Msg) (hq : w.queue = m :: q) :
    SMove (.ctx (.handler w.c (w.inMsg m))) w
      (({ w with queue := q, c := (w.c.stepIn (w.inMsg m)).1 } : World).applyEffs (w.c.stepIn (w.inMsg m)).2.effs) :=
  smove_applyEffs w ({ w with queue := q, c := (w.c.stepIn (w.inMsg m)).1 } : World) (.handler w.c (w.inMsg m))
    ⟨rfl, Or.inl ⟨m, q, hq, rfl⟩⟩ rfl rfl rfl rfl (live_inMsg w m) (subFrame_handleMsg w m q hq _)

theorem smove_handler_pkt (w : World) (rx' : Rx) (rd' : List ReadEv) (fr : Bytes) (p : RxPacket) (hq : w.queue = [])
    (hpn : pollNext w.rx w.reader = (rx', rd', .item fr)) (hd : decodeRx fr = .ok p) :
    SMove (.ctx (.handler w.c (w.inPkt p))) w
      (({ w with rx := rx', reader := rd', c := (w.c.stepIn (w.inPkt p)).1 } : World).applyEffs
        (w.c.stepIn (w.inPkt p)).2.effs) :=
  smove_applyEffs w ({ w with rx := rx', reader := rd', c := (w.c.stepIn (w.inPkt p)).1 } : World)
    (.handler w.c (w.inPkt p)) ⟨rfl, Or.inr ⟨p, decodeRx_wf_aux fr p hd, hq, rfl, rx', rd', fr, hpn, hd⟩⟩ rfl rfl rfl rfl
    (live_inPkt w p)
    (subFrame_handlePkt w rx' rd' _ p _)

theorem runCont_smove {w w1 : World} (h : RunCont w w1) : ∃ i, SMove (.ctx (.handler w.c i)) w w1 := by
  cases h with
  | msg m q w1 hq hr =>
    rw [runHandler_eq_stepIn_msg] at hr
    simp only [Prod.mk.injEq] at hr
    obtain ⟨rfl, _⟩ := hr
    exact ⟨w.inMsg m, smove_handler_msg w m q hq⟩
  | pkt rx' rd' fr p w1 hq hs hp hd hr =>
    rw [runHandler_eq_stepIn_pkt] at hr
    simp only [Prod.mk.injEq] at hr
    obtain ⟨rfl, _⟩ := hr
    exact ⟨w.inPkt p, smove_handler_pkt w rx' rd' fr p hq hp hd⟩

theorem smove_writeBytes (w : World) (bs : Bytes) : SMove .tau w (w.writeBytes bs) :=
  .tau (by simp) (by simp) (opsKeep_of_eq (by simp)) (sqExt_of_outExt (writeBytes_outExt w bs))
    (subFrame_of_eq (by simp) (by simp) (by simp))

theorem tr_writeBytes (w : World) (bs : Bytes) : Tr CtxLab w (w.writeBytes bs) [] [] :=
  .tau ctxLab_tau (smove_writeBytes w bs)

theorem tr_foldl_writeBytes (pkts : List Bytes) (w : World) :
    Tr CtxLab w (pkts.foldl (fun w p => w.writeBytes p) w) [] [] := by
  induction pkts generalizing w with
  | nil => exact .refl _ w
  | cons p t ih => exact (tr_writeBytes w p).trans (ih _)

theorem deliversOf_onlyDrops {es : List Eff} (h : OnlyDrops es) : deliversOf es = [] :=
  List.filterMap_eq_nil_iff.2 fun e he => by rcases h e he with ⟨_, rfl⟩ | ⟨_, rfl⟩ <;> rfl

theorem tr_resumed (w : World) : Tr CtxLab w w.resumed [] [.resume w.c] :=
  .ctx (ctxLab_ctx _) (smove_applyEffs w ({ w with c := w.c.resume.1, task := .running true } : World)
    (.resume w.c) rfl rfl rfl rfl rfl
    (fun ch q h => by
      rw [show deliversOf (CtxSrc.resume w.c).effs = [] from deliversOf_onlyDrops w.c.resume_effs_drops] at h
      cases h)
    (subFrame_resume w))

theorem trMoves : CtxMoves (fun w w' h => Tr CtxLab w w' [] (evSrcs h)) := .of_prims
  (nil := fun w => .refl _ w)
  (trans := fun h1 h2 => by rw [evSrcs_append]; exact h1.trans h2)
  (priv := fun _ _ _ _ => .quiet ctxLab_tau rfl rfl rfl rfl)
  (read := fun _ _ _ _ _ => .quiet ctxLab_tau rfl rfl rfl rfl)
  (wake := fun w => .tau ctxLab_tau (smove_wake (.quiet rfl rfl rfl rfl) _))
  (log := fun w o ho => .tau ctxLab_tau (.logs (.of_ctxLine (Or.inr ho))))
  (msg := fun w m q hq => .ctx (ctxLab_ctx _) (smove_handler_msg w m q hq))
  (pkt := fun w rx' rd' fr p hq hp hd => .ctx (ctxLab_ctx _) (smove_handler_pkt w rx' rd' fr p hq hp hd))
  (connack := fun w k => .tau ctxLab_tau (.tau rfl (Ctx.handleConnack_frame w.c k).2.2.1 (opsKeep_of_eq rfl)
    (outExtP_of_eq rfl) (subFrame_of_eq rfl rfl (Ctx.handleConnack_frame w.c k).2.2.1)))
  (request := fun w call t a => by
    have h0 : Tr CtxLab w (seiSet w call t) [] [] := by
      cases call with
      | connect =>
        exact .tau ctxLab_tau (.tau rfl rfl (opsKeep_of_eq rfl) (outExtP_of_eq rfl))
      | authorize => exact .refl _ w
      | run => exact .refl _ w
    exact h0.trans (tr_writeBytes _ _))
  (resent := fun w => (tr_resumed w).trans1 (tr_foldl_writeBytes _ _))
  (resentFail := fun w _ => (tr_resumed w).trans1 (tr_writeBytes _ _))


theorem pollCtx_tr (w : World) : Tr CtxLab w w.pollCtx [] (evSrcs w.ctxEvs) := trMoves.pollCtx w

theorem runLoop_dec (f : Nat) (w : World) : Dec CtxLab w (runLoop f w) :=
  runLoop_is_a_resolution f w ▸ (trMoves.loop.runLoopS f w).dec


theorem opsKeep_erase {w w' : World} (id : Nat) (hn : (w.ops.map (·.1)).Nodup) (hex : w.opSt id ≠ none)
    (h : w'.ops = eraseFirst id w.ops) : OpsKeep w w' := by
  intro n
  by_cases hid : n = id
  · subst hid
    exact Or.inr ⟨hex, fun hd r => by rw [opSt_erase n hn h]; exact nofun⟩
  · left
    simp only [opSt, h]
    exact lookupFirst_eraseFirst_of_ne hid w.ops

theorem opsKeep_setWait {w w' : World} (id s : Nat) (k : Wait) (hex : w.opSt id ≠ none)
    (h : w'.ops = setAssoc id (.wait s k) w.ops) : OpsKeep w w' := by
  intro n
  by_cases hid : n = id
  · subst hid
    exact Or.inr ⟨hex, fun hd r => by rw [opSt_setWait n s k h]; exact nofun⟩
  · left
    simp only [opSt, h]
    exact lookupFirst_setAssoc_of_ne hid _ w.ops

theorem opLab_tau (id : Nat) : OpLab id .tau := Or.inl rfl

theorem newFrame_of_eq {w w' : World} (sc : w'.subCtr = nextSub w.subCtr) (h : psids w' = psids w) : NewFrame w w' :=
  ⟨sc, by rw [h]; exact fun hn _ => hn, by rw [h]; exact fun _ hs => Or.inl hs⟩

theorem newFrame_of_perm {w w' : World} (sc : w'.subCtr = nextSub w.subCtr)
    (h : (psids w').Perm (w.subCtr :: psids w)) : NewFrame w w' := by
  refine ⟨sc, fun hn hne => h.symm.nodup (List.nodup_cons.mpr ⟨fun hm => hne _ hm rfl, hn⟩), fun x hx => ?_⟩
  rcases List.mem_cons.mp (h.mem_iff.mp hx) with e | e
  · exact Or.inr e
  · exact Or.inl e

theorem allocFor_subCtr (w : World) (req : Req) (h : ∀ t, req ≠ .subscribe t) : (w.allocFor req).subCtr = w.subCtr := by
  rw [W10.allocFor_subCtr]; cases req <;> first | rfl | exact absurd rfl (h _)

theorem SendWhy.sid {w : World} {id : Nat} {st : OpSt} {m : Msg} {s : Nat} {k : Wait} (h : SendWhy w id st m s k) :
    (m.sid? = none ∧ ∀ hd t, st ≠ .fresh hd (.subscribe t)) ∨
    (m.sid? = some w.subCtr ∧ ∃ hd t, st = .fresh hd (.subscribe t)) := by
  rcases h with ⟨hd, req, rfl, rfl, _, _⟩ | ⟨s0, a, rfl, _, _, rfl, _, _⟩
  · cases req with
    | subscribe t => exact Or.inr ⟨rfl, hd, t, rfl⟩
    | publish t => refine Or.inl ⟨?_, nofun⟩; simp only [reqMsg]; split <;> rfl
    | _ => exact Or.inl ⟨rfl, nofun⟩
  · exact Or.inl ⟨rfl, nofun⟩

theorem pollOp_dec (w : World) (id : Nat) (hi : OpsInv w) : Dec (OpLab id) w (w.pollOp id) := by
  rcases pollOp_spec w id with ⟨_, e⟩ | ⟨s, k, _, _, e⟩ | ⟨st, w0, hop, hp, hend | hsend⟩
  · rw [e]; exact .refl _ w
  · rw [e]; exact Dec.quiet (opLab_tau id) rfl rfl rfl rfl
  · -- the future ends
    obtain ⟨o, ho, e, _, hch⟩ := hend
    obtain ⟨wk, qr, e'⟩ := endOp_shape w0 id o
    have hex : w.opSt id ≠ none := by rw [hop]; simp
    have gone : ∀ {w' : World}, w'.ops = eraseFirst id w.ops → ∀ h r, w'.opSt id ≠ some (.fresh h r) :=
      fun e h r => by rw [opSt_erase id hi.nodup e]; exact nofun
    rw [e, e']
    cases hp with
    | wait s k rs =>
      exact .one (.tau rfl rfl (opsKeep_erase id hi.nodup hex rfl) (outExtP_one o rfl (.of_endObs ho))) (opLab_tau id)
    | fresh hd req ch hc =>
      by_cases hs : ∃ t, req = .subscribe t
      · obtain ⟨t, rfl⟩ := hs
        rcases hch with hch | hch
        · -- refused: the identifiers are taken, nothing else happens
          have hch : ch = w.chans := hch
          subst hch
          exact .one (.alloc id hd (.subscribe t) hop (gone rfl) (opsKeep_erase id hi.nodup hex rfl) rfl rfl
            (outExtP_one o rfl (.of_endObs ho)) (newFrame_of_eq rfl rfl)) (Or.inr (Or.inr (Or.inr rfl)))
        · -- the context is gone: created, dropped, failed
          have hch : ch = eraseFirst id (setAssoc id {} w.chans) := hch
          subst hch
          let wA : World := { w with chans := setAssoc id {} w.chans, ops := eraseFirst id w.ops,
                                     subCtr := nextSub w.subCtr }
          let wB : World := { wA with chans := eraseFirst id wA.chans }
          have m1 : SMove (.new id) w wA :=
            .new id hd (.subscribe t) hop (gone rfl) (opsKeep_erase id hi.nodup hex rfl) rfl rfl rfl
              (newFrame_of_eq rfl rfl)
          have m2 : SMove (.dropRx id) wA wB := .dropRx id rfl rfl (opsKeep_of_eq rfl) rfl
          exact ((Dec.one m1 (Or.inr (Or.inl rfl))).trans (.one m2 (Or.inr (Or.inr (Or.inl rfl))))).trans
            (.one (.logs (.of_endObs ho)) (opLab_tau id))
      · have hns : ∀ t, req ≠ .subscribe t := fun t e => hs ⟨t, e⟩
        have hch : ch = w.chans := hc.resolve_right fun ⟨t, e, _⟩ => hns t e
        subst hch
        exact .one (.tau rfl rfl (opsKeep_erase id hi.nodup hex rfl) (outExtP_one o rfl (.of_endObs ho))
          (subFrame_of_eq (allocFor_subCtr w req hns) rfl rfl)) (opLab_tau id)
  · -- the future sends a message and waits
    obtain ⟨m, s, k, hw, hc, e, hsub, _⟩ := hsend
    obtain ⟨wk, qr, e'⟩ := User.sendAwait_ctx w0 m id s k hc
    have hex : w.opSt id ≠ none := by rw [hop]; simp
    rw [e, e']
    rcases hw.sid with ⟨hm, hns⟩ | ⟨hm, hd, t, rfl⟩
    · -- not a SUBSCRIBE: no channel, no subscription identifier
      have hps : ∀ (q : List Msg), (q ++ [m]).filterMap Msg.sid? = q.filterMap Msg.sid? := fun q => by
        rw [List.filterMap_append, List.filterMap_cons, hm, List.filterMap_nil, List.append_nil]
      cases hp with
      | wait s0 k0 rs =>
        exact .one (.tau rfl rfl (opsKeep_setWait id s k hex rfl) (outExtP_of_eq rfl)
          (subFrame_of_psids rfl (by show _ ++ _ = _; rw [hps]; rfl))) (opLab_tau id)
      | fresh hd req ch hc' =>
        have hnr : ∀ t, req ≠ .subscribe t := fun t e => hns hd t (by rw [e])
        have hch : ch = w.chans := hc'.resolve_right fun ⟨t, e, _⟩ => hnr t e
        subst hch
        exact .one (.tau rfl rfl (opsKeep_setWait id s k hex rfl) (outExtP_of_eq rfl)
          (subFrame_of_psids (allocFor_subCtr w req hnr) (by show _ ++ _ = _; rw [hps]; rfl))) (opLab_tau id)
    · -- the SUBSCRIBE: the channel is created, its identifier is in flight
      have hch := hsub hd t rfl
      cases hp with
      | fresh _ _ ch hc' =>
        have hch : ch = setAssoc id {} w.chans := hch
        subst hch
        refine .one (.new id hd (.subscribe t) hop (fun h r => ?_) (opsKeep_setWait id s k hex rfl) rfl rfl rfl
          (newFrame_of_perm rfl ?_)) (Or.inr (Or.inl rfl))
        · rw [opSt_setWait id s k rfl]; exact nofun
        · show ((w.queue ++ [m]).filterMap Msg.sid? ++ w.c.subs.map (·.1)).Perm _
          rw [List.filterMap_append, List.filterMap_cons, hm, List.append_assoc]
          exact List.perm_middle

theorem psids_pollOp (w : World) (j : Nat) (hns : ∀ h t, w.opSt j ≠ some (.fresh h (.subscribe t))) :
    psids (w.pollOp j) = psids w := by
  rcases pollOp_spec w j with ⟨_, e⟩ | ⟨s, k, _, _, e⟩ | ⟨st, w0, hop, hp, ⟨o, _, e, _⟩ | ⟨m, s, k, hw, hc, e, _⟩⟩
  · rw [e]
  · rw [e]; rfl
  · obtain ⟨wk, qr, e'⟩ := endOp_shape w0 j o
    rw [e, e']
    cases hp <;> rfl
  · obtain ⟨wk, qr, e'⟩ := User.sendAwait_ctx w0 m j s k hc
    rw [e, e']
    have hm : m.sid? = none := by
      rcases hw.sid with ⟨hm, _⟩ | ⟨_, hd, t, rfl⟩
      · exact hm
      · exact absurd hop (hns hd t)
    have : psids w0 = psids w := by cases hp <;> rfl
    show (w0.queue ++ [m]).filterMap Msg.sid? ++ _ = _
    rw [List.filterMap_append, List.filterMap_cons, hm, List.filterMap_nil, List.append_nil]
    exact this

/-- **a handle future is dropped**: a `subscribe()` waiting for its SUBACK takes its channel with it -/
theorem dropOp_dec (w : World) (id : Nat) (hi : OpsInv w) : Dec (OpLab id) w (w.dropOp id) := by
  have gone : ∀ (w0 : World), w0.chans = w.chans → w0.c = w.c → w0.ops = w.ops → w0.out = w.out →
      w0.queue = w.queue → w0.subCtr = w.subCtr → w.opSt id ≠ none → Dec (OpLab id) w (w0.eraseOp id) := by
    intro w0 a b c d q sc hex
    obtain ⟨wk, qr, e⟩ := eraseOp_shape w0 id
    rw [e]
    exact .one (.tau a (by rw [← b]) (opsKeep_erase id hi.nodup hex (by rw [← c])) (outExtP_of_eq d)
      (subFrame_of_eq sc q (by rw [← b]))) (opLab_tau id)
  rcases dropOp_cases w id with ⟨_, e⟩ | ⟨_, _, hop, e⟩ | ⟨s, k, hop, _, e⟩ | ⟨s, hop, e⟩ <;> rw [e]
  · exact .refl _ w
  · exact gone w rfl rfl rfl rfl rfl rfl (by rw [hop]; simp)
  · -- unfolded first: `rfl` through a function that returns a record update is slow to elaborate
    unfold clearSlot
    exact gone _ rfl rfl rfl rfl rfl rfl (by rw [hop]; simp)
  · obtain ⟨wk, qr, e'⟩ := eraseOp_shape ((w.clearSlot s).dropChanRx id) id
    rw [e']
    unfold dropChanRx clearSlot
    exact .one (.dropRx id rfl rfl (opsKeep_erase id hi.nodup (by rw [hop]; simp) rfl) rfl) (Or.inr (Or.inr (Or.inl rfl)))

theorem pollStream_dec (w : World) (id : Nat) : Dec (StLab id) w (w.pollStream id) := by
  rcases pollStream_shape w id with ⟨_, e⟩ | ⟨ch, p, rest, _, hc, hb, e⟩ | ⟨ch, _, hc, hb, ht, e⟩ | ⟨ch, _, hc, hb, ht, e⟩ <;>
    rw [e]
  · exact .refl _ w
  · exact .one (.pop id p ch rest hc hb rfl rfl (opsKeep_of_eq rfl) rfl)
      (Or.inr (Or.inl ⟨p, rfl⟩))
  · exact .one (.park id ch hc hb ht rfl rfl (opsKeep_of_eq rfl) rfl)
      (Or.inr (Or.inr (Or.inl rfl)))
  · exact .one (.endS id ch hc hb ht rfl rfl (opsKeep_of_eq rfl) rfl)
      (Or.inr (Or.inr (Or.inr rfl)))

theorem taskLab_tau (t : Task) : TaskLab t .tau := by
  cases t with
  | ctx => exact ctxLab_tau
  | op id => exact opLab_tau id
  | st id => exact Or.inl rfl

theorem opLab_plain {id : Nat} {l : SLab} (h : OpLab id l) : l.issued = none ∧ l.src? = none := by
  rcases h with rfl | rfl | rfl | rfl <;> exact ⟨rfl, rfl⟩

theorem stLab_plain {id : Nat} {l : SLab} (h : StLab id l) : l.issued = none ∧ l.src? = none := by
  rcases h with rfl | ⟨p, rfl⟩ | rfl | rfl <;> exact ⟨rfl, rfl⟩

theorem pollTask_tr (w : World) (t : Task) (hi : OpsInv w) :
    Tr (TaskLab t) w (w.pollTask t) [] (evSrcs (w.taskEvs t)) := by
  have h0 : Tr (TaskLab t) w (w.unwake t) [] [] := .quiet (taskLab_tau t) rfl rfl rfl rfl
  cases t with
  | ctx => exact h0.trans (pollCtx_tr _)
  | op id => exact h0.trans (.of_dec (pollOp_dec _ id (hi.unwake _)) (fun _ => opLab_plain))
  | st id => exact h0.trans (.of_dec (pollStream_dec _ id) (fun _ => stLab_plain))

end World
end Poster

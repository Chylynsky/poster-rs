/-
  What the decoder guarantees about the packets `handle_packet` receives (`RxPacket.wf` of CtxRun.lean): packet identifiers
  are non-zero 16-bit numbers, an inbound PUBLISH has QoS ≤ 2 and a packet identifier exactly when its QoS is not 0.
-/
import PosterModel.CtxRun
import PosterModel.Lemmas.NoPanic

namespace Poster

theorem decNzU16_range {d : Bytes} {n : Nat} (h : decNzU16 d = .ok n) : 0 < n ∧ n < 65536 := by
  unfold decNzU16 at h
  match d, h with
  | a :: b :: _, h =>
    have ha := a.toNat_lt
    have hb := b.toNat_lt
    simp only [decU16, Res.bind_ok] at h
    split at h
    · simp at h
    · simp only [Res.ok.injEq] at h; omega
  | [_], h => simp [decU16] at h
  | [], h => simp [decU16] at h

theorem dNzU16_range {d d' : Bytes} {n : Nat} (h : dNzU16 d = .ok (n, d')) : 0 < n ∧ n < 65536 :=
  decNzU16_range (tryDec_ok h).1

theorem foldProps_inv {β α} (step : β → Property → Option β) (f : β → α)
    (hs : ∀ b p b', step b p = some b' → f b' = f b) (n : Nat) (bs : Bytes) (b b' : β)
    (h : foldProps step n bs b = .ok b') : f b' = f b :=
  foldProps_ok_induct (motive := fun _ b => f b' = f b) rfl (fun _ hst ih => ih.trans (hs _ _ _ hst)) n bs b h

theorem AckRx.step_packetId (b : AckRx) (p : Property) (b' : AckRx) (h : b.step p = some b') :
    b'.packetId = b.packetId := by
  unfold AckRx.step at h
  split at h <;> simp at h <;> rw [← h]

theorem SubackRx.step_packetId (b : SubackRx) (p : Property) (b' : SubackRx) (h : b.step p = some b') :
    b'.packetId = b.packetId := by
  unfold SubackRx.step at h
  split at h <;> simp at h <;> rw [← h]

theorem PublishRx.step_qos_pid (b : PublishRx) (p : Property) (b' : PublishRx) (h : b.step p = some b') :
    (b'.qos, b'.packetId) = (b.qos, b.packetId) := by
  unfold PublishRx.step at h
  split at h <;> simp at h <;> rw [← h]

theorem decAck_wf (hdr : Nat) (ok : Nat → Bool) (bs : Bytes) (a : AckRx) (h : decAck hdr ok bs = .ok a) :
    0 < a.packetId ∧ a.packetId < 65536 := by
  simp only [decAck, Res.bind_eq_ok, Res.ite_err_eq_ok] at h
  obtain ⟨⟨h0, d0⟩, _, _, ⟨rl, d1⟩, _, _, ⟨pid, d2⟩, hpid, h⟩ := h
  have hr := dNzU16_range hpid
  split at h
  · cases h; exact hr
  simp only [Res.bind_eq_ok] at h
  obtain ⟨⟨reason, d3⟩, _, h⟩ := h
  split at h
  · cases h; exact hr
  simp only [Res.bind_eq_ok, Res.ite_err_eq_ok] at h
  obtain ⟨⟨pl, d4⟩, _, _, h⟩ := h
  rw [foldProps_inv AckRx.step (·.packetId) AckRx.step_packetId _ _ _ _ h]; exact hr

theorem decSubackLike_wf (hdr : Nat) (ok : Nat → Bool) (bs : Bytes) (a : SubackRx)
    (h : decSubackLike hdr ok bs = .ok a) : 0 < a.packetId ∧ a.packetId < 65536 := by
  simp only [decSubackLike, Res.bind_eq_ok, Res.ite_err_eq_ok, Res.ok.injEq] at h
  obtain ⟨⟨h0, d0⟩, _, _, ⟨rl, d1⟩, _, _, ⟨pid, d2⟩, hpid, ⟨pl, d3⟩, _, _, c, hc, d4, _, rs, _, rfl⟩ := h
  rw [show c.packetId = pid from foldProps_inv SubackRx.step (·.packetId) SubackRx.step_packetId _ _ _ _ hc]
  exact dNzU16_range hpid

theorem decPublish_wf (bs : Bytes) (p : PublishRx) (h : decPublish bs = .ok p) : p.wf := by
  simp only [decPublish, Res.bind_eq_ok, Res.ite_err_eq_ok, Res.ok.injEq] at h
  obtain ⟨⟨hdr, d0⟩, _, _, hq3, ⟨rl, d1⟩, _, _, ⟨topic, d2⟩, _, ⟨pid, d3⟩, hpid, ⟨pl, d4⟩, _, _, c, hc, d5, _, rfl⟩ := h
  have hinv := foldProps_inv PublishRx.step (fun b => (b.qos, b.packetId)) PublishRx.step_qos_pid _ _ _ _ hc
  simp only [Prod.mk.injEq] at hinv
  simp only [PublishRx.wf, hinv.1, hinv.2]
  split at hpid
  · rename_i hq0
    cases hpid
    simp [hq0]
  · rename_i hq0
    obtain ⟨⟨n, d'⟩, hn, hpid⟩ := (Res.map_eq_ok ..).mp hpid
    cases hpid
    exact ⟨by omega, by simp [hq0], fun pid' hp => by cases hp; exact dNzU16_range hn⟩

theorem decodeRx_wf_aux (bs : Bytes) (p : RxPacket) (h : decodeRx bs = .ok p) : p.wf := by
  have h := decodeRx_ok h
  -- `wf` is `True` except for the seven types that carry an identifier
  cases p with
  | publish a => exact decPublish_wf _ _ h
  | puback a | pubrec a | pubrel a | pubcomp a => exact decAck_wf _ _ _ _ h
  | suback a | unsuback a => exact decSubackLike_wf _ _ _ _ h
  | connack a | pingresp | disconnect a | auth a => trivial

end Poster

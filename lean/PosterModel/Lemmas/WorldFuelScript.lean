/-
  C04, script level: after every step of every script the executor is quiescent (both drains of the step reach
  `pick = none` within `drainFuel`), under any resolution of the `select!` of `run()`; so the fuel side conditions
  of the C16 theorems (`stepFuelOk`, `stepsFuelOk`) always hold.
-/
import PosterModel.Lemmas.WorldFuel
import PosterModel.Lemmas.WorldPanic
import PosterModel.Lemmas.WorldQuietIds
import PosterModel.Lemmas.WorldQuietFuel

namespace Poster
open Framing
namespace World
namespace W5

/-- the script has gone `bad` (it is over), or the executor is idle (`World.Quiet` is about wire lines of a transcript) -/
def Quiet (w : World) : Prop := w.bad = true ∨ w.pick = none

/-- in a quiescent reachable world every never-polled operation is held (it is flagged from birth), and an event
    creates at most one operation or releases at most one task: so at most one is ready when the drain starts — under
    any resolution of the `select!` -/
theorem nFresh_applyAny_le_one {w : World} {e : Ev} {w1 : World} (ha : ApplyAny (w.emit (.ev e)) e w1) (ho : OwnInv w)
    (hq : w.pick = none) : nFresh w1 ≤ 1 := by
  have ho0 : OwnInv (w.emit (.ev e)) := own_emit w _ ho
  have h0 : nFresh (w.emit (.ev e)) = 0 := nFresh_zero_of_quiet _ ho0 (by rw [pick_emit]; exact hq)
  have h1 : nFresh w1 ≤ nFresh (w.emit (.ev e)) + 1 := ApplyAny.lift (R := fun a b => nFresh b ≤ nFresh a + 1)
    (fun _ hp => Nat.le_succ_of_le (nFresh_pollTaskAny hp)) (nFresh_applied (apply_spec _ e) ho0) ha
  omega

theorem applyAny_ready {w : World} {e : Ev} {w1 : World} (ha : ApplyAny (w.emit (.ev e)) e w1) (ho : OwnInv w)
    (hr : RegInv w) (hp : w.pick = none) : OwnInv w1 ∧ RegInv w1 ∧ nFresh w1 ≤ 1 := by
  obtain ⟨ho1, hr1⟩ := ownReg_anyInv.applyAny ha ⟨own_emit w _ ho, regInv_emit w _ hr⟩
  exact ⟨ho1, hr1, nFresh_applyAny_le_one ha ho hp⟩

theorem drainAny_ready {w w' : World} (h : DrainAny w.drainFuel w w') (ho : OwnInv w) (hr : RegInv w)
    (hn : nFresh w ≤ 30) : w'.pick = none ∧ OwnInv w' ∧ RegInv w' ∧ nFresh w' = 0 := by
  have d := drainAny_quiet h ho hr (phi_lt_drainFuel w hn)
  obtain ⟨ho', hr'⟩ := ownReg_anyInv.drainAny h ⟨ho, hr⟩
  exact ⟨d, ho', hr', nFresh_zero_of_quiet _ ho' d⟩

theorem sweepAny_ready {w ws : World} (h : SweepAny w ws) (ho : OwnInv w) (hr : RegInv w) :
    OwnInv ws ∧ RegInv ws ∧ nFresh ws ≤ nFresh w := by
  obtain ⟨ho', hr'⟩ := ownReg_anyInv.sweepAny h ⟨ho, hr⟩
  exact ⟨ho', hr', SweepListAny.lift (R := fun a b => nFresh b ≤ nFresh a) (fun _ => Nat.le_refl _)
    (fun h1 h2 => Nat.le_trans h2 h1) (fun _ hp => nFresh_pollTaskAny hp) (h : SweepListAny _ w ws)⟩

theorem execAny_quiet {w1 w3 : World} (h : ExecAny w1 w3) (ho : OwnInv w1) (hr : RegInv w1) (hn : nFresh w1 ≤ 1) :
    w3.pick = none := by
  obtain ⟨w2, hd, hs⟩ := h
  obtain ⟨d1, ho2, hr2, hn2⟩ := drainAny_ready hd ho hr (by omega)
  split at hs
  · obtain ⟨ws, hs1, hs2⟩ := hs
    obtain ⟨ho3, hr3, hn3⟩ := sweepAny_ready hs1 ho2 hr2
    exact (drainAny_ready hs2 ho3 hr3 (by omega)).1
  · rw [hs]; exact d1

theorem step_drains_quiet (w : World) (e : Ev) (ho : OwnInv w) (hr : RegInv w) (hq : w.pick = none) :
    (drain ((w.emit (.ev e)).apply e).drainFuel ((w.emit (.ev e)).apply e)).pick = none ∧
    (drain (drain ((w.emit (.ev e)).apply e).drainFuel ((w.emit (.ev e)).apply e)).sweep.drainFuel
      (drain ((w.emit (.ev e)).apply e).drainFuel ((w.emit (.ev e)).apply e)).sweep).pick = none := by
  obtain ⟨ho1, hr1, hn1⟩ := applyAny_ready (applyAny_apply _ e) ho hr hq
  generalize (w.emit (.ev e)).apply e = w1 at ho1 hr1 hn1 ⊢
  obtain ⟨d1, ho2, hr2, hn2⟩ := drainAny_ready (drainAny_drain _ w1) ho1 hr1 (by omega)
  obtain ⟨ho3, hr3, hn3⟩ := sweepAny_ready (sweepAny_sweep _) ho2 hr2
  exact ⟨d1, (drainAny_ready (drainAny_drain _ _) ho3 hr3 (by omega)).1⟩

theorem stepFuelOk_of_quiet (w : World) (e : Ev) (ho : OwnInv w) (hr : RegInv w) (hq : Quiet w) :
    stepFuelOk w e = true := by
  unfold stepFuelOk
  rcases hq with hb | hp
  · simp [hb]
  · have := (step_drains_quiet w e ho hr hp).1
    simp [this]

theorem stepAny_pick {w : World} {e : Ev} {w' : World} (h : StepAny w e w') (ho : OwnInv w) (hr : RegInv w)
    (hq : w.pick = none) : w'.pick = none := by
  rcases h.cases with ⟨_, rfl⟩ | ⟨hb0, w1, ha, h⟩
  · exact hq
  have hb0' : (w.emit (.ev e)).bad = false := hb0
  rcases h with ⟨hb1, rfl⟩ | ⟨_, w3, hx, h⟩
  · -- `bad` was set: not by a poll; an event that sets it is refused
    rcases ha.cases with ⟨t, _, _, hp⟩ | rfl
    · rw [(pollTaskAny_pollFrame hp).bad, hb0'] at hb1; cases hb1
    · rcases applied_bad_cases (apply_spec (w.emit (.ev e)) e) with h | h
      · rw [h, pick_badScript, pick_emit]; exact hq
      · rw [h, hb0'] at hb1; cases hb1
  · obtain ⟨ho1, hr1, hn1⟩ := applyAny_ready ha ho hr hq
    have q3 := execAny_quiet hx ho1 hr1 hn1
    rcases h with rfl | ⟨_, _, rfl⟩
    · exact q3
    · rw [pick_emit]; exact q3

theorem stepsAny_pick {w : World} {evs : List Ev} {w' : World} (h : StepsAny w evs w') (ho : OwnInv w) (hr : RegInv w)
    (hq : w.pick = none) : w'.pick = none :=
  (StepsAny.ind (I := fun w => (OwnInv w ∧ RegInv w) ∧ w.pick = none)
    (fun _ h1 hi => ⟨ownReg_anyInv.stepAny h1 hi.1, stepAny_pick h1 hi.1.1 hi.1.2 hi.2⟩) h ⟨⟨ho, hr⟩, hq⟩).2

theorem pick_script (cfg : Cfg) (evs : List Ev) : (evs.foldl step { cfg := cfg }).pick = none :=
  stepsAny_pick (stepsAny_foldl evs _) (ownInv_init cfg) (regInv_init cfg) (by simp [pick, minNat])

theorem stepAny_quiet {w : World} {e : Ev} {w' : World} (h : StepAny w e w') (ho : OwnInv w) (hr : RegInv w)
    (hq : Quiet w) : Quiet w' := by
  rcases hq with hb | hp
  · rcases h.cases with ⟨_, rfl⟩ | ⟨hb0, _⟩
    · exact Or.inl hb
    · rw [hb0] at hb; cases hb
  · exact Or.inr (stepAny_pick h ho hr hp)

theorem quiet_init (cfg : Cfg) : Quiet { cfg := cfg } := Or.inr (by simp [pick, minNat])

theorem quiet_script (cfg : Cfg) (evs : List Ev) : Quiet (evs.foldl step { cfg := cfg }) :=
  Or.inr (pick_script cfg evs)

theorem stepsFuelOk_of_quiet : ∀ (evs : List Ev) (w : World), OwnInv w → RegInv w → Quiet w →
    stepsFuelOk w evs = true
  | [], _, _, _, _ => rfl
  | e :: es, w, ho, hr, hq => by
    simp only [stepsFuelOk, Bool.and_eq_true]
    exact ⟨stepFuelOk_of_quiet w e ho hr hq,
      stepsFuelOk_of_quiet es _ (own_step w e ho) (regInv_step w e ho hr) (stepAny_quiet (stepAny_step w e) ho hr hq)⟩

theorem stepsFuelOk_script (cfg : Cfg) (evs : List Ev) : stepsFuelOk { cfg := cfg } evs = true :=
  stepsFuelOk_of_quiet evs _ (ownInv_init cfg) (regInv_init cfg) (quiet_init cfg)

/-- a script that re-uses no SUBSCRIBE identifier (`evsOk`) is fine at every step: every `runOk` hypothesis of
    Properties/C16World.lean is the hypothesis `evsOk` -/
theorem runOk_of_evsOk (cfg : Cfg) (evs : List Ev) (h : evsOk { cfg := cfg } evs = true) : runOk cfg evs = true :=
  stepsOk_of_evsOk_fuelOk evs _ h (stepsFuelOk_script cfg evs)

end W5
end World
end Poster

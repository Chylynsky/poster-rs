/-
  Lemmas/PrimFacts.lean — facts about the definitions of `Prim.lean`: for the decoders, `Res` (when a `bind` / `map`
  succeeds or panics) and `tryDec`; the flag-bit arithmetic of `b2n` and of packed bytes; the digits of big-endian
  integers; and the variable byte integer: `encVar` has 1..4 bytes and writes what the standard's loop `vbi` writes,
  with which the model's `decVar` (here), the standard's parser (CodecPrim) and the standard's encoder (CodecRx) are each
  compared by induction.
-/
import PosterModel.Prim

namespace Poster

namespace Res

@[simp] theorem map_ok {α β} (f : α → β) (a : α) : (Res.ok a).map f = .ok (f a) := rfl
@[simp] theorem map_err {α β} (f : α → β) : (Res.err : Res α).map f = .err := rfl
@[simp] theorem map_panic {α β} (f : α → β) : (Res.panic : Res α).map f = .panic := rfl

theorem bind_eq_ok {α β} (r : Res α) (f : α → Res β) (b : β) :
    r.bind f = .ok b ↔ ∃ a, r = .ok a ∧ f a = .ok b := by
  cases r <;> simp

theorem map_eq_ok {α β} (r : Res α) (f : α → β) (b : β) :
    r.map f = .ok b ↔ ∃ a, r = .ok a ∧ f a = b := by
  cases r <;> simp

/-- With `bind_eq_ok` this reads `decX bs = .ok p` backwards in one `simp only [decX, bind_eq_ok, ite_err_eq_ok] at h`:
    every `bind` yields its intermediate result, every error check the negation of its condition. -/
theorem ite_err_eq_ok {α} {c : Prop} [Decidable c] {r : Res α} {a : α} :
    (if c then Res.err else r) = .ok a ↔ ¬ c ∧ r = .ok a := by
  split <;> simp [*]

theorem bind_ne_panic {α β} {r : Res α} {f : α → Res β} (h1 : r ≠ .panic) (h2 : ∀ a, f a ≠ .panic) :
    r.bind f ≠ .panic := by
  cases r with
  | ok a => exact h2 a
  | err => simp
  | panic => exact absurd rfl h1

theorem ite_ne_panic {α} {c : Prop} [Decidable c] {a b : Res α} (ha : a ≠ .panic) (hb : b ≠ .panic) :
    (if c then a else b) ≠ .panic := by split <;> assumption

theorem map_ne_panic {α β} {r : Res α} {f : α → β} (h : r ≠ .panic) : r.map f ≠ .panic :=
  bind_ne_panic h fun _ => by simp

theorem of_bind_guard {α} {r : Res α} {c : α → Prop} [DecidablePred c] {v : α}
    (h : (r.bind fun n => if c n then .err else .ok n) = .ok v) : r = .ok v ∧ ¬ c v := by
  obtain ⟨n, hn, h⟩ := (bind_eq_ok ..).mp h
  split at h
  · cases h
  · cases h; exact ⟨hn, ‹_›⟩

end Res

theorem tryDec_ok {α} {dec : Bytes → Res α} {len : α → Nat} {d : Bytes} {v : α} {r : Bytes}
    (h : tryDec dec len d = .ok (v, r)) : dec d = .ok v ∧ len v ≤ d.length ∧ r = d.drop (len v) := by
  unfold tryDec at h
  split at h
  · rename_i w hd
    split at h
    · cases h; exact ⟨hd, ‹_›, rfl⟩
    · cases h
  · cases h
  · cases h

theorem tryDec_length_le {α} {dec : Bytes → Res α} {len : α → Nat} {d : Bytes} {v : α} {r : Bytes}
    (h : tryDec dec len d = .ok (v, r)) : r.length ≤ d.length := by
  obtain ⟨_, _, rfl⟩ := tryDec_ok h
  simp [List.length_drop]

theorem tryDec_ne_panic {α} {dec : Bytes → Res α} {len : α → Nat} {d : Bytes} (hp : dec d ≠ .panic)
    (hl : ∀ v, dec d = .ok v → len v ≤ d.length) : tryDec dec len d ≠ .panic := by
  unfold tryDec
  cases h : dec d with
  | ok v => simp [hl v h]
  | err => simp
  | panic => exact absurd h hp

theorem b2n_le (b : Bool) : b2n b ≤ 1 := by cases b <;> decide

/-- reading a flag back: once arithmetic has shown that the extracted bit `x` is `b2n b`, comparing it with 1 gives `b` -/
theorem beq_one_of_eq_b2n {x : Nat} {b : Bool} (h : x = b2n b) : (x == 1) = b := by
  subst h; cases b <;> rfl

theorem decide_eq_one_of_eq_b2n {x : Nat} {b : Bool} (h : x = b2n b) : decide (x = 1) = b := by
  subst h; cases b <;> rfl

theorem ite_eq_b2n_mul (b : Bool) (k : Nat) : (if b then k else 0) = b2n b * k := by cases b <;> simp [b2n]

/-- peeling the lowest field (width `k`) off a packed number: what is left, and the field -/
theorem div_mod_field {a x k : Nat} (hx : x < k) : (a * k + x) / k = a ∧ (a * k + x) % k = x := by
  have hk : 0 < k := Nat.zero_lt_of_lt hx
  rw [Nat.mul_comm, Nat.mul_add_div hk, Nat.mul_add_mod, Nat.div_eq_of_lt hx, Nat.mod_eq_of_lt hx]
  exact ⟨rfl, rfl⟩

/-- the same at weight `m`: once `fl / m` is known field by field, so are the field at `m` and `fl / (m * k)` -/
theorem field_step {fl a x m k : Nat} (h : fl / m = a * k + x) (hx : x < k) : fl / (m * k) = a ∧ fl / m % k = x := by
  rw [← Nat.div_div_eq_div_mul, h]
  exact div_mod_field hx

theorem u16_digits {n : Nat} (h : n < 65536) : n / 256 % 256 * 256 + n % 256 = n := by omega
theorem u32_digits {n : Nat} (h : n < 4294967296) :
    ((n / 16777216 % 256 * 256 + n / 65536 % 256) * 256 + n / 256 % 256) * 256 + n % 256 = n := by
  -- `Nat.mod_mul` splits off one digit at a time; what is left for `omega` mentions no division
  have h1 : n % (16777216 * 256) = _ := Nat.mod_mul
  have h2 : n % (65536 * 256) = _ := Nat.mod_mul
  have h3 : n % (256 * 256) = _ := Nat.mod_mul
  rw [Nat.mod_eq_of_lt h] at h1
  generalize n / 16777216 % 256 = a, n / 65536 % 256 = b, n / 256 % 256 = c at *
  generalize n % 16777216 = r1, n % 65536 = r2, n % 256 = d at *
  omega

theorem varLen_pos (n : Nat) : 0 < varLen n := by
  unfold varLen; repeat' split
  all_goals omega
theorem varLen_le_four (n : Nat) : varLen n ≤ 4 := by
  unfold varLen; repeat' split
  all_goals omega

theorem varLen_eq (n : Nat) : varLen n = (encVar n).length := by
  unfold varLen encVar
  repeat' split
  all_goals rfl

@[simp] theorem encVar_ne_nil (n : Nat) : encVar n ≠ [] := by
  intro h
  have := varLen_pos n
  rw [varLen_eq, h] at this
  exact Nat.lt_irrefl 0 this

/-- The variable byte integer as the standard's loop writes it: seven bits per byte, least significant group first,
    bit 7 = "more follows"; at most `fuel` bytes. `encVar` writes these bytes (`encVar_eq_vbi`), and the decoders, which
    are loops over the bytes, are compared with the loop by induction (`decVarAux_vbi`, and `pVarAux_vbi` for the
    standard's parser). -/
def vbi : Nat → Nat → Bytes
  | 0, _ => []
  | f + 1, x => if x < 128 then [UInt8.ofNat x] else UInt8.ofNat (x % 128 + 128) :: vbi f (x / 128)

theorem vbi_lt {x : Nat} (f : Nat) (h : x < 128) : vbi (f + 1) x = [UInt8.ofNat x] := if_pos h
theorem vbi_ge {x : Nat} (f : Nat) (h : ¬ x < 128) :
    vbi (f + 1) x = UInt8.ofNat (x % 128 + 128) :: vbi f (x / 128) := if_neg h

theorem vbi_last {x : Nat} (h : x < 128) : (UInt8.ofNat x).toNat = x := by
  rw [u8_toNat_ofNat, Nat.mod_eq_of_lt (Nat.lt_trans h (by decide))]

theorem vbi_cont (x : Nat) :
    (UInt8.ofNat (x % 128 + 128)).toNat = x % 128 + 128 ∧ ¬ x % 128 + 128 < 128 ∧ (x % 128 + 128) % 128 = x % 128 :=
  ⟨by rw [u8_toNat_ofNat, Nat.mod_eq_of_lt (Nat.add_lt_add_right (Nat.mod_lt x (by decide)) 128)],
   Nat.not_lt.mpr (Nat.le_add_left _ _), by rw [Nat.add_mod_right, Nat.mod_mod]⟩

theorem vbi_horner (acc x mult : Nat) : acc + x % 128 * mult + x / 128 * (mult * 128) = acc + x * mult := by
  rw [Nat.add_assoc, Nat.mul_comm mult 128, ← Nat.mul_assoc, ← Nat.add_mul, Nat.mul_comm (x / 128) 128, Nat.mod_add_div]

theorem vbi_rest {f x : Nat} (hx : x < 128 ^ (f + 2)) : x / 128 < 128 ^ (f + 1) :=
  Nat.div_lt_of_lt_mul (by rw [Nat.mul_comm, ← Nat.pow_succ]; exact hx)

theorem encVar_eq_vbi (n : Nat) (h : n < 268435456) : encVar n = vbi 4 n := by
  have d2 : n / 128 / 128 = n / 16384 := Nat.div_div_eq_div_mul n 128 128
  have d3 : n / 16384 / 128 = n / 2097152 := Nat.div_div_eq_div_mul n 16384 128
  unfold encVar
  split
  · rw [vbi_lt 3 (Nat.lt_succ_of_le ‹_›)]
  · rw [vbi_ge 3 (fun hl => ‹¬ n ≤ 127› (Nat.le_of_lt_succ hl))]
    split
    · have h2 : n / 128 < 128 := Nat.div_lt_of_lt_mul (Nat.lt_succ_of_le ‹n ≤ 16383›)
      rw [vbi_lt 2 h2, Nat.mod_eq_of_lt h2]
    · have g2 : ¬ n / 128 < 128 := fun hl => ‹¬ n ≤ 16383› (Nat.le_of_lt_succ ((Nat.div_lt_iff_lt_mul (by decide)).mp hl))
      rw [vbi_ge 2 g2, d2]
      split
      · have h3 : n / 16384 < 128 := Nat.div_lt_of_lt_mul (Nat.lt_succ_of_le ‹n ≤ 2097151›)
        rw [vbi_lt 1 h3, Nat.mod_eq_of_lt h3]
      · have g3 : ¬ n / 16384 < 128 :=
          fun hl => ‹¬ n ≤ 2097151› (Nat.le_of_lt_succ ((Nat.div_lt_iff_lt_mul (by decide)).mp hl))
        have h4 : n / 2097152 < 128 := Nat.div_lt_of_lt_mul h
        rw [vbi_ge 1 g3, d3, vbi_lt 0 h4, Nat.mod_eq_of_lt h4]

theorem decVarAux_cons (idx mult acc : Nat) (b : UInt8) (rest : Bytes) :
    decVarAux idx mult acc (b :: rest) =
      if mult > varMax then .bad
      else if b.toNat < 128 then (if idx ≤ 3 then .ok (acc + (b.toNat % 128) * mult) (idx + 1) else .bad)
      else decVarAux (idx + 1) (mult * 128) (acc + (b.toNat % 128) * mult) rest := rfl

theorem decVarAux_len {bs : Bytes} {idx mult acc v l : Nat} (h : decVarAux idx mult acc bs = .ok v l) :
    idx < l ∧ l ≤ idx + bs.length := by
  induction bs generalizing idx mult acc with
  | nil => cases h
  | cons b rest ih =>
    simp only [decVarAux] at h
    split at h
    · cases h
    · split at h
      · split at h
        · cases h; simp only [List.length_cons]; omega
        · cases h
      · have := ih h; simp only [List.length_cons]; omega

theorem decVarAux_last {idx mult acc x : Nat} (r : Bytes) (hi : idx ≤ 3) (hm : mult ≤ varMax) (h : x < 128) :
    decVarAux idx mult acc (UInt8.ofNat x :: r) = .ok (acc + x * mult) (idx + 1) := by
  rw [decVarAux_cons, if_neg (Nat.not_lt.mpr hm), vbi_last h, if_pos h, if_pos hi, Nat.mod_eq_of_lt h]

theorem decVarAux_vbi (f : Nat) {idx mult acc x : Nat} (r : Bytes) (hi : idx + f ≤ 3) (hm : mult * 128 ^ f ≤ varMax)
    (hx : x < 128 ^ (f + 1)) :
    decVarAux idx mult acc (vbi (f + 1) x ++ r) = .ok (acc + x * mult) (idx + (vbi (f + 1) x).length) := by
  induction f generalizing idx mult acc x with
  | zero => rw [vbi_lt 0 hx]; exact decVarAux_last r hi (by rwa [Nat.pow_zero, Nat.mul_one] at hm) hx
  | succ f ih =>
    have hmult : mult ≤ varMax := Nat.le_trans (Nat.le_mul_of_pos_right _ (Nat.pow_pos (by decide))) hm
    by_cases h : x < 128
    · rw [vbi_lt _ h]; exact decVarAux_last r (Nat.le_trans (Nat.le_add_right ..) hi) hmult h
    · obtain ⟨hb, hc, hd⟩ := vbi_cont x
      rw [vbi_ge _ h, List.cons_append, decVarAux_cons, if_neg (Nat.not_lt.mpr hmult), hb, if_neg hc, hd,
        ih (by rw [Nat.add_assoc, Nat.add_comm 1]; exact hi)
          (by rw [Nat.mul_assoc, Nat.mul_comm 128, ← Nat.pow_succ]; exact hm) (vbi_rest hx),
        vbi_horner, List.length_cons, Nat.add_assoc, Nat.add_comm 1]

theorem decVar_encVar (n : Nat) (h : n < 268435456) (r : Bytes) : decVar (encVar n ++ r) = .ok n (varLen n) := by
  rw [varLen_eq, encVar_eq_vbi n h, decVar, decVarAux_vbi 3 r (Nat.le_refl _) (by decide) h, Nat.zero_add, Nat.mul_one,
    Nat.zero_add]

end Poster

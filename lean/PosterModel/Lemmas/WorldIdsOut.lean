/-
  The packet identifiers in flight (C11). `Outstanding w`: the packet identifiers of the identifier-carrying requests in
  flight in `w` — those of the queued messages (PUBLISH QoS>0, SUBSCRIBE, UNSUBSCRIBE, PUBREL), those registered in
  `awaiting_ack` (kinds 4, 5, 7, 9, 11: everything but the key all PINGREQs share), and those of the QoS 2 publishes whose
  future holds a successful PUBREC in its oneshot and has not yet sent the PUBREL (which will carry the SAME identifier).
  Every elementary transition from a world satisfying `OpsInv` is an `IdStep`.
-/
import PosterModel.Lemmas.WorldRet
import PosterModel.Lemmas.WorldIdsOp


namespace Poster
open Framing
namespace World
namespace W10
open W7

theorem aidKind_actionId (k pid : Nat) (h : pid < 65536) : aidKind (actionId k pid) = k := by
  unfold aidKind actionId
  rw [Nat.add_comm, Nat.add_mul_div_right _ _ (by decide), Nat.div_eq_of_lt (by omega), Nat.zero_add]

theorem aidPid_actionId (k pid : Nat) : aidPid (actionId k pid) = pid % 65536 := by
  unfold aidPid actionId
  rw [show k * 16777216 + pid * 256 = (k * 65536 + pid) * 256 by omega, Nat.mul_div_cancel _ (by decide),
    Nat.add_comm, Nat.add_mul_mod_self_right]

/-- the packet identifier an action identifier stands for; none for the key `actionId 13 0` all PINGREQs share -/
def aidPidOf (aid : Nat) : Option Nat := if aidKind aid = 13 then none else some (aidPid aid)

def msgPid (m : Msg) : Option Nat := m.aid.bind aidPidOf

def qpids (q : List Msg) : List Nat := q.filterMap msgPid

def apids (aw : List (Nat × Nat)) : List Nat := aw.filterMap fun e => aidPidOf e.1

/-- the packet identifier of the PUBREL a future will send when it finds this in its oneshot -/
def relPid : Option Slot → Option Nat
  | some (.full (.pkt (.pubrec a))) => if a.reason < 128 then aidPidOf (actionId 7 a.packetId) else none
  | _ => none

/-- the PUBREL the operation-table entry `e` is about to send in `w` -/
def opRel (w : World) (e : Nat × OpSt) : Option Nat :=
  match e.2 with
  | .wait s .pubrec => relPid (w.slot s)
  | _ => none

/-- the identifiers of the QoS 2 publishes between their PUBREC and their PUBREL -/
def ppids (w : World) : List Nat := w.ops.filterMap (opRel w)

def Outstanding (w : World) : List Nat := qpids w.queue ++ apids w.c.awaiting ++ ppids w

theorem aidPidOf_actionId (k pid : Nat) (hk : k ≠ 13) (hp : pid < 65536) : aidPidOf (actionId k pid) = some pid := by
  unfold aidPidOf
  rw [aidKind_actionId k pid hp, if_neg hk, aidPid_actionId, Nat.mod_eq_of_lt hp]

theorem aidPidOf_ping : aidPidOf (actionId 13 0) = none := by decide

theorem msgPid_ff (p : Bytes) (s : Nat) : msgPid (.ff p s) = none := rfl
theorem msgPid_awaitAck (aid : Nat) (p : Bytes) (s : Nat) : msgPid (.awaitAck aid p s) = aidPidOf aid := rfl
theorem msgPid_subscribe (aid sid : Nat) (p : Bytes) (s ch : Nat) : msgPid (.subscribe aid sid p s ch) = aidPidOf aid := rfl
theorem relPid_pubrec (a : AckRx) :
    relPid (some (.full (.pkt (.pubrec a)))) = if a.reason < 128 then aidPidOf (actionId 7 a.packetId) else none := rfl

theorem qpids_cons (m : Msg) (q : List Msg) : qpids (m :: q) = (msgPid m).toList ++ qpids q :=
  filterMap_cons_toList _ m q

@[simp] theorem qpids_nil : qpids [] = [] := rfl

theorem qpids_append (a b : List Msg) : qpids (a ++ b) = qpids a ++ qpids b := by
  simp [qpids, List.filterMap_append]

theorem apids_append (a b : List (Nat × Nat)) : apids (a ++ b) = apids a ++ apids b := by
  simp [apids, List.filterMap_append]

theorem apids_cons (e : Nat × Nat) (t : List (Nat × Nat)) : apids (e :: t) = (aidPidOf e.1).toList ++ apids t :=
  filterMap_cons_toList _ e t

theorem count_toList (o : Option Nat) (x : Nat) : o.toList.count x = if o = some x then 1 else 0 := by
  cases o with
  | none => simp
  | some y =>
    simp only [Option.toList, List.count_singleton, Option.some.injEq, beq_iff_eq]

theorem opRel_congr {w w' : World} {l : List (Nat × OpSt)}
    (h : ∀ id s, (id, OpSt.wait s .pubrec) ∈ l → relPid (w'.slot s) = relPid (w.slot s)) :
    l.filterMap (opRel w') = l.filterMap (opRel w) := by
  apply User.filterMap_congr'
  intro e he
  obtain ⟨id, st⟩ := e
  cases st with
  | fresh hh r => rfl
  | wait s k =>
    cases k with
    | pubrec => exact h id s he
    | _ => rfl

theorem ppids_congr {w w' : World} (ops : w'.ops = w.ops)
    (h : ∀ id s, (id, OpSt.wait s .pubrec) ∈ w.ops → relPid (w'.slot s) = relPid (w.slot s)) : ppids w' = ppids w := by
  unfold ppids
  rw [ops]
  exact opRel_congr h

theorem relPid_of_slotRel {P : Nat → SlotVal → Prop} {w w' : World} (h : SlotRel P w w')
    (hP : ∀ s v, P s v → ∀ p, v ≠ .pkt p) (s : Nat) : relPid (w'.slot s) = relPid (w.slot s) := by
  rcases h s with e | ⟨e0, e | ⟨v, e, hv⟩⟩
  · rw [e]
  · rw [e, e0]; rfl
  · rw [e, e0]
    cases v with
    | pkt p => exact absurd rfl (hP s _ hv p)
    | _ => rfl

/-- the table with the entry of `id` taken out: what a `finish` move leaves, and what a `send` move leaves beside the new
    entry -/
theorem ppids_split {w : World} (hi : OpsInv w) {id : Nat} {st : OpSt} (hst : w.opSt id = some st) :
    ∃ rest : List (Nat × OpSt), (∀ e ∈ rest, e ∈ w.ops ∧ e.1 ≠ id) ∧
      (∀ x, (ppids w).count x = (rest.filterMap (opRel w)).count x + (opRel w (id, st)).toList.count x) ∧
      (∀ w' : World, w'.ops = eraseFirst id w.ops → ppids w' = rest.filterMap (opRel w')) ∧
      ∀ (w' : World) v x, w'.ops = setAssoc id v w.ops →
        (ppids w').count x = (rest.filterMap (opRel w')).count x + (opRel w' (id, v)).toList.count x := by
  obtain ⟨pre, post, e, h1, h2, h3, h4⟩ := lookupFirst_split id st w.ops hi.nodup hst
  have mid : ∀ (w' : World) v x, ((pre ++ (id, v) :: post).filterMap (opRel w')).count x =
      ((pre ++ post).filterMap (opRel w')).count x + (opRel w' (id, v)).toList.count x := fun w' v x => by
    rw [List.filterMap_append, filterMap_cons_toList, List.filterMap_append]
    simp only [List.count_append]
    omega
  refine ⟨pre ++ post, fun e' he' => ?_, fun x => ?_, fun w' ops => ?_, fun w' v x ops => ?_⟩
  · rw [e]
    rcases List.mem_append.mp he' with h | h
    · exact ⟨List.mem_append_left _ h, fun hx => h1 (List.mem_map.2 ⟨e', h, hx⟩)⟩
    · exact ⟨List.mem_append_right _ (List.mem_cons_of_mem _ h), fun hx => h2 (List.mem_map.2 ⟨e', h, hx⟩)⟩
  · unfold ppids
    rw [e]
    exact mid w st x
  · unfold ppids
    rw [ops, h3]
  · unfold ppids
    rw [ops, h4]
    exact mid w' v x

theorem ppids_fill {w w' : World} (hi : OpsInv w) (ops : w'.ops = w.ops) (slot : Nat) (p : RxPacket)
    (h : SlotRel (fun s v => s = slot ∧ v = .pkt p) w w') (x : Nat) :
    (ppids w').count x ≤ (ppids w).count x + (if relPid (some (.full (.pkt p))) = some x then 1 else 0) := by
  have other : ∀ s, s ≠ slot → relPid (w'.slot s) = relPid (w.slot s) := fun s hs => by
    rcases h s with e | ⟨e0, e | ⟨v, e, rfl, _⟩⟩
    · rw [e]
    · rw [e, e0]; rfl
    · exact absurd rfl hs
  cases hst : w.opSt (slot / 2) with
  | none =>
    have hc : ppids w' = ppids w := ppids_congr ops fun j s hm => other s fun hs => by
      have := lookupFirst_of_mem_nodup j _ w.ops hi.nodup hm
      rw [← hi.owner hm, hs] at this
      exact absurd (hst.symm.trans this) (by simp)
    rw [hc]; exact Nat.le_add_right _ _
  | some st =>
    obtain ⟨rest, hmem, hold, _, hset⟩ := ppids_split hi hst
    have hrest : rest.filterMap (opRel w') = rest.filterMap (opRel w) := opRel_congr fun j s hm => other s fun hs => by
      obtain ⟨hm', hne⟩ := hmem _ hm
      exact hne (by rw [← hi.owner hm', hs])
    rw [hset w' st x (by rw [ops, setAssoc_lookup_self _ _ _ hst]), hold x, hrest, count_toList, count_toList]
    -- the entry of the operation itself: its oneshot is unchanged, closed, or now holds `p`
    have : opRel w' (slot / 2, st) = opRel w (slot / 2, st) ∨
        (opRel w (slot / 2, st) = none ∧ opRel w' (slot / 2, st) = relPid (some (.full (.pkt p)))) := by
      cases st with
      | fresh hh r => exact Or.inl rfl
      | wait s k =>
        cases k <;> try exact Or.inl rfl
        rcases h s with e | ⟨e0, e | ⟨v, e, rfl, rfl⟩⟩
        · left; simp only [opRel, e]
        · left; simp only [opRel, e, e0]; rfl
        · right; exact ⟨by simp only [opRel, e0]; rfl, by simp only [opRel, e]⟩
    rcases this with e | ⟨e0, e⟩
    · rw [e]; omega
    · rw [e, e0]; simp

theorem relPid_of_ack (p : RxPacket) (aid x : Nat) (hwf : p.wf) (haid : rxActionId p = some aid)
    (h : relPid (some (.full (.pkt p))) = some x) : aidPidOf aid = some x := by
  cases p with
  | pubrec a =>
    rw [relPid_pubrec] at h
    split at h
    · simp only [rxActionId, Option.some.injEq] at haid
      have hlt : a.packetId < 65536 := hwf.2
      rw [aidPidOf_actionId 7 _ (by decide) hlt] at h
      rw [← haid, aidPidOf_actionId 5 _ (by decide) hlt, h]
    · cases h
  | _ => simp [relPid] at h

/-- the counter stands still and no identifier becomes outstanding (identifiers can only leave) -/
def Shrinks (w w' : World) : Prop := w'.pidCtr = w.pidCtr ∧ ∀ p, (Outstanding w').count p ≤ (Outstanding w).count p

theorem Shrinks.refl (w : World) : Shrinks w w := ⟨rfl, fun _ => Nat.le_refl _⟩

theorem Shrinks.trans {a b c : World} (h1 : Shrinks a b) (h2 : Shrinks b c) : Shrinks a c :=
  ⟨h2.1.trans h1.1, fun p => Nat.le_trans (h2.2 p) (h1.2 p)⟩

theorem shrinks_of_move_none {w w' : World} (hi : OpsInv w) (m : Move none w w') : Shrinks w w' := by
  cases m with
  | cmsg m q hq queue ops pid out aw slots =>
    refine ⟨pid, fun p => ?_⟩
    have hpp : ppids w' = ppids w :=
      ppids_congr ops (fun id s _ => relPid_of_slotRel slots (fun s v h => h.2) s)
    simp only [Outstanding, hpp, queue, hq, qpids_cons, List.count_append, count_toList]
    rcases aw with e | ⟨aid, h1, e⟩
    · rw [e]; omega
    · rw [e, apids_append, apids_cons, List.count_append, List.count_append, count_toList]
      have : msgPid m = aidPidOf aid := by simp [msgPid, h1]
      simp only [apids, List.filterMap_nil, List.count_nil, this]
      omega
  | cpkt p aid slot pre post wf haid haw hpre aw queue ops pid out slots =>
    refine ⟨pid, fun x => ?_⟩
    have hpp := ppids_fill hi ops slot p slots x
    simp only [Outstanding, queue, aw, haw, apids_append, apids_cons, List.count_append, count_toList]
    by_cases hr : relPid (some (.full (.pkt p))) = some x
    · rw [if_pos hr] at hpp
      rw [if_pos (relPid_of_ack p aid x wf haid hr)]
      omega
    · rw [if_neg hr] at hpp
      omega
  | drop queue aw ops pid out slots =>
    refine ⟨pid, fun p => ?_⟩
    have hpp : ppids w' = ppids w :=
      ppids_congr ops (fun id s _ => relPid_of_slotRel slots (fun s v h => h.elim) s)
    simp only [Outstanding, hpp, List.count_append]
    have h1 := (queue.filterMap msgPid).count_le p
    have h2 := (aw.filterMap (fun e => aidPidOf e.1)).count_le p
    simp only [qpids, apids]
    omega

theorem shrinks_of_moves_ctx {w w' : World} (hi : OpsInv w) (m : Moves CtxTag w w') : Shrinks w w' := by
  induction m with
  | refl w => exact .refl w
  | @cons t a b c ht hm _ ih =>
    cases ht
    exact (shrinks_of_move_none hi hm).trans (ih (hi.move hm))

theorem reqMsg_msgPid (w : World) (id : Nat) (req : Req) (hp : w.pidCtr < 65536) :
    msgPid (w.reqMsg id req) = if Req.consumes req then some w.pidCtr else none := by
  cases req with
  | publish t =>
    by_cases hq : t.qos = 0
    · have hc : Req.consumes (.publish t) = false := by simp [Req.consumes, hq]
      simp only [hc, reqMsg, hq, ↓reduceIte]; rfl
    · have hc : Req.consumes (.publish t) = true := by simp [Req.consumes, hq]
      simp only [hc, reqMsg, hq, ↓reduceIte]
      -- (`rw`, not `simp only`: used as a definitional rewrite the kernel unfolds `aidPidOf` down to a division)
      rw [msgPid_awaitAck]
      exact aidPidOf_actionId _ _ (by split <;> omega) hp
  | subscribe t => exact (msgPid_subscribe _ _ _ _ _).trans (aidPidOf_actionId 9 _ (by omega) hp)
  | unsubscribe t => exact (msgPid_awaitAck _ _ _).trans (aidPidOf_actionId 11 _ (by omega) hp)
  | ping => exact (msgPid_awaitAck _ _ _).trans aidPidOf_ping
  | disconnect t => rfl

theorem pubrelMsg_msgPid (a : AckRx) (s : Nat) (ha : a.reason < 128) :
    msgPid (pubrelMsg a.packetId s) = relPid (some (.full (.pkt (.pubrec a)))) := by
  rw [pubrelMsg, msgPid_awaitAck, relPid_pubrec, if_pos ha]

/-- **one elementary transition and the identifiers in flight**: the counter stands still or advances by one step; the
    multiset of outstanding identifiers grows by at most one element, which is then the value the counter had before, and
    only when the counter advances -/
structure IdStep (w w' : World) : Prop where
  ctr : w'.pidCtr = w.pidCtr ∨ w'.pidCtr = nextPid w.pidCtr
  cnt : ∀ p, (Outstanding w').count p ≤
    (Outstanding w).count p + (if w'.pidCtr ≠ w.pidCtr ∧ p = w.pidCtr then 1 else 0)

theorem IdStep.of_shrinks {w w' : World} (h : Shrinks w w') : IdStep w w' :=
  ⟨Or.inl h.1, fun p => Nat.le_trans (h.2 p) (Nat.le_add_right _ _)⟩

theorem IdStep.refl (w : World) : IdStep w w := .of_shrinks (.refl w)

theorem IdStep.shrinks_left {a b c : World} (h1 : Shrinks a b) (h2 : IdStep b c) : IdStep a c := by
  refine ⟨by rw [← h1.1]; exact h2.ctr, fun p => ?_⟩
  have := h2.cnt p
  have := h1.2 p
  rw [h1.1] at *
  omega

theorem IdStep.shrinks_right {a b c : World} (h1 : IdStep a b) (h2 : Shrinks b c) : IdStep a c := by
  refine ⟨by rw [h2.1]; exact h1.ctr, fun p => ?_⟩
  have := h1.cnt p
  have := h2.2 p
  rw [h2.1]
  omega

theorem OpsInv.pubrec_slot {w : World} (hi : OpsInv w) {j s : Nat} (hm : (j, OpSt.wait s .pubrec) ∈ w.ops) : s = 2 * j := by
  rcases (hi.shape j s .pubrec hm).1 with ⟨h, _⟩ | ⟨_, h⟩
  · exact h
  · cases h

theorem opRel_congr_others {w w' : World} (hi : OpsInv w) {id : Nat} {st : OpSt} (hst : w.opSt id = some st)
    (l : List (Nat × OpSt)) (hl : ∀ e ∈ l, e ∈ w.ops ∧ e.1 ≠ id)
    (hs : ∀ j s', j ≠ id → (j, OpSt.wait s' .pubrec) ∈ w.ops → (∀ k0, st ≠ .wait s' k0) → w'.slot s' = w.slot s') :
    l.filterMap (opRel w') = l.filterMap (opRel w) :=
  opRel_congr fun j sj he => by
    obtain ⟨hm, hne⟩ := hl _ he
    rw [hs j sj hne hm (hi.other_slot hst hne hm)]

theorem idStep_of_move_some {w w' : World} {id : Nat} (hi : OpsInv w) (m : Move (some id) w w')
    (hctr : w'.pidCtr = w.pidCtr ∨ w'.pidCtr = nextPid w.pidCtr)
    (hmsg : ∀ m0, w'.queue = w.queue ++ [m0] →
      msgPid m0 = none ∨ (msgPid m0 = some w.pidCtr ∧ w'.pidCtr ≠ w.pidCtr) ∨
      ∃ s0, w.opSt id = some (.wait s0 .pubrec) ∧ msgPid m0 = relPid (w.slot s0)) : IdStep w w' := by
  refine ⟨hctr, fun x => ?_⟩
  cases m with
  | finish _ st hst ops queue aw pid slots out =>
    obtain ⟨rest, hmem, hold, herase, _⟩ := ppids_split hi hst
    have hpp : (ppids w').count x ≤ (ppids w).count x := by
      rw [herase w' ops, opRel_congr_others hi hst _ hmem (fun j s' _ _ h => slots s' h), hold x]
      exact Nat.le_add_right _ _
    simp only [Outstanding, queue, aw, List.count_append]
    exact Nat.le_trans (Nat.add_le_add_left hpp _) (Nat.le_add_right _ _)
  | send _ st m s k hst shape ops queue mslot aw pid slotNew slots out msgok =>
    obtain ⟨rest, hmem, hold, _, hset⟩ := ppids_split hi hst
    have hothers : rest.filterMap (opRel w') = rest.filterMap (opRel w) := by
      refine opRel_congr_others hi hst _ hmem (fun j s' hj hm h => slots s' ?_ h)
      -- the new oneshot belongs to `id`, the oneshot `s'` to `j`
      have := OpsInv.pubrec_slot hi hm
      rcases shape with ⟨_, _, _, h, _⟩ | ⟨s0, hs0, h, _⟩
      · omega
      · subst hs0
        have := OpsInv.pubrec_slot hi (mem_of_opSt hst)
        omega
    have hown : opRel w' (id, .wait s k) = none := by
      cases k <;> try rfl
      simp only [opRel, slotNew]; rfl
    have hnew : (ppids w').count x = (rest.filterMap (opRel w)).count x := by
      rw [hset w' _ x ops, hothers, hown]; rfl
    -- what the new message adds, the entry of `id` gives up or the counter accounts for
    have key : (msgPid m).toList.count x ≤
        (opRel w (id, st)).toList.count x + (if w'.pidCtr ≠ w.pidCtr ∧ x = w.pidCtr then 1 else 0) := by
      rcases hmsg m queue with h | ⟨h, hne⟩ | ⟨s0, hs0, h⟩
      · rw [h]; exact Nat.zero_le _
      · rw [h, count_toList]
        by_cases hx : x = w.pidCtr
        · subst hx
          rw [if_pos (rfl : some w.pidCtr = some w.pidCtr), if_pos (And.intro hne rfl)]
          exact Nat.le_add_left _ _
        · rw [if_neg (fun hh => hx (Option.some.inj hh).symm)]; exact Nat.zero_le _
      · rw [hst] at hs0
        cases hs0
        rw [h]
        exact Nat.le_add_right _ _
    simp only [Outstanding, queue, aw, hnew, hold x, qpids_append, qpids_cons, qpids_nil, List.count_append, List.count_nil]
    omega

theorem pollOp_ids (w : World) (id : Nat) (hp : PidOk w.pidCtr) :
    ((w.pollOp id).pidCtr = w.pidCtr ∨ (w.pollOp id).pidCtr = nextPid w.pidCtr) ∧
    ∀ m0, (w.pollOp id).queue = w.queue ++ [m0] →
      msgPid m0 = none ∨ (msgPid m0 = some w.pidCtr ∧ (w.pollOp id).pidCtr ≠ w.pidCtr) ∨
      ∃ s0, w.opSt id = some (.wait s0 .pubrec) ∧ msgPid m0 = relPid (w.slot s0) := by
  have hlt : w.pidCtr < 65536 := by unfold PidOk at hp; omega
  have last : ∀ {m m0 : Msg}, (w.pollOp id).queue = w.queue ++ [m] → (w.pollOp id).queue = w.queue ++ [m0] → m0 = m := by
    intro m m0 e e0
    simpa using List.append_cancel_left (e0.symm.trans e)
  rcases pollOp_sends w id with ⟨hc, _, hq⟩ | ⟨h, req, ho, hc, _, hq⟩ | ⟨s, a, ho, hs, ha, _, hc, _, hq⟩
  · exact ⟨Or.inl hc, fun m0 h => absurd (hq.symm.trans h) (by simp)⟩
  · rw [allocFor_pidCtr] at hc
    have hm : ∀ m0, (w.pollOp id).queue = w.queue ++ [m0] →
        msgPid m0 = if Req.consumes req then some w.pidCtr else none := fun m0 h => by
      rcases hq with hq | ⟨_, hq, _⟩
      · exact absurd (hq.symm.trans h) (by simp)
      · rw [last hq h]; exact reqMsg_msgPid w id req hlt
    cases hcons : Req.consumes req <;> rw [hcons] at hc hm
    · exact ⟨Or.inl hc, fun m0 h => Or.inl (hm m0 h)⟩
    · exact ⟨Or.inr hc, fun m0 h => Or.inr (Or.inl ⟨hm m0 h, hc ▸ nextPid_ne _⟩)⟩
  · refine ⟨Or.inl hc, fun m0 h => Or.inr (Or.inr ⟨s, ho, ?_⟩)⟩
    rw [last hq h, hs]; exact pubrelMsg_msgPid a (s + 1) ha

theorem pollOp_idStep (w : World) (id : Nat) (hi : OpsInv w) : IdStep w (w.pollOp id) := by
  obtain ⟨hc, hm⟩ := pollOp_ids w id hi.pid
  rcases pollOp_one w id with h | h | h
  · rw [h]; exact .refl w
  · exact .of_shrinks (shrinks_of_move_none hi h)
  · exact idStep_of_move_some hi h hc hm

/-- dropping a handle future: its messages stay with the context; a pending PUBREL is given up -/
theorem dropOp_shrinks (w : World) (id : Nat) (hi : OpsInv w) : Shrinks w (w.dropOp id) := by
  rcases dropOp_move w id with e | m
  · rw [e]; exact .refl w
  · -- the `finish` move of the future, with the counter and the queue left alone
    obtain ⟨o, sl, sr, ch, wk, qr, e⟩ := dropOp_footprint w id
    have hp : (w.dropOp id).pidCtr = w.pidCtr := by rw [e]
    have hq : (w.dropOp id).queue = w.queue := by rw [e]
    have st := idStep_of_move_some hi m (Or.inl hp)
      (fun m0 h => absurd (hq.symm.trans h) (by simp))
    refine ⟨hp, fun p => ?_⟩
    have := st.cnt p
    rw [if_neg (fun h => h.1 hp)] at this
    exact this

theorem shrinks_of_addOp {w w' : World} {id h : Nat} {req : Req} (a : AddOp id h req w w') : Shrinks w w' := by
  refine ⟨a.pid, fun p => ?_⟩
  have hpp : ppids w' = ppids w := by
    unfold ppids
    rw [a.ops, List.filterMap_append]
    have : [(id, OpSt.fresh h req)].filterMap (opRel w') = [] := rfl
    rw [this, List.append_nil]
    exact opRel_congr fun _ s _ => by rw [a.slots s]
  simp only [Outstanding, a.queue, a.aw, hpp]
  exact Nat.le_refl _

theorem apply_shrinks (w : World) (e : Ev) (he : ∀ t, e ≠ .poll t) (hi : OpsInv w) : Shrinks w (w.apply e) := by
  by_cases hd : ∃ id, e = .drop (.op id)
  · obtain ⟨id, rfl⟩ := hd
    exact dropOp_shrinks w id hi
  · rcases apply_decomp w e with ⟨id, hh, req, rfl, ha⟩ | hmv
    · exact shrinks_of_addOp ha
    · refine shrinks_of_moves_ctx hi ?_
      cases e with
      | poll t => exact absurd rfl (he t)
      | drop t =>
        cases t with
        | op id => exact absurd ⟨id, rfl⟩ hd
        | ctx => exact hmv
        | st id => exact hmv
      | _ => exact hmv

theorem micro_idStep {w w' : World} (hi : OpsInv w) (hm : Micro w w') : IdStep w w' := by
  -- clearing a flag or logging a line changes nothing that `Outstanding` or `OpsInv` reads
  cases hm with
  | ctx => exact .of_shrinks (shrinks_of_moves_ctx hi (pollCtx_moves w))
  | user t ht =>
    have h0 : Shrinks w (w.unwake t) := .refl w
    have hi0 : OpsInv (w.unwake t) := { hi with }
    cases t with
    | ctx => exact absurd rfl ht
    | op id => exact .shrinks_left h0 (pollOp_idStep (w.unwake (.op id)) id hi0)
    | st id => exact .of_shrinks (h0.trans (shrinks_of_moves_ctx hi0 (pollStream_moves (w.unwake (.st id)) id)))
  | ev e hp hb =>
    have h0 : Shrinks w (w.emit (.ev e)) := .refl w
    exact .of_shrinks (h0.trans (apply_shrinks (w.emit (.ev e)) e hp { hi with }))
  | unwake t | logged t hb | stall => exact .of_shrinks (.refl w)
  | flush => exact .of_shrinks (shrinks_of_move_none hi (flushRaw_move w))

theorem IdStep.mem {w w' : World} (h : IdStep w w') {p : Nat} (hp : p ∈ Outstanding w') :
    p ∈ Outstanding w ∨ (p = w.pidCtr ∧ w'.pidCtr = nextPid w.pidCtr) := by
  have h1 := h.cnt p
  have h2 : 0 < (Outstanding w').count p := List.count_pos_iff.mpr hp
  by_cases hx : w'.pidCtr ≠ w.pidCtr ∧ p = w.pidCtr
  · right
    refine ⟨hx.2, ?_⟩
    rcases h.ctr with e | e
    · exact absurd e hx.1
    · exact e
  · left
    rw [if_neg hx] at h1
    exact List.count_pos_iff.mp (by omega)

theorem IdStep.nodup {w w' : World} (h : IdStep w w') (hn : (Outstanding w).Nodup)
    (hc : w'.pidCtr = w.pidCtr ∨ w.pidCtr ∉ Outstanding w) : (Outstanding w').Nodup := by
  rw [List.nodup_iff_count] at hn ⊢
  intro p
  have h1 := h.cnt p
  have h2 := hn p
  by_cases hx : w'.pidCtr ≠ w.pidCtr ∧ p = w.pidCtr
  · rcases hc with hc | hc
    · exact absurd hc hx.1
    · rw [if_pos hx] at h1
      obtain ⟨_, rfl⟩ := hx
      have : (Outstanding w).count w.pidCtr = 0 := List.count_eq_zero.mpr hc
      omega
  · rw [if_neg hx] at h1; omega

end W10
end World
end Poster

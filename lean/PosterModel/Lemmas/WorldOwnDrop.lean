/-
  Lemmas/WorldOwnDrop.lean — consequences of `OwnInv` once the context is gone,
  what a poll of an operation does when there is no context, and what can set `bad`.
-/
import PosterModel.Lemmas.WorldOwn
import PosterModel.Properties.C14


namespace Poster
open Framing
namespace World

theorem OwnInv.wait_settled {w : World} (h : OwnInv w) (hc : w.hasCtx = false) (id s : Nat) (k : Wait)
    (hop : w.opSt id = some (.wait s k)) : w.slot s = some .closed ∨ ∃ v, w.slot s = some (.full v) := by
  cases hs : w.slot s with
  | none => exact absurd hs (h.slotSome id s k hop)
  | some x =>
    cases x with
    | empty => have := (h.waitOwn id s k hop hs).1; rw [hc] at this; cases this
    | full v => exact Or.inr ⟨v, rfl⟩
    | closed => exact Or.inl rfl

theorem OwnInv.op_flagged {w : World} (h : OwnInv w) (hc : w.hasCtx = false) (id : Nat) (st : OpSt)
    (hop : w.opSt id = some st) : Task.op id ∈ w.woken := by
  cases st with
  | fresh hd req => exact h.freshWoken id hd req hop
  | wait s k =>
    refine h.waitDone id s k hop ?_
    rcases h.wait_settled hc id s k hop with e | ⟨v, e⟩ <;> rw [e] <;> simp

theorem OwnInv.chan_shut {w : World} (h : OwnInv w) (hc : w.hasCtx = false) (ch : Nat) (c0 : Chan)
    (hch : w.chan ch = some c0) : c0.txAlive = false := by
  cases ht : c0.txAlive with
  | false => rfl
  | true => have := (h.chanOwn ch c0 hch ht).1; rw [hc] at this; cases this

theorem OwnInv.opSt_of_mem {w : World} (h : OwnInv w) {id : Nat} {st : OpSt} (hm : (id, st) ∈ w.ops) :
    w.opSt id = some st := lookupFirst_of_mem_nodup id st w.ops h.nodup hm

/-- the outcome of a poll that completes the operation: `DONE`, or the `unreachable!` of a mismatched reply -/
def OpEnd (id : Nat) (o : Obs) : Prop := (∃ r, o = .done id r) ∨ o = .panic (.op id) "unreachable"

theorem pollOp_no_ctx (w : World) (hn : (w.ops.map (·.1)).Nodup) (hc : w.hasCtx = false) (id : Nat) (st : OpSt)
    (hop : w.opSt id = some st)
    (hset : ∀ s k, st = .wait s k → w.slot s = some .closed ∨ ∃ v, w.slot s = some (.full v)) :
    (w.pollOp id).ops = eraseFirst id w.ops ∧ (w.pollOp id).opSt id = none ∧
    ∃ o, OpEnd id o ∧ (w.pollOp id).out = w.out ++ [o] := by
  -- without a context the future cannot send: it ends (also the second phase of a QoS 2 publish, whose PUBREL cannot
  -- be sent any more)
  have key : (w.pollOp id).ops = eraseFirst id w.ops ∧ ∃ o, OpEnd id o ∧ (w.pollOp id).out = w.out ++ [o] := by
    rcases pollOp_spec w id with ⟨h0, _⟩ | ⟨s, k, h0, hs, _⟩ | ⟨_, w0, _, hp, ⟨o, ho, e, _⟩ | ⟨_, _, _, _, hc0, _, _⟩⟩
    · rw [h0] at hop; cases hop
    · rw [h0] at hop; cases hop
      rcases hset s k rfl with e | ⟨v, e⟩ <;> rcases hs with hs | hs <;> rw [hs] at e <;> cases e
    · exact ⟨by rw [e, endOp_ops, hp.ops], o, ho.symm, by rw [e, endOp_out, hp.out]⟩
    · rw [hp.userFrame.hasCtx, hc] at hc0; cases hc0
  exact ⟨key.1, opSt_erase id hn key.1, key.2⟩

theorem applied_bad_cases {w w' : World} {e : Ev} (a : Applied w e w') :
    w' = w.badScript ∨ w'.bad = w.bad := by
  cases a.norm with
  | bad => exact Or.inl rfl
  | poll t => exact Or.inr (pollTask_pollFrame w t).bad
  | _ => exact Or.inr rfl

theorem pick_badScript (w : World) : w.badScript.pick = w.pick := by
  unfold badScript; rfl

/-- what `OwnInv` says of a pending operation once the context is gone (`no_op_hangs_after_drop` and its twin under
    every resolution of the `select!` are this at a reachable world) -/
theorem no_op_hangs_of_ownInv {w : World} (h : OwnInv w) (hd : w.ctxDropped = true)
    (id : Nat) (st : OpSt) (hm : (id, st) ∈ w.ops) :
    Task.op id ∈ w.woken ∧ (w.pick = none → Task.op id ∈ w.held) ∧
    (w.pollOp id).opSt id = none ∧ (w.pollOp id).ops = eraseFirst id w.ops ∧
    (match st with
     | .fresh _ _ => ∃ k, (k = ErrKind.contextExited ∨ k = ErrKind.codecError) ∧
         (w.pollOp id).out = w.out ++ [.done id (.err k)]
     | .wait s k =>
        (w.slot s = some .closed ∧ (w.pollOp id).out = w.out ++ [.done id (.err .contextExited)]) ∨
        (∃ v, w.slot s = some (.full v) ∧ w.pollOp id = w.resumeOp id s k v ∧
          ∃ o, OpEnd id o ∧ (w.pollOp id).out = w.out ++ [o])) := by
  have hc := h.dropped hd
  have hop := h.opSt_of_mem hm
  have hfl := h.op_flagged hc id st hop
  obtain ⟨a1, a2, o, a3, a4⟩ :=
    pollOp_no_ctx w h.nodup hc id st hop fun s k e => h.wait_settled hc id s k (e ▸ hop)
  refine ⟨hfl, fun hp => pick_none_held w _ hp hfl (by simp [taskLive, hop]), a2, a1, ?_⟩
  cases st with
  | fresh hd' req =>
    obtain ⟨k, hk, e1, _⟩ := fresh_op_after_drop w id hd' req hop hc
    exact ⟨k, hk, e1⟩
  | wait s k =>
    rcases h.wait_settled hc id s k hop with e | ⟨v, e⟩
    · exact Or.inl ⟨e, (closed_slot_completes w id s k hop e).2.1⟩
    · exact Or.inr ⟨v, e, pollOp_of_full hop e, o, a3, a4⟩

end World
end Poster

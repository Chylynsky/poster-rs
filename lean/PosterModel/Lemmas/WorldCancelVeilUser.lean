/-
  Lemmas/WorldCancelVeilUser.lean — `veil id` (Lemmas/WorldCancelVeil.lean) commutes with the poll of every task but
  `st id` and `op id`.
-/
import PosterModel.Lemmas.WorldCancelVeil

namespace Poster
open Framing
namespace World
namespace W11

theorem awaitSlot_veil (id) (w : World) (j s : Nat) (k : Wait) :
    (veil id w).awaitSlot j s k = veil id (w.awaitSlot j s k) := rfl

theorem veilE_seesOp {id j : Nat} (h : j ≠ id) : (veilE id).SeesOp j :=
  ⟨rfl, by simpa [veilE_kChan] using h, fun o ho => by rcases ho with rfl | ⟨r, rfl⟩ <;> rfl⟩

theorem veilE_sees {id : Nat} {t : Task} (ht : t ≠ .st id) (ho : t ≠ .op id) : (veilE id).Sees t := by
  cases t with
  | ctx => trivial
  | op j => exact veilE_seesOp fun e => ho (by rw [e])
  | st j =>
    have hj : j ≠ id := fun e => ht (by rw [e])
    exact ⟨by simpa [veilE_kChan] using hj, fun o h =>
      veilE_kObs (by rcases h with ⟨p, rfl⟩ | rfl <;> simpa [mineSt] using hj)⟩

/-- stream `id` is never polled by the executor (it is gone, or the script holds it), and no operation is named `id`
    (so no future will re-create channel `id`) -/
structure FrozenSt (id : Nat) (w : World) : Prop where
  noOp : w.opSt id = none
  st : id ∉ w.streams ∨ Task.st id ∈ w.held

theorem pollTask_veil (id) (w : World) (t : Task) (ht : t ≠ .st id) (ho : t ≠ .op id) (h : CtxOK id w) :
    (veil id w).pollTask t = veil id (w.pollTask t) := by
  rw [veil_eq]
  exact Era.pollTask_app (veilE_wf id) (veilE_ctxSide id) w t (veilE_sees ht ho) { h with } (veilE_snd id w)
    (Era.keepsSlots_of_all (fun _ => rfl) _)

end W11
end World
end Poster

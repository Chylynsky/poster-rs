/-
  Lemmas/WorldSent.lean — the bytes handed to the transport (`World.sent`): what each primitive adds to them, when the
  transport takes a write, and what applying the effects of a handler adds: exactly its writes if the transport takes them, a
  prefix in any case.
-/
import PosterModel.Lemmas.World
import PosterModel.Lemmas.Framing
import PosterModel.Lemmas.WorldIn

namespace Poster
open Framing
namespace World

/-- the bytes an observation shows on the wire -/
def obsBytes : Obs → Bytes
  | .wire bs => bs
  | .wraw bs => bs
  | _ => []

/-- everything handed to the transport so far: the `W` / `WRAW` lines of the log, then the bytes of the packet
    that is not complete yet -/
def sent (w : World) : Bytes := w.out.flatMap obsBytes ++ w.wirePend

theorem sent_congr {w w' : World} (h1 : w'.out = w.out) (h2 : w'.wirePend = w.wirePend) : w'.sent = w.sent := by
  simp [sent, h1, h2]

theorem sent_emit (w : World) (o : Obs) (h : obsBytes o = []) : (w.emit o).sent = w.sent := by
  simp [sent, h]

theorem flushRaw_sent (w : World) : w.flushRaw.sent = w.sent := by
  unfold flushRaw
  split
  · rfl
  · simp [sent, obsBytes]

theorem sent_finish (w : World) (call : Call) (r : RetRes) : (w.finish call r).sent = w.sent := by
  simp [sent, obsBytes]

theorem flatMap_obsBytes_wire (ps : List Bytes) : (ps.map Obs.wire).flatMap obsBytes = ps.flatten := by
  induction ps with
  | nil => rfl
  | cons p t ih => simp [obsBytes, ih]

theorem sent_flushWire (w : World) : w.flushWire.sent = w.sent := by
  unfold flushWire
  split
  · rename_i ps tl h
    have := frames_flatten_eq _ _ _ h
    simp only [sent, List.flatMap_append, flatMap_obsBytes_wire, List.append_assoc, this]
  · simp [sent, obsBytes]

theorem sent_writeBytes (w : World) (bs : Bytes) (h : w.canWrite bs.length = true) :
    (w.writeBytes bs).sent = w.sent ++ bs ∧ (w.writeBytes bs).written = w.written + bs.length := by
  unfold writeBytes
  rw [if_pos h]
  refine ⟨?_, by simp⟩
  rw [sent_flushWire]
  simp [sent]

theorem sent_writeBytes_prefix (w : World) (bs : Bytes) : ∃ k, (w.writeBytes bs).sent = w.sent ++ bs.take k := by
  unfold writeBytes
  split
  · refine ⟨bs.length, ?_⟩
    rw [sent_flushWire]; simp [sent]
  · refine ⟨(w.cfg.wlimit.getD 0) - w.written, ?_⟩
    rw [sent_flushWire]; simp only [sent, List.append_assoc]

theorem canWrite_le (w : World) (a b : Nat) (h : w.canWrite b = true) (hab : a ≤ b) : w.canWrite a = true := by
  unfold canWrite at *
  split at h
  · rfl
  · simp only [decide_eq_true_eq] at h ⊢; omega

theorem canWrite_congr {w w' : World} (h1 : w'.cfg = w.cfg) (h2 : w'.written = w.written) (n : Nat) :
    w'.canWrite n = w.canWrite n := by
  simp [canWrite, h1, h2]

theorem canWrite_unlimited (w : World) (h : w.cfg.wlimit = none) (n : Nat) : w.canWrite n = true := by
  simp [canWrite, h]

/-- an effect that is not a transport write -/
def Eff.quiet : Eff → Bool
  | .write _ => false
  | _ => true

theorem writeNeed_cons_write (bs : Bytes) (t : List Eff) : writeNeed (.write bs :: t) = bs.length + writeNeed t := by
  simp [writeNeed]

theorem writeNeed_cons_quiet (e : Eff) (t : List Eff) (h : Eff.quiet e = true) : writeNeed (e :: t) = writeNeed t := by
  cases e <;> simp [writeNeed, Eff.quiet] at h ⊢

theorem writesOf_cons_quiet (e : Eff) (t : List Eff) (h : Eff.quiet e = true) : writesOf (e :: t) = writesOf t := by
  cases e <;> simp [Eff.quiet] at h ⊢

theorem applyEff_quiet (w : World) (e : Eff) (h : Eff.quiet e = true) :
    (w.applyEff e).sent = w.sent ∧ (w.applyEff e).written = w.written := by
  cases e with
  | write bs => simp [Eff.quiet] at h
  | send s v => exact ⟨sent_congr (by simp [applyEff]) (by simp [applyEff]), by simp [applyEff]⟩
  | dropSlot s => exact ⟨sent_congr (by simp [applyEff]) (by simp [applyEff]), by simp [applyEff]⟩
  | deliver c p => exact ⟨sent_congr (by simp [applyEff]) (by simp [applyEff]), by simp [applyEff]⟩
  | dropChan c => exact ⟨sent_congr (by simp [applyEff]) (by simp [applyEff]), by simp [applyEff]⟩

theorem sent_applyEffs (w : World) (effs : List Eff) (h : w.canWrite (writeNeed effs) = true) :
    (w.applyEffs effs).sent = w.sent ++ (writesOf effs).flatten := by
  unfold applyEffs
  induction effs generalizing w with
  | nil => simp
  | cons e t ih =>
    simp only [List.foldl_cons]
    by_cases hq : Eff.quiet e = true
    · rw [writeNeed_cons_quiet e t hq] at h
      obtain ⟨h1, h2⟩ := applyEff_quiet w e hq
      have hc : (w.applyEff e).canWrite (writeNeed t) = true := by
        rw [canWrite_congr (applyEff_cfg w e) h2]; exact h
      rw [ih _ hc, h1, writesOf_cons_quiet e t hq]
    · cases e with
      | write bs =>
        rw [writeNeed_cons_write] at h
        have h1 := sent_writeBytes w bs (canWrite_le w _ _ h (by omega))
        have hc : (w.writeBytes bs).canWrite (writeNeed t) = true := by
          unfold canWrite at h ⊢
          rw [writeBytes_cfg]
          split
          · rfl
          · rename_i l hl
            rw [hl] at h
            simp only [decide_eq_true_eq] at h ⊢
            rw [h1.2]; omega
        show (List.foldl applyEff (w.writeBytes bs) t).sent = _
        rw [ih _ hc, h1.1]; simp
      | _ => simp [Eff.quiet] at hq

theorem sent_applyEffs_prefix (w : World) (effs : List Eff) : ∃ more, (w.applyEffs effs).sent = w.sent ++ more := by
  refine applyEffs_lift (R := fun w w' => ∃ more, w'.sent = w.sent ++ more) (fun _ => ⟨[], by simp⟩) ?_ ?_ w
  · rintro a b c ⟨m1, h1⟩ ⟨m2, h2⟩
    exact ⟨m1 ++ m2, by rw [h2, h1, List.append_assoc]⟩
  · intro w e _
    by_cases hq : Eff.quiet e = true
    · exact ⟨[], by rw [(applyEff_quiet w e hq).1]; simp⟩
    · cases e with
      | write bs => obtain ⟨k, hk⟩ := sent_writeBytes_prefix w bs; exact ⟨_, hk⟩
      | _ => simp [Eff.quiet] at hq

theorem W7.seiSet_facts (w : World) (call : Call) (t : ConnectTx) :
    (W7.seiSet w call t).rx = w.rx ∧ (W7.seiSet w call t).reader = w.reader ∧ (W7.seiSet w call t).sent = w.sent ∧
    (W7.seiSet w call t).out = w.out ∧ ∀ n, (W7.seiSet w call t).canWrite n = w.canWrite n := by
  cases call <;> exact ⟨rfl, rfl, rfl, rfl, fun _ => rfl⟩

end World
end Poster

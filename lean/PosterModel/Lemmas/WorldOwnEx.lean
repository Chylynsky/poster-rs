/-
  Lemmas/WorldOwnEx.lean — concrete scripts and worlds used by the non-vacuity examples of Properties/C14World.
-/
import PosterModel.Lemmas.WorldOwnIds
import PosterModel.Lemmas.WorldOpsEx


namespace Poster
open Framing World
namespace Ex

/-- a QoS 1 publish is started (its message is queued, its oneshot registered), then the context is dropped -/
def scrDrop : List Ev := [.setup, .op 1 0 (.publish { topic := some [0x61], qos := 1 }), .dropCtx]

/-- the same with the operation held back before the drop -/
def scrHeld : List Ev :=
  [.setup, .op 1 0 (.publish { topic := some [0x61], qos := 1 }), .hold (.op 1), .dropCtx]

/-- three operations pending (a QoS 1 publish waiting for its PUBACK, a subscribe, a ping not yet polled and held),
    then the drop -/
def scrThree : List Ev :=
  [.setup, .op 1 0 (.publish { topic := some [0x61], qos := 1 }),
   .op 2 0 (.subscribe { packetId := 0, filters := [([0x61], {})] }), .hold (.op 3), .op 3 0 .ping, .dropCtx]

/-- the client after `SETUP; RUN; OP 1 subscribe; FEED suback; STREAM 1` (`W11.q5`, `W11.evsSub_foldl5`) without its
    transcript: stream 1 is asleep, registered on its empty channel, whose sender sits in `subscriptions` -/
def wSub : World :=
  { hasCtx := true, handles := [0], task := .running true, c := { subs := [(1, 1)] },
    chans := [(1, { buf := [], reg := true })], streams := [1], pidCtr := 2, subCtr := 2, written := 11,
    queueReg := true, readerReg := true }

/-- so the hypotheses of `streams_flagged_after_drop_from` are satisfiable by a world with a live, sleeping stream -/
theorem wSub_both : World.Both wSub := by
  have ho := ownInv_script {} [Ev.setup, .run, .op 1 0 W11.subReq, .feed [W11.subackFr], .stream 1]
  have hs := strInv_script {} [Ev.setup, .run, .op 1 0 W11.subReq, .feed [W11.subackFr], .stream 1]
    (goodFrom_script _ _ (by decide))
  rw [W11.evsSub_foldl5] at ho hs
  exact ⟨{ ho with }, { hs with }⟩

end Ex
end Poster

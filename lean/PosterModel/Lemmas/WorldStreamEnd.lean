/-
  Which effects close a channel: a batch of context effects that contains `dropChan id` while channel `id` exists is an
  `EndCause` (the context dropped while it owns the sender, an expired session reset, the SUBSCRIBE refused for its size);
  the dispatch loop drops only senders whose receiver is gone.
-/
import PosterModel.Lemmas.WorldStreamStep

namespace Poster
open Framing
namespace World

/-- the batches of context effects that drop the sender of channel `id` while its receiver can still be there:
    the context is dropped while it owns the sender (in a queued SUBSCRIBE or in its subscription table); an expired
    session is reset on reconnection while the channel is registered; the SUBSCRIBE itself is refused for its size -/
inductive EndCause (id : Nat) : CtxSrc → Prop
  | dropCtx (q : List Msg) (c : Ctx) :
      ((∃ aid sid pkt s, Msg.subscribe aid sid pkt s id ∈ q) ∨ ∃ sid, (sid, id) ∈ c.subs) →
      EndCause id (.dropCtx q c)
  | reset (c : Ctx) (el : Nat) : c.disc = some el → c.sessionExpired el = true → (∃ sid, (sid, id) ∈ c.subs) →
      EndCause id (.resume c)
  | refused (c : Ctx) (aid sid : Nat) (pkt : Bytes) (s : Nat) (wok : Bool) : c.sizeOk pkt = false →
      EndCause id (.handler c (.msg (.subscribe aid sid pkt s id) wok))

theorem dropChan_mem_handleMsg (c : Ctx) (m : Msg) (wok : Bool) (id : Nat)
    (h : Eff.dropChan id ∈ (c.handleMsg m wok).2.1) :
    ∃ aid sid pkt s, m = .subscribe aid sid pkt s id ∧ c.sizeOk pkt = false := by
  generalize he : Eff.dropChan id = e at h
  cases Ctx.handleMsg_effs c m wok e h with
  | dropChan aid sid pkt s ch hm hs => cases he; exact ⟨aid, sid, pkt, s, hm, hs⟩
  | write | errSize | errQuota | unit | dropSlot => cases he

theorem dropChan_mem_handlePkt (c : Ctx) (alive : Nat → Bool) (p : RxPacket) (wok : Bool) (id : Nat)
    (h : Eff.dropChan id ∈ (c.handlePkt alive p wok).2.1) : (∃ pb, p = .publish pb) ∧ alive id = false := by
  generalize he : Eff.dropChan id = e at h
  cases Ctx.handlePkt_effs c alive p wok e h with
  | dropChan pb ch hp ha => cases he; exact ⟨⟨pb, hp⟩, ha⟩
  | write | send | deliver => cases he

theorem dropChan_mem_resume (c : Ctx) (id : Nat) (h : Eff.dropChan id ∈ c.resume.2.1) :
    ∃ el, c.disc = some el ∧ c.sessionExpired el = true ∧ ∃ sid, (sid, id) ∈ c.subs := by
  cases hd : c.disc with
  | none => rw [c.resume_none hd] at h; cases h
  | some el =>
    cases hx : c.sessionExpired el with
    | false => rw [c.resume_alive el hd hx] at h; cases h
    | true =>
      rw [c.resume_expired_eq el hd hx] at h
      rcases List.mem_append.1 h with h | h <;> obtain ⟨x, hx', e⟩ := List.mem_map.1 h
      · cases e
      · cases e; exact ⟨el, rfl, hx, x.1, hx'⟩

theorem dropChan_mem_closeEffs (q : List Msg) (c : Ctx) (id : Nat) (h : Eff.dropChan id ∈ closeEffs q c) :
    (∃ aid sid pkt s, Msg.subscribe aid sid pkt s id ∈ q) ∨ ∃ sid, (sid, id) ∈ c.subs := by
  simp only [closeEffs, List.mem_append, List.mem_flatMap, List.mem_map] at h
  rcases h with (⟨m, hm, he⟩ | ⟨x, _, e⟩) | ⟨x, hx, e⟩
  · cases m with
    | ff pkt s => simp [closeMsgEffs] at he
    | awaitAck aid pkt s => simp [closeMsgEffs] at he
    | subscribe aid sid pkt s ch =>
      simp [closeMsgEffs] at he
      subst he
      exact Or.inl ⟨aid, sid, pkt, s, hm⟩
  · cases e
  · simp only [Eff.dropChan.injEq] at e
    exact Or.inr ⟨x.1, by rw [← e]; exact hx⟩

theorem dropChan_mem_cases (src : CtxSrc) (id : Nat) (h : Eff.dropChan id ∈ src.effs) :
    EndCause id src ∨ ∃ c pb dead wok, src = .handler c (.pkt (.publish pb) dead wok) ∧ id ∈ dead := by
  cases src with
  | handler c i =>
    cases i with
    | msg m wok =>
      obtain ⟨aid, sid, pkt, s, rfl, hs⟩ := dropChan_mem_handleMsg c m wok id h
      exact Or.inl (.refused c aid sid pkt s wok hs)
    | pkt p dead wok =>
      obtain ⟨⟨pb, rfl⟩, ha⟩ := dropChan_mem_handlePkt c (fun ch => decide (ch ∉ dead)) p wok id h
      exact Or.inr ⟨c, pb, dead, wok, rfl, by simpa using ha⟩
  | resume c =>
    obtain ⟨el, a, b, d⟩ := dropChan_mem_resume c id h
    exact Or.inl (.reset c el a b d)
  | dropCtx q c => exact Or.inl (.dropCtx q c (dropChan_mem_closeEffs q c id h))
  | fresh => simp [CtxSrc.effs] at h

theorem ChanWf.mem_deadOf {w : World} (wf : ChanWf w) (id : Nat) :
    id ∈ w.deadOf ↔ (∃ sid, (sid, id) ∈ w.c.subs) ∧ w.chan id = none := by
  have h : w.chanRxAlive id = false ↔ w.chan id = none := by
    rw [← Bool.not_eq_true, wf.rxAlive_iff]; exact Decidable.not_not
  simp only [deadOf, List.mem_filter, List.mem_map, Bool.not_eq_true', h]
  exact and_congr_left' ⟨fun ⟨e, he, h⟩ => ⟨e.1, h ▸ he⟩, fun ⟨sid, h⟩ => ⟨_, h, rfl⟩⟩

theorem not_dead_of_chan (w : World) (wf : ChanWf w) (id : Nat) (h : w.chan id ≠ none) : id ∉ w.deadOf :=
  fun hm => h ((wf.mem_deadOf id).1 hm).2

theorem SMove.endCause {w w' : World} {src : CtxSrc} (m : SMove (.ctx src) w w') (wf : ChanWf w) (id : Nat)
    (hch : w.chan id ≠ none) (h : Eff.dropChan id ∈ src.effs) : EndCause id src := by
  rcases dropChan_mem_cases src id h with hc | ⟨c, pb, dead, wok, rfl, hd⟩
  · exact hc
  · exfalso
    rcases m.srcOk.2 with ⟨m0, q, _, e⟩ | ⟨p, _, _, e, _⟩
    · cases e
    · simp only [inPkt, CIn.pkt.injEq] at e
      rw [e.2.1] at hd
      exact not_dead_of_chan w wf id hch hd

end World
end Poster

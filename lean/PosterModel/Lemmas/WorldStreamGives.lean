/-
  Which handler call delivers what into which channel: the deliveries of the dispatch loop into channel `id` in closed form
  (`pubDelivers`), for every handler input and for one label of a trace (`SLab.effs_publishes`; along a whole trace:
  `delivered_in_closed_form`, Properties/C07World.lean).
-/
import PosterModel.Lemmas.WorldStreamStep
import PosterModel.Properties.C07

namespace Poster
open Framing

theorem deliversTo_dispatch_nodup (alive : Nat → Bool) (p : PublishRx) (sids : List Nat) (subs : List (Nat × Nat))
    (id : Nat) (hn : (subs.map (·.1)).Nodup) :
    deliversTo id (Ctx.dispatch alive p sids subs).2 =
      (sids.filter fun sid => lookupFirst sid subs == some id && alive id).map fun _ => p := by
  rw [deliversTo_eq, dispatch_spec_nodup alive p sids subs hn]
  induction sids with
  | nil => rfl
  | cons sid rest ih =>
    rw [List.filterMap_cons, List.filter_cons]
    cases hl : lookupFirst sid subs with
    | none => simpa using ih
    | some ch =>
      by_cases hid : ch = id
      · subst hid
        cases ha : alive ch with
        | true => simp [ha, ih]
        | false => simpa [ha] using ih
      · have hne : (some ch == some id) = false := by simpa using hid
        cases ha : alive ch with
        | true =>
          simp only [Option.bind_some, ha, if_true, List.filterMap_cons, hid, if_false, hne, Bool.false_and]
          exact ih
        | false =>
          simp only [Option.bind_some, ha, hne, Bool.false_and]
          exact ih

theorem deliversTo_dispatch_sound (alive : Nat → Bool) (p : PublishRx) (sids : List Nat) (subs : List (Nat × Nat))
    (id : Nat) :
    (∀ q ∈ deliversTo id (Ctx.dispatch alive p sids subs).2, q = p) ∧
    (deliversTo id (Ctx.dispatch alive p sids subs).2 ≠ [] → alive id = true ∧ ∃ sid ∈ sids, (sid, id) ∈ subs) := by
  have key : ∀ q ∈ deliversTo id (Ctx.dispatch alive p sids subs).2,
      q = p ∧ alive id = true ∧ ∃ sid ∈ sids, (sid, id) ∈ subs := by
    intro q hq
    rw [deliversTo_eq] at hq
    simp only [List.mem_filterMap] at hq
    obtain ⟨d, hd, hm⟩ := hq
    by_cases h : d.1 = id
    · simp only [h, if_true, Option.some.injEq] at hm
      have := dispatch_delivers_sound alive p sids subs d.1 d.2 hd
      rw [h, hm] at this
      exact this
    · simp [h] at hm
  refine ⟨fun q hq => (key q hq).1, fun hne => ?_⟩
  cases hl : deliversTo id (Ctx.dispatch alive p sids subs).2 with
  | nil => exact absurd hl hne
  | cons q t => exact (key q (by rw [hl]; simp)).2

theorem deliversTo_handlePkt_publish (c : Ctx) (alive : Nat → Bool) (pb : PublishRx) (wok : Bool) (id : Nat) :
    deliversTo id (c.handlePkt alive (.publish pb) wok).2.1 =
      if pb.qos = 2 ∧ pb.packetId.getD 0 ∈ c.inQos2 then []
      else deliversTo id (Ctx.dispatch alive pb pb.subIds c.subs).2 := by
  rw [deliversTo_eq, deliversTo_eq]
  split
  · rename_i h; rw [((handlePkt_publish_dispatch c alive pb wok).1 h).2]; rfl
  · rename_i h; rw [((handlePkt_publish_dispatch c alive pb wok).2 h).2]

theorem deliversTo_handlePkt_other (c : Ctx) (alive : Nat → Bool) (p : RxPacket) (wok : Bool) (id : Nat)
    (hp : ∀ pb, p ≠ .publish pb) : deliversTo id (c.handlePkt alive p wok).2.1 = [] :=
  List.filterMap_eq_nil_iff.mpr fun e he => by
    cases Ctx.handlePkt_effs c alive p wok e he with
    | write | send => rfl
    | deliver pb _ h | dropChan pb _ h => exact absurd h (hp pb)

/-- what one inbound PUBLISH `pb`, handled in context state `c` with the receivers in `dead` gone, puts into
    channel `id` -/
def pubDelivers (id : Nat) (c : Ctx) (pb : PublishRx) (dead : List Nat) : List PublishRx :=
  if pb.qos = 2 ∧ pb.packetId.getD 0 ∈ c.inQos2 then []
  else (pb.subIds.filter fun sid => lookupFirst sid c.subs == some id && decide (id ∉ dead)).map fun _ => pb

theorem deliversTo_stepIn_msg (c : Ctx) (m : Msg) (wok : Bool) (id : Nat) :
    deliversTo id (c.stepIn (.msg m wok)).2.effs = [] := by
  rw [deliversTo_eq]
  show List.filterMap _ (deliversOf (c.handleMsg m wok).2.1) = []
  rw [Ctx.deliversOf_handleMsg]; rfl

theorem deliversTo_stepIn_other (c : Ctx) (p : RxPacket) (dead : List Nat) (wok : Bool) (id : Nat)
    (hp : ∀ pb, p ≠ .publish pb) : deliversTo id (c.stepIn (.pkt p dead wok)).2.effs = [] :=
  deliversTo_handlePkt_other c _ p wok id hp

theorem deliversTo_stepIn_publish (c : Ctx) (pb : PublishRx) (dead : List Nat) (wok : Bool) (id : Nat)
    (hn : (c.subs.map (·.1)).Nodup) :
    deliversTo id (c.stepIn (.pkt (.publish pb) dead wok)).2.effs = pubDelivers id c pb dead := by
  show deliversTo id (c.handlePkt (fun ch => decide (ch ∉ dead)) (.publish pb) wok).2.1 = _
  rw [deliversTo_handlePkt_publish]
  unfold pubDelivers
  split
  · rfl
  · rw [deliversTo_dispatch_nodup _ _ _ _ _ hn]

theorem deliversTo_stepIn_publish_sound (c : Ctx) (pb : PublishRx) (dead : List Nat) (wok : Bool) (id : Nat) :
    (∀ q ∈ deliversTo id (c.stepIn (.pkt (.publish pb) dead wok)).2.effs, q = pb) ∧
    (deliversTo id (c.stepIn (.pkt (.publish pb) dead wok)).2.effs ≠ [] →
      ¬ (pb.qos = 2 ∧ pb.packetId.getD 0 ∈ c.inQos2) ∧ id ∉ dead ∧ ∃ sid ∈ pb.subIds, (sid, id) ∈ c.subs) := by
  have e : deliversTo id (c.stepIn (.pkt (.publish pb) dead wok)).2.effs =
      deliversTo id (c.handlePkt (fun ch => decide (ch ∉ dead)) (.publish pb) wok).2.1 := rfl
  rw [e, deliversTo_handlePkt_publish]
  split
  · exact ⟨by simp, by simp⟩
  · rename_i h
    obtain ⟨a, b⟩ := deliversTo_dispatch_sound (fun ch => decide (ch ∉ dead)) pb pb.subIds c.subs id
    refine ⟨a, fun hne => ?_⟩
    obtain ⟨x, y⟩ := b hne
    exact ⟨h, by simpa using x, y⟩

theorem deliversTo_stepIn_publish_allAlive (c : Ctx) (pb : PublishRx) (dead : List Nat) (wok : Bool) (id : Nat)
    (hd : ∀ e ∈ c.subs, e.2 ∉ dead) :
    deliversTo id (c.stepIn (.pkt (.publish pb) dead wok)).2.effs = pubDelivers id c pb dead := by
  show deliversTo id (c.handlePkt (fun ch => decide (ch ∉ dead)) (.publish pb) wok).2.1 = _
  rw [deliversTo_handlePkt_publish]
  unfold pubDelivers
  split
  · rfl
  · rw [deliversTo_eq, (dispatch_all_alive _ pb pb.subIds c.subs (fun e he => by simpa using hd e he)).2.1]
    generalize pb.subIds = sids
    induction sids with
    | nil => rfl
    | cons sid rest ih =>
      rw [List.filterMap_cons, List.filter_cons]
      cases hl : lookupFirst sid c.subs with
      | none => simpa using ih
      | some ch =>
        have hch : ch ∉ dead := hd (sid, ch) (Poster.mem_of_lookupFirst _ _ _ hl)
        by_cases hid : ch = id
        · subst hid
          simp [hch, ih]
        · have hne : (some ch == some id) = false := by simpa using hid
          simp only [Option.map_some, List.filterMap_cons, hid, if_false, hne, Bool.false_and]
          exact ih

/-- the messages a label delivers into `id`, in closed form: a handled PUBLISH delivers `pubDelivers`, nothing else
    delivers anything -/
def World.SLab.publishes (id : Nat) : World.SLab → List PublishRx
  | .ctx (.handler c (.pkt (.publish pb) dead _)) => pubDelivers id c pb dead
  | _ => []

/-- at this label every subscription identifier is registered once, or no registered receiver is gone -/
def World.SLab.subsOnce : World.SLab → Prop
  | .ctx (.handler c (.pkt _ dead _)) => (c.subs.map (·.1)).Nodup ∨ ∀ e ∈ c.subs, e.2 ∉ dead
  | _ => True

theorem World.deliversTo_onlyDrops {es : List Eff} (h : World.OnlyDrops es) (id : Nat) : deliversTo id es = [] := by
  rw [deliversTo_eq, World.deliversOf_onlyDrops h]; rfl

theorem World.SLab.effs_publishes (id : Nat) (l : World.SLab) (h : l.subsOnce) :
    deliversTo id l.effs = l.publishes id := by
  cases l with
  | ctx src =>
    cases src with
    | handler c i =>
      cases i with
      | msg m wok => exact deliversTo_stepIn_msg c m wok id
      | pkt p dead wok =>
        by_cases hp : ∃ pb, p = .publish pb
        · obtain ⟨pb, rfl⟩ := hp
          rcases h with h | h
          · exact deliversTo_stepIn_publish c pb dead wok id h
          · exact deliversTo_stepIn_publish_allAlive c pb dead wok id h
        · have : World.SLab.publishes id (.ctx (.handler c (.pkt p dead wok))) = [] := by
            cases p with
            | publish pb => exact absurd ⟨pb, rfl⟩ hp
            | _ => rfl
          rw [this]
          exact deliversTo_stepIn_other c p dead wok id (fun pb e => hp ⟨pb, e⟩)
    | resume c => exact World.deliversTo_onlyDrops c.resume_effs_drops id
    | dropCtx q c => exact World.deliversTo_onlyDrops (World.onlyDrops_closeEffs q c) id
    | fresh => rfl
  | _ => rfl

end Poster

/-
  Lemmas/WorldCancelBoth.lean — the two erasures combined: `shade id w = veil id (hide id w)` erases the private state of
  the handle future of operation `id` AND the receiving end of its subscription channel. This is what is needed for a
  `subscribe()` future dropped while it waits for its SUBACK: the drop removes the future, its oneshot and the receiving
  end of the channel it created.
-/
import PosterModel.Lemmas.WorldCancelVeilScript

namespace Poster
open Framing
namespace World
namespace W11

/-- `w` without the private state of the future of operation `id` and without the receiving end of channel `id` -/
def shade (id : Nat) (w : World) : World := veil id (hide id w)

structure SideB (id : Nat) (w : World) : Prop where
  h : Side id w
  v : SideV id (hide id w)

theorem SideB.pollTask {id : Nat} {w : World} (s : SideB id w) (t : Task) (ht : t ≠ .op id) (hs : t ≠ .st id) :
    SideB id (w.pollTask t) :=
  ⟨s.h.pollTask t ht, by rw [← pollTask_hide id w t ht s.h]; exact s.v.pollTask t hs ht⟩

theorem pollTask_shade (id) (w : World) (t : Task) (ht : t ≠ .op id) (hs : t ≠ .st id) (s : SideB id w) :
    (shade id w).pollTask t = shade id (w.pollTask t) := by
  unfold shade
  rw [pollTask_veil id (hide id w) t hs ht s.v.ctxOK, pollTask_hide id w t ht s.h]

theorem SideB.not_picked {id : Nat} {w : World} (s : SideB id w) (t : Task) (hp : w.pick = some t) :
    t ≠ .op id ∧ t ≠ .st id := by
  obtain ⟨_, hl, hh⟩ := pick_some_spec w t hp
  have hk := (polls_hide id).kept_of_live s.h hl hh
  have ht := (keepT_true id t).mp hk
  refine ⟨ht, (keepV_true id t).mp ((polls_veil id).kept_of_live s.v ?_ ?_)⟩
  · rw [hide_eq, Era.taskLive_app w t hk]; exact hl
  · rw [mem_held_hide id w t ht]; exact hh

theorem erasure_shade (id : Nat) : Erasure (shade id) (SideB id) :=
  (erasure_hide id).comp (erasure_veil id) (emit_hide_cases id) fun _ => ⟨fun s => ⟨s.h, s.v⟩, fun s => ⟨s.1, s.2⟩⟩

def QuietB (id : Nat) (w : World) (e : Ev) : Prop := QuietH id w e ∧ quietFor id e = true

theorem events_shade (id : Nat) : Events (shade id) (SideB id) (QuietB id) :=
  (events_hide id).comp (events_veil id) (fun _ => ⟨fun s => ⟨s.h, s.v⟩, fun s => ⟨s.1, s.2⟩⟩) fun a b e h sa _ q =>
    ⟨q.1, keeps_congr (a := a) (b := b) e (congrArg World.handles h : (shade id a).handles = _) sa.handles q.2⟩

end W11
end World
end Poster

/-
  Lemmas/WorldQuietIds.lean — the side condition `evOk` follows from a purely syntactic condition on the script:
  the identifiers of its `op` events are pairwise distinct.
-/
import PosterModel.Lemmas.WorldQuiet
import PosterModel.Lemmas.WorldOwnIds


namespace Poster
open Framing
namespace World

theorem evOk_of_opFresh {w : World} {e : Ev} (h : opFresh w e) : evOk w e = true := by
  cases e with
  | op id hh req =>
    cases req with
    | subscribe t => simp only [evOk, Bool.and_eq_true, decide_eq_true_eq]; exact ⟨h.2, h.1⟩
    | _ => rfl
  | _ => rfl

theorem evsOk_of_goodFrom : ∀ (evs : List Ev) (w : World), GoodFrom w evs → evsOk w evs = true
  | [], _, _ => rfl
  | e :: es, w, h => by
    simp only [evsOk, Bool.and_eq_true]
    exact ⟨evOk_of_opFresh h.1, evsOk_of_goodFrom es _ h.2⟩

theorem evsOk_init_of_distinct (cfg : Cfg) (evs : List Ev) (h : (opIds evs).Nodup) :
    evsOk { cfg := cfg } evs = true :=
  evsOk_of_goodFrom evs _ (goodFrom_script cfg evs h)

end World
end Poster

/-
  Lemmas/WorldCancelVeil.lean — `veil id w` is the world `w` with everything that belongs to the receiving end of
  subscription channel `id` erased: the channel itself (with its buffer), its registrations in the context's
  subscription table, the stream `id`, the `woken` / `held` flags of task `st id`, and the lines of the transcript that
  belong to that stream (its items, its end, the markers of the events that address it, and the snapshots of the
  session, which show the subscription table). It is the one erasure that changes the session (`veilE id`, `veil_eq`):
  the handlers of the session without the registrations of `id` agree with those of the full one up to the effects on
  channel `id`, provided every subscription identifier is registered once and the request handled is not the SUBSCRIBE
  that registers channel `id` (`isSubFor`; for the loop, `CtxOK`).
-/
import PosterModel.Lemmas.WorldCancelSub
import PosterModel.Lemmas.WorldCancelEv
import PosterModel.Lemmas.WorldStreamSid

namespace Poster
open Framing
namespace World
namespace W11

/-- the script events that address the receiving end of channel `id` (or would re-create it, or show the
    subscription table) -/
def mineStEv (id : Nat) : Ev → Bool
  | .poll (.st i) => i == id
  | .hold (.st i) => i == id
  | .release (.st i) => i == id
  | .drop (.st i) => i == id
  | .stream i => i == id
  | .dropRsp i => i == id
  | .op i _ _ => i == id
  | .snap => true
  | _ => false

/-- the transcript lines of stream `id` -/
def mineSt (id : Nat) : Obs → Bool
  | .ev e => mineStEv id e
  | .item i _ => i == id
  | .endStream i => i == id
  | .state _ => true
  | _ => false

def othersSt (id : Nat) (out : List Obs) : List Obs := out.filter (fun o => !mineSt id o)

def keepV (id : Nat) (t : Task) : Bool := decide (t ≠ .st id)
@[simp] theorem keepV_true (id : Nat) (t : Task) : keepV id t = true ↔ t ≠ .st id := by simp [keepV]
@[simp] theorem keepV_false (id : Nat) (t : Task) : keepV id t = false ↔ t = .st id := by simp [keepV]

/-- the session without the registrations of channel `id` -/
def cOff (id : Nat) (c : Ctx) : Ctx := { c with subs := subsOff id c.subs }

def veil (id : Nat) (w : World) : World :=
  { w with c := cOff id w.c,
           chans := w.chans.filter (fun x => keepK id x.1),
           streams := w.streams.filter (keepK id),
           woken := w.woken.filter (keepV id),
           held := w.held.filter (keepV id),
           out := othersSt id w.out }

@[simp] theorem veil_cfg (id) (w : World) : (veil id w).cfg = w.cfg := rfl
@[simp] theorem veil_hasCtx (id) (w : World) : (veil id w).hasCtx = w.hasCtx := rfl
@[simp] theorem veil_ctxDropped (id) (w : World) : (veil id w).ctxDropped = w.ctxDropped := rfl
@[simp] theorem veil_task (id) (w : World) : (veil id w).task = w.task := rfl
@[simp] theorem veil_c (id) (w : World) : (veil id w).c = cOff id w.c := rfl
@[simp] theorem veil_rx (id) (w : World) : (veil id w).rx = w.rx := rfl
@[simp] theorem veil_reader (id) (w : World) : (veil id w).reader = w.reader := rfl
@[simp] theorem veil_readerReg (id) (w : World) : (veil id w).readerReg = w.readerReg := rfl
@[simp] theorem veil_queueReg (id) (w : World) : (veil id w).queueReg = w.queueReg := rfl
@[simp] theorem veil_handles (id) (w : World) : (veil id w).handles = w.handles := rfl
@[simp] theorem veil_ops (id) (w : World) : (veil id w).ops = w.ops := rfl
@[simp] theorem veil_slots (id) (w : World) : (veil id w).slots = w.slots := rfl
@[simp] theorem veil_slotReg (id) (w : World) : (veil id w).slotReg = w.slotReg := rfl
@[simp] theorem veil_chans (id) (w : World) : (veil id w).chans = w.chans.filter (fun x => keepK id x.1) := rfl
@[simp] theorem veil_rsps (id) (w : World) : (veil id w).rsps = w.rsps := rfl
@[simp] theorem veil_streams (id) (w : World) : (veil id w).streams = w.streams.filter (keepK id) := rfl
@[simp] theorem veil_pidCtr (id) (w : World) : (veil id w).pidCtr = w.pidCtr := rfl
@[simp] theorem veil_subCtr (id) (w : World) : (veil id w).subCtr = w.subCtr := rfl
@[simp] theorem veil_woken (id) (w : World) : (veil id w).woken = w.woken.filter (keepV id) := rfl
@[simp] theorem veil_held (id) (w : World) : (veil id w).held = w.held.filter (keepV id) := rfl
@[simp] theorem veil_written (id) (w : World) : (veil id w).written = w.written := rfl
@[simp] theorem veil_wirePend (id) (w : World) : (veil id w).wirePend = w.wirePend := rfl
@[simp] theorem veil_out (id) (w : World) : (veil id w).out = othersSt id w.out := rfl
@[simp] theorem veil_bad (id) (w : World) : (veil id w).bad = w.bad := rfl

theorem mk_veil (id : Nat) (cfg hasCtx ctxDropped task) (c : Ctx) (rx reader readerReg queue queueReg handles ops slots
    slotReg) (chans : List (Nat × Chan)) (rsps) (streams : List Nat) (pidCtr subCtr) (woken held : List Task)
    (written wirePend) (out : List Obs) (bad) :
    (⟨cfg, hasCtx, ctxDropped, task, cOff id c, rx, reader, readerReg, queue, queueReg, handles, ops, slots, slotReg,
      chans.filter (fun x => keepK id x.1), rsps, streams.filter (keepK id), pidCtr, subCtr,
      woken.filter (keepV id), held.filter (keepV id), written, wirePend, othersSt id out, bad⟩ : World) =
    veil id ⟨cfg, hasCtx, ctxDropped, task, c, rx, reader, readerReg, queue, queueReg, handles, ops, slots,
      slotReg, chans, rsps, streams, pidCtr, subCtr, woken, held, written, wirePend, out, bad⟩ := rfl

@[simp] theorem canWrite_veil (id) (w : World) (n : Nat) : (veil id w).canWrite n = w.canWrite n := rfl
@[simp] theorem loopFuel_veil (id) (w : World) : (veil id w).loopFuel = w.loopFuel := rfl
@[simp] theorem senders_veil (id) (w : World) : (veil id w).senders = w.senders := rfl

theorem chan_veil (id) (w : World) (c : Nat) (h : c ≠ id) : (veil id w).chan c = w.chan c :=
  lookupFirst_filter (keepK id) c w.chans (by simpa using h)

theorem chan_veil_mine (id) (w : World) : (veil id w).chan id = none :=
  lookupFirst_filter_not (keepK id) id w.chans (by simp)

theorem chanRxAlive_veil (id) (w : World) (c : Nat) (h : c ≠ id) : (veil id w).chanRxAlive c = w.chanRxAlive c := by
  simp only [chanRxAlive, chan_veil id w c h]

theorem chanRxAlive_veil_mine (id) (w : World) : (veil id w).chanRxAlive id = false := by
  simp only [chanRxAlive, chan_veil_mine]

theorem mem_woken_veil (id) (w : World) (t : Task) (h : t ≠ .st id) : t ∈ (veil id w).woken ↔ t ∈ w.woken := by
  simp [h]

theorem mem_held_veil (id) (w : World) (t : Task) (h : t ≠ .st id) : t ∈ (veil id w).held ↔ t ∈ w.held := by
  simp [h]

theorem mem_streams_veil (id) (w : World) (j : Nat) (h : j ≠ id) : j ∈ (veil id w).streams ↔ j ∈ w.streams := by
  simp [h]

/-! ## the handlers on a session without the registrations of `id` -/

theorem subsOff_idem (id : Nat) (l : List (Nat × Nat)) : subsOff id (subsOff id l) = subsOff id l := by
  simp [subsOff, List.filter_filter]

theorem subsOff_self_of_no (id : Nat) (l : List (Nat × Nat)) (h : ∀ x ∈ l, x.2 ≠ id) : subsOff id l = l := by
  unfold subsOff
  rw [List.filter_eq_self]
  intro x hx
  simpa using h x hx

/-- the message is the SUBSCRIBE request that registers channel `id` -/
def isSubFor (id : Nat) : Msg → Bool
  | .subscribe _ _ _ _ ch => ch == id
  | _ => false

theorem handleMsg_cOff (id : Nat) (c : Ctx) (m : Msg) (wok : Bool) (hm : isSubFor id m = false) :
    (cOff id c).handleMsg m wok =
      (cOff id (c.handleMsg m wok).1, (c.handleMsg m wok).2.1, (c.handleMsg m wok).2.2) := by
  have hn : subsOff id (Ctx.newSubs c m) = Ctx.newSubs c m := by
    cases m with
    | subscribe aid sid pkt slot chan =>
      have hc : chan ≠ id := by simpa [isSubFor] using hm
      simp only [Ctx.newSubs]
      split <;> simp [subsOff, hc]
    | _ => rfl
  refine (Ctx.handleMsg_withSubs c (subsOff id c.subs) m wok).trans (Prod.ext ?_ rfl)
  show _ = cOff id _
  unfold cOff
  rw [Ctx.handleMsg_subs, subsOff_append, hn]

theorem ctx_eq_of_noSubs {x y : Ctx} (h1 : noSubs x = noSubs y) (h2 : x.subs = y.subs) : x = y := by
  cases x; cases y
  simp only [noSubs, Ctx.mk.injEq] at h1
  simp_all

/-- **an inbound packet handled by the session without the registrations of `id`** (the receiver of `id` counting as
    dead or alive, it does not matter): the same flow, the session of the full handler without the registrations of
    `id`, and the same effects except those on channel `id` -/
theorem handlePkt_cOff (id : Nat) (c : Ctx) (alive alive' : Nat → Bool) (hag : ∀ x, x ≠ id → alive x = alive' x)
    (hn : (c.subs.map (·.1)).Nodup) (p : RxPacket) (wok : Bool) :
    ((cOff id c).handlePkt alive' p wok).2.2 = (c.handlePkt alive p wok).2.2 ∧
    ((cOff id c).handlePkt alive' p wok).1 = cOff id (c.handlePkt alive p wok).1 ∧
    ((cOff id c).handlePkt alive' p wok).2.1.filter (offCh id) = (c.handlePkt alive p wok).2.1.filter (offCh id) := by
  obtain ⟨h1, h2, h3, h4, _, _⟩ := handlePkt_sim id c (subsOff id c.subs) alive alive' hag hn
    (subsOff_nodup id c.subs hn) (subsOff_idem id c.subs).symm p wok
  refine ⟨h1.symm, ?_, h2.symm⟩
  have hno : ∀ x ∈ ((cOff id c).handlePkt alive' p wok).1.subs, x.2 ≠ id := by
    intro x hx
    exact subsOff_no_ch id c.subs x ((Ctx.handlePkt_subs_sublist (cOff id c) alive' p wok).subset hx)
  apply ctx_eq_of_noSubs
  · exact h3.symm
  · show _ = subsOff id _
    rw [h4]
    exact (subsOff_self_of_no id _ hno).symm

/-- no queued request registers channel `id` (its SUBSCRIBE has been handled, or was never sent) -/
def NoMsgFor (id : Nat) (w : World) : Prop := ∀ m ∈ w.queue, isSubFor id m = false

/-- what the loop needs of a world to commute with veiling: no queued request registers channel `id`, and the
    subscription identifiers in flight (queued SUBSCRIBEs and the subscription table) are pairwise distinct -/
structure CtxOK (id : Nat) (w : World) : Prop where
  noMsg : NoMsgFor id w
  nodup : (psids w).Nodup

theorem CtxOK.runCont {id : Nat} {w w1 : World} (h : CtxOK id w) (hc : RunCont w w1) : CtxOK id w1 := by
  refine ⟨?_, ?_⟩
  · intro m hm
    rcases W7.runCont_queue hc with ⟨m0, e⟩ | e
    · exact h.noMsg m (by rw [e]; exact List.mem_cons_of_mem _ hm)
    · exact h.noMsg m (by rw [← e]; exact hm)
  · obtain ⟨i, mv⟩ := runCont_smove hc
    rcases mv.subRel with ⟨_, sf⟩ | ⟨hne, _⟩
    · exact sf.2.1 h.nodup
    · exact absurd rfl hne

theorem map_dropChan_subsOff (id : Nat) (l : List (Nat × Nat)) :
    (subsOff id l).map (fun x => Eff.dropChan x.2) = (l.map (fun x => Eff.dropChan x.2)).filter (offCh id) := by
  induction l with
  | nil => rfl
  | cons x t ih =>
    obtain ⟨a, b⟩ := x
    rw [subsOff_cons]
    by_cases hb : b = id
    · have : offCh id (Eff.dropChan b) = false := by simp [offCh, hb]
      simp only [hb, ne_eq, not_true_eq_false, ↓reduceIte, List.map_cons, List.filter_cons]
      rw [hb] at this
      simp only [this, Bool.false_eq_true, ↓reduceIte]
      exact ih
    · have : offCh id (Eff.dropChan b) = true := by simp [offCh, hb]
      simp only [hb, ne_eq, not_false_eq_true, ↓reduceIte, List.map_cons, List.filter_cons, this]
      rw [ih]

theorem resume_cOff (id : Nat) (c : Ctx) :
    (cOff id c).resume = (cOff id c.resume.1, c.resume.2.1.filter (offCh id), c.resume.2.2) := by
  cases hd : c.disc with
  | none => rw [(cOff id c).resume_none hd, c.resume_none hd]; rfl
  | some el =>
    cases hx : c.sessionExpired el with
    | false => rw [(cOff id c).resume_alive el hd hx, c.resume_alive el hd hx]; rfl
    | true =>
      rw [(cOff id c).resume_expired_eq el hd hx, c.resume_expired_eq el hd hx]
      refine Prod.ext rfl (Prod.ext ?_ rfl)
      show (cOff id c).awaiting.map _ ++ (subsOff id c.subs).map _ = _
      rw [List.filter_append, map_dropChan_subsOff]
      congr 1
      rw [List.filter_eq_self.mpr]
      · rfl
      · intro e he
        obtain ⟨x, _, rfl⟩ := List.mem_map.mp he
        rfl

theorem handleConnack_cOff (id : Nat) (c : Ctx) (k : ConnackRx) :
    (cOff id c).handleConnack k = cOff id (c.handleConnack k) := by
  rw [Ctx.handleConnack_eq, Ctx.handleConnack_eq]; rfl

def veilE (id : Nat) : Era :=
  { cfg := fun c => c, c := cOff id, kTask := keepV id,
    pre := [], kObs := fun o => !mineSt id o }

theorem veilE_kOp (id : Nat) : (veilE id).kOp = fun _ => true := funext fun n => by simp [veilE, Era.kOp_eq, keepV]
theorem veilE_kSlot (id : Nat) : (veilE id).kSlot = fun _ => true := funext fun n => by simp [veilE, Era.kSlot_eq, keepV]
theorem veilE_kChan (id : Nat) : (veilE id).kChan = keepK id := funext fun n => by simp [veilE, Era.kChan_eq, keepV, keepK]

theorem veil_eq (id : Nat) : veil id = (veilE id).app :=
  funext fun w => by
    simp only [Era.app, veilE_kOp, veilE_kSlot, veilE_kChan]
    simp [veil, veilE, othersSt, filter_all]

theorem veilE_wf (id : Nat) : (veilE id).Wf where
  wlimit := fun _ => rfl
  ctx := by simp [veilE]
  line := fun o h => by rcases h with ⟨bs, rfl | rfl⟩ | ⟨c, r, rfl⟩ | ⟨cls, rfl⟩ <;> rfl

theorem veilE_kEff (id : Nat) : (veilE id).kEff = offCh id := by
  funext e; cases e <;> simp [Era.kEff, veilE_kChan, offCh, keepK]

theorem veilE_snd (id : Nat) (w : World) : (veilE id).Snd w := Or.inr fun _ => rfl

theorem veilE_kObs {id : Nat} {o : Obs} (h : mineSt id o = false) : (veilE id).kObs o = true := congrArg (!·) h

theorem veilE_ctxSide (id : Nat) : (veilE id).CtxSide (CtxOK id) where
  senders := fun w _ => veilE_snd id w
  msg := fun w m q wok h hq => by
    show Era.Agree _ ((cOff id w.c).handleMsg m wok) _
    rw [handleMsg_cOff id w.c m wok (h.noMsg m (by rw [hq]; exact List.mem_cons_self))]
    exact ⟨rfl, rfl, rfl⟩
  pkt := fun w p wok h => by
    unfold Era.Agree
    rw [veilE_kEff]
    exact handlePkt_cOff id w.c w.chanRxAlive _ (fun y hy => by
      simp only [chanRxAlive, Era.chan_app (E := veilE id) w y (by simpa [veilE_kChan] using hy)])
      ((List.sublist_append_right _ _).nodup h.nodup) p wok
  connack := handleConnack_cOff id
  sei := fun _ _ => rfl
  resume := fun c => by
    have e : ((veilE id).c c).resume = _ := resume_cOff id c
    rw [e, veilE_kEff]
    exact ⟨rfl, by simp [List.filter_filter], rfl⟩
  cont := fun _ _ h hc => h.runCont hc
  resent := fun w h => by
    obtain ⟨hq, hc, _⟩ := resent_frame w
    refine ⟨fun m hm => h.noMsg m (hq ▸ hm), ?_⟩
    unfold psids
    rw [hq, hc]
    have hsub : (w.c.resume.1.subs.map (·.1)).Sublist (w.c.subs.map (·.1)) := by
      rcases Ctx.resume_fst_cases w.c with e | e | e <;> rw [e] <;> simp
    exact (List.Sublist.append (List.Sublist.refl _) hsub).nodup h.nodup

theorem runHandler_pkt_veil' (id : Nat) (w : World) (rx' : Rx) (rd' : List ReadEv) (p : RxPacket)
    (hn : (w.c.subs.map (·.1)).Nodup) :
    (veil id { w with rx := rx', reader := rd' }).runHandler
        (fun wok => (cOff id w.c).handlePkt (veil id { w with rx := rx', reader := rd' }).chanRxAlive p wok) =
      (veil id (({ w with rx := rx', reader := rd' } : World).runHandler
          (fun wok => w.c.handlePkt ({ w with rx := rx', reader := rd' } : World).chanRxAlive p wok)).1,
        (({ w with rx := rx', reader := rd' } : World).runHandler
          (fun wok => w.c.handlePkt ({ w with rx := rx', reader := rd' } : World).chanRxAlive p wok)).2) := by
  rw [veil_eq]
  refine Era.runHandler_app (veilE_wf id) _ _ _ fun wok => ?_
  unfold Era.Agree
  rw [veilE_kEff, ← veil_eq]
  exact handlePkt_cOff id w.c _ _ (fun y hy => (chanRxAlive_veil id _ y hy).symm) hn p wok

theorem emit_veil (id) (w : World) (o : Obs) (h : mineSt id o = false) : (veil id w).emit o = veil id (w.emit o) := by
  rw [veil_eq]; exact Era.emit_app w o (veilE_kObs h)

theorem emit_veil_mine (id) (w : World) (o : Obs) (h : mineSt id o = true) : veil id (w.emit o) = veil id w := by
  rw [veil_eq]; exact Era.emit_app_drop w o (congrArg (!·) h)

theorem setSlot_veil (id) (w : World) (s : Nat) (v : Slot) : (veil id w).setSlot s v = veil id (w.setSlot s v) := rfl

theorem dropChanRx_veil_mine (id) (w : World) : veil id (w.dropChanRx id) = veil id w := by
  simp only [dropChanRx, veil]
  rw [eraseFirst_filter_not (keepK id) id w.chans (by simp)]

theorem allocPid_veil_snd (id) (w : World) : (veil id w).allocPid.2 = veil id w.allocPid.2 := rfl
theorem allocSub_veil_snd (id) (w : World) : (veil id w).allocSub.2 = veil id w.allocSub.2 := rfl

end W11
end World
end Poster

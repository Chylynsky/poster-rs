/-
  Lemmas/WorldSweep.lean — a sweep (every live, non-flagged task polled once) over a quiescent world changes
  nothing but waker registrations.
-/
import PosterModel.Lemmas.WorldIter

namespace Poster
open Framing
namespace World

/-- the world with every waker registration erased: transport waker, queue waker, oneshot wakers, stream wakers -/
def eraseRegs (w : World) : World :=
  { w with readerReg := false, queueReg := false, slotReg := [],
           chans := w.chans.map fun kc => (kc.1, { kc.2 with reg := false }) }

/-- every live task is waiting and nothing it waits for has happened. `Quiesced` (Lemmas/WorldQuiet.lean) is the
    executor's reading: nothing left to poll, every task that waits registered at what wakes it -/
structure Quiescent (w : World) : Prop where
  ctx : w.task = .none ∨
    (w.task = .running true ∧ w.queue = [] ∧ w.reader = [] ∧ 0 < w.senders ∧ w.rx.st = .idle) ∨
    (∃ call t a, w.task = .connecting call t a true ∧ w.reader = [] ∧ w.rx.st = .idle)
  ops : ∀ id st, w.opSt id = some st → ∃ s k, st = .wait s k ∧ w.slot s = some .empty
  sts : ∀ id, id ∈ w.streams → ∃ ch, w.chan id = some ch ∧ ch.buf = [] ∧ ch.txAlive = true

theorem eraseRegs_chan (w : World) (id : Nat) :
    w.eraseRegs.chan id = (w.chan id).map fun c => { c with reg := false } :=
  lookupFirst_map_val (γ := Chan) (fun c : Chan => { c with reg := false }) id w.chans

theorem eraseRegs_keep {w w' : World} (h : eraseRegs w' = eraseRegs w) {α} (f : World → α)
    (hf : ∀ x : World, f x.eraseRegs = f x) : f w' = f w := by
  rw [← hf w', ← hf w, h]

theorem quiescent_of_eraseRegs {w w' : World} (h : eraseRegs w' = eraseRegs w) (hq : Quiescent w) :
    Quiescent w' := by
  refine ⟨?_, fun id st hst => ?_, fun id hid => ?_⟩
  · rw [eraseRegs_keep h task fun _ => rfl, eraseRegs_keep h queue fun _ => rfl, eraseRegs_keep h reader fun _ => rfl,
      eraseRegs_keep h senders fun _ => rfl, eraseRegs_keep h rx fun _ => rfl]
    exact hq.ctx
  · rw [eraseRegs_keep h (opSt · id) fun _ => rfl] at hst
    obtain ⟨s, k, e, hs⟩ := hq.ops id st hst
    exact ⟨s, k, e, (eraseRegs_keep h (slot · s) fun _ => rfl).trans hs⟩
  · rw [eraseRegs_keep h streams fun _ => rfl] at hid
    obtain ⟨ch, h1, h2, h3⟩ := hq.sts id hid
    have e := eraseRegs_keep h (fun x => (x.chan id).map fun c => (c.buf, c.txAlive)) fun x => by
      rw [eraseRegs_chan, Option.map_map]; rfl
    rw [h1] at e
    cases hc : w'.chan id with
    | none => rw [hc] at e; cases e
    | some ch' =>
      rw [hc] at e
      injection e with e; injection e with e1 e2
      exact ⟨ch', rfl, e1.trans h2, e2.trans h3⟩

theorem pollCtx_idle_running (w : World) (ht : w.task = .running true) (hq : w.queue = []) (hr : w.reader = [])
    (hs : 0 < w.senders) (hi : w.rx.st = .idle) : w.pollCtx = { w with readerReg := true, queueReg := true } := by
  have hf : w.loopFuel = (w.loopFuel - 1) + 1 := by simp only [loopFuel]; omega
  -- the first iteration ends pending (`RunEnd.pending`) with nothing read
  have hp : pollNext w.rx w.reader = (w.rx, w.reader, .pending) := by rw [hr]; exact pollNext_idle_nil w.rx hi
  rw [pollCtx_running ht, pollRun, if_pos rfl, hf, (RunEnd.pending w.rx w.reader hq (by omega) hp).loop, if_pos hr]

theorem pollCtx_idle_connecting (w : World) (call : Call) (t : ConnectTx) (a : AuthTx)
    (ht : w.task = .connecting call t a true) (hr : w.reader = []) (hi : w.rx.st = .idle) :
    w.pollCtx = { w with readerReg := true } := by
  have hp : pollNext w.rx w.reader = (w.rx, w.reader, .pending) := by rw [hr]; exact pollNext_idle_nil w.rx hi
  rw [pollCtx_connecting ht, pollConnect_true_eq, (FirstEnd.pending (call := call) (t := t) (a := a) w.rx w.reader hp).eq,
    if_pos hr, ← ht]

theorem pollTask_quiescent (w : World) (t : Task) (hq : Quiescent w) (hl : w.taskLive t = true)
    (hw : t ∉ w.woken) : eraseRegs (w.pollTask t) = eraseRegs w := by
  unfold pollTask
  rw [unwake_of_not_mem w t hw]
  cases t with
  | ctx =>
    show eraseRegs w.pollCtx = _
    rcases hq.ctx with h | ⟨h1, h2, h3, h4, h5⟩ | ⟨call, t, a, h1, h2, h3⟩
    · rw [pollCtx_none h]
    · rw [pollCtx_idle_running w h1 h2 h3 h4 h5]; rfl
    · rw [pollCtx_idle_connecting w call t a h1 h2 h3]; rfl
  | op n =>
    show eraseRegs (w.pollOp n) = _
    obtain ⟨st, hst⟩ := Option.isSome_iff_exists.mp hl
    obtain ⟨s, k, rfl, hs⟩ := hq.ops n st hst
    rw [pollOp_of_empty hst (Or.inr hs)]; rfl
  | st n =>
    show eraseRegs (w.pollStream n) = _
    have hn : n ∈ w.streams := by simpa [taskLive] using hl
    obtain ⟨ch, h1, h2, h3⟩ := hq.sts n hn
    rw [User.pollStream_pending w n ch hn h1 h2 h3]
    simp only [eraseRegs, map_val_setAssoc (γ := Chan) (fun c : Chan => { c with reg := false }) n { ch with reg := true } ch w.chans h1 rfl]

theorem sweep_quiescent (w : World) (hq : Quiescent w) : eraseRegs w.sweep = eraseRegs w :=
  (sweep_lift_unflagged (R := fun w w' => Quiescent w → eraseRegs w' = eraseRegs w ∧ Quiescent w')
    (fun _ h => ⟨rfl, h⟩) (fun f g h => ⟨(g (f h).2).1.trans (f h).1, (g (f h).2).2⟩)
    (fun w t hl hw _ h => ⟨pollTask_quiescent w t h hl hw, quiescent_of_eraseRegs (pollTask_quiescent w t h hl hw) h⟩)
    w hq).1

end World
end Poster

/-
  Where the values held by the oneshots come from (C12). `FullVia P w w'`: every filled oneshot entry `(s, full v)` of `w'`
  was already an entry of `w`, or `P s v`. A handler fills a oneshot only with a value it sends, the user side (futures,
  streams, script events) never fills one; so a oneshot holding `MaximumPacketSizeExceeded` was filled by an iteration of
  `run()` that refused a request for its size. Lemmas/WorldIdsForm.lean (C11) reads `FullVia` and `micro_noFill` for the
  packets held: each was sent by a handler.
-/
import PosterModel.Lemmas.WorldIds


namespace Poster
open Framing
namespace World
namespace W10
open W7

def FullVia (P : Nat → SlotVal → Prop) (w w' : World) : Prop :=
  ∀ s v, (s, Slot.full v) ∈ w'.slots → (s, Slot.full v) ∈ w.slots ∨ P s v

theorem FullVia.of_slots_eq {P : Nat → SlotVal → Prop} {w w' : World} (h : w'.slots = w.slots) : FullVia P w w' :=
  fun s v hm => Or.inl (by rw [← h]; exact hm)

theorem FullVia.refl (P : Nat → SlotVal → Prop) (w : World) : FullVia P w w := .of_slots_eq rfl

theorem FullVia.trans {P : Nat → SlotVal → Prop} {a b c : World} (h1 : FullVia P a b) (h2 : FullVia P b c) :
    FullVia P a c := by
  intro s v hm
  rcases h2 s v hm with h | h
  · exact h1 s v h
  · exact Or.inr h

theorem FullVia.mono {P Q : Nat → SlotVal → Prop} {a b : World} (h : FullVia P a b) (hpq : ∀ s v, P s v → Q s v) :
    FullVia Q a b := by
  intro s v hm
  rcases h s v hm with h | h
  · exact Or.inl h
  · exact Or.inr (hpq s v h)

theorem FullVia.of_sublist {P : Nat → SlotVal → Prop} {w w' : World} (h : w'.slots.Sublist w.slots) : FullVia P w w' :=
  fun _ _ hm => Or.inl (h.subset hm)

theorem fullVia_setAssoc {P : Nat → SlotVal → Prop} {w w' : World} (k : Nat) (x : Slot)
    (h : w'.slots = setAssoc k x w.slots) (hx : ∀ v, x = .full v → P k v) : FullVia P w w' := by
  intro s v hm
  rw [h] at hm
  rcases mem_setAssoc hm with e | e
  · simp only [Prod.mk.injEq] at e
    obtain ⟨rfl, e2⟩ := e
    exact Or.inr (hx v e2.symm)
  · exact Or.inl e

theorem sendSlot_fullVia (w : World) (s : Nat) (v : SlotVal) :
    FullVia (fun s' v' => s' = s ∧ v' = v) w (w.sendSlot s v) := by
  by_cases he : w.slot s = some .empty
  · obtain ⟨wk, sr, e⟩ := User.sendSlot_of_empty w s v he
    rw [e]
    exact fullVia_setAssoc s (.full v) rfl (fun v' h => by cases h; exact ⟨rfl, rfl⟩)
  · rw [User.sendSlot_noop w s v he]; exact .refl _ w

theorem dropSlotTx_fullVia (P : Nat → SlotVal → Prop) (w : World) (s : Nat) : FullVia P w (w.dropSlotTx s) := by
  rw [dropSlotTx_eq]
  split
  · exact fullVia_setAssoc s .closed rfl (fun v' h => by cases h)
  · exact .refl _ w

theorem applyEff_fullVia (w : World) (e : Eff) : FullVia (fun s v => e = .send s v) w (w.applyEff e) := by
  cases e with
  | write bs => exact .of_slots_eq (by simp [applyEff])
  | send s v => exact (sendSlot_fullVia w s v).mono (fun s' v' h => by rw [h.1, h.2])
  | dropSlot s => exact dropSlotTx_fullVia _ w s
  | deliver c p => exact .of_slots_eq (by simp [applyEff])
  | dropChan c => exact .of_slots_eq (by simp [applyEff])

theorem applyEffs_fullVia (w : World) (es : List Eff) :
    FullVia (fun s v => (s, v) ∈ sendsOf es) w (w.applyEffs es) :=
  applyEffs_lift (R := FullVia fun s v => (s, v) ∈ sendsOf es) (fun w => .refl _ w) FullVia.trans
    (fun w e he => (applyEff_fullVia w e).mono fun _ _ h => mem_sendsOf.2 (h ▸ he)) w

theorem runHandler_fullVia (w : World) (h : Bool → Ctx × List Eff × Flow) :
    ∃ b, FullVia (fun s v => (s, v) ∈ sendsOf (h b).2.1) w (w.runHandler h).1 := by
  refine ⟨w.canWrite (writeNeed (h true).2.1), ?_⟩
  rw [runHandler_eq]
  exact FullVia.trans (.of_slots_eq rfl) (applyEffs_fullVia ({ w with c := _ }) _)

/-- the iteration of `run()` that starts in `wm` refuses its message for its size, and `s` is that message's oneshot -/
def RefusedAt (wm : World) (s : Nat) : Prop := ∃ m q, wm.queue = m :: q ∧ m.slot = s ∧ TooBig wm.c m.pkt

theorem refusedAt_of_sent {w : World} {m : Msg} {q : List Msg} (hq : w.queue = m :: q) {b : Bool} {s : Nat}
    (h : (s, SlotVal.errSize) ∈ sendsOf (w.c.handleMsg m b).2.1) : RefusedAt w s :=
  ⟨m, q, hq, (msg_replies_only_to_its_own_slot w.c m b s _ h).1.symm, (handleMsg_errSize_iff w.c m b).1 ⟨s, h⟩⟩

theorem handlePkt_sends_no_errSize (c : Ctx) (alive : Nat → Bool) (p : RxPacket) (b : Bool) (s : Nat) :
    (s, SlotVal.errSize) ∉ sendsOf (c.handlePkt alive p b).2.1 :=
  fun h => by cases ((only_own_ack_completes c alive p b).2.2 s _ h).1

theorem resume_sends_nothing (c : Ctx) : sendsOf c.resume.2.1 = [] := (resume_facts c).2

theorem resent_slots (w : World) : w.resent.slots = w.resumed.slots := by
  obtain ⟨_, _, _, _, e⟩ := resent_shape w
  rw [e]

section Origin
/- `H w s`: the oneshot `s` holds `MaximumPacketSizeExceeded` in `w` — read as the value `w.slot s` looks up, or as an
   entry of the table `w.slots` (the two agree only when the keys are distinct). Either way it depends on the table
   alone; a request handler makes it true only by refusing the request for its size; a packet handler and session
   resumption never do. That is all the walk through one poll of the context task uses. -/
variable {H : World → Nat → Prop}
  (congr : ∀ {w w' : World}, w'.slots = w.slots → ∀ s, H w' s → H w s)
  (effs : ∀ (w : World) es s, H (w.applyEffs es) s → H w s ∨ (s, SlotVal.errSize) ∈ sendsOf es)
include congr effs

theorem handler_err (w : World) (h : Bool → Ctx × List Eff × Flow) (s : Nat) (h1 : H (w.runHandler h).1 s) :
    H w s ∨ ∃ b, (s, SlotVal.errSize) ∈ sendsOf (h b).2.1 := by
  rw [runHandler_eq] at h1
  rcases effs _ _ s h1 with h | h
  · exact Or.inl (congr (w := w) (by rfl) s h)
  · exact Or.inr ⟨_, h⟩

theorem msg_err (w : World) (m : Msg) (q : List Msg) (hq : w.queue = m :: q) (s : Nat) (h1 : H (headStep w m q).1 s) :
    H w s ∨ RefusedAt w s :=
  (handler_err @congr effs _ _ s h1).imp (congr (w := w) (by rfl) s) fun ⟨_, h⟩ => refusedAt_of_sent hq h

theorem pkt_err (w : World) (rx' : Rx) (rd' : List ReadEv) (p : RxPacket) (s : Nat)
    (h1 : H (({ w with rx := rx', reader := rd' }).runHandler (fun wok => w.c.handlePkt w.chanRxAlive p wok)).1 s) :
    H w s :=
  (handler_err @congr effs _ _ s h1).elim (congr (w := w) (by rfl) s) fun ⟨_, h⟩ =>
    absurd h (handlePkt_sends_no_errSize _ _ _ _ _)

theorem resumed_err (w : World) (s : Nat) (h1 : H w.resumed s) : H w s :=
  (effs ({ w with c := w.c.resume.1, task := .running true } : World) w.c.resume.2.1 s h1).elim (congr (w := w) (by rfl) s)
    fun h => by rw [resume_sends_nothing] at h; cases h

theorem runCont_err {w w1 : World} (h : RunCont w w1) (s : Nat) (h1 : H w1 s) : H w s ∨ RefusedAt w s := by
  cases h with
  | msg m q w1 hq hr =>
    have e : w1 = (headStep w m q).1 := by unfold headStep; rw [hr]
    subst e; exact msg_err @congr effs w m q hq s h1
  | pkt rx' rd' fr p w1 hq hs hp hd hr =>
    have e : w1 = (World.runHandler { w with rx := rx', reader := rd' }
        (fun wok => w.c.handlePkt w.chanRxAlive p wok)).1 := by rw [hr]
    subst e; exact Or.inl (pkt_err @congr effs w rx' rd' p s h1)

theorem runEnd_err {w r : World} (h : RunEnd w r) (s : Nat) (h1 : H r s) : H w s ∨ RefusedAt w s := by
  cases h with
  | msgExit m q w1 fl hq hr hne =>
    have e : w1 = (headStep w m q).1 := by unfold headStep; rw [hr]
    subst e; exact msg_err @congr effs w m q hq s (congr (finish_slots _ _ _) s h1)
  | pktExit rx' rd' fr p w1 fl hq hs hp hd hr hne =>
    have e : w1 = (World.runHandler { w with rx := rx', reader := rd' }
        (fun wok => w.c.handlePkt w.chanRxAlive p wok)).1 := by rw [hr]
    subst e; exact Or.inl (pkt_err @congr effs w rx' rd' p s (congr (finish_slots _ _ _) s h1))
  | pending rx' rd' hq hs hp =>
    refine Or.inl (congr ?_ s h1)
    split
    · rfl
    · exact wake_slots _ _
  | _ => refine Or.inl (congr (w := w) ?_ s h1); rfl

theorem serve_err {w wm : World} (hs : Serve w wm) (s : Nat) (h1 : H wm s) :
    H w s ∨ ∃ wk, Serve w wk ∧ RefusedAt wk s := by
  induction hs with
  | refl w => exact Or.inl h1
  | @step a b c hc hs' ih =>
    rcases ih h1 with h | ⟨wk, h2, h3⟩
    · rcases runCont_err @congr effs hc s h with h | h
      · exact Or.inl h
      · exact Or.inr ⟨a, .refl a, h⟩
    · exact Or.inr ⟨wk, .step hc h2, h3⟩

theorem runLoop_err (f : Nat) (w : World) (s : Nat) (h1 : H (runLoop f w) s) :
    H w s ∨ ∃ wk, Serve w wk ∧ RefusedAt wk s := by
  obtain ⟨wm, hs, he | ⟨he, _⟩⟩ := runLoop_decomp f w
  · rcases runEnd_err @congr effs he s h1 with h | h
    · exact serve_err @congr effs hs s h
    · exact Or.inr ⟨wm, hs, h⟩
  · rw [he] at h1; exact serve_err @congr effs hs s h1

theorem pollCtx_err (w : World) (s : Nat) (h1 : H w.pollCtx s) :
    H w s ∨ ∃ started wm, w.task = .running started ∧ InPoll w started wm ∧ RefusedAt wm s := by
  cases ht : w.task with
  | none =>
    have e : w.pollCtx = w := pollCtx_none ht
    rw [e] at h1; exact Or.inl h1
  | connecting call t a started =>
    -- a poll of `connect()` / `authorize()` runs no handler: the oneshots are as they were
    have e : w.pollCtx = w.pollConnect call t a started := pollCtx_connecting ht
    rw [e] at h1
    exact Or.inl (congr (pollConnect_via (R := fun a b => b.slots = a.slots) (fun h1 h2 => h2.trans h1) (·.slots)
      w call t a started ht) s h1)
  | running started =>
    rcases pollRun_enters w started ht with ⟨rfl, _, e⟩ | ⟨w1, a1, a2, _, _, e⟩ <;> rw [e] at h1
    · exact Or.inl (resumed_err @congr effs w s (congr ((finish_slots _ _ _).trans (writeBytes_slots _ _)) s h1))
    · rcases runLoop_err @congr effs _ w1 s h1 with h | ⟨wk, h2, h3⟩
      · cases started with
        | true => exact Or.inl (a1 rfl ▸ h)
        | false => exact Or.inl (resumed_err @congr effs w s (congr (resent_slots w) s ((a2 rfl).2 ▸ h)))
      · exact Or.inr ⟨started, wk, rfl, ⟨w1, a1, a2, h2⟩, h3⟩

end Origin

def ErrIn (w : World) (s : Nat) : Prop := (s, Slot.full SlotVal.errSize) ∈ w.slots

/-- read as an entry of the table: the form that is an invariant of executions without assuming distinct keys -/
theorem pollCtx_errIn (w : World) (s : Nat) (h1 : ErrIn w.pollCtx s) :
    ErrIn w s ∨ ∃ started wm, w.task = .running started ∧ InPoll w started wm ∧ RefusedAt wm s := by
  exact pollCtx_err (H := ErrIn) (fun h s h' => by unfold ErrIn at h' ⊢; rw [← h]; exact h')
    (fun w es s h => applyEffs_fullVia w es s _ h) w s h1

/-- read as the value `w.slot s` looks up: the form a caller observes -/
theorem pollCtx_errSize (w : World) (s : Nat) (h1 : w.pollCtx.slot s = some (.full .errSize))
    (h0 : w.slot s ≠ some (.full .errSize)) :
    ∃ started wm, w.task = .running started ∧ InPoll w started wm ∧ RefusedAt wm s := by
  exact (pollCtx_err (H := fun w s => w.slot s = some (.full .errSize))
    (fun h s h' => by rw [← h']; simp only [slot, h])
    (fun w es s h => ((applyEffs_slotRel w es).full h).imp_right And.right) w s h1).resolve_left h0

abbrev NoFill : Nat → SlotVal → Prop := fun _ _ => False

theorem clearSlot_noFill (w : World) (s : Nat) : FullVia NoFill w (w.clearSlot s) :=
  .of_sublist (by simpa using eraseFirst_sublist s w.slots)

theorem sendAwait_noFill (w : World) (m : Msg) (id s : Nat) (k : Wait) (hc : w.hasCtx = true) :
    FullVia NoFill w (w.sendAwait m id s k) := by
  obtain ⟨wk, qr, e⟩ := User.sendAwait_ctx w m id s k hc
  rw [e]
  exact fullVia_setAssoc s .empty rfl (fun v h => by cases h)

theorem endOp_noFill (w : World) (id : Nat) (o : Obs) : FullVia NoFill w (w.endOp id o) := by
  obtain ⟨wk, qr, e⟩ := endOp_shape w id o
  rw [e]; exact .of_slots_eq rfl

theorem eraseOp_noFill (w : World) (id : Nat) : FullVia NoFill w (w.eraseOp id) := by
  obtain ⟨wk, qr, e⟩ := eraseOp_shape w id
  rw [e]; exact .of_slots_eq rfl

theorem pollOp_noFill (w : World) (id : Nat) : FullVia NoFill w (w.pollOp id) :=
  pollOp_steps (R := FullVia NoFill) (FullVia.refl _) FullVia.trans (fun _ _ _ _ _ => .of_slots_eq rfl)
    -- the prepared world has the same oneshots, or the future's own one taken back
    (fun {w _ _} _ hp => by
      cases hp with
      | fresh => exact .of_slots_eq rfl
      | wait s k => exact .of_sublist (eraseFirst_sublist s w.slots))
    (fun o _ _ _ => endOp_noFill _ id o) (fun m s k _ _ _ hc => sendAwait_noFill _ m id s k hc) w

theorem dropOp_noFill (w : World) (id : Nat) : FullVia NoFill w (w.dropOp id) := by
  rcases dropOp_cases w id with ⟨_, e⟩ | ⟨h, req, _, e⟩ | ⟨s, k, _, _, e⟩ | ⟨s, _, e⟩
  · rw [e]; exact .refl _ w
  · rw [e]; exact eraseOp_noFill _ _
  · rw [e]; exact (clearSlot_noFill w s).trans (eraseOp_noFill _ _)
  · rw [e]; exact (clearSlot_noFill w s).trans (FullVia.trans (.of_slots_eq rfl) (eraseOp_noFill _ _))

theorem pollStream_noFill (w : World) (id : Nat) : FullVia NoFill w (w.pollStream id) :=
  .of_slots_eq (pollStream_ops_slots w id).2

theorem closes_noFill {w w' : World} (h : Closes w w') : FullVia NoFill w w' := by
  obtain ⟨es, hd, rfl⟩ := h.effs
  exact (applyEffs_fullVia w es).mono fun s v hm => by
    rcases hd _ (mem_sendsOf.1 hm) with ⟨_, e⟩ | ⟨_, e⟩ <;> cases e

theorem applied_noFill {w w' : World} {e : Ev} (h : Applied w e w') (he : ∀ t, e ≠ .poll t) : FullVia NoFill w w' := by
  cases h.norm with
  | poll t => exact absurd rfl (he t)
  | dropCtx sl sr ch wk e =>
    have h := closes_noFill (closes_dropCtxClosed w)
    rw [e] at h
    exact h
  | dropOp id o sl sr ch wk qr e => exact e ▸ dropOp_noFill w id
  | _ => exact .of_slots_eq rfl

theorem apply_noFill (w : World) (e : Ev) (he : ∀ t, e ≠ .poll t) : FullVia NoFill w (w.apply e) :=
  applied_noFill (apply_spec w e) he

theorem micro_noFill {w w' : World} (hm : Micro w w') : w' = w.pollCtx ∨ FullVia NoFill w w' := by
  rcases hm.lift_rest (R := FullVia NoFill) FullVia.trans pollStream_noFill (fun _ _ => .of_slots_eq rfl)
    (fun _ _ _ => .of_slots_eq rfl) apply_noFill (fun w => .of_slots_eq (flushRaw_ops_slots w).2) with
    h | ⟨id, rfl⟩ | h
  · exact Or.inl h
  · exact Or.inr (FullVia.trans (.of_slots_eq rfl) (pollOp_noFill (w.unwake (.op id)) id))
  · exact Or.inr h

/-- the refusal a oneshot entry holding `MaximumPacketSizeExceeded` in `w` stems from: an earlier moment `w0` at which
    `run()` was executing, whose poll refused, in the iteration starting in `wm`, the request carrying the oneshot `s` -/
def ErrOrigin (cfg : Cfg) (s : Nat) (w : World) : Prop :=
  ∃ w0 started wm, During cfg w0 ∧ w0.task = .running started ∧ InPoll w0 started wm ∧ RefusedAt wm s ∧
    Reaches w0.pollCtx w

theorem ErrOrigin.tail {cfg : Cfg} {s : Nat} {w w' : World} (h : ErrOrigin cfg s w) (hm : Micro w w') :
    ErrOrigin cfg s w' :=
  let ⟨w0, st, wm, a1, a2, a3, a4, a5⟩ := h
  ⟨w0, st, wm, a1, a2, a3, a4, a5.tail hm⟩

theorem during_errSize_origin {cfg : Cfg} {w : World} (hd : During cfg w) (s : Nat) (h : ErrIn w s) :
    ErrOrigin cfg s w := by
  refine hd.inv (I := fun w => ErrIn w s → ErrOrigin cfg s w) (fun h => by simp [ErrIn] at h)
    (fun {w w'} hd ih hm h => ?_) h
  rcases micro_noFill hm with rfl | hv
  · rcases pollCtx_errIn w s h with h0 | ⟨st, wm, a2, a3, a4⟩
    · exact (ih h0).tail (.ctx w)
    · exact ⟨w, st, wm, hd, a2, a3, a4, .refl _⟩
  · exact (hv s _ h).elim (fun h0 => (ih h0).tail hm) False.elim

end W10
end World
end Poster

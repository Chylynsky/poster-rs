/-
  The handlers of the context (`Ctx.lean`, `CtxRun.lean`) as equations: each function of the model gets its normal form
  once — `handle_packet` arm by arm (`RxPacket.kind`: the five ways it treats a packet), `resume` by its three
  outcomes, `serve` by one induction — and `PktEff` / `MsgEff` bound what a handler call can emit, so that a proof
  about a call can start from these and need not unfold the handler. The arms of `handle_message` and the branches of
  the dispatch loop are in Lemmas/CtxMsg.lean. `World.W11.freesSlot` and `World.W11.PubAck` speak of the send quota:
  which acknowledgements complete a publish, and which of them free its slot.
-/
import PosterModel.CtxRun
import PosterModel.Lemmas.Assoc
import PosterModel.Lemmas.CtxMsg

namespace Poster

@[simp] theorem writesOf_nil : writesOf [] = [] := rfl
@[simp] theorem deliversOf_nil : deliversOf [] = [] := rfl
@[simp] theorem sendsOf_nil : sendsOf [] = [] := rfl

@[simp] theorem writesOf_cons_write (b : Bytes) (t : List Eff) : writesOf (.write b :: t) = b :: writesOf t := rfl
@[simp] theorem writesOf_cons_send (s : Nat) (v : SlotVal) (t : List Eff) : writesOf (.send s v :: t) = writesOf t := rfl
@[simp] theorem writesOf_cons_dropSlot (s : Nat) (t : List Eff) : writesOf (.dropSlot s :: t) = writesOf t := rfl
@[simp] theorem writesOf_cons_deliver (c : Nat) (p : PublishRx) (t : List Eff) :
    writesOf (.deliver c p :: t) = writesOf t := rfl
@[simp] theorem writesOf_cons_dropChan (c : Nat) (t : List Eff) : writesOf (.dropChan c :: t) = writesOf t := rfl

@[simp] theorem deliversOf_cons_write (b : Bytes) (t : List Eff) : deliversOf (.write b :: t) = deliversOf t := rfl
@[simp] theorem deliversOf_cons_send (s : Nat) (v : SlotVal) (t : List Eff) :
    deliversOf (.send s v :: t) = deliversOf t := rfl
@[simp] theorem deliversOf_cons_dropSlot (s : Nat) (t : List Eff) : deliversOf (.dropSlot s :: t) = deliversOf t := rfl
@[simp] theorem deliversOf_cons_deliver (c : Nat) (p : PublishRx) (t : List Eff) :
    deliversOf (.deliver c p :: t) = (c, p) :: deliversOf t := rfl
@[simp] theorem deliversOf_cons_dropChan (c : Nat) (t : List Eff) : deliversOf (.dropChan c :: t) = deliversOf t := rfl

@[simp] theorem sendsOf_cons_write (b : Bytes) (t : List Eff) : sendsOf (.write b :: t) = sendsOf t := rfl
@[simp] theorem sendsOf_cons_send (s : Nat) (v : SlotVal) (t : List Eff) :
    sendsOf (.send s v :: t) = (s, v) :: sendsOf t := rfl
@[simp] theorem sendsOf_cons_dropSlot (s : Nat) (t : List Eff) : sendsOf (.dropSlot s :: t) = sendsOf t := rfl
@[simp] theorem sendsOf_cons_deliver (c : Nat) (p : PublishRx) (t : List Eff) :
    sendsOf (.deliver c p :: t) = sendsOf t := rfl
@[simp] theorem sendsOf_cons_dropChan (c : Nat) (t : List Eff) : sendsOf (.dropChan c :: t) = sendsOf t := rfl

@[simp] theorem writesOf_append (a b : List Eff) : writesOf (a ++ b) = writesOf a ++ writesOf b :=
  List.filterMap_append
@[simp] theorem deliversOf_append (a b : List Eff) : deliversOf (a ++ b) = deliversOf a ++ deliversOf b :=
  List.filterMap_append
@[simp] theorem sendsOf_append (a b : List Eff) : sendsOf (a ++ b) = sendsOf a ++ sendsOf b :=
  List.filterMap_append

theorem mem_writesOf {b : Bytes} {l : List Eff} : b ∈ writesOf l ↔ Eff.write b ∈ l := by
  induction l with
  | nil => simp
  | cons e t ih => cases e <;> simp [ih]

theorem mem_sendsOf {s : Nat} {v : SlotVal} {l : List Eff} : (s, v) ∈ sendsOf l ↔ Eff.send s v ∈ l := by
  induction l with
  | nil => simp
  | cons e t ih => cases e <;> simp [ih]

theorem writesOf_eq_nil_iff {l : List Eff} : writesOf l = [] ↔ ∀ b, Eff.write b ∉ l := by
  simp only [List.eq_nil_iff_forall_not_mem, mem_writesOf]

theorem sendsOf_eq_nil_iff {l : List Eff} : sendsOf l = [] ↔ ∀ s v, Eff.send s v ∉ l := by
  simp only [List.eq_nil_iff_forall_not_mem, Prod.forall, mem_sendsOf]

@[simp] theorem dispatch_writes (alive : Nat → Bool) (p : PublishRx) (ids : List Nat) (subs : List (Nat × Nat)) :
    writesOf (Ctx.dispatch alive p ids subs).2 = [] := by
  rw [writesOf_eq_nil_iff]
  intro b hb
  rcases Ctx.dispatch_effs alive p ids subs _ hb with ⟨ch, h, _⟩ | ⟨ch, h, _⟩ <;> cases h

@[simp] theorem dispatch_sends (alive : Nat → Bool) (p : PublishRx) (ids : List Nat) (subs : List (Nat × Nat)) :
    sendsOf (Ctx.dispatch alive p ids subs).2 = [] := by
  rw [sendsOf_eq_nil_iff]
  intro s v hb
  rcases Ctx.dispatch_effs alive p ids subs _ hb with ⟨ch, h, _⟩ | ⟨ch, h, _⟩ <;> cases h

namespace World.W11
/-- does this acknowledgement give the slot of the send quota (Receive Maximum) back? -/
def freesSlot : RxPacket → Bool
  | .puback _ => true
  | .pubcomp _ => true
  | .pubrec a => decide (a.reason ≥ 128)
  | _ => false
end World.W11

namespace Ctx

theorem bump_eq (c : Ctx) : c.bump = { c with quota := if c.quota ≠ c.recvMax then c.quota + 1 else c.quota } := by
  unfold bump; split <;> rfl

@[simp] theorem bump_retx (c : Ctx) : c.bump.retx = c.retx := by rw [bump_eq]
@[simp] theorem bump_inQos2 (c : Ctx) : c.bump.inQos2 = c.inQos2 := by rw [bump_eq]
@[simp] theorem bump_subs (c : Ctx) : c.bump.subs = c.subs := by rw [bump_eq]
@[simp] theorem bump_awaiting (c : Ctx) : c.bump.awaiting = c.awaiting := by rw [bump_eq]
@[simp] theorem bump_recvMax (c : Ctx) : c.bump.recvMax = c.recvMax := by rw [bump_eq]
@[simp] theorem bump_maxPkt (c : Ctx) : c.bump.maxPkt = c.maxPkt := by rw [bump_eq]

theorem bump_quota_le (c : Ctx) (h : c.quota ≤ c.recvMax) : c.bump.quota ≤ c.bump.recvMax := by
  rw [bump_eq]; simp only; split <;> omega

theorem complete_fst (c : Ctx) (aid : Nat) (p : RxPacket) :
    (c.complete aid p).1 = { c with awaiting := eraseFirst aid c.awaiting } := by
  unfold complete eraseFirst
  cases removeFirst aid c.awaiting <;> rfl

theorem complete_effs (c : Ctx) (aid : Nat) (p : RxPacket) :
    (c.complete aid p).2 = match lookupFirst aid c.awaiting with
      | some s => [.send s (.pkt p)]
      | none => [] := by
  unfold complete
  rw [lookupFirst_eq_removeFirst]
  cases removeFirst aid c.awaiting <;> rfl

@[simp] theorem complete_writes (c : Ctx) (aid : Nat) (p : RxPacket) : writesOf (c.complete aid p).2 = [] := by
  rw [complete_effs]; split <;> rfl
@[simp] theorem complete_delivers (c : Ctx) (aid : Nat) (p : RxPacket) : deliversOf (c.complete aid p).2 = [] := by
  rw [complete_effs]; split <;> rfl
@[simp] theorem complete_subs (c : Ctx) (aid : Nat) (p : RxPacket) : (c.complete aid p).1.subs = c.subs := by
  rw [complete_fst]
theorem dispatch_sublist (alive : Nat → Bool) (p : PublishRx) (sids : List Nat) (subs : List (Nat × Nat)) :
    (dispatch alive p sids subs).1.Sublist subs :=
  dispatch_induct (motive := fun _ subs r => r.1.Sublist subs) (fun _ => List.Sublist.refl _) (fun _ _ _ _ _ ih => ih)
    (fun _ _ _ _ _ _ _ ih => ih) (fun sid _ _ subs _ _ _ ih => ih.trans (eraseFirst_sublist sid subs)) sids subs

theorem dispatch_congr (a b : Nat → Bool) (p : PublishRx) (sids : List Nat) (subs : List (Nat × Nat))
    (h : ∀ ch ∈ subs.map (·.2), a ch = b ch) : dispatch a p sids subs = dispatch b p sids subs := by
  refine dispatch_induct (alive := a) (motive := fun sids subs r => (∀ ch ∈ subs.map (·.2), a ch = b ch) →
    r = dispatch b p sids subs) ?_ ?_ ?_ ?_ sids subs h
  · exact fun _ _ => rfl
  · intro sid rest subs r hl ih h; rw [dispatch_cons_absent _ _ _ _ _ hl]; exact ih h
  · intro sid ch rest subs r hl ha ih h
    have hb : b ch = true := (h ch (List.mem_map.2 ⟨_, mem_of_lookupFirst _ _ _ hl, rfl⟩)) ▸ ha
    rw [dispatch_cons_alive _ _ _ _ _ _ hl hb, ← ih h]
  · intro sid ch rest subs r hl ha ih h
    have hb : b ch = false := (h ch (List.mem_map.2 ⟨_, mem_of_lookupFirst _ _ _ hl, rfl⟩)) ▸ ha
    rw [dispatch_cons_dead _ _ _ _ _ _ hl hb,
      ← ih fun ch hch => h ch (((eraseFirst_sublist sid subs).map _).subset hch)]

theorem handlePkt_congr (c : Ctx) (a b : Nat → Bool) (p : RxPacket) (wok : Bool)
    (h : ∀ ch ∈ c.subs.map (·.2), a ch = b ch) : c.handlePkt a p wok = c.handlePkt b p wok := by
  cases p with
  | publish pb =>
    simp only [handlePkt]
    have e : ∀ c1 : Ctx, c1.subs = c.subs →
        dispatch a pb pb.subIds c1.subs = dispatch b pb pb.subIds c1.subs := by
      intro c1 h1; rw [h1]; exact dispatch_congr a b pb _ _ h
    rw [e _ (by split <;> rfl)]
  | _ => rfl

/-- the PUBLISH arm. `redel`: a QoS 2 PUBLISH whose identifier is pending is not dispatched again. -/
theorem handlePkt_publish_eq (c : Ctx) (alive : Nat → Bool) (pb : PublishRx) (wok : Bool) :
    c.handlePkt alive (.publish pb) wok =
      let redel := pb.qos = 2 ∧ pb.packetId.getD 0 ∈ c.inQos2
      let d := if redel then (c.subs, []) else dispatch alive pb pb.subIds c.subs
      ({ c with inQos2 := if pb.qos = 2 ∧ ¬ redel then c.inQos2 ++ [pb.packetId.getD 0] else c.inQos2, subs := d.1 },
       d.2 ++ (match pb.packetId with
               | none => []
               | some pid => [.write (ackBytes (if pb.qos = 1 then 0x40 else 0x50) pid)]),
       match pb.packetId with
       | none => .cont
       | some _ => if wok then .cont else .exitSocket) := by
  -- the model puts the `if` around the record; here it is inside the field
  have e1 : ∀ (A : Prop) [Decidable A] x, (if A then { c with inQos2 := x } else c).subs = c.subs := by
    intros; split <;> rfl
  have e2 : ∀ (A : Prop) [Decidable A] x s, { (if A then { c with inQos2 := x } else c) with subs := s } =
      { c with inQos2 := if A then x else c.inQos2, subs := s } := by
    intros; split <;> rfl
  unfold handlePkt
  simp only [e1, e2]
  cases pb.packetId
  · simp only [List.append_nil]
  · rfl

theorem handlePkt_publish (c : Ctx) (alive : Nat → Bool) (pb : PublishRx) (wok : Bool) :
    ∃ effs0 : List Eff,
      (∀ e ∈ effs0, (∃ ch, e = .deliver ch pb ∧ alive ch = true) ∨ (∃ ch, e = .dropChan ch ∧ alive ch = false)) ∧
      (c.handlePkt alive (.publish pb) wok).2.1 = effs0 ++ (match pb.packetId with
        | none => []
        | some pid => [.write (ackBytes (if pb.qos = 1 then 0x40 else 0x50) pid)]) ∧
      (c.handlePkt alive (.publish pb) wok).2.2 = (match pb.packetId with
        | none => .cont
        | some _ => if wok then .cont else .exitSocket) := by
  rw [handlePkt_publish_eq]
  refine ⟨_, ?_, rfl, rfl⟩
  intro e he
  split at he
  · cases he
  · exact dispatch_effs _ _ _ _ e he

/-- the six arms that complete a waiter — every packet with an action identifier except PUBREL: the waiter
    registered under the identifier is completed with the packet; the three acknowledgements of a publish also
    erase its retransmission entry, and give the quota slot back when they end the exchange -/
theorem handlePkt_ack_eq (c : Ctx) (alive : Nat → Bool) (p : RxPacket) (wok : Bool) (aid : Nat)
    (h : rxActionId p = some aid) (hrel : ∀ a, p ≠ .pubrel a) :
    c.handlePkt alive p wok =
      ({ c with
          awaiting := eraseFirst aid c.awaiting,
          retx := (match (generalizing := false) p with
            | .puback _ | .pubrec _ | .pubcomp _ => eraseFirst aid c.retx
            | _ => c.retx),
          quota := if World.W11.freesSlot p then c.bump.quota else c.quota },
       (c.complete aid p).2, .cont) := by
  cases p with
  | pubrel a => exact absurd rfl (hrel a)
  | pubrec a =>
    cases h; by_cases hr : a.reason ≥ 128 <;> simp [handlePkt, complete_fst, complete_effs, bump_eq, hr, World.W11.freesSlot]
  | puback a | pubcomp a | suback a | unsuback a | pingresp =>
    cases h; simp [handlePkt, complete_fst, complete_effs, bump_eq, World.W11.freesSlot]
  | _ => cases h

theorem handlePkt_pubrel_eq (c : Ctx) (alive : Nat → Bool) (a : AckRx) (wok : Bool) :
    c.handlePkt alive (.pubrel a) wok =
      ({ c with inQos2 := c.inQos2.filter (· ≠ a.packetId) }, [.write (ackBytes 0x70 a.packetId)],
       if wok then .cont else .exitSocket) := rfl

/-- The arms of `handle_packet`: PUBLISH (`handlePkt_publish_eq`), PUBREL (`handlePkt_pubrel_eq`), DISCONNECT, the six
    packets that complete the waiter of their action identifier (`handlePkt_ack_eq`), and the two that do nothing. -/
inductive _root_.Poster.RxPacket.Kind : RxPacket → Prop
  | publish (pb : PublishRx) : Kind (.publish pb)
  | pubrel (a : AckRx) : Kind (.pubrel a)
  | disconnect (d : DisconnectRx) : Kind (.disconnect d)
  | ack (p : RxPacket) (aid : Nat) : rxActionId p = some aid → (∀ a, p ≠ .pubrel a) → Kind p
  | idle (p : RxPacket) : rxActionId p = none → (∀ d, p ≠ .disconnect d) →
      (∀ c alive wok, handlePkt c alive p wok = (c, [], .cont)) → Kind p

theorem _root_.Poster.RxPacket.kind (p : RxPacket) : p.Kind := by
  cases p with
  | publish pb => exact .publish pb
  | pubrel a => exact .pubrel a
  | disconnect d => exact .disconnect d
  | connack k | auth a => exact .idle _ rfl (fun _ h => nomatch h) fun _ _ _ => rfl
  | puback a | pubrec a | pubcomp a | suback a | unsuback a | pingresp => exact .ack _ _ rfl fun _ h => nomatch h

/-- What `handle_packet` on `p` can emit: a write (of any bytes); the packet itself to the oneshot
    registered under the packet's action identifier; and, for a PUBLISH, its delivery into channels whose receiver it
    was told is alive and the drop of the senders of those whose receiver is gone. -/
inductive PktEff (c : Ctx) (alive : Nat → Bool) (p : RxPacket) : Eff → Prop
  | write (b : Bytes) : PktEff c alive p (.write b)
  | send (aid s : Nat) : rxActionId p = some aid → lookupFirst aid c.awaiting = some s → PktEff c alive p (.send s (.pkt p))
  | deliver (pb : PublishRx) (ch : Nat) : p = .publish pb → alive ch = true → PktEff c alive p (.deliver ch pb)
  | dropChan (pb : PublishRx) (ch : Nat) : p = .publish pb → alive ch = false → PktEff c alive p (.dropChan ch)

theorem handlePkt_effs (c : Ctx) (alive : Nat → Bool) (p : RxPacket) (wok : Bool) :
    ∀ e ∈ (c.handlePkt alive p wok).2.1, PktEff c alive p e := by
  cases p.kind with
  | pubrel a => exact List.forall_mem_singleton.2 (.write _)
  | disconnect d => exact fun _ he => nomatch he
  | idle p _ _ hi => rw [hi]; exact fun _ he => nomatch he
  | ack p aid h hrel =>
    rw [handlePkt_ack_eq c alive p wok aid h hrel, complete_effs]
    cases hl : lookupFirst aid c.awaiting with
    | none => exact fun _ he => nomatch he
    | some s => exact List.forall_mem_singleton.2 (.send aid s h hl)
  | publish pb =>
    obtain ⟨effs0, h1, h2, _⟩ := handlePkt_publish c alive pb wok
    rw [h2]
    intro e he
    rcases List.mem_append.mp he with he | he
    · rcases h1 e he with ⟨ch, rfl, ha⟩ | ⟨ch, rfl, ha⟩
      · exact .deliver pb ch rfl ha
      · exact .dropChan pb ch rfl ha
    · cases hp : pb.packetId <;> rw [hp] at he
      · cases he
      · rw [List.mem_singleton.mp he]; exact .write _

theorem awaiting_handleMsg (c : Ctx) (m : Msg) (wok : Bool) :
    (c.handleMsg m wok).1.awaiting = c.awaiting ∨
    ∃ aid, m.aid = some aid ∧ (c.handleMsg m wok).1.awaiting = c.awaiting ++ [(aid, m.slot)] := by
  rw [handleMsg_eq_delta]
  rcases (msgDelta_keys c.sizeOk (decide (c.quota = 0)) m wok).aw with e | ⟨a, p, s, rfl, e⟩ | ⟨a, sid, p, s, ch, rfl, e⟩
  · exact Or.inl (by simp only [MsgDelta.app, e, List.append_nil])
  · exact Or.inr ⟨a, rfl, by simp only [MsgDelta.app, e, Msg.slot]⟩
  · exact Or.inr ⟨a, rfl, by simp only [MsgDelta.app, e, Msg.slot]⟩

theorem retx_handleMsg (c : Ctx) (m : Msg) (wok : Bool) :
    (c.handleMsg m wok).1.retx = c.retx ∨
    ∃ aid pkt s, m = .awaitAck aid pkt s ∧ (c.handleMsg m wok).1.retx = c.retx ++ retxEntry aid pkt := by
  rw [handleMsg_eq_delta]
  rcases (msgDelta_keys c.sizeOk (decide (c.quota = 0)) m wok).rt with e | ⟨a, p, s, rfl, e⟩
  · exact Or.inl (by simp only [MsgDelta.app, e, List.append_nil])
  · exact Or.inr ⟨a, p, s, rfl, by simp only [MsgDelta.app, e]⟩

/-- What `handle_message` on `m` can emit: the write of the message's own packet, which fits; to the message's own
    oneshot a refusal (`errSize` only for a packet over the size limit, `errQuota` only for a QoS>0 PUBLISH at quota
    0), the `Ok(())` of a fire-and-forget request whose write went through, or its drop when the write failed; and the
    drop of the subscription sender of a SUBSCRIBE refused for its size. -/
inductive MsgEff (c : Ctx) (m : Msg) (wok : Bool) : Eff → Prop
  | write : c.sizeOk m.pkt = true → MsgEff c m wok (.write m.pkt)
  | errSize : c.sizeOk m.pkt = false → MsgEff c m wok (.send m.slot .errSize)
  | errQuota : m.isPub = true → c.quota = 0 → MsgEff c m wok (.send m.slot .errQuota)
  | unit (pkt : Bytes) (s : Nat) : m = .ff pkt s → wok = true → MsgEff c m wok (.send s .unit)
  | dropSlot : wok = false → MsgEff c m wok (.dropSlot m.slot)
  | dropChan (aid sid : Nat) (pkt : Bytes) (s ch : Nat) : m = .subscribe aid sid pkt s ch → c.sizeOk pkt = false →
      MsgEff c m wok (.dropChan ch)

theorem forall_mem_pair {α} {P : α → Prop} {a b : α} (ha : P a) (hb : P b) : ∀ e ∈ [a, b], P e :=
  List.forall_mem_cons.mpr ⟨ha, List.forall_mem_cons.mpr ⟨hb, fun _ h => nomatch h⟩⟩

theorem handleMsg_effs (c : Ctx) (m : Msg) (wok : Bool) : ∀ e ∈ (c.handleMsg m wok).2.1, MsgEff c m wok e := by
  cases m with
  | ff pkt s =>
    rcases handleMsg_ff_cases c pkt s wok with ⟨h, e⟩ | ⟨h, hw, e⟩ | ⟨h, hw, e⟩ <;> rw [e]
    · exact List.forall_mem_singleton.2 (.errSize h)
    · exact forall_mem_pair (.write h) (.dropSlot hw)
    · exact forall_mem_pair (.write h) (.unit pkt s rfl hw)
  | awaitAck aid pkt s =>
    rcases handleMsg_awaitAck_cases c aid pkt s wok with ⟨h, e⟩ | ⟨_, h3, h0, e⟩ | ⟨h, _, hw, e⟩ | ⟨h, _, _, e⟩ <;>
      rw [e]
    · exact List.forall_mem_singleton.2 (.errSize h)
    · exact List.forall_mem_singleton.2 (.errQuota (decide_eq_true h3) h0)
    · exact forall_mem_pair (.write h) (.dropSlot hw)
    · exact List.forall_mem_singleton.2 (.write h)
  | subscribe aid sid pkt s ch =>
    rcases handleMsg_subscribe_cases c aid sid pkt s ch wok with ⟨h, e⟩ | ⟨h, e⟩ <;> rw [e]
    · exact forall_mem_pair (.errSize h) (.dropChan aid sid pkt s ch rfl h)
    · exact List.forall_mem_singleton.2 (.write h)

theorem handleMsg_sends {c : Ctx} {m : Msg} {wok : Bool} {s : Nat} {v : SlotVal}
    (h : Eff.send s v ∈ (c.handleMsg m wok).2.1) :
    s = m.slot ∧ ((v = .errSize ∧ c.sizeOk m.pkt = false) ∨ (v = .errQuota ∧ m.isPub = true ∧ c.quota = 0) ∨
      (v = .unit ∧ wok = true ∧ ∃ pkt, m = .ff pkt s)) := by
  generalize he : Eff.send s v = e at h
  cases handleMsg_effs c m wok e h with
  | errSize hs => cases he; exact ⟨rfl, Or.inl ⟨rfl, hs⟩⟩
  | errQuota hp h0 => cases he; exact ⟨rfl, Or.inr (Or.inl ⟨rfl, hp, h0⟩)⟩
  | unit pkt s' hm hw => cases he; subst hm; exact ⟨rfl, Or.inr (Or.inr ⟨rfl, hw, pkt, rfl⟩)⟩
  | write | dropSlot | dropChan => cases he

theorem deliversOf_handleMsg (c : Ctx) (m : Msg) (wok : Bool) : deliversOf (c.handleMsg m wok).2.1 = [] :=
  List.filterMap_eq_nil_iff.mpr fun e he => by cases handleMsg_effs c m wok e he <;> rfl

theorem stepIn_msg (c : Ctx) (m : Msg) (wok : Bool) :
    c.stepIn (.msg m wok) = ((c.handleMsg m wok).1, .msg m (c.handleMsg m wok).2.1 (c.handleMsg m wok).2.2) := rfl

theorem stepIn_pkt (c : Ctx) (p : RxPacket) (dead : List Nat) (wok : Bool) :
    c.stepIn (.pkt p dead wok) =
      ((c.handlePkt (fun ch => ch ∉ dead) p wok).1,
       .pkt p (c.handlePkt (fun ch => ch ∉ dead) p wok).2.1 (c.handlePkt (fun ch => ch ∉ dead) p wok).2.2) := rfl

theorem handleConnack_eq (c : Ctx) (k : ConnackRx) :
    c.handleConnack k = { c with sei := k.sessionExpiry.getD c.sei, maxPkt := k.maxPacketSize, recvMax := k.receiveMax,
                                 quota := k.receiveMax } := by
  unfold handleConnack
  cases k.sessionExpiry <;> rfl

theorem handleConnack_frame (c : Ctx) (k : ConnackRx) :
    (c.handleConnack k).inQos2 = c.inQos2 ∧ (c.handleConnack k).awaiting = c.awaiting ∧
    (c.handleConnack k).subs = c.subs ∧ (c.handleConnack k).retx = c.retx ∧ (c.handleConnack k).disc = c.disc := by
  rw [handleConnack_eq]; exact ⟨rfl, rfl, rfl, rfl, rfl⟩

theorem resume_none (c : Ctx) (h : c.disc = none) : c.resume = (c, [], []) := by
  simp only [resume, h]

theorem resume_alive (c : Ctx) (e : Nat) (hd : c.disc = some e) (hx : c.sessionExpired e = false) :
    c.resume = ({ c with disc := none }, [], c.retx.map (·.2)) := by
  simp [resume, hd, hx]

theorem resume_expired_eq (c : Ctx) (e : Nat) (hd : c.disc = some e) (hx : c.sessionExpired e = true) :
    c.resume = ({ c with awaiting := [], subs := [], retx := [], inQos2 := [], disc := none },
      c.awaiting.map (fun (x : Nat × Nat) => Eff.dropSlot x.2) ++ c.subs.map (fun (x : Nat × Nat) => Eff.dropChan x.2),
      []) := by
  simp [resume, hd, hx, resetSession]

theorem resume_cases (c : Ctx) :
    c.resume = (c, [], []) ∨ c.resume = ({ c with disc := none }, [], c.retx.map (·.2)) ∨
    c.resume = ({ c with awaiting := [], subs := [], retx := [], inQos2 := [], disc := none },
      c.awaiting.map (fun (x : Nat × Nat) => Eff.dropSlot x.2) ++ c.subs.map (fun (x : Nat × Nat) => Eff.dropChan x.2),
      []) := by
  cases hd : c.disc with
  | none => exact Or.inl (resume_none c hd)
  | some e =>
    cases hx : c.sessionExpired e with
    | false => exact Or.inr (Or.inl (resume_alive c e hd hx))
    | true => exact Or.inr (Or.inr (resume_expired_eq c e hd hx))

theorem resume_fst_cases (c : Ctx) :
    c.resume.1 = c ∨ c.resume.1 = { c with disc := none } ∨
    c.resume.1 = { c with awaiting := [], subs := [], retx := [], inQos2 := [], disc := none } := by
  rcases c.resume_cases with h | h | h <;> rw [h]
  · exact Or.inl rfl
  · exact Or.inr (Or.inl rfl)
  · exact Or.inr (Or.inr rfl)

theorem resume_effs_drops (c : Ctx) : ∀ e ∈ c.resume.2.1, (∃ s, e = Eff.dropSlot s) ∨ (∃ ch, e = Eff.dropChan ch) := by
  rcases c.resume_cases with h | h | h <;> rw [h]
  · intro e he; cases he
  · intro e he; cases he
  · intro e he
    rcases List.mem_append.1 he with he | he <;> obtain ⟨x, _, rfl⟩ := List.mem_map.1 he
    · exact Or.inl ⟨_, rfl⟩
    · exact Or.inr ⟨_, rfl⟩

theorem resume_pkts_sub (c : Ctx) : ∀ p ∈ c.resume.2.2, ∃ e ∈ c.retx, p = e.2 := by
  rcases c.resume_cases with h | h | h <;> rw [h]
  · intro p hp; cases hp
  · intro p hp; obtain ⟨e, he, rfl⟩ := List.mem_map.1 hp; exact ⟨e, he, rfl⟩
  · intro p hp; cases hp

theorem serve_nil (c : Ctx) : c.serve [] = (c, []) := rfl

theorem serve_cons (c : Ctx) (i : CIn) (is : List CIn) :
    c.serve (i :: is) =
      if (c.stepIn i).2.flow = .cont then (((c.stepIn i).1.serve is).1, (c.stepIn i).2 :: ((c.stepIn i).1.serve is).2)
      else ((c.stepIn i).1, [(c.stepIn i).2]) := rfl

theorem serve_cons_cont (c : Ctx) (i : CIn) (is : List CIn) (h : (c.stepIn i).2.flow = .cont) :
    c.serve (i :: is) = (((c.stepIn i).1.serve is).1, (c.stepIn i).2 :: ((c.stepIn i).1.serve is).2) := by
  rw [serve_cons, if_pos h]

theorem serve_single (c : Ctx) (i : CIn) : c.serve [i] = ((c.stepIn i).1, [(c.stepIn i).2]) := by
  rw [serve_cons]
  split <;> simp [serve_nil]

/-- induction over a served history: `P c is c' t` for "serving the inputs `is` from `c` ends in `c'` with history
    `t`". The last step of a history may be one that ends the loop (`stop`); every other one says `cont`. -/
theorem serve_induction {P : Ctx → List CIn → Ctx → List CObs → Prop}
    (nil : ∀ c, P c [] c [])
    (stop : ∀ c i is, (c.stepIn i).2.flow ≠ .cont → P c (i :: is) (c.stepIn i).1 [(c.stepIn i).2])
    (cont : ∀ c i is c' t, (c.stepIn i).2.flow = .cont → P (c.stepIn i).1 is c' t →
      P c (i :: is) c' ((c.stepIn i).2 :: t))
    (c : Ctx) (is : List CIn) : P c is (c.serve is).1 (c.serve is).2 := by
  induction is generalizing c with
  | nil => exact nil c
  | cons i is ih =>
    rw [serve_cons]
    split
    · exact cont c i is _ _ ‹_› (ih _)
    · exact stop c i is ‹_›

end Ctx

/-- **What `run()` does after an inbound packet**, read off the handler's `Flow` (`World.flowRet` turns it into the
    return value: C13 `flowRet_mapping`). It returns `Ok` exactly for a server DISCONNECT with reason
    0; `Disconnected(d)` exactly for a server DISCONNECT `d` with another reason; `SocketClosed` exactly when
    the handler had to write (an acknowledgement) and the transport refused; in every other case it goes on. -/
theorem handlePkt_flow (c : Ctx) (alive : Nat → Bool) (p : RxPacket) (wok : Bool) :
    ((c.handlePkt alive p wok).2.2 = .exitOk ↔ ∃ d, p = .disconnect d ∧ d.reason = 0) ∧
    (∀ d, (c.handlePkt alive p wok).2.2 = .exitDisconnected d ↔ p = .disconnect d ∧ d.reason ≠ 0) ∧
    ((c.handlePkt alive p wok).2.2 = .exitSocket ↔
      wok = false ∧ writesOf (c.handlePkt alive p wok).2.1 ≠ []) ∧
    ((c.handlePkt alive p wok).2.2 = .cont ↔
      (∀ d, p ≠ .disconnect d) ∧ (wok = true ∨ writesOf (c.handlePkt alive p wok).2.1 = [])) := by
  cases p.kind with
  | publish pb =>
    obtain ⟨effs0, h0, h1, h2⟩ := Ctx.handlePkt_publish c alive pb wok
    have hw : writesOf effs0 = [] :=
      writesOf_eq_nil_iff.2 fun b hb => by rcases h0 _ hb with ⟨_, e, _⟩ | ⟨_, e, _⟩ <;> cases e
    rw [h1, h2]
    cases pb.packetId <;> cases wok <;> simp [hw, writesOf_append]
  | disconnect d => by_cases hr : d.reason = 0 <;> simp [Ctx.handlePkt, hr, writesOf]
  | pubrel a => cases wok <;> simp [Ctx.handlePkt, writesOf]
  | idle p _ hd hi => simp [hi, writesOf, hd]
  | ack p aid h hrel =>
    have hd : ∀ d, p ≠ .disconnect d := fun d e => by rw [e] at h; cases h
    simp [Ctx.handlePkt_ack_eq c alive p wok aid h hrel, Ctx.complete_writes, hd]

/-- **What `run()` does after a message from a handle**, read off the `Flow` likewise. It returns `Ok` exactly when
    the message is a fire-and-forget DISCONNECT (packet type 14) that passes the size check and whose write succeeded —
    i.e. once the user's DISCONNECT has been written; `SocketClosed` exactly when a write was attempted and the
    transport refused it; it never returns `Disconnected`; otherwise it goes on. -/
theorem handleMsg_flow (c : Ctx) (m : Msg) (wok : Bool) :
    ((c.handleMsg m wok).2.2 = .exitOk ↔
      ∃ pkt slot, m = .ff pkt slot ∧ pktType pkt = 14 ∧ c.sizeOk pkt = true ∧ wok = true) ∧
    ((c.handleMsg m wok).2.2 = .exitSocket ↔ wok = false ∧ writesOf (c.handleMsg m wok).2.1 ≠ []) ∧
    (∀ d, (c.handleMsg m wok).2.2 ≠ .exitDisconnected d) ∧
    ((c.handleMsg m wok).2.2 = .cont ↔
      (¬ ∃ pkt slot, m = .ff pkt slot ∧ pktType pkt = 14 ∧ c.sizeOk pkt = true ∧ wok = true) ∧
      (wok = true ∨ writesOf (c.handleMsg m wok).2.1 = [])) := by
  cases m with
  | ff pkt slot =>
    rcases Ctx.handleMsg_ff_cases c pkt slot wok with ⟨hs, e⟩ | ⟨hs, hw, e⟩ | ⟨hs, hw, e⟩ <;> rw [e]
    · simp [hs]
    · simp [hw]
    · by_cases h14 : pktType pkt = 14 <;> simp [hs, hw, h14]
  | awaitAck aid pkt slot =>
    rcases Ctx.handleMsg_awaitAck_cases c aid pkt slot wok with ⟨_, e⟩ | ⟨_, _, _, e⟩ | ⟨_, _, hw, e⟩ | ⟨_, _, hw, e⟩ <;>
      rw [e]
    · simp
    · simp
    · simp [hw]
    · simp [hw]
  | subscribe aid sid pkt slot ch =>
    rcases Ctx.handleMsg_subscribe_cases c aid sid pkt slot ch wok with ⟨_, e⟩ | ⟨_, e⟩ <;> rw [e] <;> cases wok <;> simp

namespace World
namespace W11

/-- the acknowledgements that complete a publish (and so concern the send quota): PUBACK (QoS 1), PUBCOMP (QoS 2, second
    phase), and a PUBREC — which completes the publish when it carries an error and otherwise moves it on to its second phase -/
inductive PubAck : RxPacket → Nat → Prop
  | puback (a : AckRx) : PubAck (.puback a) (actionId 4 a.packetId)
  | pubrec (a : AckRx) : PubAck (.pubrec a) (actionId 5 a.packetId)
  | pubcomp (a : AckRx) : PubAck (.pubcomp a) (actionId 7 a.packetId)

theorem handlePkt_pubAck (c : Ctx) (alive : Nat → Bool) (p : RxPacket) (aid : Nat) (wok : Bool) (h : PubAck p aid) :
    (c.handlePkt alive p wok).2.1 = (c.complete aid p).2 ∧
    (c.handlePkt alive p wok).2.2 = .cont ∧
    (c.handlePkt alive p wok).1 =
      { (if freesSlot p then c.bump else c) with
          retx := eraseFirst aid c.retx, awaiting := eraseFirst aid c.awaiting } := by
  cases h <;> rw [Ctx.handlePkt_ack_eq c alive _ wok _ rfl fun _ h => RxPacket.noConfusion h] <;>
    refine ⟨rfl, rfl, ?_⟩ <;> cases freesSlot _ <;> first | rfl | (rw [Ctx.bump_eq]; rfl)

end W11
end World

end Poster

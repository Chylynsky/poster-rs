/-
  Subscription channels and streams, as a labelled transition system.

  Everything the whole-client machine `World` does to the table of subscription channels (`World.chans`) and to the
  `ITEM` / `END` lines of the log is one of a few *moves* (`SMove`): the context applies the effects of one handler
  call (or of a session reset, or of being dropped), `subscribe()` creates its channel, a receiver is dropped, a stream
  yields the head of its buffer, parks on an empty buffer, or ends. A `STrace` is a sequence of such moves with their
  labels; every primitive of `World`, up to a whole script, is such a sequence. `Dec A w w'` and `Tr A w w' iss L` hide the
  list of labels: some trace from `w` to `w'` with all labels in the class `A` (that issues the operations `iss` and whose
  `.ctx` labels are `L`).

  Note on intermediate worlds. A trace is a chain of `SMove`s between worlds; the decomposition lemmas are free to choose
  the intermediate worlds, and for `subscribe()` first polled without a context they pass through two worlds that order
  the field updates of `startOp` differently from the code (channel created and future retired, then channel dropped,
  then `DONE` logged). Only the end points of a trace are worlds of the machine.
-/
import PosterModel.Lemmas.WorldCtx
import PosterModel.Lemmas.WorldOps
import PosterModel.Lemmas.ScriptIds
import PosterModel.Lemmas.UserAlloc

namespace Poster
open Framing

/-- the messages stream `id` has yielded, in order: the `ITEM id p` lines of a log -/
def itemsOf (id : Nat) (out : List Obs) : List PublishRx :=
  out.filterMap fun o => match o with
    | .item i p => if i = id then some p else none
    | _ => none

/-- the messages the effects `es` push into channel `id`, in order -/
def deliversTo (id : Nat) (es : List Eff) : List PublishRx :=
  es.filterMap fun e => match e with
    | .deliver c p => if c = id then some p else none
    | _ => none

@[simp] theorem itemsOf_nil (id : Nat) : itemsOf id [] = [] := rfl
@[simp] theorem itemsOf_append (id : Nat) (a b : List Obs) : itemsOf id (a ++ b) = itemsOf id a ++ itemsOf id b := by
  simp [itemsOf, List.filterMap_append]
@[simp] theorem deliversTo_nil (id : Nat) : deliversTo id [] = [] := rfl
@[simp] theorem deliversTo_append (id : Nat) (a b : List Eff) :
    deliversTo id (a ++ b) = deliversTo id a ++ deliversTo id b := by
  simp [deliversTo, List.filterMap_append]
theorem deliversTo_cons (id : Nat) (e : Eff) (t : List Eff) :
    deliversTo id (e :: t) = deliversTo id [e] ++ deliversTo id t := by
  rw [← deliversTo_append]; rfl
@[simp] theorem itemsOf_item_self (id : Nat) (p : PublishRx) : itemsOf id [.item id p] = [p] := by
  simp [itemsOf]
theorem itemsOf_item_ne (id c : Nat) (p : PublishRx) (h : c ≠ id) : itemsOf id [.item c p] = [] := by
  simp [itemsOf, h]

theorem deliversTo_eq (id : Nat) (es : List Eff) :
    deliversTo id es = (deliversOf es).filterMap fun d => if d.1 = id then some d.2 else none := by
  unfold deliversTo deliversOf
  rw [List.filterMap_filterMap]
  congr 1
  funext e
  cases e <;> rfl

def StreamQuiet (o : Obs) : Prop := (∀ id p, o ≠ .item id p) ∧ (∀ id, o ≠ .endStream id)

theorem itemsOf_streamQuiet (id : Nat) (l : List Obs) (h : ∀ o ∈ l, StreamQuiet o) : itemsOf id l = [] :=
  List.filterMap_eq_nil_iff.mpr fun o ho => by
    cases o with
    | item i p => exact absurd rfl ((h _ ho).1 i p)
    | _ => rfl

abbrev Chans := List (Nat × Chan)

/-- `World.deliver` on the table -/
def chDeliver (chs : Chans) (c : Nat) (p : PublishRx) : Chans :=
  match lookupFirst c chs with
  | some ch => World.setAssoc c { ch with buf := ch.buf ++ [p], reg := false } chs
  | none => chs

/-- `World.dropChanTx` on the table -/
def chDropTx (chs : Chans) (c : Nat) : Chans :=
  match lookupFirst c chs with
  | some ch => World.setAssoc c { ch with txAlive := false, reg := false } chs
  | none => chs

def chEff (chs : Chans) : Eff → Chans
  | .deliver c p => chDeliver chs c p
  | .dropChan c => chDropTx chs c
  | _ => chs

def chEffs (chs : Chans) (es : List Eff) : Chans := es.foldl chEff chs

@[simp] theorem chEffs_nil (chs : Chans) : chEffs chs [] = chs := rfl
@[simp] theorem chEffs_cons (chs : Chans) (e : Eff) (t : List Eff) : chEffs chs (e :: t) = chEffs (chEff chs e) t := rfl

/-- `chDeliver` and `chDropTx` are one operation: the entry of `c`, if there is one, is updated by `f` -/
def chUpd (f : Chan → Chan) (chs : Chans) (c : Nat) : Chans :=
  match lookupFirst c chs with
  | some ch => World.setAssoc c (f ch) chs
  | none => chs

theorem lookup_chUpd (f : Chan → Chan) (chs : Chans) (c j : Nat) :
    lookupFirst j (chUpd f chs c) = if j = c then (lookupFirst j chs).map f else lookupFirst j chs := by
  unfold chUpd
  cases h : lookupFirst c chs with
  | none =>
    by_cases hj : j = c
    · subst hj; simp [h]
    · simp [hj]
  | some ch =>
    simp only [lookupFirst_setAssoc]
    by_cases hj : j = c
    · subst hj; simp [h]
    · simp [hj]

theorem chUpd_keys (f : Chan → Chan) (chs : Chans) (c : Nat) : (chUpd f chs c).map (·.1) = chs.map (·.1) := by
  unfold chUpd
  cases h : lookupFirst c chs with
  | none => rfl
  | some ch => exact keys_setAssoc_of_lookup _ _ _ _ h

def effUpd (j : Nat) : Eff → Chan → Chan
  | .deliver c p, ch => if j = c then { ch with buf := ch.buf ++ [p], reg := false } else ch
  | .dropChan c, ch => if j = c then { ch with txAlive := false, reg := false } else ch
  | _, ch => ch

theorem lookup_chEff (chs : Chans) (e : Eff) (j : Nat) :
    lookupFirst j (chEff chs e) = (lookupFirst j chs).map (effUpd j e) := by
  have upd : ∀ (f : Chan → Chan) (c : Nat), (∀ ch, effUpd j e ch = if j = c then f ch else ch) →
      lookupFirst j (chUpd f chs c) = (lookupFirst j chs).map (effUpd j e) := by
    intro f c hf
    rw [lookup_chUpd]
    cases lookupFirst j chs with
    | none => split <;> rfl
    | some ch => simp only [Option.map_some, hf]; split <;> rfl
  cases e with
  | deliver c p => exact upd _ c fun _ => rfl
  | dropChan c => exact upd _ c fun _ => rfl
  | _ => show lookupFirst j chs = _; cases lookupFirst j chs <;> rfl

theorem effUpd_spec (j : Nat) (e : Eff) (ch : Chan) :
    (effUpd j e ch).buf = ch.buf ++ deliversTo j [e] ∧ (effUpd j e ch).rxAlive = ch.rxAlive ∧
      (effUpd j e ch).txAlive = (ch.txAlive && !(Eff.dropChan j == e)) := by
  cases e with
  | deliver c p =>
    rw [show (Eff.dropChan j == Eff.deliver c p) = false from rfl, Bool.not_false, Bool.and_true]
    by_cases h : j = c
    · simp only [effUpd, deliversTo, List.filterMap_cons, List.filterMap_nil, if_pos h, if_pos h.symm, and_self]
    · simp only [effUpd, deliversTo, List.filterMap_cons, List.filterMap_nil, if_neg h, if_neg (Ne.symm h),
        List.append_nil, and_self]
  | dropChan c =>
    rw [show deliversTo j [.dropChan c] = [] from rfl, List.append_nil]
    by_cases h : j = c
    · subst h
      simp only [effUpd, if_pos, BEq.rfl, Bool.not_true, Bool.and_false, and_self]
    · have hb : (Eff.dropChan j == Eff.dropChan c) = false := beq_false_of_ne fun e => h (Eff.dropChan.inj e)
      simp only [effUpd, if_neg h, hb, Bool.not_false, Bool.and_true, and_self]
  | _ => exact ⟨(List.append_nil _).symm, rfl, (Bool.and_true _).symm⟩

theorem chEffs_keys (chs : Chans) (es : List Eff) : (chEffs chs es).map (·.1) = chs.map (·.1) := by
  induction es generalizing chs with
  | nil => rfl
  | cons e t ih =>
    rw [chEffs_cons, ih]
    cases e with
    | deliver c p => exact chUpd_keys _ chs c
    | dropChan c => exact chUpd_keys _ chs c
    | _ => rfl

theorem effUpds_spec (j : Nat) (es : List Eff) (ch : Chan) :
    (es.foldl (fun ch x => effUpd j x ch) ch).buf = ch.buf ++ deliversTo j es ∧
    (es.foldl (fun ch x => effUpd j x ch) ch).rxAlive = ch.rxAlive ∧
    (es.foldl (fun ch x => effUpd j x ch) ch).txAlive = (ch.txAlive && !(es.contains (.dropChan j))) := by
  induction es generalizing ch with
  | nil => simp
  | cons e t ih =>
    obtain ⟨b, c, d⟩ := ih (effUpd j e ch)
    obtain ⟨b0, c0, d0⟩ := effUpd_spec j e ch
    exact ⟨by rw [List.foldl_cons, b, b0, deliversTo_cons j e t, List.append_assoc], by rw [List.foldl_cons, c, c0],
      by rw [List.foldl_cons, d, d0, List.contains_cons, Bool.not_or, Bool.and_assoc]⟩

theorem lookup_chEffs_eq (chs : Chans) (es : List Eff) (j : Nat) :
    lookupFirst j (chEffs chs es) = (lookupFirst j chs).map fun ch => es.foldl (fun ch x => effUpd j x ch) ch := by
  induction es generalizing chs with
  | nil => cases h : lookupFirst j chs <;> simp [h]
  | cons e t ih => rw [chEffs_cons, ih, lookup_chEff]; cases lookupFirst j chs <;> rfl

namespace World

theorem onChan_chans (w : World) (c : Nat) (f : Chan → Chan) : (w.onChan c f).chans = chUpd f w.chans c := by
  unfold onChan chUpd chan; cases lookupFirst c w.chans <;> rfl

theorem deliver_chans_eq (w : World) (c : Nat) (p : PublishRx) : (w.deliver c p).chans = chDeliver w.chans c p := by
  rw [deliver_eq, onChan_chans]; rfl

theorem dropChanTx_chans_eq (w : World) (c : Nat) : (w.dropChanTx c).chans = chDropTx w.chans c := by
  rw [dropChanTx_eq, onChan_chans]; rfl

theorem applyEff_chans_eq (w : World) (e : Eff) : (w.applyEff e).chans = chEff w.chans e := by
  cases e with
  | write bs => exact writeBytes_chans w bs
  | send s v => exact sendSlot_chans w s v
  | dropSlot s => exact dropSlotTx_chans w s
  | deliver c p => exact deliver_chans_eq w c p
  | dropChan c => exact dropChanTx_chans_eq w c

theorem applyEffs_chans_eq (w : World) (es : List Eff) : (w.applyEffs es).chans = chEffs w.chans es :=
  (List.foldl_hom World.chans (H := fun w e => (applyEff_chans_eq w e).symm)).symm

/-- where a batch of effects of the context comes from: the four kinds of history event that apply effects
    (`HEv.src?`, Lemmas/WorldStreamDec.lean) -/
inductive CtxSrc where
  /-- `handle_message` / `handle_packet` called in context state `c` on the input `i` -/
  | handler (c : Ctx) (i : CIn)
  /-- the prelude of `run()` in context state `c` (session resumption; a reset drops the session's senders) -/
  | resume (c : Ctx)
  /-- the context is dropped with the messages `q` still queued and in state `c` -/
  | dropCtx (q : List Msg) (c : Ctx)
  /-- a new `Context` is created (`setup`) -/
  | fresh

def CtxSrc.effs : CtxSrc → List Eff
  | .handler c i => (c.stepIn i).2.effs
  | .resume c => c.resume.2.1
  | .dropCtx q c => closeEffs q c
  | .fresh => []

def CtxSrc.after : CtxSrc → Ctx
  | .handler c i => (c.stepIn i).1
  | .resume c => c.resume.1
  | .dropCtx _ _ => {}
  | .fresh => {}

/-- the source is what the world `w` says: the handler is called in `w`'s context state on the first queued message, or
    (nothing queued) on the packet decoded from the next frame the framing layer yields from `w`'s transport — with the
    write bit and the dead channels of `w` -/
def SrcOk (w : World) : CtxSrc → Prop
  | .handler c i => c = w.c ∧
      ((∃ m q, w.queue = m :: q ∧ i = w.inMsg m) ∨
       (∃ p, p.wf ∧ w.queue = [] ∧ i = w.inPkt p ∧
          ∃ rx' rd' fr, pollNext w.rx w.reader = (rx', rd', .item fr) ∧ decodeRx fr = .ok p))
  | .resume c => c = w.c
  | .dropCtx q c => q = w.queue ∧ c = w.c
  | .fresh => True

inductive SLab where
  /-- nothing that concerns subscription channels or the stream lines of the log -/
  | tau
  /-- the context applies a batch of effects -/
  | ctx (src : CtxSrc)
  /-- the script issues operation `id` -/
  | addOp (id : Nat)
  /-- `subscribe()` first polled, identifiers allocated, but the request cannot be encoded: it fails at once -/
  | alloc (id : Nat)
  /-- `subscribe()` first polled: the channel `id` of operation `id` is created (empty, both halves alive) -/
  | new (id : Nat)
  /-- the receiving half of channel `id` is dropped (with whatever is still buffered) -/
  | dropRx (id : Nat)
  /-- stream `id` yields `p`, the head of its buffer -/
  | pop (id : Nat) (p : PublishRx)
  /-- stream `id` finds its buffer empty and the sender alive: it registers its waker -/
  | park (id : Nat)
  /-- stream `id` finds its buffer empty and the sender gone: it ends -/
  | endS (id : Nat)

def SLab.effs : SLab → List Eff
  | .ctx src => src.effs
  | _ => []

def SLab.issued : SLab → Option Nat
  | .addOp id => some id
  | _ => none

/-- the operation whose `subscribe()` future a label polls for the first time (allocating its identifiers) -/
def SLab.started : SLab → Option Nat
  | .new id => some id
  | .alloc id => some id
  | _ => none

def startedOf (tr : List SLab) : List Nat := tr.filterMap SLab.started

theorem startedOf_cons (l : SLab) (tr : List SLab) : startedOf (l :: tr) = l.started.toList ++ startedOf tr := by
  simp only [startedOf, List.filterMap_cons]
  cases l.started <;> rfl

def issuedOf (tr : List SLab) : List Nat := tr.filterMap SLab.issued

/-- **the ghost**: all messages the context pushed into channel `id` along a trace, in order -/
def delivered (id : Nat) (tr : List SLab) : List PublishRx := tr.flatMap fun l => deliversTo id l.effs

@[simp] theorem delivered_nil (id : Nat) : delivered id [] = [] := rfl
@[simp] theorem delivered_cons (id : Nat) (l : SLab) (tr : List SLab) :
    delivered id (l :: tr) = deliversTo id l.effs ++ delivered id tr := by simp [delivered]
@[simp] theorem delivered_append (id : Nat) (a b : List SLab) :
    delivered id (a ++ b) = delivered id a ++ delivered id b := by simp [delivered]
@[simp] theorem issuedOf_nil : issuedOf [] = [] := rfl
@[simp] theorem issuedOf_append (a b : List SLab) : issuedOf (a ++ b) = issuedOf a ++ issuedOf b := by
  simp [issuedOf, List.filterMap_append]
theorem issuedOf_cons (l : SLab) (tr : List SLab) : issuedOf (l :: tr) = l.issued.toList ++ issuedOf tr := by
  simp only [issuedOf, List.filterMap_cons]
  cases l.issued <;> rfl

/-- no handle future becomes "not yet polled" again -/
def OpsKeep (w w' : World) : Prop :=
  ∀ n, w'.opSt n = w.opSt n ∨ (w.opSt n ≠ none ∧ ∀ h r, w'.opSt n ≠ some (.fresh h r))

theorem opsKeep_of_eq {w w' : World} (h : w'.ops = w.ops) : OpsKeep w w' := fun n => Or.inl (by simp [opSt, h])

abbrev SQExt (w w' : World) : Prop := OutExtP StreamQuiet w w'

/-- the subscription identifier a queued message will register -/
def _root_.Poster.Msg.sid? : Msg → Option Nat
  | .subscribe _ sid _ _ _ => some sid
  | _ => none

/-- the subscription identifiers in flight: those of the queued SUBSCRIBE messages, then those registered. Every move
    says what it does to them (`SubFrame`, `NewFrame`), so that they stay pairwise distinct along a trace
    (Lemmas/WorldStreamSid.lean) -/
def psids (w : World) : List Nat := w.queue.filterMap Msg.sid? ++ w.c.subs.map (·.1)

/-- nothing is allocated; the identifiers in flight are, up to order, some of those that were -/
def SubFrame (w w' : World) : Prop :=
  w'.subCtr = w.subCtr ∧ ((psids w).Nodup → (psids w').Nodup) ∧ ∀ s ∈ psids w', s ∈ psids w

/-- one subscription identifier (the counter's value) is allocated and possibly put in flight -/
def NewFrame (w w' : World) : Prop :=
  w'.subCtr = nextSub w.subCtr ∧ ((psids w).Nodup → (∀ s ∈ psids w, s ≠ w.subCtr) → (psids w').Nodup) ∧
    ∀ s ∈ psids w', s ∈ psids w ∨ s = w.subCtr

theorem subFrame_refl (w : World) : SubFrame w w := ⟨rfl, id, fun _ h => h⟩

theorem subFrame_of_psids {w w' : World} (sc : w'.subCtr = w.subCtr) (h : psids w' = psids w) : SubFrame w w' :=
  ⟨sc, by rw [h]; exact id, by rw [h]; exact fun _ h => h⟩

theorem subFrame_of_eq {w w' : World} (sc : w'.subCtr = w.subCtr) (q : w'.queue = w.queue)
    (su : w'.c.subs = w.c.subs) : SubFrame w w' :=
  subFrame_of_psids sc (by simp [psids, q, su])

theorem subFrame_of_sublist {w w' : World} (sc : w'.subCtr = w.subCtr) (h : (psids w').Sublist (psids w)) :
    SubFrame w w' := ⟨sc, fun hn => h.nodup hn, fun _ hs => h.subset hs⟩

theorem subFrame_trans {a b c : World} (h1 : SubFrame a b) (h2 : SubFrame b c) : SubFrame a c :=
  ⟨h2.1.trans h1.1, fun hn => h2.2.1 (h1.2.1 hn), fun s hs => h1.2.2 s (h2.2.2 s hs)⟩

/-- discharges `SubFrame w w'` when queue, subscription table and counter are visibly unchanged -/
macro "sub_frame" : tactic => `(tactic| exact subFrame_of_eq rfl rfl rfl)

/-- **the moves**: everything `World` does, as far as subscription channels, the stream lines of the log, the
    subscription table of the context and the freshness of handle futures are concerned -/
inductive SMove : SLab → World → World → Prop
  | tau {w w' : World} (chans : w'.chans = w.chans) (subs : w'.c.subs = w.c.subs) (ops : OpsKeep w w')
      (out : SQExt w w') (sub : SubFrame w w' := by sub_frame) : SMove .tau w w'
  | ctx {w w' : World} (src : CtxSrc) (ok : SrcOk w src) (chans : w'.chans = chEffs w.chans src.effs)
      (c_eq : w'.c = src.after) (ops : w'.ops = w.ops) (out : SQExt w w')
      (live : ∀ ch q, (ch, q) ∈ deliversOf src.effs → w.chan ch ≠ none) (sub : SubFrame w w' := by sub_frame) :
      SMove (.ctx src) w w'
  | addOp {w w' : World} (id h : Nat) (req : Req) (absent : w.opSt id = none)
      (ops : w'.ops = w.ops ++ [(id, .fresh h req)]) (chans : w'.chans = w.chans) (c_eq : w'.c = w.c)
      (out : w'.out = w.out) (sub : SubFrame w w' := by sub_frame) : SMove (.addOp id) w w'
  | alloc {w w' : World} (id h : Nat) (req : Req) (fresh : w.opSt id = some (.fresh h req))
      (notFresh : ∀ h r, w'.opSt id ≠ some (.fresh h r)) (ops : OpsKeep w w') (chans : w'.chans = w.chans)
      (c_eq : w'.c = w.c) (out : SQExt w w') (sub : NewFrame w w') : SMove (.alloc id) w w'
  | new {w w' : World} (id h : Nat) (req : Req) (fresh : w.opSt id = some (.fresh h req))
      (notFresh : ∀ h r, w'.opSt id ≠ some (.fresh h r)) (ops : OpsKeep w w')
      (chans : w'.chans = setAssoc id {} w.chans) (c_eq : w'.c = w.c) (out : w'.out = w.out)
      (sub : NewFrame w w') : SMove (.new id) w w'
  | dropRx {w w' : World} (id : Nat) (chans : w'.chans = eraseFirst id w.chans) (c_eq : w'.c = w.c)
      (ops : OpsKeep w w') (out : w'.out = w.out) (sub : SubFrame w w' := by sub_frame) : SMove (.dropRx id) w w'
  | pop {w w' : World} (id : Nat) (p : PublishRx) (ch : Chan) (rest : List PublishRx) (hch : w.chan id = some ch)
      (hbuf : ch.buf = p :: rest) (chans : w'.chans = setAssoc id { ch with buf := rest } w.chans)
      (c_eq : w'.c = w.c) (ops : OpsKeep w w') (out : w'.out = w.out ++ [.item id p])
      (sub : SubFrame w w' := by sub_frame) : SMove (.pop id p) w w'
  | park {w w' : World} (id : Nat) (ch : Chan) (hch : w.chan id = some ch) (hbuf : ch.buf = [])
      (htx : ch.txAlive = true) (chans : w'.chans = setAssoc id { ch with reg := true } w.chans)
      (c_eq : w'.c = w.c) (ops : OpsKeep w w') (out : w'.out = w.out) (sub : SubFrame w w' := by sub_frame) :
      SMove (.park id) w w'
  | endS {w w' : World} (id : Nat) (ch : Chan) (hch : w.chan id = some ch) (hbuf : ch.buf = [])
      (htx : ch.txAlive = false) (chans : w'.chans = eraseFirst id w.chans)
      (c_eq : w'.c = w.c) (ops : OpsKeep w w') (out : w'.out = w.out ++ [.endStream id])
      (sub : SubFrame w w' := by sub_frame) : SMove (.endS id) w w'

inductive STrace : World → List SLab → World → Prop
  | refl (w : World) : STrace w [] w
  | cons {a b c : World} {l : SLab} {tr : List SLab} : SMove l a b → STrace b tr c → STrace a (l :: tr) c

theorem STrace.one {l : SLab} {a b : World} (h : SMove l a b) : STrace a [l] b := .cons h (.refl b)

theorem STrace.trans {a b c : World} {t1 t2 : List SLab} (h1 : STrace a t1 b) (h2 : STrace b t2 c) :
    STrace a (t1 ++ t2) c := by
  induction h1 with
  | refl => exact h2
  | cons hm _ ih => exact .cons hm (ih h2)

theorem STrace.split {a c : World} {t1 t2 : List SLab} (h : STrace a (t1 ++ t2) c) :
    ∃ b, STrace a t1 b ∧ STrace b t2 c := by
  induction t1 generalizing a with
  | nil => exact ⟨a, .refl a, h⟩
  | cons l t ih =>
    cases h with
    | cons hm ht =>
      obtain ⟨b, h1, h2⟩ := ih ht
      exact ⟨b, .cons hm h1, h2⟩

theorem STrace.split_at {a c : World} {t1 t2 : List SLab} {l : SLab} (h : STrace a (t1 ++ l :: t2) c) :
    ∃ b b', STrace a t1 b ∧ SMove l b b' ∧ STrace b' t2 c := by
  obtain ⟨b, h1, h2⟩ := h.split
  cases h2 with
  | cons hm ht => exact ⟨b, _, h1, hm, ht⟩

def Dec (A : SLab → Prop) (w w' : World) : Prop := ∃ tr, STrace w tr w' ∧ ∀ l ∈ tr, A l

theorem Dec.refl (A : SLab → Prop) (w : World) : Dec A w w := ⟨[], .refl w, by simp⟩
theorem Dec.of_eq {A : SLab → Prop} {w w' : World} (h : w' = w) : Dec A w w' := h ▸ Dec.refl A w
theorem Dec.one {A : SLab → Prop} {l : SLab} {w w' : World} (h : SMove l w w') (hl : A l) : Dec A w w' :=
  ⟨[l], .one h, by simpa using hl⟩
theorem Dec.trans {A : SLab → Prop} {a b c : World} (h1 : Dec A a b) (h2 : Dec A b c) : Dec A a c := by
  obtain ⟨t1, s1, a1⟩ := h1
  obtain ⟨t2, s2, a2⟩ := h2
  refine ⟨t1 ++ t2, s1.trans s2, fun l hl => ?_⟩
  rcases List.mem_append.mp hl with h | h
  · exact a1 l h
  · exact a2 l h

def CtxLab (l : SLab) : Prop := l = .tau ∨ ∃ src, l = .ctx src
def OpLab (id : Nat) (l : SLab) : Prop := l = .tau ∨ l = .new id ∨ l = .dropRx id ∨ l = .alloc id
def StLab (id : Nat) (l : SLab) : Prop := l = .tau ∨ (∃ p, l = .pop id p) ∨ l = .park id ∨ l = .endS id
def TaskLab : Task → SLab → Prop
  | .ctx => CtxLab
  | .op id => OpLab id
  | .st id => StLab id

theorem issuedOf_eq_nil {tr : List SLab} (h : ∀ l ∈ tr, l.issued = none) : issuedOf tr = [] := by
  induction tr with
  | nil => rfl
  | cons l t ih =>
    rw [issuedOf_cons, ih (fun l' hl' => h l' (by simp [hl']))]
    have : l.issued = none := h l (by simp)
    simp [this]

theorem SMove.srcOk {src : CtxSrc} {w w' : World} (m : SMove (.ctx src) w w') : SrcOk w src := by
  cases m with | ctx _ ok => exact ok

/-- a quiet step: only fields no move looks at change -/
theorem SMove.quiet {w w' : World} (chans : w'.chans = w.chans) (c_eq : w'.c = w.c) (ops : w'.ops = w.ops)
    (out : w'.out = w.out) (q : w'.queue = w.queue := by rfl)
    (sc : w'.subCtr = w.subCtr := by rfl) : SMove .tau w w' :=
  .tau chans (by rw [c_eq]) (opsKeep_of_eq ops) (outExtP_of_eq out) (subFrame_of_eq sc q (by rw [c_eq]))

theorem SMove.logs {w w' : World} {o : Obs} (hq : StreamQuiet o) (out : w'.out = w.out ++ [o] := by rfl)
    (chans : w'.chans = w.chans := by rfl) (c_eq : w'.c = w.c := by rfl) (ops : w'.ops = w.ops := by rfl)
    (q : w'.queue = w.queue := by rfl) (sc : w'.subCtr = w.subCtr := by rfl) : SMove .tau w w' :=
  .tau chans (by rw [c_eq]) (opsKeep_of_eq ops) (outExtP_one o out hq) (subFrame_of_eq sc q (by rw [c_eq]))

theorem smove_wake {w w0 : World} (m : SMove .tau w w0) (t : Task) : SMove .tau w (w0.wake t) := by
  rw [wake_eq]
  cases m with
  | tau chans subs ops out sub => exact .tau chans subs ops out sub

theorem Dec.quiet {A : SLab → Prop} (hA : A .tau) {w w' : World} (chans : w'.chans = w.chans) (c_eq : w'.c = w.c)
    (ops : w'.ops = w.ops) (out : w'.out = w.out) (q : w'.queue = w.queue := by rfl)
    (sc : w'.subCtr = w.subCtr := by rfl) : Dec A w w' :=
  .one (.quiet chans c_eq ops out q sc) hA

def SLab.src? : SLab → Option CtxSrc
  | .ctx s => some s
  | _ => none

def ctxSrcs (tr : List SLab) : List CtxSrc := tr.filterMap SLab.src?

@[simp] theorem ctxSrcs_nil : ctxSrcs [] = [] := rfl
@[simp] theorem ctxSrcs_append (a b : List SLab) : ctxSrcs (a ++ b) = ctxSrcs a ++ ctxSrcs b := by
  simp [ctxSrcs, List.filterMap_append]

/-- `Tr` without the class of labels; the statements of this development use `Tr` -/
def TrH (w w' : World) (iss : List Nat) (L : List CtxSrc) : Prop :=
  ∃ tr, STrace w tr w' ∧ issuedOf tr = iss ∧ ctxSrcs tr = L

theorem TrH.refl (w : World) : TrH w w [] [] := ⟨[], .refl w, rfl, rfl⟩

theorem TrH.of_eq {w w' : World} (h : w' = w) : TrH w w' [] [] := h ▸ TrH.refl w

def Tr (A : SLab → Prop) (w w' : World) (iss : List Nat) (L : List CtxSrc) : Prop :=
  ∃ tr, STrace w tr w' ∧ (∀ l ∈ tr, A l) ∧ issuedOf tr = iss ∧ ctxSrcs tr = L

section Tr
variable {A : SLab → Prop} {a b c w w' : World} {i1 i2 iss : List Nat} {L1 L2 L : List CtxSrc}

theorem Tr.dec (h : Tr A w w' iss L) : Dec A w w' := let ⟨tr, st, ha, _⟩ := h; ⟨tr, st, ha⟩

theorem Tr.refl (A : SLab → Prop) (w : World) : Tr A w w [] [] := ⟨[], .refl w, by simp, rfl, rfl⟩

theorem Tr.trans (h1 : Tr A a b i1 L1) (h2 : Tr A b c i2 L2) : Tr A a c (i1 ++ i2) (L1 ++ L2) := by
  obtain ⟨t1, s1, a1, b1, c1⟩ := h1
  obtain ⟨t2, s2, a2, b2, c2⟩ := h2
  exact ⟨t1 ++ t2, s1.trans s2, fun l hl => (List.mem_append.mp hl).elim (a1 l) (a2 l),
    by rw [issuedOf_append, b1, b2], by rw [ctxSrcs_append, c1, c2]⟩

/-- composition when the second part issues nothing and has no `.ctx` label (when the first part does not,
    `trans` will do: `[] ++ l` is `l`) -/
theorem Tr.trans1 (h1 : Tr A a b i1 L1) (h2 : Tr A b c [] []) : Tr A a c i1 L1 := by
  simpa using h1.trans h2

theorem Tr.mono {B : SLab → Prop} (h : Tr A w w' iss L) (hab : ∀ l, A l → B l) : Tr B w w' iss L :=
  let ⟨tr, st, ha, hi⟩ := h; ⟨tr, st, fun l hl => hab l (ha l hl), hi⟩

theorem Tr.tau (hA : A .tau) (m : SMove .tau w w') : Tr A w w' [] [] :=
  ⟨[.tau], .one m, by simpa using hA, rfl, rfl⟩

theorem Tr.ctx {src : CtxSrc} (hA : A (.ctx src)) (m : SMove (.ctx src) w w') : Tr A w w' [] [src] :=
  ⟨[.ctx src], .one m, by simpa using hA, rfl, rfl⟩

theorem Tr.addOp {id : Nat} (hA : A (.addOp id)) (m : SMove (.addOp id) w w') : Tr A w w' [id] [] :=
  ⟨[.addOp id], .one m, by simpa using hA, rfl, rfl⟩

theorem Tr.of_dec (d : Dec A w w') (hA : ∀ l, A l → l.issued = none ∧ l.src? = none) : Tr A w w' [] [] := by
  obtain ⟨tr, st, ha⟩ := d
  exact ⟨tr, st, ha, issuedOf_eq_nil fun l hl => (hA l (ha l hl)).1,
    List.filterMap_eq_nil_iff.mpr fun l hl => (hA l (ha l hl)).2⟩

theorem Tr.quiet (hA : A .tau) (chans : w'.chans = w.chans) (c_eq : w'.c = w.c) (ops : w'.ops = w.ops)
    (out : w'.out = w.out) (q : w'.queue = w.queue := by rfl)
    (sc : w'.subCtr = w.subCtr := by rfl) : Tr A w w' [] [] :=
  .tau hA (.quiet chans c_eq ops out q sc)

end Tr

-- `nofun` in place of the `noConfusion` terms is a hundred times slower here (it unfolds the `≠` over the big records)
theorem _root_.Poster.StreamQuiet.of_ctxLine {o : Obs} (h : CtxLine o) : StreamQuiet o := by
  rcases h with ⟨_, rfl | rfl⟩ | ⟨_, _, rfl⟩ | ⟨_, rfl⟩ <;> exact ⟨fun _ _ h => Obs.noConfusion h, fun _ h => Obs.noConfusion h⟩
theorem _root_.Poster.StreamQuiet.of_endObs {id : Nat} {o : Obs} (h : EndObs id o) : StreamQuiet o := by
  rcases h with rfl | ⟨_, rfl⟩ <;> exact ⟨fun _ _ h => Obs.noConfusion h, fun _ h => Obs.noConfusion h⟩
theorem _root_.Poster.StreamQuiet.of_dull {o : Obs} (h : W7.Dull o) : StreamQuiet o := by
  rcases h with rfl | rfl | ⟨_, rfl⟩ | ⟨_, rfl⟩ <;> exact ⟨fun _ _ h => Obs.noConfusion h, fun _ h => Obs.noConfusion h⟩
theorem sq_ev (e : Ev) : StreamQuiet (.ev e) := ⟨fun _ _ h => Obs.noConfusion h, fun _ h => Obs.noConfusion h⟩

theorem sqExt_of_outExt {a b : World} (h : OutExt a b) : SQExt a b := outExtP_of_outExt h fun _ => ⟨.of_ctxLine (.wire _), .of_ctxLine (.wraw _)⟩

theorem run_out (cfg : Cfg) (evs : List Ev) :
    ∃ added, run cfg evs = (evs.foldl step { cfg := cfg }).out ++ added ∧ ∀ o ∈ added, StreamQuiet o :=
  flushRaw_outExtP (evs.foldl step { cfg := cfg }) (.of_ctxLine (.wraw _))

end World
end Poster

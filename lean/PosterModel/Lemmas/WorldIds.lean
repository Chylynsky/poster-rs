/-
  The Maximum Packet Size check in the world (the check at the level of the context: Lemmas/CtxSize.lean): `headStep w m q`,
  the world after the loop of `run()` handled the first queued message, when the packet is too big and when it fits; the
  future that finds the refusal in its oneshot. `reqPacketLen`: the library's `packet_len()` formulas.
-/
import PosterModel.Lemmas.WorldRet
import PosterModel.Lemmas.WorldDuring
import PosterModel.Properties.C12
import PosterModel.Properties.CtxLift


namespace Poster
open Framing
namespace World
namespace W10
open W7

theorem writeNeed_eq_sum (effs : List Eff) : writeNeed effs = ((writesOf effs).map List.length).sum := by
  induction effs with
  | nil => rfl
  | cons e t ih =>
    cases e with
    | write bs => rw [writeNeed_cons_write, writesOf_cons_write, List.map_cons, List.sum_cons, ih]
    | _ => rw [writeNeed_cons_quiet _ _ rfl, writesOf_cons_quiet _ _ rfl, ih]

theorem writeNeed_of_writes {effs : List Eff} {b : Bytes} (h : writesOf effs = [b]) : writeNeed effs = b.length := by
  rw [writeNeed_eq_sum, h]; simp

/-- the world after the loop of `run()` has taken the message `m` from the head of the queue (rest `q`) and
    `handle_message` has run on it, and what `run()` does next -/
def headStep (w : World) (m : Msg) (q : List Msg) : World × Flow :=
  ({ w with queue := q }).runHandler (fun wok => w.c.handleMsg m wok)

/-- `World.runIter_msg` (Lemmas/WorldRun.lean) read at `headStep`; inside this namespace the short name means this one -/
theorem runIter_msg (w : World) (m : Msg) (q : List Msg) (hq : w.queue = m :: q) :
    runIter w = match (headStep w m q).2 with
      | .cont => .inl (headStep w m q).1
      | fl => .inr ((headStep w m q).1.finish .run (flowRet fl)) := by
  unfold headStep
  generalize hr : ({ w with queue := q } : World).runHandler (fun wok => w.c.handleMsg m wok) = r
  obtain ⟨w1, fl⟩ := r
  rw [World.runIter_msg w m q w1 fl hq hr]
  cases fl <;> rfl

theorem headStep_runCont (w : World) (m : Msg) (q : List Msg) (hq : w.queue = m :: q)
    (hf : (headStep w m q).2 = .cont) : RunCont w (headStep w m q).1 :=
  .msg m q _ hq (Prod.ext rfl hf)

theorem headStep_runEnd (w : World) (m : Msg) (q : List Msg) (hq : w.queue = m :: q)
    (hf : (headStep w m q).2 ≠ .cont) : RunEnd w ((headStep w m q).1.finish .run (flowRet (headStep w m q).2)) :=
  .msgExit m q _ _ hq rfl hf

theorem sent_queue (w : World) (q : List Msg) : ({ w with queue := q } : World).sent = w.sent := rfl

theorem headStep_tooBig (w : World) (m : Msg) (q : List Msg) (h : TooBig w.c m.pkt) :
    headStep w m q = (({ w with queue := q } : World).applyEffs (refusalEffs m), .cont) ∧
    (headStep w m q).1.c = w.c ∧ (headStep w m q).1.sent = w.sent ∧ (headStep w m q).1.out = w.out ∧
    (headStep w m q).1.written = w.written ∧ (headStep w m q).1.queue = q ∧ (headStep w m q).1.ops = w.ops ∧
    (w.slot m.slot = some .empty → (headStep w m q).1.slot m.slot = some (.full .errSize)) ∧
    (∀ s, s ≠ m.slot → (headStep w m q).1.slot s = w.slot s) := by
  have e : headStep w m q = (({ w with queue := q } : World).applyEffs (refusalEffs m), .cont) := by
    unfold headStep
    rw [runHandler_eq]
    simp only [handleMsg_tooBig w.c m _ h]
  have hquiet : ∀ e ∈ refusalEffs m, Eff.quiet e = true := by
    cases m <;> simp [refusalEffs, Eff.quiet]
  -- as far as the oneshots go, the refusal is the one `send`
  have hslot : ∀ s, (headStep w m q).1.slot s =
      if s = m.slot ∧ w.slot m.slot = some .empty then some (.full .errSize) else w.slot s := by
    intro s
    rw [e]
    refine Eq.trans ?_ (sendSlot_slot ({ w with queue := q } : World) m.slot s .errSize)
    cases m with
    | subscribe aid sid pkt slot ch => exact dropChanTx_slot _ _ _
    | _ => rfl
  have hout : (headStep w m q).1.out = w.out := by
    rw [e]; cases m <;> simp [refusalEffs, applyEffs, applyEff]
  refine ⟨e, by rw [e, applyEffs_c], ?_, hout, ?_, by rw [e, applyEffs_queue], by rw [e, applyEffs_ops], ?_, ?_⟩
  · rw [e]; exact (applyEffs_quiet _ _ hquiet).1.trans (sent_queue w q)
  · rw [e]; exact (applyEffs_quiet _ _ hquiet).2
  · intro hs; rw [hslot, if_pos ⟨rfl, hs⟩]
  · intro s hs; rw [hslot, if_neg (fun h => hs h.1)]

theorem sent_writeBytes_cut (w : World) (bs : Bytes) (h : w.canWrite bs.length = false) :
    ∃ k, (bs ≠ [] → k < bs.length) ∧ (w.writeBytes bs).sent = w.sent ++ bs.take k := by
  unfold writeBytes
  rw [if_neg (by simp [h])]
  refine ⟨(w.cfg.wlimit.getD 0) - w.written, ?_, ?_⟩
  · unfold canWrite at h
    split at h
    · cases h
    · rename_i l hl
      simp only [decide_eq_false_iff_not] at h
      rw [hl]; simp only [Option.getD_some]
      intro hne
      have : 0 < bs.length := List.length_pos_iff.mpr hne
      omega
  · rw [sent_flushWire]; simp only [sent, List.append_assoc]

theorem sent_applyEffs_one (w : World) (effs : List Eff) (b : Bytes) (h : writesOf effs = [b]) :
    (w.canWrite b.length = true → (w.applyEffs effs).sent = w.sent ++ b) ∧
    (w.canWrite b.length = false → ∃ k, (b ≠ [] → k < b.length) ∧ (w.applyEffs effs).sent = w.sent ++ b.take k) := by
  -- the effects before and after the one write are no writes: they leave the transport alone
  have quiet : ∀ {l : List Eff}, writesOf l = [] → ∀ e ∈ l, Eff.quiet e = true := fun {l} hl e he => by
    cases e with
    | write b' => exact absurd he (writesOf_eq_nil_iff.1 hl b')
    | _ => rfl
  obtain ⟨pre, post, rfl, e⟩ := applyEffs_of_mem (mem_writesOf.1 (h ▸ List.mem_singleton_self b)) w
  rw [writesOf_append, writesOf_cons_write, List.append_eq_singleton_iff] at h
  obtain ⟨hpre, hpost⟩ : writesOf pre = [] ∧ writesOf post = [] := by
    rcases h with ⟨h1, h2⟩ | ⟨_, h2⟩
    · exact ⟨h1, (List.cons.inj h2).2⟩
    · cases h2
  obtain ⟨s1, w1⟩ := applyEffs_quiet w pre (quiet hpre)
  rw [e, (applyEffs_quiet _ post (quiet hpost)).1, ← s1, ← canWrite_congr (applyEffs_cfg w pre) w1]
  exact ⟨fun hc => (sent_writeBytes _ b hc).1, fun hc => sent_writeBytes_cut _ b hc⟩

theorem headStep_fits (w : World) (m : Msg) (q : List Msg) (h : ¬ TooBig w.c m.pkt) :
    (QuotaRefused w.c m ∧ (headStep w m q).1.c = w.c ∧ (headStep w m q).1.sent = w.sent ∧
      (headStep w m q).2 = .cont) ∨
    (¬ QuotaRefused w.c m ∧
      (w.canWrite m.pkt.length = true →
        (headStep w m q).1.sent = w.sent ++ m.pkt ∧ (headStep w m q).2 ≠ .exitSocket) ∧
      (w.canWrite m.pkt.length = false →
        (∃ k, (m.pkt ≠ [] → k < m.pkt.length) ∧ (headStep w m q).1.sent = w.sent ++ m.pkt.take k) ∧
        (headStep w m q).2 = .exitSocket)) := by
  unfold headStep
  rw [runHandler_eq]
  rcases handleMsg_fits w.c m true h with ⟨hq, e⟩ | ⟨hq, hw, hfl, _⟩
  · left
    have e' : ∀ b, w.c.handleMsg m b = (w.c, [.send m.slot .errQuota], .cont) := by
      intro b
      rcases handleMsg_fits w.c m b h with ⟨_, e'⟩ | ⟨hn, _⟩
      · exact e'
      · exact absurd hq hn
    simp only [e']
    refine ⟨hq, by simp, ?_, trivial⟩
    exact (applyEffs_quiet _ _ (by simp [Eff.quiet])).1.trans (sent_queue w q)
  · right
    refine ⟨hq, ?_, ?_⟩
    · intro hc
      have hc' : ({ w with queue := q } : World).canWrite (writeNeed (w.c.handleMsg m true).2.1) = true := by
        rw [writeNeed_of_writes hw]; exact hc
      simp only [hc']
      refine ⟨?_, ?_⟩
      · have := (sent_applyEffs_one ({ w with queue := q, c := (w.c.handleMsg m true).1 } : World) _ _ hw).1 hc
        rw [this]; rfl
      · intro hx; have := hfl.1 hx; cases this
    · intro hc
      have hc' : ({ w with queue := q } : World).canWrite (writeNeed (w.c.handleMsg m true).2.1) = false := by
        rw [writeNeed_of_writes hw]; exact hc
      simp only [hc']
      rcases handleMsg_fits w.c m false h with ⟨hq', _⟩ | ⟨_, hw', hfl', _⟩
      · exact absurd hq' hq
      · refine ⟨?_, hfl'.2 rfl⟩
        obtain ⟨k, hk, e⟩ := (sent_applyEffs_one ({ w with queue := q, c := (w.c.handleMsg m false).1 } : World) _ _ hw').2 hc
        exact ⟨k, hk, by rw [e]; rfl⟩

theorem pollOp_errSize (w : World) (id s : Nat) (k : Wait) (hop : w.opSt id = some (.wait s k))
    (hs : w.slot s = some (.full .errSize)) :
    w.pollOp id = (w.clearSlot s).finishOp id (.err .maximumPacketSizeExceeded) ∧
    (w.pollOp id).out = w.out ++ [.done id (.err .maximumPacketSizeExceeded)] ∧
    (w.pollOp id).ops = eraseFirst id w.ops ∧ (w.pollOp id).queue = w.queue ∧ (w.pollOp id).c = w.c ∧
    (w.pollOp id).sent = w.sent ∧ (w.pollOp id).pidCtr = w.pidCtr := by
  have e : w.pollOp id = (w.clearSlot s).finishOp id (.err .maximumPacketSizeExceeded) := by
    rw [pollOp_of_full hop hs]; rfl
  refine ⟨e, by rw [e]; simp [clearSlot], by rw [e]; simp [clearSlot], by rw [e]; simp [clearSlot],
    by rw [e]; simp [clearSlot], ?_, by rw [e]; simp [clearSlot]⟩
  rw [e, finishOp_sent]
  exact sent_congr rfl rfl

/-- the length of the packet of a (completed) request, by the library's `packet_len()` formulas -/
def reqPacketLen : Req → Nat
  | .publish t => t.packetLen
  | .subscribe t => t.packetLen
  | .unsubscribe t => t.packetLen
  | .ping => 2
  | .disconnect t => t.packetLen


end W10
end World
end Poster

/-
  Lemmas/WorldCtx.lean — the link between the whole-client machine `World` and the context-level histories `Ctx.serve`: a
  handler run by the loop is one `Ctx.stepIn` (`runHandler_eq_stepIn_msg/_pkt` are the equations to use), and one poll of
  the `select!` loop of `run()`, whichever branch is polled first in each iteration, drives `World.c` through exactly one
  served history of well-formed inputs (`loopHistS`; `loopHist` in the model's own order) and (the transport taking the
  writes) puts on the transport exactly the writes of that history (`PollServe`, `runLoopS_pollServe`); behind the resumption
  prelude, so does a poll of `run()` (`pollRun_pollServe`).
-/
import PosterModel.Lemmas.WorldReach
import PosterModel.Lemmas.CtxQuota
import PosterModel.Lemmas.CtxDecodeWf
import PosterModel.Lemmas.WorldEx
import PosterModel.Lemmas.WorldSent

namespace Poster
open Framing

namespace World

theorem handlePkt_deadOf (w : World) (p : RxPacket) (wok : Bool) :
    w.c.handlePkt w.chanRxAlive p wok = w.c.handlePkt (fun ch => ch ∉ w.deadOf) p wok := by
  apply Ctx.handlePkt_congr
  intro ch hch
  simp only [deadOf, List.mem_filter, hch, true_and, Bool.not_eq_true', Bool.not_eq_false]
  cases w.chanRxAlive ch <;> simp

/-- the `wok` bit of an input: the transport takes this handler's write -/
def _root_.Poster.CIn.wok : CIn → Bool
  | .msg _ k => k
  | .pkt _ _ k => k

theorem stepIn_inMsg (w : World) (m : Msg) :
    w.c.stepIn (w.inMsg m) =
      ((w.c.handleMsg m (w.wokMsg m)).1, .msg m (w.c.handleMsg m (w.wokMsg m)).2.1 (w.c.handleMsg m (w.wokMsg m)).2.2) :=
  rfl

theorem stepIn_inPkt (w : World) (p : RxPacket) :
    w.c.stepIn (w.inPkt p) =
      ((w.c.handlePkt w.chanRxAlive p (w.wokPkt p)).1,
        .pkt p (w.c.handlePkt w.chanRxAlive p (w.wokPkt p)).2.1 (w.c.handlePkt w.chanRxAlive p (w.wokPkt p)).2.2) := by
  simp only [inPkt, Ctx.stepIn]
  rw [← handlePkt_deadOf]

theorem runHandler_eq_stepIn_msg (w : World) (q : List Msg) (m : Msg) :
    ({ w with queue := q }).runHandler (fun wok => w.c.handleMsg m wok) =
      (({ w with queue := q, c := (w.c.stepIn (w.inMsg m)).1 }).applyEffs (w.c.stepIn (w.inMsg m)).2.effs,
        (w.c.stepIn (w.inMsg m)).2.flow) := by
  rw [runHandler_eq, stepIn_inMsg]
  rfl

theorem runHandler_eq_stepIn_pkt (w : World) (rx' : Rx) (rd' : List ReadEv) (p : RxPacket) :
    ({ w with rx := rx', reader := rd' }).runHandler (fun wok => w.c.handlePkt w.chanRxAlive p wok) =
      (({ w with rx := rx', reader := rd', c := (w.c.stepIn (w.inPkt p)).1 }).applyEffs (w.c.stepIn (w.inPkt p)).2.effs,
        (w.c.stepIn (w.inPkt p)).2.flow) := by
  rw [runHandler_eq, stepIn_inPkt]
  rfl

theorem runHandler_eq_stepIn (w : World) (q : List Msg) (m : Msg) :
    ∃ wok₀, wok₀ = w.canWrite (writeNeed (w.c.handleMsg m true).2.1) ∧
      (({ w with queue := q }).runHandler (fun wok => w.c.handleMsg m wok)).1.c = (w.c.stepIn (.msg m wok₀)).1 ∧
      (({ w with queue := q }).runHandler (fun wok => w.c.handleMsg m wok)).2 = (w.c.stepIn (.msg m wok₀)).2.flow ∧
      (({ w with queue := q }).runHandler (fun wok => w.c.handleMsg m wok)).1 =
        ({ w with queue := q, c := (w.c.stepIn (.msg m wok₀)).1 }).applyEffs (w.c.stepIn (.msg m wok₀)).2.effs := by
  refine ⟨w.wokMsg m, rfl, ?_, ?_, ?_⟩
  · rw [runHandler_eq_stepIn_msg]; simp [inMsg]
  · rw [runHandler_eq_stepIn_msg]; rfl
  · rw [runHandler_eq_stepIn_msg]; rfl

theorem runHandler_eq_stepIn' (w : World) (rx' : Rx) (rd' : List ReadEv) (p : RxPacket) :
    ∃ wok₀, wok₀ = w.canWrite (writeNeed (w.c.handlePkt w.chanRxAlive p true).2.1) ∧
      (({ w with rx := rx', reader := rd' }).runHandler (fun wok => w.c.handlePkt w.chanRxAlive p wok)).1.c =
        (w.c.stepIn (.pkt p w.deadOf wok₀)).1 ∧
      (({ w with rx := rx', reader := rd' }).runHandler (fun wok => w.c.handlePkt w.chanRxAlive p wok)).2 =
        (w.c.stepIn (.pkt p w.deadOf wok₀)).2.flow ∧
      (({ w with rx := rx', reader := rd' }).runHandler (fun wok => w.c.handlePkt w.chanRxAlive p wok)).1 =
        ({ w with rx := rx', reader := rd', c := (w.c.stepIn (.pkt p w.deadOf wok₀)).1 }).applyEffs
          (w.c.stepIn (.pkt p w.deadOf wok₀)).2.effs := by
  refine ⟨w.wokPkt p, rfl, ?_, ?_, ?_⟩
  · rw [runHandler_eq_stepIn_pkt]; simp [inPkt]
  · rw [runHandler_eq_stepIn_pkt]; rfl
  · rw [runHandler_eq_stepIn_pkt]; rfl

theorem pollOp_c (w : World) (id : Nat) : (w.pollOp id).c = w.c := (pollOp_userFrame w id).c

theorem pollStream_c (w : World) (id : Nat) : (w.pollStream id).c = w.c := (pollStream_userFrame w id).c

theorem badScript_c (w : World) : w.badScript.c = w.c := rfl

/-- the history of one poll of the loop: the inputs its iterations hand to the handlers, in order -/
def loopHist : Nat → World → List CIn
  | 0, _ => []
  | f+1, w =>
    match w.iterIn with
    | none => []
    | some i => i :: (match runIter w with | .inl w1 => loopHist f w1 | .inr _ => [])

/-- what one iteration does to the context and to the transport -/
structure IterStep (w w1 : World) (i : CIn) : Prop where
  wf : i.wf
  c_eq : w1.c = (w.c.stepIn i).1
  sent_eq : w.canWrite (writeNeed (w.c.stepIn i).2.effs) = true →
    w1.sent = w.sent ++ (writesOf (w.c.stepIn i).2.effs).flatten
  sent_prefix : ∃ more, w1.sent = w.sent ++ more
  wok_can : i.wok = true → w.canWrite (writeNeed (w.c.stepIn i).2.effs) = true

theorem wok_can_msg (w : World) (m : Msg) (h : (w.inMsg m).wok = true) :
    w.canWrite (writeNeed (w.c.stepIn (w.inMsg m)).2.effs) = true := by
  -- `wokMsg` is by definition `canWrite` of what the handler writes when told `true`; once the flag is rewritten
  -- to `true` the goal is that very equation (the same in `wok_can_pkt`)
  have h' : w.wokMsg m = true := h
  rw [stepIn_inMsg]
  simp only [CObs.effs]
  rw [h']
  exact h'

theorem wok_can_pkt (w : World) (p : RxPacket) (h : (w.inPkt p).wok = true) :
    w.canWrite (writeNeed (w.c.stepIn (w.inPkt p)).2.effs) = true := by
  have h' : w.wokPkt p = true := h
  rw [stepIn_inPkt]
  simp only [CObs.effs]
  rw [h']
  exact h'

theorem iterStep_of (w w0 : World) (i : CIn) (hwf : i.wf) (hs : w0.sent = w.sent)
    (hw : ∀ n, w0.canWrite n = w.canWrite n)
    (hk : i.wok = true → w.canWrite (writeNeed (w.c.stepIn i).2.effs) = true) :
    IterStep w (({ w0 with c := (w.c.stepIn i).1 } : World).applyEffs (w.c.stepIn i).2.effs) i where
  wf := hwf
  c_eq := by simp
  sent_eq := fun h => by
    rw [sent_applyEffs _ _ (by exact (hw _).trans h)]
    exact congrArg (· ++ _) hs
  sent_prefix :=
    let ⟨more, h⟩ := sent_applyEffs_prefix ({ w0 with c := (w.c.stepIn i).1 } : World) (w.c.stepIn i).2.effs
    ⟨more, h.trans (congrArg (· ++ more) hs)⟩
  wok_can := hk

theorem iterStep_finish {w w1 : World} {i : CIn} (h : IterStep w w1 i) (call : Call) (r : RetRes) :
    IterStep w (w1.finish call r) i where
  wf := h.wf
  c_eq := by rw [finish_c]; exact h.c_eq
  sent_eq := fun hc => by rw [sent_finish]; exact h.sent_eq hc
  sent_prefix := by rw [sent_finish]; exact h.sent_prefix
  wok_can := h.wok_can

/-- the byte strings written while serving a history, in order -/
def histWrites (t : List CObs) : List Bytes := t.flatMap fun o => writesOf o.effs

theorem histWrites_cons (o : CObs) (t : List CObs) : histWrites (o :: t) = writesOf o.effs ++ histWrites t := by
  simp [histWrites]

theorem mem_dropLast_cons {α} {x o : α} {t : List α} (h : x ∈ (o :: t).dropLast) : x = o ∨ x ∈ t.dropLast := by
  cases t with
  | nil => simp at h
  | cons a t => simpa [List.dropLast] using h

/-- what a poll of the `select!` loop is, at the level of the context -/
structure PollServe (w r : World) (is : List CIn) : Prop where
  /-- every input is well formed (inbound packets come out of the decoder) -/
  wf : ∀ i ∈ is, i.wf
  c_eq : r.c = (w.c.serve is).1
  /-- no input is skipped: every input of the history is handled -/
  len_eq : (w.c.serve is).2.length = is.length
  /-- every handled input but possibly the last lets the loop go on -/
  cont : ∀ o ∈ (w.c.serve is).2.dropLast, o.flow = .cont
  /-- if the last handled input ends `run()`, the task is over and its result is the one of that flow -/
  exit : ∀ o, (w.c.serve is).2.getLast? = some o → o.flow ≠ .cont →
    r.task = .none ∧ ∃ pre, r.out = pre ++ [.ret .run (flowRet o.flow)]
  /-- with an unlimited transport the poll hands to it exactly the writes of the history, in order -/
  sent_eq : w.cfg.wlimit = none → r.sent = w.sent ++ (histWrites (w.c.serve is).2).flatten
  /-- more generally: whenever the transport took every handler's write (`wok` of every input), the poll hands to it
      exactly the writes of the history, in order -/
  sent_eq_wok : (∀ i ∈ is, i.wok = true) → r.sent = w.sent ++ (histWrites (w.c.serve is).2).flatten
  sent_prefix : ∃ more, r.sent = w.sent ++ more

theorem pollServe_nil {w r : World} (hc : r.c = w.c) (hs : r.sent = w.sent) : PollServe w r [] where
  wf := by simp
  c_eq := hc
  len_eq := rfl
  cont := by simp [Ctx.serve_nil]
  exit := by simp [Ctx.serve_nil]
  sent_eq := fun _ => by simp [Ctx.serve_nil, histWrites, hs]
  sent_eq_wok := fun _ => by simp [Ctx.serve_nil, histWrites, hs]
  sent_prefix := ⟨[], by simp [hs]⟩

theorem pollServe_single {w r : World} {i : CIn} (hst : IterStep w r i)
    (ht : r.task = .none) (ho : ∃ pre, r.out = pre ++ [.ret .run (flowRet (w.c.stepIn i).2.flow)]) :
    PollServe w r [i] where
  wf := by simpa using hst.wf
  c_eq := by rw [Ctx.serve_single]; exact hst.c_eq
  len_eq := by rw [Ctx.serve_single]; rfl
  cont := by rw [Ctx.serve_single]; simp
  exit := by
    rw [Ctx.serve_single]
    intro o ho' _
    simp only [List.getLast?_singleton, Option.some.injEq] at ho'
    subst ho'
    exact ⟨ht, ho⟩
  sent_eq := fun hl => by
    rw [Ctx.serve_single, hst.sent_eq (canWrite_unlimited w hl _)]
    simp [histWrites]
  sent_eq_wok := fun hk => by
    rw [Ctx.serve_single, hst.sent_eq (hst.wok_can (hk i (by simp)))]
    simp [histWrites]
  sent_prefix := hst.sent_prefix

theorem pollServe_cons {w w1 r : World} {i : CIn} {is : List CIn} (hfl : (w.c.stepIn i).2.flow = .cont)
    (hst : IterStep w w1 i) (hcfg : w1.cfg = w.cfg) (h : PollServe w1 r is) : PollServe w r (i :: is) where
  wf := by
    intro j hj
    simp only [List.mem_cons] at hj
    rcases hj with rfl | hj
    · exact hst.wf
    · exact h.wf j hj
  c_eq := by rw [Ctx.serve_cons_cont _ _ _ hfl, ← hst.c_eq]; exact h.c_eq
  len_eq := by rw [Ctx.serve_cons_cont _ _ _ hfl, ← hst.c_eq]; simp [h.len_eq]
  cont := by
    rw [Ctx.serve_cons_cont _ _ _ hfl, ← hst.c_eq]
    intro o ho
    rcases mem_dropLast_cons ho with rfl | ho
    · exact hfl
    · exact h.cont o ho
  exit := by
    rw [Ctx.serve_cons_cont _ _ _ hfl, ← hst.c_eq]
    intro o ho hne
    cases ht : (w1.c.serve is).2 with
    | nil =>
      rw [ht] at ho
      simp only [List.getLast?_singleton, Option.some.injEq] at ho
      subst ho
      exact absurd hfl hne
    | cons a t =>
      rw [ht, List.getLast?_cons_cons] at ho
      exact h.exit o (by rw [ht]; exact ho) hne
  sent_eq := fun hl => by
    rw [Ctx.serve_cons_cont _ _ _ hfl, ← hst.c_eq, h.sent_eq (by rw [hcfg]; exact hl),
      hst.sent_eq (canWrite_unlimited w hl _), histWrites_cons]
    simp
  sent_eq_wok := fun hk => by
    rw [Ctx.serve_cons_cont _ _ _ hfl, ← hst.c_eq, h.sent_eq_wok (fun j hj => hk j (by simp [hj])),
      hst.sent_eq (hst.wok_can (hk i (by simp))), histWrites_cons]
    simp
  sent_prefix := by
    obtain ⟨m1, h1⟩ := hst.sent_prefix
    obtain ⟨m2, h2⟩ := h.sent_prefix
    exact ⟨m1 ++ m2, by rw [h2, h1, List.append_assoc]⟩

theorem loopHist_zero (w : World) : loopHist 0 w = [] := rfl

theorem loopHist_succ (f : Nat) (w : World) :
    loopHist (f + 1) w = match w.iterIn with
      | none => []
      | some i => i :: (match runIter w with | .inl w1 => loopHist f w1 | .inr _ => []) := rfl

theorem IterStep.of_eq {wa w w1 : World} {i : CIn} (h : IterStep wa w1 i) (hc : wa.c = w.c) (hs : wa.sent = w.sent)
    (hw : ∀ n, wa.canWrite n = w.canWrite n) : IterStep w w1 i where
  wf := h.wf
  c_eq := by rw [← hc]; exact h.c_eq
  sent_eq := fun hcw => by rw [← hs, ← hc]; exact h.sent_eq (by rw [hw, hc]; exact hcw)
  sent_prefix := by rw [← hs]; exact h.sent_prefix
  wok_can := fun hk => by rw [← hw, ← hc]; exact h.wok_can hk

theorem armReader_sent (w : World) :
    (armReader w).sent = w.sent ∧ (armReader w).cfg = w.cfg ∧ (armReader w).written = w.written := by
  unfold armReader wake
  split
  · exact ⟨sent_congr rfl rfl, rfl, rfl⟩
  · split <;> exact ⟨sent_congr rfl rfl, rfl, rfl⟩

theorem ArmOpt.ctx {w wa : World} (h : ArmOpt w wa) :
    wa.c = w.c ∧ wa.sent = w.sent ∧ wa.cfg = w.cfg ∧ wa.written = w.written := by
  rcases h with rfl | ⟨rx', rd', hp, rfl⟩
  · exact ⟨rfl, rfl, rfl, rfl⟩
  · obtain ⟨h1, h2, h3⟩ := armReader_sent { w with rx := rx', reader := rd' }
    exact ⟨(armReader_in _).1, h1.trans (sent_congr rfl rfl), h2, h3⟩

theorem handled_iter {w w1 : World} {i : CIn} {fl : Flow} (h : Handled w i w1 fl) :
    fl = (w.c.stepIn i).2.flow ∧ IterStep w w1 i ∧ w1.cfg = w.cfg := by
  cases h with
  | msg m q hq =>
    rw [runHandler_eq_stepIn_msg]
    exact ⟨rfl, iterStep_of w { w with queue := q } _ trivial rfl (fun _ => rfl) (wok_can_msg w m), by simp⟩
  | pkt rx' rd' fr p hp hd =>
    rw [runHandler_eq_stepIn_pkt]
    exact ⟨rfl, iterStep_of w { w with rx := rx', reader := rd' } _ (decodeRx_wf_aux fr p hd) rfl (fun _ => rfl)
      (wok_can_pkt w p), by simp⟩

theorem sIdle_frame {w r : World} (h : SIdle w r) : r.c = w.c ∧ r.sent = w.sent := by
  cases h with
  | closed => exact ⟨rfl, sent_finish _ _ _⟩
  | codec => exact ⟨rfl, sent_finish _ _ _⟩
  | panic => exact ⟨rfl, sent_emit _ _ rfl⟩
  | sock => exact ⟨rfl, sent_finish _ _ _⟩
  | park rx' rd' => exact ⟨(armReader_in _).1, (armReader_sent _).1.trans (sent_congr rfl rfl)⟩

theorem runCont_iter {w w1 : World} (h : RunCont w w1) :
    ∃ i, w.iterIn = some i ∧ (w.c.stepIn i).2.flow = .cont ∧ IterStep w w1 i := by
  rcases runIter_out w with ⟨i, w1', fl, hh, hi, e⟩ | ⟨r', _, _, e⟩ <;> rw [h.iter] at e
  · obtain ⟨rfl, hst, _⟩ := handled_iter hh
    by_cases hfl : (w.c.stepIn i).2.flow = .cont
    · rw [hfl] at e; cases e; exact ⟨i, hi, hfl, hst⟩
    · rw [afterHandler_exit hfl] at e; cases e
  · cases e

theorem runEnd_iter {w r : World} (h : RunEnd w r) :
    (w.iterIn = none ∧ r.c = w.c ∧ r.sent = w.sent) ∨
    (∃ i, w.iterIn = some i ∧ (w.c.stepIn i).2.flow ≠ .cont ∧ IterStep w r i ∧
      r.task = .none ∧ ∃ pre, r.out = pre ++ [.ret .run (flowRet (w.c.stepIn i).2.flow)]) := by
  rcases runIter_out w with ⟨i, w1', fl, hh, hi, e⟩ | ⟨r', hr, hi, e⟩ <;> rw [h.iter] at e
  · obtain ⟨rfl, hst, _⟩ := handled_iter hh
    by_cases hfl : (w.c.stepIn i).2.flow = .cont
    · rw [hfl] at e; cases e
    · rw [afterHandler_exit hfl] at e; cases e
      exact Or.inr ⟨i, hi, hfl, iterStep_finish hst _ _, rfl, _, rfl⟩
  · cases e; exact Or.inl ⟨hi, sIdle_frame hr⟩

theorem loopHistS_succ (sched : Nat → Bool) (f : Nat) (w : World) :
    loopHistS sched (f + 1) w = match iterInS (sched f) w with
      | none => []
      | some i => i :: (match runIterS (sched f) w with | .inl w1 => loopHistS sched f w1 | .inr _ => []) := rfl

/-- **One poll of the `select!` loop under any scheduler is a served history**: with any fuel, from any world, the
    context is driven through exactly the served history `loopHistS sched f w` — an interleaving of the queued messages
    (in queue order) with the decoded frames (in frame order) -/
theorem runLoopS_pollServe (sched : Nat → Bool) (f : Nat) (w : World) :
    PollServe w (runLoopS sched f w) (loopHistS sched f w) := by
  -- an induction of its own over `runIterS_spec`, not an instance of the labelled walk (`LoopAcc.runLoopS`): `PollServe` speaks
  -- of which handler call is the LAST (`cont`, `exit`), and a relation the walk can carry must compose with whatever
  -- follows — `PollServe a b is` and `PollServe b c js` do not give `PollServe a c (is ++ js)` when `is` ends with an exit
  induction f generalizing w with
  | zero => exact pollServe_nil rfl rfl
  | succ f ih =>
    rw [runLoopS_succ, loopHistS_succ]
    obtain ⟨wa, ha, h, _⟩ := runIterS_spec (sched f) w
    obtain ⟨hc, hs, hcfg, hwr⟩ := ha.ctx
    rcases h with ⟨i, w1, fl, hh, hi, e⟩ | ⟨r, hr, hi, e⟩
    · obtain ⟨rfl, hst, hcfg1⟩ := handled_iter hh
      have hst' : IterStep w w1 i := hst.of_eq hc hs (canWrite_congr hcfg hwr)
      rw [hi, e, hc]
      by_cases hfl : (w.c.stepIn i).2.flow = .cont
      · simp only [hfl, afterHandler]
        exact pollServe_cons hfl hst' (hcfg1.trans hcfg) (ih w1)
      · rw [afterHandler_exit hfl]
        exact pollServe_single (iterStep_finish hst' _ _) rfl ⟨_, rfl⟩
    · obtain ⟨c1, c2⟩ := sIdle_frame hr
      rw [hi, e]
      exact pollServe_nil (c1.trans hc) (c2.trans hs)

theorem loopHistS_false (f : Nat) (w : World) : loopHistS (fun _ => false) f w = loopHist f w := by
  induction f generalizing w with
  | zero => rfl
  | succ f ih =>
    rw [loopHistS_succ, loopHist_succ, runIterS_false]
    show (match w.iterIn with | none => [] | some i => _) = _
    cases w.iterIn with
    | none => rfl
    | some i =>
      simp only
      cases runIter w with
      | inl w1 => simp only [ih]
      | inr r => rfl

theorem runLoop_pollServe (f : Nat) (w : World) : PollServe w (runLoop f w) (loopHist f w) := by
  rw [← runLoop_is_a_resolution, ← loopHistS_false]; exact runLoopS_pollServe _ f w

theorem runLoop_is_serve (f : Nat) (w : World) :
    ∃ is : List CIn, (∀ i ∈ is, i.wf) ∧ (runLoop f w).c = (w.c.serve is).1 ∧
      is.length = (w.c.serve is).2.length ∧ (∀ o ∈ (w.c.serve is).2.dropLast, o.flow = .cont) ∧
      (w.cfg.wlimit = none → (runLoop f w).sent = w.sent ++ (histWrites (w.c.serve is).2).flatten) :=
  have h := runLoop_pollServe f w
  ⟨loopHist f w, h.wf, h.c_eq, h.len_eq.symm, h.cont, h.sent_eq⟩

end World

/-- what the protocol expects on the wire for one handled input: for an inbound packet the acknowledgement owed, for an
    application request whatever the handler wrote (nothing, or the request's packet) -/
def obsWire : CObs → List Bytes
  | .pkt p _ _ => ackOwed p
  | .msg _ effs _ => writesOf effs

theorem histWrites_of_acks (t : List CObs) (h : P_C08 t = true) : World.histWrites t = t.flatMap obsWire :=
  flatMap_of_acks (f := fun o => writesOf o.effs) (g := obsWire) (fun _ _ _ => rfl)
    (fun p effs fl e => by simp only [CObs.effs, obsWire, e]) t h

namespace World

theorem pollRun_started_pollServe (w : World) : PollServe w (w.pollRun true) (loopHist w.loopFuel w) := by
  simp only [pollRun, ↓reduceIte]; exact runLoop_pollServe _ w

theorem writeNeed_map_write (pkts : List Bytes) : writeNeed (pkts.map Eff.write) = (pkts.map List.length).sum := by
  induction pkts with
  | nil => rfl
  | cons p t ih => rw [List.map_cons, writeNeed_cons_write, ih]; simp

theorem writesOf_map_write (pkts : List Bytes) : writesOf (pkts.map Eff.write) = pkts := by
  induction pkts with
  | nil => rfl
  | cons p t ih => simp [ih]

theorem applyEffs_quiet (w : World) (effs : List Eff) (h : ∀ e ∈ effs, Eff.quiet e = true) :
    (w.applyEffs effs).sent = w.sent ∧ (w.applyEffs effs).written = w.written :=
  applyEffs_lift (R := fun w w' => w'.sent = w.sent ∧ w'.written = w.written) (fun _ => ⟨rfl, rfl⟩)
    (fun h1 h2 => ⟨h2.1.trans h1.1, h2.2.trans h1.2⟩) (fun w e he => applyEff_quiet w e (h e he)) w

theorem resume_effs_quiet (c : Ctx) : ∀ e ∈ c.resume.2.1, Eff.quiet e = true := fun e he => by
  rcases c.resume_effs_drops e he with ⟨_, rfl⟩ | ⟨_, rfl⟩ <;> rfl

theorem resumed_c (w : World) : w.resumed.c = w.c.resume.1 := by simp [resumed]
theorem resumed_cfg (w : World) : w.resumed.cfg = w.cfg := by simp [resumed]
theorem resumed_sent (w : World) : w.resumed.sent = w.sent :=
  (applyEffs_quiet _ _ (resume_effs_quiet w.c)).1
theorem resent_c (w : World) : w.resent.c = w.c.resume.1 := by
  obtain ⟨_, _, _, _, e⟩ := resent_shape w; rw [e]; exact resumed_c w
theorem resent_cfg (w : World) : w.resent.cfg = w.cfg := by
  obtain ⟨_, _, _, _, e⟩ := resent_shape w; rw [e]; exact resumed_cfg w

theorem resent_sent (w : World) (h : w.resumed.canWrite ((w.c.resume.2.2.map List.length).sum) = true) :
    w.resent.sent = w.sent ++ w.c.resume.2.2.flatten := by
  rw [resent, foldl_writeBytes_eq_applyEffs, sent_applyEffs _ _ (by rw [writeNeed_map_write]; exact h),
    writesOf_map_write, resumed_sent]

theorem pollRun_first_pollServe (w : World) (h : w.resumed.canWrite ((w.c.resume.2.2.map List.length).sum) = true) :
    PollServe w.resent (w.pollRun false) (loopHist w.resent.loopFuel w.resent) := by
  rw [pollRun_first_eq, if_pos h]
  exact runLoop_pollServe _ _

theorem pollRun_first_fail (w : World) (h : w.resumed.canWrite ((w.c.resume.2.2.map List.length).sum) = false) :
    (w.pollRun false).c = w.c.resume.1 ∧ (w.pollRun false).task = .none ∧
    (∃ pre, (w.pollRun false).out = pre ++ [.ret .run (.err .socketClosed)]) ∧
    ∃ k, (w.pollRun false).sent = w.sent ++ w.c.resume.2.2.flatten.take k := by
  rw [pollRun_first_eq, if_neg (by simp [h])]
  refine ⟨by simp [resumed_c], rfl, ⟨_, rfl⟩, ?_⟩
  obtain ⟨k, hk⟩ := sent_writeBytes_prefix w.resumed w.c.resume.2.2.flatten
  exact ⟨k, by rw [sent_finish, hk, resumed_sent]⟩

/-- **Every poll of `run()` is a served history from the world `w1` in which its loop starts**: `w` itself, or — first poll
    — `w` after resumption with the retransmit queue re-sent; when the transport fails inside the re-sent packets no input is
    served -/
theorem pollRun_pollServe (w : World) (started : Bool) :
    ∃ w1 is, PollServe w1 (w.pollRun started) is ∧ w1.c = (if started then w.c else w.c.resume.1) ∧
      (w.cfg.wlimit = none → w1.cfg.wlimit = none ∧
        w1.sent = w.sent ++ (if started then [] else w.c.resume.2.2.flatten)) := by
  cases started with
  | true => exact ⟨w, _, pollRun_started_pollServe w, rfl, fun hl => ⟨hl, (List.append_nil _).symm⟩⟩
  | false =>
    cases h : w.resumed.canWrite ((w.c.resume.2.2.map List.length).sum) with
    | true =>
      exact ⟨_, _, pollRun_first_pollServe w h, resent_c w, fun hl => ⟨by rw [resent_cfg]; exact hl, resent_sent w h⟩⟩
    | false =>
      refine ⟨_, [], pollServe_nil rfl rfl, (pollRun_first_fail w h).1, fun hl => ?_⟩
      rw [canWrite_unlimited _ (by rw [resumed_cfg]; exact hl)] at h
      cases h

theorem loopHist_one_frame (f : Nat) (w : World) (fr : Bytes) (p : RxPacket) (hq : w.queue = []) (hs : w.senders ≠ 0)
    (hp : pollNext w.rx w.reader = ({}, [], .item fr)) (hd : decodeRx fr = .ok p) :
    loopHist (f + 2) w = [w.inPkt p] := by
  have hi : w.iterIn = some (w.inPkt p) := by simp [iterIn, hq, hs, hp, hd]
  rw [loopHist_succ, hi]
  simp only
  cases h : runIter w with
  | inr r => rfl
  | inl w1 =>
    simp only
    have hc := runIter_inl h
    have h1 : w1.queue = [] ∧ w1.rx = {} ∧ w1.reader = [] := by
      cases hc with
      | msg m q w1 hq' hr => rw [hq] at hq'; cases hq'
      | pkt rx' rd' fr' p' w1 hq' hs' hp' hd' hr =>
        have e : w1 = (World.runHandler { w with rx := rx', reader := rd' }
          (fun wok => w.c.handlePkt w.chanRxAlive p' wok)).1 := by rw [hr]
        rw [hp] at hp'
        simp only [Prod.mk.injEq] at hp'
        rw [e]
        exact ⟨by simp [hq], by simp [hp'.1], by simp [hp'.2.1]⟩
    have : w1.iterIn = none := by
      simp [iterIn, h1.1, h1.2.1, h1.2.2, pollNext_idle_nil]
    rw [loopHist_succ, this]

end World

end Poster

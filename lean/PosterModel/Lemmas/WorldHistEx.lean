/-
  Concrete scripts, worlds and their histories for the non-vacuity examples of Properties/HistWorld.lean. `decide` cannot
  evaluate the framing machine `pollNext`, so the scripts that feed bytes are evaluated stage by stage.
-/
import PosterModel.Lemmas.WorldHistStream
import PosterModel.Lemmas.WorldOpsEx

namespace Poster
open Framing

namespace World

theorem drainEvs_pick (f : Nat) (w : World) (t : Task) (hf : 0 < f) (h : w.pick = some t) :
    drainEvs f w = w.taskEvs t ++ drainEvs (f - 1) (w.pollTask t) := by
  simp only [drainEvs_eq]; exact drainAcc_pick _ _ _ f w t hf h

theorem drainEvs_none (f : Nat) (w : World) (h : w.pick = none) : drainEvs f w = [] := by
  rw [drainEvs_eq]; exact drainAcc_none _ _ _ f w h

theorem stepEvs_eq (w : World) (e : Ev) (L : List HEv) (hb : w.bad = false)
    (hab : ((w.emit (.ev e)).apply e).bad = false) (hsw : w.cfg.sweep = false)
    (hL : (w.emit (.ev e)).applyEvs e ++
      drainEvs ((w.emit (.ev e)).apply e).drainFuel ((w.emit (.ev e)).apply e) = L) : w.stepEvs e = L := by
  have hs : (drain ((w.emit (.ev e)).apply e).drainFuel ((w.emit (.ev e)).apply e)).cfg.sweep = false := by
    rw [drain_cfg, apply_cfg, emit_cfg]; exact hsw
  unfold stepEvs
  simp only [hb, Bool.false_eq_true, ↓reduceIte, hab, hs, List.append_nil]
  exact hL

/-- one script step and its events at once (no sweep, no stall): the drain and its events are computed together -/
theorem stepBoth_eq (w : World) (e : Ev) (wd : World) (L : List HEv) (hb : w.bad = false)
    (hab : ((w.emit (.ev e)).apply e).bad = false) (hsw : w.cfg.sweep = false)
    (hd : (drain ((w.emit (.ev e)).apply e).drainFuel ((w.emit (.ev e)).apply e),
      (w.emit (.ev e)).applyEvs e ++ drainEvs ((w.emit (.ev e)).apply e).drainFuel ((w.emit (.ev e)).apply e)) = (wd, L))
    (hst : ¬ (wd.task ≠ .none ∧ wd.reader ≠ [])) : w.step e = wd ∧ w.stepEvs e = L := by
  obtain ⟨h1, h2⟩ := Prod.mk.inj hd
  exact ⟨step_eq w e wd hb hab h1 (by rw [← h1, drain_cfg, apply_cfg, emit_cfg]; exact hsw) hst,
    stepEvs_eq w e L hb hab hsw h2⟩

theorem taskEvs_ctx_running (w : World) (h : (w.unwake .ctx).task = .running true) :
    w.taskEvs .ctx = histEvs (w.unwake .ctx).c (loopHist (w.unwake .ctx).loopFuel (w.unwake .ctx)) := by
  show (w.unwake .ctx).ctxEvs = _
  rw [ctxEvs_running _ true h]; rfl

theorem taskEvs_ctx_start (w : World) (h : (w.unwake .ctx).task = .running false)
    (hc : (w.unwake .ctx).resumed.canWrite (((w.unwake .ctx).c.resume.2.2.map List.length).sum) = true) :
    w.taskEvs .ctx = .resume (w.unwake .ctx).c ::
      histEvs (w.unwake .ctx).c.resume.1 (loopHist (w.unwake .ctx).resent.loopFuel (w.unwake .ctx).resent) := by
  show (w.unwake .ctx).ctxEvs = _
  rw [ctxEvs_running _ false h]
  simp only [Bool.false_eq_true, ↓reduceIte, hc]

theorem loopHist_idle (f : Nat) (w : World) (hq : w.queue = []) (hrx : w.rx = {}) (hrd : w.reader = []) :
    loopHist f w = [] := by
  cases f with
  | zero => rfl
  | succ f =>
    have : w.iterIn = none := by simp [iterIn, hq, hrx, hrd, pollNext_idle_nil]
    rw [loopHist_succ, this]

theorem loopHist_fuel_one_frame (w : World) (fr : Bytes) (p : RxPacket) (hq : w.queue = []) (hs : w.senders ≠ 0)
    (hp : pollNext w.rx w.reader = ({}, [], .item fr)) (hd : decodeRx fr = .ok p) :
    loopHist w.loopFuel w = [w.inPkt p] := by
  have : w.loopFuel = (w.queue.length + 2 * (evBytes w.reader + w.reader.length + w.rx.valid.length) + 2) + 2 := rfl
  rw [this]
  exact loopHist_one_frame _ w fr p hq hs hp hd

theorem loopHist_fuel_one_msg (w : World) (m : Msg) (hq : w.queue = [m]) (hrx : w.rx = {}) (hrd : w.reader = []) :
    loopHist w.loopFuel w = [w.inMsg m] := by
  have : w.loopFuel = (w.queue.length + 2 * (evBytes w.reader + w.reader.length + w.rx.valid.length) + 2) + 2 := rfl
  rw [this]
  exact loopHist_one_msg _ w m hq hrx hrd

theorem taskEvs_ctx_connecting (w : World) (call : Call) (t : ConnectTx) (a : AuthTx) (started : Bool)
    (h : (w.unwake .ctx).task = .connecting call t a started) :
    w.taskEvs .ctx =
      if started then (w.unwake .ctx).firstEvs else
      if !reqValid call t a then [] else
        .request (w.unwake .ctx).c (reqSei call t) (W7.reqBytes call t a) ::
          (if (w.unwake .ctx).canWrite (W7.reqBytes call t a).length then
             ((W7.seiSet (w.unwake .ctx) call t).writeBytes (W7.reqBytes call t a)).firstEvs
           else []) := by
  show (w.unwake .ctx).ctxEvs = _
  simp only [ctxEvs, h]

theorem firstEvs_idle (w : World) (hrx : w.rx = {}) (hrd : w.reader = []) : w.firstEvs = [] := by
  unfold firstEvs
  simp only [hrx, hrd, pn_nil]

theorem firstEvs_connack (w : World) (fr : Bytes) (k : ConnackRx)
    (hp : pollNext w.rx w.reader = ({}, [], .item fr)) (hd : decodeRx fr = .ok (.connack k)) :
    w.firstEvs = [.connack w.c k] := by
  unfold firstEvs
  simp only [hp, hd]

theorem taskEvs_ctx_frame (w : World) (fr : Bytes) (p : RxPacket) (ht : (w.unwake .ctx).task = .running true)
    (hq : w.queue = []) (hs : w.senders ≠ 0) (hpn : pollNext w.rx w.reader = ({}, [], .item fr)) (hd : decodeRx fr = .ok p) :
    w.taskEvs .ctx = histEvs w.c [(w.unwake .ctx).inPkt p] := by
  rw [taskEvs_ctx_running w ht, loopHist_fuel_one_frame (w.unwake .ctx) fr p hq hs hpn hd]; rfl

theorem taskEvs_ctx_msg (w : World) (m : Msg) (ht : (w.unwake .ctx).task = .running true) (hq : w.queue = [m])
    (hrx : w.rx = {}) (hrd : w.reader = []) : w.taskEvs .ctx = histEvs w.c [(w.unwake .ctx).inMsg m] := by
  rw [taskEvs_ctx_running w ht, loopHist_fuel_one_msg (w.unwake .ctx) m hq hrx hrd]; rfl

theorem taskEvs_ctx_connect_first (w : World) (call : Call) (t : ConnectTx) (a : AuthTx)
    (h : (w.unwake .ctx).task = .connecting call t a false) (hv : reqValid call t a = true)
    (hw : (w.unwake .ctx).canWrite (W7.reqBytes call t a).length = true) (hrx : w.rx = {}) (hrd : w.reader = []) :
    w.taskEvs .ctx = [.request w.c (reqSei call t) (W7.reqBytes call t a)] := by
  rw [taskEvs_ctx_connecting w call t a false h, if_neg (by decide), hv, if_neg (by decide), if_pos hw,
    firstEvs_idle _ (by rw [writeBytes_rx]; cases call <;> exact hrx) (by rw [writeBytes_reader]; cases call <;> exact hrd)]
  rfl

theorem taskEvs_ctx_connect_resp (w : World) (call : Call) (t : ConnectTx) (a : AuthTx) (fr : Bytes) (k : ConnackRx)
    (h : (w.unwake .ctx).task = .connecting call t a true)
    (hpn : pollNext w.rx w.reader = ({}, [], .item fr)) (hd : decodeRx fr = .ok (.connack k)) :
    w.taskEvs .ctx = [.connack w.c k] := by
  rw [taskEvs_ctx_connecting w call t a true h, if_pos rfl]; exact firstEvs_connack _ fr k hpn hd

end World

namespace HistEx
open Ex World

def pubQ1 : Req := .publish { topic := some [0x61], qos := 1 }
/-- a first connection without CONNECT: a QoS 1 PUBLISH and a DISCONNECT are requested, then `run()` serves both and
    returns -/
def scrA : List Ev := [.setup, .op 1 0 pubQ1, .op 2 0 (.disconnect {}), .run]
/-- … then the disconnection is recorded, a new transport is set up, `connect()` asks for a 60 s session (its write
    fails on this transport, which takes 12 bytes), another transport is set up, a DISCONNECT is requested and `run()` is
    called again: it resumes the session -/
def scrB : List Ev :=
  scrA ++ [.markDisc 5, .setup, .connect { clientId := [0x63], sessionExpiry := some 60 }, .setup,
    .op 3 0 (.disconnect {}), .run]
/-- the context after the PUBLISH was written: one waiter, one entry (DUP set) in the retransmit queue, one slot taken -/
def cPub : Ctx :=
  { awaiting := [(actionId 4 1, 2)], retx := [(actionId 4 1, [0x3A, 6, 0, 1, 0x61, 0, 1, 0])], quota := 65534 }

theorem scrA_history : World.history {} scrA =
    [.fresh, .resume {}, .handler {} (.msg (.awaitAck (actionId 4 1) [0x32, 6, 0, 1, 0x61, 0, 1, 0] 2) true),
     .handler cPub (.msg (.ff [0xE0, 2, 0, 0] 4) true)] := by decide +kernel

theorem scrB_history : World.history { wlimit := some 12 } scrB =
    [.fresh, .resume {}, .handler {} (.msg (.awaitAck (actionId 4 1) [0x32, 6, 0, 1, 0x61, 0, 1, 0] 2) true),
     .handler cPub (.msg (.ff [0xE0, 2, 0, 0] 4) true), .disc cPub 5,
     .request { cPub with disc := some 5 } (some 60)
       [16, 19, 0, 4, 77, 81, 84, 84, 5, 0, 0, 0, 5, 17, 0, 0, 0, 60, 0, 1, 99],
     .resume { cPub with disc := some 5, sei := 60 },
     .handler { cPub with sei := 60 } (.msg (.ff [0xE0, 2, 0, 0] 6) true)] := by decide +kernel

def k1 : ConnackRx := { sessionPresent := true, reason := 0, receiveMax := 1 }
/-- a second QoS 1 PUBLISH (identifier 2), as queued by its handle future -/
def pub2 : Msg := .awaitAck (actionId 4 2) [0x32, 6, 0, 1, 0x61, 0, 2, 0] 4
/-- reconnected within the session: the CONNACK with Receive Maximum 1 has been handled (quota re-armed to 1), the QoS 1
    PUBLISH 1 is still unacknowledged, a disconnection 5 s ago is recorded, the session lasts 60 s -/
def cRe : Ctx :=
  { awaiting := [(actionId 4 1, 2)], retx := [(actionId 4 1, [0x3A, 6, 0, 1, 0x61, 0, 1, 0])], quota := 1, recvMax := 1,
    sei := 60, disc := some 5 }
/-- `run()` called on it and not polled yet, the second PUBLISH queued -/
def wRe : World :=
  { hasCtx := true, handles := [0], task := .running false, c := cRe, queue := [pub2],
    ops := [(1, .wait 2 .puback), (2, .wait 4 .puback)], slots := [(2, .empty), (4, .empty)], slotReg := [2, 4] }

theorem wRe_evs : World.ctxEvs wRe = [.resume cRe, .handler { cRe with disc := none } (.msg pub2 true)] := by
  rw [World.ctxEvs_running _ false rfl, if_neg (by decide), if_pos (by decide),
    World.loopHist_fuel_one_msg _ pub2 (by decide) (by decide) (by decide)]
  rfl

/-- PUBREL for packet identifier 9 -/
def pubrel9 : Bytes := [0x62, 2, 0, 9]
theorem dec_pubrel9 : decodeRx pubrel9 = .ok (.pubrel { packetId := 9 }) := by decide
theorem pn_pubrel9 : pollNext {} [.data pubrel9] = ({}, [], .item pubrel9) :=
  pollNext_whole pubrel9 (by decide) (by decide) (by decide)

/-- `run()` serves; the broker sends a QoS 2 PUBLISH (identifier 9), sends it again, releases it, and sends a new
    PUBLISH with the same identifier -/
def scrQ2 : List Ev := [.setup, .run, .feed [q2frame], .feed [q2frame], .feed [pubrel9], .feed [q2frame]]

def c9 : Ctx := { inQos2 := [9] }

def t3 : World :=
  { s2 with c := c9, written := 4, out := s2.out ++ [.ev (.feed [q2frame]), .wire [0x50, 2, 0, 9]] }
def t4 : World :=
  { t3 with written := 8, out := t3.out ++ [.ev (.feed [q2frame]), .wire [0x50, 2, 0, 9]] }
def t5 : World :=
  { t4 with c := {}, written := 12, out := t4.out ++ [.ev (.feed [pubrel9]), .wire [0x70, 2, 0, 9]] }
def t6 : World :=
  { t5 with c := c9, written := 16, out := t5.out ++ [.ev (.feed [q2frame]), .wire [0x50, 2, 0, 9]] }

theorem q2evs1 : ({} : World).stepEvs .setup = [.fresh] := by decide

theorem q2evs2 : s1.stepEvs .run = [.resume {}] := by
  refine stepEvs_eq s1 _ _ (by decide) (by decide) (by decide) ?_
  rw [drainEvs_pick _ _ .ctx (by decide) (by decide),
    taskEvs_ctx_start _ (by decide) (by decide),
    loopHist_idle _ _ (by decide) (by decide) (by decide),
    pollTask_ctx_start _ (by decide) (by decide) (by decide),
    runLoop_idle _ _ (by decide) (by decide) (by decide) (by decide) (by decide),
    drainEvs_none _ _ (by decide)]
  rfl

theorem q2st3 : s2.step (.feed [q2frame]) = t3 ∧
    s2.stepEvs (.feed [q2frame]) = [.handler {} (.pkt (.publish q2pub) [] true)] := by
  refine stepBoth_eq s2 _ _ _ (by decide) (by decide) (by decide) ?_ (by decide)
  rw [drain_pick _ _ .ctx (by decide) (by decide), drainEvs_pick _ _ .ctx (by decide) (by decide),
    taskEvs_ctx_frame _ q2frame (.publish q2pub) (by decide) (by decide) (by decide) pn_q2 dec_q2,
    pollTask_ctx_frame _ q2frame (.publish q2pub) (by decide) (by decide) (by decide) pn_q2 dec_q2 (by decide),
    drain_none _ _ (by decide), drainEvs_none _ _ (by decide)]
  rfl

theorem q2st4 : t3.step (.feed [q2frame]) = t4 ∧
    t3.stepEvs (.feed [q2frame]) = [.handler c9 (.pkt (.publish q2pub) [] true)] := by
  refine stepBoth_eq t3 _ _ _ (by decide) (by decide) (by decide) ?_ (by decide)
  rw [drain_pick _ _ .ctx (by decide) (by decide), drainEvs_pick _ _ .ctx (by decide) (by decide),
    taskEvs_ctx_frame _ q2frame (.publish q2pub) (by decide) (by decide) (by decide) pn_q2 dec_q2,
    pollTask_ctx_frame _ q2frame (.publish q2pub) (by decide) (by decide) (by decide) pn_q2 dec_q2 (by decide),
    drain_none _ _ (by decide), drainEvs_none _ _ (by decide)]
  rfl

theorem q2st5 : t4.step (.feed [pubrel9]) = t5 ∧
    t4.stepEvs (.feed [pubrel9]) = [.handler c9 (.pkt (.pubrel { packetId := 9 }) [] true)] := by
  refine stepBoth_eq t4 _ _ _ (by decide) (by decide) (by decide) ?_ (by decide)
  rw [drain_pick _ _ .ctx (by decide) (by decide), drainEvs_pick _ _ .ctx (by decide) (by decide),
    taskEvs_ctx_frame _ pubrel9 (.pubrel { packetId := 9 }) (by decide) (by decide) (by decide) pn_pubrel9 dec_pubrel9,
    pollTask_ctx_frame _ pubrel9 (.pubrel { packetId := 9 }) (by decide) (by decide) (by decide) pn_pubrel9 dec_pubrel9 (by decide),
    drain_none _ _ (by decide), drainEvs_none _ _ (by decide)]
  rfl

theorem q2evs6 : t5.stepEvs (.feed [q2frame]) = [.handler {} (.pkt (.publish q2pub) [] true)] := by
  refine stepEvs_eq t5 _ _ (by decide) (by decide) (by decide) ?_
  rw [drainEvs_pick _ _ .ctx (by decide) (by decide),
    taskEvs_ctx_frame _ q2frame (.publish q2pub) (by decide) (by decide) (by decide) pn_q2 dec_q2,
    pollTask_ctx_frame _ q2frame (.publish q2pub) (by decide) (by decide) (by decide) pn_q2 dec_q2 (by decide),
    drainEvs_none _ _ (by decide)]
  rfl

theorem scrQ2_history : World.history {} scrQ2 =
    [.fresh, .resume {}, .handler {} (.pkt (.publish q2pub) [] true), .handler c9 (.pkt (.publish q2pub) [] true),
     .handler c9 (.pkt (.pubrel { packetId := 9 }) [] true), .handler {} (.pkt (.publish q2pub) [] true)] := by
  show World.scriptEvs {} scrQ2 = _
  simp only [scrQ2, World.scriptEvs]
  rw [stage1, q2evs1, stage2, q2evs2, q2st3.1, q2st3.2, q2st4.1, q2st4.2, q2st5.1, q2st5.2, q2evs6]
  rfl

def scrC : List Ev := [.setup, .connect {}, .feed [connackOk], .run, .op 1 0 pubQ1]

/-- the CONNECT packet of the default request -/
def connectBytes : Bytes := [16, 13, 0, 4, 77, 81, 84, 84, 5, 0, 0, 0, 0, 0, 0]

def u2 : World :=
  { s1 with task := .connecting .connect {} {} true, readerReg := true, written := 15,
            out := s1.out ++ [.ev (.connect {}), .wire connectBytes] }
def u3 : World :=
  { u2 with task := .none, readerReg := false,
            out := u2.out ++ [.ev (.feed [connackOk]), .ret .connect (.connack kOk)] }
def u4 : World :=
  { u3 with task := .running true, readerReg := true, queueReg := true, out := u3.out ++ [.ev .run] }

theorem cst2 : s1.step (.connect {}) = u2 ∧
    s1.stepEvs (.connect {}) = [.request {} (some 0) connectBytes] := by
  refine stepBoth_eq s1 _ _ _ (by decide) (by decide) (by decide) ?_ (by decide)
  rw [drain_pick _ _ .ctx (by decide) (by decide), drainEvs_pick _ _ .ctx (by decide) (by decide),
    taskEvs_ctx_connect_first _ .connect {} {} (by decide) (by decide) (by decide) (by decide) (by decide),
    pollTask_ctx_connect_first _ .connect {} {} (by decide) (by decide) (by decide) (by decide) (by decide),
    drain_none _ _ (by decide), drainEvs_none _ _ (by decide)]
  rfl

theorem cst3 : u2.step (.feed [connackOk]) = u3 ∧
    u2.stepEvs (.feed [connackOk]) = [.connack {} kOk] := by
  refine stepBoth_eq u2 _ _ _ (by decide) (by decide) (by decide) ?_ (by decide)
  rw [drain_pick _ _ .ctx (by decide) (by decide), drainEvs_pick _ _ .ctx (by decide) (by decide),
    taskEvs_ctx_connect_resp _ .connect {} {} connackOk kOk (by decide) pn_connackOk dec_connackOk,
    pollTask_ctx_connect_resp _ .connect {} {} connackOk kOk (by decide) pn_connackOk dec_connackOk (by decide) (by decide),
    drain_none _ _ (by decide), drainEvs_none _ _ (by decide)]
  rfl

theorem cst4 : u3.step .run = u4 ∧
    u3.stepEvs .run = [.resume {}] := by
  refine stepBoth_eq u3 _ _ _ (by decide) (by decide) (by decide) ?_ (by decide)
  rw [drain_pick _ _ .ctx (by decide) (by decide), drainEvs_pick _ _ .ctx (by decide) (by decide),
    taskEvs_ctx_start _ (by decide) (by decide),
    loopHist_idle _ _ (by decide) (by decide) (by decide),
    pollTask_ctx_start _ (by decide) (by decide) (by decide),
    runLoop_idle _ _ (by decide) (by decide) (by decide) (by decide) (by decide),
    drain_none _ _ (by decide), drainEvs_none _ _ (by decide)]
  rfl

theorem cevs5 : u4.stepEvs (.op 1 0 pubQ1) =
    [.handler {} (.msg (.awaitAck (actionId 4 1) [0x32, 6, 0, 1, 0x61, 0, 1, 0] 2) true)] := by
  refine stepEvs_eq u4 _ _ (by decide) (by decide) (by decide) ?_
  rw [drainEvs_pick _ _ (.op 1) (by decide) (by decide), drainEvs_pick _ _ .ctx (by decide) (by decide),
    taskEvs_ctx_msg _ (.awaitAck (actionId 4 1) [50, 6, 0, 1, 97, 0, 1, 0] 2) (by decide) (by decide) (by decide) (by decide),
    pollTask_ctx_msg _ (.awaitAck (actionId 4 1) [50, 6, 0, 1, 97, 0, 1, 0] 2) (by decide) (by decide) (by decide) (by decide) (by decide) (by decide),
    drainEvs_none _ _ (by decide)]
  rfl

theorem scrC_history : World.history {} scrC =
    [.fresh, .request {} (some 0) connectBytes, .connack {} kOk, .resume {},
     .handler {} (.msg (.awaitAck (actionId 4 1) [0x32, 6, 0, 1, 0x61, 0, 1, 0] 2) true)] := by
  show World.scriptEvs {} scrC = _
  simp only [scrC, World.scriptEvs]
  rw [stage1, q2evs1, cst2.1, cst2.2, cst3.1, cst3.2, cst4.1, cst4.2, cevs5]
  rfl

def t60 : ConnectTx := { sessionExpiry := some 60 }
def connect60 : Bytes := [16, 18, 0, 4, 77, 81, 84, 84, 5, 0, 0, 0, 5, 17, 0, 0, 0, 60, 0, 0]
/-- CONNACK, reason 0, Receive Maximum 1 -/
def connackR1 : Bytes := [0x20, 6, 0, 0, 3, 0x21, 0, 1]
def kR1 : ConnackRx := { sessionPresent := false, reason := 0, receiveMax := 1 }
theorem dec_connackR1 : decodeRx connackR1 = .ok (.connack kR1) := by decide
theorem pn_connackR1 : pollNext {} [.data connackR1] = ({}, [], .item connackR1) :=
  pollNext_whole connackR1 (by decide) (by decide) (by decide)

/-- connect, CONNACK (Receive Maximum 1), `run()`, a QoS 1 PUBLISH is served (the only slot is taken); `run()` is
    cancelled, the disconnection is recorded, a new transport is set up, connect again, CONNACK (Receive Maximum 1) again,
    a second QoS 1 PUBLISH is requested, `run()` is called -/
def scrR : List Ev :=
  [.setup, .connect t60, .feed [connackR1], .run, .op 1 0 pubQ1, .dropFut, .markDisc 5, .setup, .connect t60,
   .feed [connackR1], .op 2 0 pubQ1, .run]

def c60 : Ctx := { sei := 60 }
def c60k : Ctx := { sei := 60, quota := 1, recvMax := 1 }
/-- PUBLISH 1 written: the only slot taken -/
def c60p : Ctx :=
  { awaiting := [(actionId 4 1, 2)], retx := [(actionId 4 1, [0x3A, 6, 0, 1, 0x61, 0, 1, 0])], quota := 0, recvMax := 1,
    sei := 60 }

def r2 : World :=
  { s1 with task := .connecting .connect t60 {} true, c := c60, readerReg := true, written := 20,
            out := s1.out ++ [.ev (.connect t60), .wire connect60] }
def r3 : World :=
  { r2 with task := .none, c := c60k, readerReg := false,
            out := r2.out ++ [.ev (.feed [connackR1]), .ret .connect (.connack kR1)] }
def r4 : World :=
  { r3 with task := .running true, readerReg := true, queueReg := true, out := r3.out ++ [.ev .run] }
def r5 : World :=
  { r4 with c := c60p, ops := [(1, .wait 2 .puback)], slots := [(2, .empty)], slotReg := [2], pidCtr := 2,
            written := 28, out := r4.out ++ [.ev (.op 1 0 pubQ1), .wire [0x32, 6, 0, 1, 0x61, 0, 1, 0]] }
def r6 : World := { r5 with task := .none, out := r5.out ++ [.ev .dropFut] }
def r7 : World := { r6 with c := { c60p with disc := some 5 }, out := r6.out ++ [.ev (.markDisc 5)] }
def r8 : World := { r7 with readerReg := false, written := 0, out := r7.out ++ [.ev .setup] }
def r9 : World :=
  { r8 with task := .connecting .connect t60 {} true, readerReg := true, written := 20,
            out := r8.out ++ [.ev (.connect t60), .wire connect60] }
def r10 : World :=
  { r9 with task := .none, c := cRe, readerReg := false,
            out := r9.out ++ [.ev (.feed [connackR1]), .ret .connect (.connack kR1)] }
def r11 : World :=
  { r10 with queue := [pub2], queueReg := false, ops := [(1, .wait 2 .puback), (2, .wait 4 .puback)],
             slots := [(2, .empty), (4, .empty)], slotReg := [2, 4], pidCtr := 3, woken := [.ctx],
             out := r10.out ++ [.ev (.op 2 0 pubQ1)] }

theorem rst2 : s1.step (.connect t60) = r2 ∧
    s1.stepEvs (.connect t60) = [.request {} (some 60) connect60] := by
  refine stepBoth_eq s1 _ _ _ (by decide) (by decide) (by decide) ?_ (by decide)
  rw [drain_pick _ _ .ctx (by decide) (by decide), drainEvs_pick _ _ .ctx (by decide) (by decide),
    taskEvs_ctx_connect_first _ .connect t60 {} (by decide) (by decide) (by decide) (by decide) (by decide),
    pollTask_ctx_connect_first _ .connect t60 {} (by decide) (by decide) (by decide) (by decide) (by decide),
    drain_none _ _ (by decide), drainEvs_none _ _ (by decide)]
  rfl

theorem rst3 : r2.step (.feed [connackR1]) = r3 ∧
    r2.stepEvs (.feed [connackR1]) = [.connack c60 kR1] := by
  refine stepBoth_eq r2 _ _ _ (by decide) (by decide) (by decide) ?_ (by decide)
  rw [drain_pick _ _ .ctx (by decide) (by decide), drainEvs_pick _ _ .ctx (by decide) (by decide),
    taskEvs_ctx_connect_resp _ .connect t60 {} connackR1 kR1 (by decide) pn_connackR1 dec_connackR1,
    pollTask_ctx_connect_resp _ .connect t60 {} connackR1 kR1 (by decide) pn_connackR1 dec_connackR1 (by decide) (by decide),
    drain_none _ _ (by decide), drainEvs_none _ _ (by decide)]
  rfl

theorem rst4 : r3.step .run = r4 ∧
    r3.stepEvs .run = [.resume c60k] := by
  refine stepBoth_eq r3 _ _ _ (by decide) (by decide) (by decide) ?_ (by decide)
  rw [drain_pick _ _ .ctx (by decide) (by decide), drainEvs_pick _ _ .ctx (by decide) (by decide),
    taskEvs_ctx_start _ (by decide) (by decide),
    loopHist_idle _ _ (by decide) (by decide) (by decide),
    pollTask_ctx_start _ (by decide) (by decide) (by decide),
    runLoop_idle _ _ (by decide) (by decide) (by decide) (by decide) (by decide),
    drain_none _ _ (by decide), drainEvs_none _ _ (by decide)]
  rfl

theorem rst5 : r4.step (.op 1 0 pubQ1) = r5 ∧
    r4.stepEvs (.op 1 0 pubQ1) = [.handler c60k (.msg (.awaitAck (actionId 4 1) [0x32, 6, 0, 1, 0x61, 0, 1, 0] 2) true)] := by
  refine stepBoth_eq r4 _ _ _ (by decide) (by decide) (by decide) ?_ (by decide)
  rw [drain_pick _ _ (.op 1) (by decide) (by decide), drainEvs_pick _ _ (.op 1) (by decide) (by decide), drain_pick _ _ .ctx (by decide) (by decide), drainEvs_pick _ _ .ctx (by decide) (by decide),
    taskEvs_ctx_msg _ (.awaitAck (actionId 4 1) [50, 6, 0, 1, 97, 0, 1, 0] 2) (by decide) (by decide) (by decide) (by decide),
    pollTask_ctx_msg _ (.awaitAck (actionId 4 1) [50, 6, 0, 1, 97, 0, 1, 0] 2) (by decide) (by decide) (by decide) (by decide) (by decide) (by decide),
    drain_none _ _ (by decide), drainEvs_none _ _ (by decide)]
  rfl

theorem rst6 : r5.step .dropFut = r6 ∧
    r5.stepEvs .dropFut = [] := ⟨rfl, rfl⟩

theorem rst7 : r6.step (.markDisc 5) = r7 ∧
    r6.stepEvs (.markDisc 5) = [.disc c60p 5] := ⟨rfl, rfl⟩

theorem rst8 : r7.step .setup = r8 ∧
    r7.stepEvs .setup = [] := ⟨rfl, rfl⟩

theorem rst9 : r8.step (.connect t60) = r9 ∧
    r8.stepEvs (.connect t60) = [.request { c60p with disc := some 5 } (some 60) connect60] := by
  refine stepBoth_eq r8 _ _ _ (by decide) (by decide) (by decide) ?_ (by decide)
  rw [drain_pick _ _ .ctx (by decide) (by decide), drainEvs_pick _ _ .ctx (by decide) (by decide),
    taskEvs_ctx_connect_first _ .connect t60 {} (by decide) (by decide) (by decide) (by decide) (by decide),
    pollTask_ctx_connect_first _ .connect t60 {} (by decide) (by decide) (by decide) (by decide) (by decide),
    drain_none _ _ (by decide), drainEvs_none _ _ (by decide)]
  rfl

theorem rst10 : r9.step (.feed [connackR1]) = r10 ∧
    r9.stepEvs (.feed [connackR1]) = [.connack { c60p with disc := some 5 } kR1] := by
  refine stepBoth_eq r9 _ _ _ (by decide) (by decide) (by decide) ?_ (by decide)
  rw [drain_pick _ _ .ctx (by decide) (by decide), drainEvs_pick _ _ .ctx (by decide) (by decide),
    taskEvs_ctx_connect_resp _ .connect t60 {} connackR1 kR1 (by decide) pn_connackR1 dec_connackR1,
    pollTask_ctx_connect_resp _ .connect t60 {} connackR1 kR1 (by decide) pn_connackR1 dec_connackR1 (by decide) (by decide),
    drain_none _ _ (by decide), drainEvs_none _ _ (by decide)]
  rfl

theorem rst11 : r10.step (.op 2 0 pubQ1) = r11 ∧
    r10.stepEvs (.op 2 0 pubQ1) = [] := ⟨rfl, rfl⟩

theorem revs12 : r11.stepEvs .run = [.resume cRe, .handler { cRe with disc := none } (.msg pub2 true)] := by
  refine stepEvs_eq r11 _ _ (by decide) (by decide) (by decide) ?_
  rw [drainEvs_pick _ _ .ctx (by decide) (by decide),
    taskEvs_ctx_start _ (by decide) (by decide),
    loopHist_fuel_one_msg _ pub2 (by decide) (by decide) (by decide),
    pollTask_ctx_first _ (by decide) (by decide),
    runLoop_msg _ _ pub2 [] (by decide) (by decide) (by decide),
    runLoop_idle _ _ (by decide) (by decide) (by decide) (by decide) (by decide),
    drainEvs_none _ _ (by decide)]
  rfl

theorem scrR_history : World.history {} scrR =
    [.fresh, .request {} (some 60) connect60, .connack c60 kR1, .resume c60k,
     .handler c60k (.msg (.awaitAck (actionId 4 1) [0x32, 6, 0, 1, 0x61, 0, 1, 0] 2) true),
     .disc c60p 5, .request { c60p with disc := some 5 } (some 60) connect60,
     .connack { c60p with disc := some 5 } kR1, .resume cRe,
     .handler { cRe with disc := none } (.msg pub2 true)] := by
  show World.scriptEvs {} scrR = _
  simp only [scrR, World.scriptEvs]
  rw [stage1, q2evs1, rst2.1, rst2.2, rst3.1, rst3.2, rst4.1, rst4.2, rst5.1, rst5.2, rst6.1, rst6.2, rst7.1, rst7.2,
    rst8.1, rst8.2, rst9.1, rst9.2, rst10.1, rst10.2, rst11.1, rst11.2, revs12]
  rfl

end HistEx
end Poster

/-
  No `Decoder::try_decode` advances past the end (decoder part of C04). The only panics of the modelled decoders are
  `tryDec` / `advanceBy` going past the end of the buffer (and `bytes[0]` on an empty frame). `tryDec dec len d` panics only
  if `dec d` does, or if `dec d = .ok v` with `len v > d.length` (`tryDec_ne_panic`); the `*_np` lemmas exclude the first,
  the `*_len` lemmas the second: every primitive that succeeds has consumed at most what is there. At the end, two
  lemmas that read a successful decode backwards (`foldProps_ok_induct`, `decodeRx_ok`).
-/
import PosterModel.Rx
import PosterModel.Lemmas.PrimFacts

namespace Poster

theorem decU8_np (d : Bytes) : decU8 d ≠ .panic := by cases d <;> simp [decU8]
theorem decU8_len {d : Bytes} {v : Nat} (h : decU8 d = .ok v) : 1 ≤ d.length := by
  cases d <;> simp [decU8] at h ⊢

theorem decU16_np (d : Bytes) : decU16 d ≠ .panic := by
  rcases d with _ | ⟨a, _ | ⟨b, t⟩⟩ <;> simp [decU16]
theorem decU16_len {d : Bytes} {v : Nat} (h : decU16 d = .ok v) : 2 ≤ d.length := by
  rcases d with _ | ⟨a, _ | ⟨b, t⟩⟩ <;> simp [decU16] at h ⊢

theorem decU32_np (d : Bytes) : decU32 d ≠ .panic := by
  rcases d with _ | ⟨a, _ | ⟨b, _ | ⟨c, _ | ⟨e, t⟩⟩⟩⟩ <;> simp [decU32]
theorem decU32_len {d : Bytes} {v : Nat} (h : decU32 d = .ok v) : 4 ≤ d.length := by
  rcases d with _ | ⟨a, _ | ⟨b, _ | ⟨c, _ | ⟨e, t⟩⟩⟩⟩ <;> simp [decU32] at h ⊢

theorem decBool_np (d : Bytes) : decBool d ≠ .panic := by
  cases d with
  | nil => simp [decBool]
  | cons b t => simp only [decBool]; split <;> (try split) <;> simp
theorem decBool_len {d : Bytes} {v : Bool} (h : decBool d = .ok v) : 1 ≤ d.length := by
  cases d <;> simp [decBool] at h ⊢

theorem decQoS_np (d : Bytes) : decQoS d ≠ .panic := by
  cases d with
  | nil => simp [decQoS]
  | cons b t => simp only [decQoS]; split <;> simp
theorem decQoS_len {d : Bytes} {v : Nat} (h : decQoS d = .ok v) : 1 ≤ d.length := by
  cases d <;> simp [decQoS] at h ⊢

theorem decNzU16_np (d : Bytes) : decNzU16 d ≠ .panic :=
  Res.bind_ne_panic (decU16_np d) fun _ => Res.ite_ne_panic nofun nofun
theorem decNzU16_len {d : Bytes} {v : Nat} (h : decNzU16 d = .ok v) : 2 ≤ d.length :=
  decU16_len (Res.of_bind_guard h).1

theorem decNzU32_np (d : Bytes) : decNzU32 d ≠ .panic :=
  Res.bind_ne_panic (decU32_np d) fun _ => Res.ite_ne_panic nofun nofun
theorem decNzU32_len {d : Bytes} {v : Nat} (h : decNzU32 d = .ok v) : 4 ≤ d.length :=
  decU32_len (Res.of_bind_guard h).1

theorem decVarR_np (d : Bytes) : decVarR d ≠ .panic := by
  unfold decVarR; split <;> nofun
theorem decVarR_len {d : Bytes} {p : Nat × Nat} (h : decVarR d = .ok p) : 0 < p.2 ∧ p.2 ≤ d.length := by
  unfold decVarR at h
  split at h
  · rename_i v l hv
    cases h
    simpa using decVarAux_len (show decVarAux 0 1 0 d = .ok v l from hv)
  · cases h

theorem decBin_np (d : Bytes) : decBin d ≠ .panic := by
  rcases d with _ | ⟨a, _ | ⟨b, t⟩⟩ <;> simp [decBin]
  split <;> simp
theorem decBin_len {d : Bytes} {s : Bytes} (h : decBin d = .ok s) : strLen s ≤ d.length := by
  rcases d with _ | ⟨a, _ | ⟨b, t⟩⟩ <;> simp only [decBin] at h <;> try (simp at h; done)
  split at h
  · simp at h
  · simp at h; subst h
    simp [strLen, List.length_take]; omega

theorem decStr_np (d : Bytes) : decStr d ≠ .panic :=
  Res.bind_ne_panic (decBin_np d) fun _ => Res.ite_ne_panic nofun nofun
theorem decStr_len {d : Bytes} {s : Bytes} (h : decStr d = .ok s) : strLen s ≤ d.length := by
  obtain ⟨s', hs', h⟩ := (Res.bind_eq_ok ..).mp h
  split at h <;> cases h
  exact decBin_len hs'

theorem decPair_np (d : Bytes) : decPair d ≠ .panic :=
  Res.bind_ne_panic (decStr_np d) fun _ => Res.bind_ne_panic (decStr_np _) fun _ => nofun
theorem decPair_len {d : Bytes} {p : Bytes × Bytes} (h : decPair d = .ok p) : pairLen p.1 p.2 ≤ d.length := by
  obtain ⟨k, hk, h⟩ := (Res.bind_eq_ok ..).mp h
  obtain ⟨v, hv, h⟩ := (Res.bind_eq_ok ..).mp h
  cases h
  have h1 := decStr_len hk
  have h2 := decStr_len hv
  simp only [strLen, List.length_drop] at h1 h2
  simp only [pairLen]; omega

theorem dU8_np (d : Bytes) : dU8 d ≠ .panic := tryDec_ne_panic (decU8_np d) fun _ h => decU8_len h
theorem dU16_np (d : Bytes) : dU16 d ≠ .panic := tryDec_ne_panic (decU16_np d) fun _ h => decU16_len h
theorem dU32_np (d : Bytes) : dU32 d ≠ .panic := tryDec_ne_panic (decU32_np d) fun _ h => decU32_len h
theorem dBool_np (d : Bytes) : dBool d ≠ .panic := tryDec_ne_panic (decBool_np d) fun _ h => decBool_len h
theorem dQoS_np (d : Bytes) : dQoS d ≠ .panic := tryDec_ne_panic (decQoS_np d) fun _ h => decQoS_len h
theorem dNzU16_np (d : Bytes) : dNzU16 d ≠ .panic := tryDec_ne_panic (decNzU16_np d) fun _ h => decNzU16_len h
theorem dNzU32_np (d : Bytes) : dNzU32 d ≠ .panic := tryDec_ne_panic (decNzU32_np d) fun _ h => decNzU32_len h
theorem dVar_np (d : Bytes) : dVar d ≠ .panic := tryDec_ne_panic (decVarR_np d) fun _ h => (decVarR_len h).2
theorem dNzVar_np (d : Bytes) : dNzVar d ≠ .panic := tryDec_ne_panic (decVarR_np d) fun _ h => (decVarR_len h).2
theorem dBin_np (d : Bytes) : dBin d ≠ .panic := tryDec_ne_panic (decBin_np d) fun _ h => decBin_len h
theorem dStr_np (d : Bytes) : dStr d ≠ .panic := tryDec_ne_panic (decStr_np d) fun _ h => decStr_len h
theorem dPair_np (d : Bytes) : dPair d ≠ .panic := tryDec_ne_panic (decPair_np d) fun _ h => decPair_len h

theorem dReason_np (ok : Nat → Bool) (d : Bytes) : dReason ok d ≠ .panic :=
  tryDec_ne_panic (Res.bind_ne_panic (decU8_np d) fun _ => Res.ite_ne_panic nofun nofun) fun _ h =>
    decU8_len ((Res.bind_eq_ok ..).mp h).choose_spec.1

theorem advanceBy_np {n : Nat} {d : Bytes} (h : n ≤ d.length) : advanceBy n d ≠ .panic := by
  simp [advanceBy, h]

theorem dVal_np (k : PKind) (d : Bytes) : dVal k d ≠ .panic := by
  cases k <;> simp only [dVal] <;> apply Res.map_ne_panic
  · exact dBool_np d
  · exact dU16_np d
  · exact dNzU16_np d
  · exact dU32_np d
  · exact dNzU32_np d
  · exact dQoS_np d
  · exact dNzVar_np d
  · exact dStr_np d
  · exact dBin_np d
  · exact dPair_np d

theorem dVal_len {k : PKind} {d : Bytes} {v : PVal} {r : Bytes} (h : dVal k d = .ok (v, r)) :
    1 ≤ valLen v k ∧ valLen v k ≤ d.length := by
  cases k <;> simp only [dVal] at h <;> obtain ⟨⟨x, _⟩, hx, hw⟩ := (Res.map_eq_ok ..).mp h <;>
    obtain ⟨hd, hl, _⟩ := tryDec_ok hx <;> cases hw
  case var => exact ⟨(decVarR_len hd).1, hl⟩ -- the one length that is read from the bytes
  all_goals exact ⟨by simp only [valLen, strLen, pairLen]; omega, by simpa [valLen] using hl⟩

theorem decProp_np (d : Bytes) : decProp d ≠ .panic := by
  unfold decProp
  refine Res.bind_ne_panic (dU8_np d) fun (id, r) => ?_
  dsimp only
  split
  · exact Res.map_ne_panic (dVal_np _ _)
  · nofun

/-- `Property::try_decode` followed by `advance(byte_len)` stays inside the buffer; a property has at least two bytes -/
theorem decProp_len {d : Bytes} {p : Property} (h : decProp d = .ok p) : 2 ≤ propLen p ∧ propLen p ≤ d.length := by
  unfold decProp at h
  obtain ⟨⟨id, r⟩, h8, h⟩ := (Res.bind_eq_ok ..).mp h
  obtain ⟨_, _, rfl⟩ := tryDec_ok h8
  dsimp only at h
  split at h
  · rename_i k hk
    obtain ⟨⟨v, r'⟩, hv, h⟩ := (Res.map_eq_ok ..).mp h
    cases h
    have := dVal_len hv
    simp only [propLen, hk]
    simp only [List.length_drop] at this; omega
  · cases h

theorem dProp_np (d : Bytes) : dProp d ≠ .panic := tryDec_ne_panic (decProp_np d) fun _ h => (decProp_len h).2

theorem foldProps_np {β} (step : β → Property → Option β) (n : Nat) (d : Bytes) (b : β) :
    foldProps step n d b ≠ .panic := by
  induction n generalizing d b with
  | zero => cases d <;> simp [foldProps]
  | succ f ih =>
    cases d with
    | nil => simp [foldProps]
    | cons x t =>
      simp only [foldProps]
      have := dProp_np (x :: t)
      split
      · split
        · exact ih _ _
        · simp
      · simp
      · contradiction

theorem decReasons_np (ok : Nat → Bool) (d : Bytes) : decReasons ok d ≠ .panic := by
  induction d with
  | nil => simp [decReasons]
  | cons b t ih => exact Res.ite_ne_panic (Res.map_ne_panic ih) nofun

theorem decConnack_np (bytes : Bytes) : decConnack bytes ≠ .panic := by
  unfold decConnack
  refine Res.bind_ne_panic (dU8_np _) fun (hdr, d) => Res.ite_ne_panic nofun ?_
  refine Res.bind_ne_panic (dVar_np _) fun (rl, d) => Res.ite_ne_panic nofun ?_
  refine Res.bind_ne_panic (dBool_np _) fun (sp, d) => ?_
  refine Res.bind_ne_panic (dReason_np _ _) fun (reason, d) => ?_
  refine Res.bind_ne_panic (dVar_np _) fun (pl, d) => Res.ite_ne_panic nofun ?_
  exact foldProps_np _ _ _ _

theorem decAuth_np (bytes : Bytes) : decAuth bytes ≠ .panic := by
  unfold decAuth
  refine Res.bind_ne_panic (dU8_np _) fun (hdr, d) => Res.ite_ne_panic nofun ?_
  refine Res.bind_ne_panic (dVar_np _) fun (rl, d) => Res.ite_ne_panic nofun (Res.ite_ne_panic nofun ?_)
  refine Res.bind_ne_panic (dReason_np _ _) fun (reason, d) => ?_
  refine Res.bind_ne_panic (dVar_np _) fun (pl, d) => Res.ite_ne_panic nofun ?_
  exact Res.bind_ne_panic (foldProps_np _ _ _ _) fun c => Res.ite_ne_panic nofun nofun

theorem decPublish_np (bytes : Bytes) : decPublish bytes ≠ .panic := by
  unfold decPublish
  refine Res.bind_ne_panic (dU8_np _) fun (hdr, d) => Res.ite_ne_panic nofun (Res.ite_ne_panic nofun ?_)
  refine Res.bind_ne_panic (dVar_np _) fun (rl, d) => Res.ite_ne_panic nofun ?_
  refine Res.bind_ne_panic (dStr_np _) fun (topic, d) => ?_
  refine Res.bind_ne_panic (Res.ite_ne_panic nofun (Res.map_ne_panic (dNzU16_np _))) fun (pid, d) => ?_
  refine Res.bind_ne_panic (dVar_np _) fun (pl, d) => ?_
  -- the guard `pl.1 > d.length` is what keeps `advance_by(pl.1)` inside the buffer
  dsimp only
  split
  · nofun
  refine Res.bind_ne_panic (foldProps_np _ _ _ _) fun c => ?_
  exact Res.bind_ne_panic (advanceBy_np (by omega)) fun d' => nofun

theorem decAck_np (hdr : Nat) (ok : Nat → Bool) (bytes : Bytes) : decAck hdr ok bytes ≠ .panic := by
  unfold decAck
  refine Res.bind_ne_panic (dU8_np _) fun (h, d) => Res.ite_ne_panic nofun ?_
  refine Res.bind_ne_panic (dVar_np _) fun (rl, d) => Res.ite_ne_panic nofun ?_
  refine Res.bind_ne_panic (dNzU16_np _) fun (pid, d) => Res.ite_ne_panic nofun ?_
  refine Res.bind_ne_panic (dReason_np _ _) fun (reason, d) => Res.ite_ne_panic nofun ?_
  refine Res.bind_ne_panic (dVar_np _) fun (pl, d) => Res.ite_ne_panic nofun ?_
  exact foldProps_np _ _ _ _

theorem decSubackLike_np (hdr : Nat) (ok : Nat → Bool) (bytes : Bytes) : decSubackLike hdr ok bytes ≠ .panic := by
  unfold decSubackLike
  refine Res.bind_ne_panic (dU8_np _) fun (h, d) => Res.ite_ne_panic nofun ?_
  refine Res.bind_ne_panic (dVar_np _) fun (rl, d) => Res.ite_ne_panic nofun ?_
  refine Res.bind_ne_panic (dNzU16_np _) fun (pid, d) => ?_
  refine Res.bind_ne_panic (dVar_np _) fun (pl, d) => ?_
  dsimp only
  split
  · nofun
  refine Res.bind_ne_panic (foldProps_np _ _ _ _) fun c => ?_
  refine Res.bind_ne_panic (advanceBy_np (by omega)) fun d' => ?_
  exact Res.bind_ne_panic (decReasons_np _ _) fun rs => nofun

theorem decDisconnect_np (bytes : Bytes) : decDisconnect bytes ≠ .panic := by
  unfold decDisconnect
  refine Res.bind_ne_panic (dU8_np _) fun (h, d) => Res.ite_ne_panic nofun ?_
  refine Res.bind_ne_panic (dVar_np _) fun (rl, d) => Res.ite_ne_panic nofun (Res.ite_ne_panic nofun ?_)
  refine Res.bind_ne_panic (dReason_np _ _) fun (reason, d) => Res.ite_ne_panic nofun ?_
  refine Res.bind_ne_panic (dVar_np _) fun (pl, d) => Res.ite_ne_panic nofun ?_
  exact foldProps_np _ _ _ _

/-- Induction over a run of the property loop that succeeds with `b'`: it read the buffer property by property, each
    accepted by the builder, down to the empty buffer. -/
theorem foldProps_ok_induct {β} {step : β → Property → Option β} {b' : β} {motive : Bytes → β → Prop}
    (done : motive [] b')
    (prop : ∀ {bs p r b b1}, dProp bs = .ok (p, r) → step b p = some b1 → motive r b1 → motive bs b)
    (n : Nat) (bs : Bytes) (b : β) (h : foldProps step n bs b = .ok b') : motive bs b := by
  induction n generalizing bs b with
  | zero => cases bs <;> cases h; exact done
  | succ n ih =>
    cases bs with
    | nil => cases h; exact done
    | cons x t =>
      simp only [foldProps] at h
      split at h
      · rename_i hd
        split at h
        · exact prop hd ‹_› (ih _ _ h)
        · cases h
      · cases h
      · cases h

theorem decodeRx_ok {bs : Bytes} {p : RxPacket} (h : decodeRx bs = .ok p) :
    match p with
    | .connack a => decConnack bs = .ok a
    | .publish a => decPublish bs = .ok a
    | .puback a => decAck 0x40 pubackReasonOk bs = .ok a
    | .pubrec a => decAck 0x50 pubrecReasonOk bs = .ok a
    | .pubrel a => decAck 0x62 pubrelReasonOk bs = .ok a
    | .pubcomp a => decAck 0x70 pubcompReasonOk bs = .ok a
    | .suback a => decSubackLike 0x90 subackReasonOk bs = .ok a
    | .unsuback a => decSubackLike 0xb0 unsubackReasonOk bs = .ok a
    | .pingresp => True
    | .disconnect a => decDisconnect bs = .ok a
    | .auth a => decAuth bs = .ok a := by
  cases bs with
  | nil => cases h
  | cons b t =>
  simp only [decodeRx] at h
  split at h
  case h_9 => -- PINGRESP
    obtain ⟨_, _, h⟩ := (Res.bind_eq_ok ..).mp h
    split at h <;> cases h
    trivial
  case h_12 => cases h -- no such packet type
  all_goals -- `(decK bytes).map .K`
    obtain ⟨a, ha, rfl⟩ := (Res.map_eq_ok ..).mp h
    exact ha

end Poster

/-
  A concrete script in which an operation id is issued again while the context still owns the waiter of its earlier use:
  the PINGRESP of the first use (a ping that was dropped) completes the second use (a QoS 1 publish) and the handle future
  hits its `unreachable!()`. Then small worlds that examples start from.
-/
import PosterModel.Lemmas.WorldOps
import PosterModel.Lemmas.WorldEx


namespace Poster
open Framing

namespace World

def pubReq : Req := .publish { qos := 1, topic := some [0x61] }

/-- ping (operation 1) — dropped once its PINGREQ is on the wire — then a QoS 1 publish under the same id 1,
    then the broker's PINGRESP -/
def evsReuse : List Ev :=
  [.setup, .run, .op 1 0 .ping, .drop (.op 1), .op 1 0 pubReq, .feed [[0xD0, 0]]]

def s1 : World := { hasCtx := true, handles := [0], out := [.ev .setup] }
def s2 : World :=
  { s1 with task := .running true, readerReg := true, queueReg := true, out := [.ev .setup, .ev .run] }
def s3 : World :=
  { s2 with c := { awaiting := [(actionId 13 0, 2)] }, ops := [(1, .wait 2 .pingresp)], slots := [(2, .empty)],
            slotReg := [2], written := 2, out := s2.out ++ [.ev (.op 1 0 .ping), .wire [192, 0]] }
/-- the ping future is gone, its waiter stays registered under oneshot 2 -/
def s4 : World := { s3 with ops := [], slots := [], slotReg := [], out := s3.out ++ [.ev (.drop (.op 1))] }
/-- the publish waits on oneshot 2 as well: two waiters share the name -/
def s5 : World :=
  { s4 with
    c := { awaiting := [(actionId 13 0, 2), (actionId 4 1, 2)],
           retx := [(actionId 4 1, [58, 6, 0, 1, 97, 0, 1, 0])], quota := 65534 },
    ops := [(1, .wait 2 .puback)], slots := [(2, .empty)], slotReg := [2], pidCtr := 2, written := 10,
    out := s4.out ++ [.ev (.op 1 0 pubReq), .wire [50, 6, 0, 1, 97, 0, 1, 0]] }

theorem stage1 : ({} : World).step .setup = s1 := by decide

theorem stage2 : s1.step .run = s2 := by
  refine step_eq s1 .run s2 (by decide) (by decide) ?_ (by decide) (by decide)
  rw [drain_pick _ _ .ctx (by decide) (by decide),
    pollTask_ctx_start _ (by decide) (by decide) (by decide),
    runLoop_idle _ _ (by decide) (by decide) (by decide) (by decide) (by decide)]
  rw [drain_none _ _ (by decide)]
  decide

theorem stage3 : s2.step (.op 1 0 .ping) = s3 := by
  refine step_eq s2 _ s3 (by decide) (by decide) ?_ (by decide) (by decide)
  rw [drain_pick _ _ (.op 1) (by decide) (by decide), drain_pick _ _ .ctx (by decide) (by decide),
    pollTask_ctx_msg _ (.awaitAck (actionId 13 0) pingreqBytes 2) (by decide) (by decide) (by decide) (by decide)
      (by decide) (by decide)]
  rw [drain_none _ _ (by decide)]
  decide

theorem stage4 : s3.step (.drop (.op 1)) = s4 := by decide

theorem stage5 : s4.step (.op 1 0 pubReq) = s5 := by
  refine step_eq s4 _ s5 (by decide) (by decide) ?_ (by decide) (by decide)
  rw [drain_pick _ _ (.op 1) (by decide) (by decide), drain_pick _ _ .ctx (by decide) (by decide),
    pollTask_ctx_msg _ (.awaitAck (actionId 4 1) [50, 6, 0, 1, 97, 0, 1, 0] 2) (by decide) (by decide) (by decide)
      (by decide) (by decide) (by decide)]
  rw [drain_none _ _ (by decide)]
  decide

/-- the PINGRESP completes the first waiter registered under `actionId 13 0`: oneshot 2 — which is now the oneshot
    of the publish; the publish future finds a PINGRESP where it expects a PUBACK -/
theorem stage6 : Obs.panic (.op 1) "unreachable" ∈ (s5.step (.feed [[0xD0, 0]])).out := by
  have hd : ∃ wd, drain ((s5.emit (.ev (.feed [[0xD0, 0]]))).apply (.feed [[0xD0, 0]])).drainFuel
      ((s5.emit (.ev (.feed [[0xD0, 0]]))).apply (.feed [[0xD0, 0]])) = wd ∧ wd.cfg.sweep = false ∧
      ¬ (wd.task ≠ .none ∧ wd.reader ≠ []) ∧ Obs.panic (.op 1) "unreachable" ∈ wd.out := by
    rw [drain_pick _ _ .ctx (by decide) (by decide),
      pollTask_ctx_frame _ Ex.pingresp .pingresp (by decide) (by decide) (by decide) Ex.pn_pingresp Ex.dec_pingresp
        (by decide),
      drain_pick _ _ (.op 1) (by decide) (by decide)]
    rw [drain_none _ _ (by decide)]
    exact ⟨_, rfl, by decide, by decide, by decide⟩
  obtain ⟨wd, e, h1, h2, h3⟩ := hd
  rw [step_eq s5 _ wd (by decide) (by decide) e h1 h2]
  exact h3

theorem evsReuse_unreachable : Obs.panic (.op 1) "unreachable" ∈ World.run {} evsReuse := by
  unfold run finishScript
  simp only [evsReuse, List.foldl_cons, List.foldl_nil]
  rw [stage1, stage2, stage3, stage4, stage5]
  exact (flushRaw_outExtP (P := fun _ => True) _ trivial).prefix.subset stage6

/-- …and it is not clean: the publish is issued under id 1 while the waiter of the ping (oneshot 2) is registered -/
theorem evsReuse_not_clean : ¬ Clean {} evsReuse := by
  intro h
  have h4 : CleanAt s4 (.op 1 0 pubReq) := by
    obtain ⟨_, _, _, _, fifth, _⟩ := h
    rw [stage1, stage2, stage3, stage4] at fifth
    exact fifth
  exact absurd (h4 1 rfl).1 (by decide)

/-- a ping whose future is held back while its PINGRESP arrives -/
def evsFill : List Ev := [.setup, .run, .op 1 0 .ping, .hold (.op 1), .feed [[0xD0, 0]]]

def f4 : World := { s3 with held := [.op 1], out := s3.out ++ [.ev (.hold (.op 1))] }
/-- the PINGRESP is in oneshot 2; operation 1 (woken, but held) still waits on it -/
def f5 : World :=
  { f4 with c := {}, slots := [(2, .full (.pkt .pingresp))], slotReg := [], woken := [.op 1],
            out := f4.out ++ [.ev (.feed [[0xD0, 0]])] }

theorem fill4 : s3.step (.hold (.op 1)) = f4 := by decide

theorem fill5 : f4.step (.feed [[0xD0, 0]]) = f5 := by
  refine step_eq f4 _ f5 (by decide) (by decide) ?_ (by decide) (by decide)
  rw [drain_pick _ _ .ctx (by decide) (by decide),
    pollTask_ctx_frame _ Ex.pingresp .pingresp (by decide) (by decide) (by decide) Ex.pn_pingresp Ex.dec_pingresp
      (by decide)]
  rw [drain_none _ _ (by decide)]
  decide

theorem evsFill_foldl : evsFill.foldl World.step {} = f5 := by
  simp only [evsFill, List.foldl_cons, List.foldl_nil]
  rw [stage1, stage2, stage3, fill4, fill5]

theorem evsFill_clean : Clean {} evsFill :=
  ((Good.init (fun _ => False) {}).steps_fresh evsFill (by decide) (fun _ _ h => h)).1

/-- two outstanding pings with distinct ids (the context is never started: both PINGREQs stay queued) -/
def evsTwoPings : List Ev := [.setup, .op 1 0 .ping, .op 2 0 .ping]

/-- `run()` serving with a PINGRESP waiting at the transport and the ping of operation 1 registered (oneshot 2) -/
def wPing : World :=
  { Ex.wServe [.data Ex.pingresp] with
    ops := [(1, .wait 2 .pingresp)], slots := [(2, .empty)], c := { awaiting := [(actionId 13 0, 2)] } }

/-- …after the PINGRESP was read and handled -/
def wPing1 : World := { wPing with reader := [], c := {}, slots := [(2, .full (.pkt .pingresp))] }

namespace W11

def subReq : Req := .subscribe { packetId := 0, filters := [([0x61], {})] }

/-- `setup, run, subscribe`: the SUBSCRIBE (packet identifier 1, subscription identifier 1) is on the wire and handled —
    channel 1 is registered under subscription identifier 1 —, the future of operation 1 waits for its SUBACK on
    oneshot 2, the channel exists and is empty -/
def q3 : World :=
  { s2 with c := { awaiting := [(actionId 9 1, 2)], subs := [(1, 1)] },
            ops := [(1, .wait 2 .suback)], slots := [(2, .empty)], slotReg := [2], chans := [(1, {})],
            pidCtr := 2, subCtr := 2, written := 11,
            out := s2.out ++ [.ev (.op 1 0 subReq), .wire [130, 9, 0, 1, 2, 11, 1, 0, 1, 97, 2]] }

theorem sub3 : s2.step (.op 1 0 subReq) = q3 := by
  refine step_eq s2 _ q3 (by decide) (by decide) ?_ (by decide) (by decide)
  rw [drain_pick _ _ (.op 1) (by decide) (by decide), drain_pick _ _ .ctx (by decide) (by decide),
    pollTask_ctx_msg _ (.subscribe (actionId 9 1) 1 [130, 9, 0, 1, 2, 11, 1, 0, 1, 97, 2] 2 1)
      (by decide) (by decide) (by decide) (by decide) (by decide) (by decide)]
  rw [drain_none _ _ (by decide)]
  decide

theorem evsSub_foldl3 : [Ev.setup, .run, .op 1 0 subReq].foldl World.step {} = q3 := by
  simp only [List.foldl_cons, List.foldl_nil]
  rw [stage1, stage2, sub3]

def subackFr : Bytes := [0x90, 4, 0, 1, 0, 0]
theorem dec_subackFr : decodeRx subackFr = .ok (.suback { packetId := 1, payload := [0] }) := by decide
theorem pn_subackFr : pollNext {} [.data subackFr] = ({}, [], .item subackFr) :=
  Ex.pollNext_whole _ (by decide) (by decide) (by decide)

/-- the SUBACK was handled and the future completed: the response (with the stream inside) belongs to the caller -/
def q4 : World :=
  { q3 with c := { subs := [(1, 1)] }, ops := [], slots := [], slotReg := [], rsps := [1],
            out := q3.out ++ [.ev (.feed [subackFr]), .done 1 (.okAck false none [] [0])] }

/-- the caller took the stream out of the response and polled it once: stream 1 is asleep on its empty channel -/
def q5 : World :=
  { q4 with rsps := [], streams := [1], chans := [(1, { reg := true })], out := q4.out ++ [.ev (.stream 1)] }

theorem sub4 : q3.step (.feed [subackFr]) = q4 := by
  refine step_eq q3 _ q4 (by decide) (by decide) ?_ (by decide) (by decide)
  rw [drain_pick _ _ .ctx (by decide) (by decide),
    pollTask_ctx_frame _ subackFr (.suback { packetId := 1, payload := [0] }) (by decide) (by decide) (by decide)
      pn_subackFr dec_subackFr (by decide),
    drain_pick _ _ (.op 1) (by decide) (by decide)]
  rw [drain_none _ _ (by decide)]
  decide

theorem sub5 : q4.step (.stream 1) = q5 := by decide

theorem evsSub_foldl5 : [Ev.setup, .run, .op 1 0 subReq, .feed [subackFr], .stream 1].foldl World.step {} = q5 := by
  simp only [List.foldl_cons, List.foldl_nil]
  rw [stage1, stage2, sub3, sub4, sub5]

end W11

end World
end Poster

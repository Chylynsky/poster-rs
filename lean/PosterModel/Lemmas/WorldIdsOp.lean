/-
  What moves the two identifier counters: `allocFor` on the counters, by the requests that take a packet identifier
  (`Req.consumes`); a script event other than a poll leaves them alone (`applied_ctrs`). What a poll of a handle future
  does to them and to the queue: `pollOp_sends` (Lemmas/WorldShape.lean).
-/
import PosterModel.Lemmas.WorldApplied
import PosterModel.Lemmas.UserAlloc

namespace Poster
open Framing
namespace World
namespace W10

/-- the requests that take a packet identifier: PUBLISH with QoS > 0, SUBSCRIBE, UNSUBSCRIBE (declared inside `W10`, so
    `req.consumes` does not resolve: `Req.consumes req`) -/
def Req.consumes : Req → Bool
  | .publish t => t.qos ≠ 0
  | .subscribe _ => true
  | .unsubscribe _ => true
  | .ping => false
  | .disconnect _ => false

theorem allocFor_pidCtr (w : World) (req : Req) :
    (w.allocFor req).pidCtr = if Req.consumes req then nextPid w.pidCtr else w.pidCtr := by
  cases req with
  | publish t =>
    by_cases hq : t.qos = 0
    · simp [allocFor, Req.consumes, hq]
    · simp [allocFor, Req.consumes, hq, allocPid, nextPid]
  | subscribe t => rfl
  | unsubscribe t => rfl
  | ping => rfl
  | disconnect t => rfl

theorem allocFor_subCtr (w : World) (req : Req) :
    (w.allocFor req).subCtr = match req with | .subscribe _ => nextSub w.subCtr | _ => w.subCtr := by
  cases req with
  | publish t => simp only [allocFor]; split <;> rfl
  | _ => rfl

theorem applied_ctrs {w w' : World} {e : Ev} (a : Applied w e w') (hp : ∀ t, e ≠ .poll t) :
    w'.pidCtr = w.pidCtr ∧ w'.subCtr = w.subCtr ∧
    (w'.ops.Sublist w.ops ∨
      ∃ id h req, e = .op id h req ∧ w'.ops = w.ops ++ [(id, .fresh h req)] ∧ w'.out = w.out) := by
  cases a.norm with
  | poll t => exact absurd rfl (hp t)
  | op id h req => exact ⟨rfl, rfl, Or.inr ⟨id, h, req, rfl, rfl, rfl⟩⟩
  | dropOp id o sl sr ch wk qr e =>
    have ho : o = (w.dropOp id).ops := by rw [e]
    exact ⟨rfl, rfl, Or.inl (by rw [ho, dropOp_ops_eq]; exact eraseFirst_sublist id w.ops)⟩
  | _ => exact ⟨rfl, rfl, Or.inl (List.Sublist.refl _)⟩

end W10
end World
end Poster

/-
  The prelude of `run()` on a session that has NOT expired (C17): the loop of the first poll starts with every waiter
  registered, and an acknowledgement handled by the loop fills the oneshot of the first waiter registered under its action
  identifier; `doneOf`: what the future then returns. And the way a decoded server packet reaches the caller (C02 at the
  World level; `Awaits`: the loop is about to read a frame and an operation waits for it). The concrete worlds of the
  examples of Properties/C17World and Properties/C02World follow the lemmas they instantiate; at the end a reconnect
  script, evaluated stage by stage.
-/
import PosterModel.Lemmas.WorldHistEx
import PosterModel.Lemmas.WorldOwnEx
import PosterModel.Lemmas.RxPackets
import PosterModel.Lemmas.WorldRet


namespace Poster
open Framing
namespace World
namespace W13

theorem resent_alive (w : World) (e : Nat) (hd : w.c.disc = some e) (hx : w.c.sessionExpired e = false) :
    w.resent.c = { w.c with disc := none } ∧ w.resent.ops = w.ops ∧ w.resent.slots = w.slots ∧
    w.resent.slotReg = w.slotReg ∧ w.resent.queue = w.queue ∧ w.resent.reader = w.reader ∧ w.resent.rx = w.rx ∧
    w.resent.handles = w.handles ∧ w.resent.chans = w.chans ∧ w.resent.task = .running true ∧
    w.resent.woken = w.woken := by
  have hr := w.c.resume_alive e hd hx
  have h0 : w.resumed = { w with c := { w.c with disc := none }, task := .running true } := by
    unfold resumed; rw [hr]; rfl
  obtain ⟨_, _, _, _, e⟩ := resent_shape w
  rw [e, h0]
  exact ⟨rfl, rfl, rfl, rfl, rfl, rfl, rfl, rfl, rfl, rfl, rfl⟩

theorem pollCtx_alive_eq (w : World) (ht : w.task = .running false)
    (hw : w.resumed.canWrite ((w.c.resume.2.2.map List.length).sum) = true) :
    w.pollCtx = runLoop w.resent.loopFuel w.resent :=
  (pollCtx_running ht).trans ((pollRun_first_eq _).trans (if_pos hw))

theorem runLoop_ack_resumes (f : Nat) (w : World) (rx' : Rx) (rd' : List ReadEv) (fr : Bytes) (p : RxPacket)
    (aid s id : Nat) (k : Wait) (hq : w.queue = []) (hsn : w.senders ≠ 0)
    (hp : pollNext w.rx w.reader = (rx', rd', .item fr)) (hdec : decodeRx fr = .ok p) (haid : rxActionId p = some aid)
    (hrel : ∀ a, p ≠ .pubrel a) (hl : lookupFirst aid w.c.awaiting = some s) (hop : w.opSt id = some (.wait s k))
    (hs : w.slot s = some .empty) (hreg : s ∈ w.slotReg) (hhalf : s / 2 = id) :
    (runLoop (f + 1) w).slot s = some (.full (.pkt p)) ∧ (runLoop (f + 1) w).opSt id = some (.wait s k) ∧
    Task.op id ∈ (runLoop (f + 1) w).woken ∧
    (runLoop (f + 1) w).pollOp id = (runLoop (f + 1) w).resumeOp id s k (.pkt p) := by
  -- the handler call: whatever the transport does, the packet goes to `s` and the loop goes on
  have hh : ∀ wok, w.c.handlePkt w.chanRxAlive p wok = w.c.handlePkt w.chanRxAlive p true := fun wok => by
    rw [Ctx.handlePkt_ack_eq _ _ _ wok aid haid hrel, Ctx.handlePkt_ack_eq _ _ _ true aid haid hrel]
  have a1 : (w.c.handlePkt w.chanRxAlive p true).2.1 = [.send s (.pkt p)] := by
    rw [Ctx.handlePkt_ack_eq _ _ _ true aid haid hrel]
    show (w.c.complete aid p).2 = _
    rw [Ctx.complete_effs, hl]
  have a2 : (w.c.handlePkt w.chanRxAlive p true).2.2 = .cont := by rw [Ctx.handlePkt_ack_eq _ _ _ true aid haid hrel]
  generalize hw0 : ({ w with rx := rx', reader := rd', c := (w.c.handlePkt w.chanRxAlive p true).1 } : World) = w0
  have hr : (({ w with rx := rx', reader := rd' } : World).runHandler (fun wok => w.c.handlePkt w.chanRxAlive p wok)) =
      (w0.sendSlot s (.pkt p), Flow.cont) := by
    rw [runHandler_eq, ← hw0]
    simp only [hh, a1, a2]
    rfl
  rw [(RunCont.pkt rx' rd' fr p _ hq hsn hp hdec hr).loop f]
  -- the rest of the poll is activity of the context: a full oneshot stays, the table stays, flags stay
  have hs0 : w0.slot s = some .empty := by rw [← hw0]; exact hs
  have hact := (hand_runLoop f (w0.sendSlot s (.pkt p))).act
  have h1 : (w0.sendSlot s (.pkt p)).slot s = some (.full (.pkt p)) := by
    rw [sendSlot_eq, if_pos hs0, fillSlot_slot, if_pos rfl]
  have r1 := hact.slotFull s _ h1
  have hops : (runLoop f (w0.sendSlot s (.pkt p))).ops = w.ops := by
    rw [hact.ops_eq, (actInv_sendSlot w0 s (.pkt p)).ops_eq, ← hw0]
  have hop' : (runLoop f (w0.sendSlot s (.pkt p))).opSt id = some (.wait s k) := by simp only [opSt, hops]; exact hop
  refine ⟨r1, hop', hhalf ▸ hact.wokenMono _ ?_, pollOp_of_full hop' r1⟩
  rcases (actInv_sendSlot w0 s (.pkt p)).slotEmpty s hs0 with ⟨e, _⟩ | ⟨_, _, wk⟩
  · rw [h1] at e; cases e
  · exact wk (by rw [← hw0]; exact hreg)

/-- the result with which a future waiting for `k` completes when resumed with the packet `p` (`none`: it does not
    complete in that poll — a QoS 2 publish whose PUBREC is good goes on with the PUBREL — or `p` is not the
    acknowledgement `k` waits for) -/
def doneOf : Wait → RxPacket → Option DoneRes
  | .puback, .puback a =>
    some (if a.reason ≥ 128 then .errAck .pubackError a.reason a.reasonString a.userProps else .ok)
  | .pubrec, .pubrec a =>
    if a.reason ≥ 128 then some (.errAck .pubrecError a.reason a.reasonString a.userProps) else none
  | .pubcomp, .pubcomp a =>
    some (if a.reason ≥ 128 then .errAck .pubcompError a.reason a.reasonString a.userProps else .ok)
  | .suback, .suback a => some (.okAck false a.reasonString a.userProps a.payload)
  | .unsuback, .unsuback a => some (.okAck true a.reasonString a.userProps a.payload)
  | .pingresp, .pingresp => some .ok
  | _, _ => none

/-- `doneOf` has every packet row of the table `ResumeRes`, the context existing (no converse is stated) -/
theorem doneOf_of_resumeRes {k : Wait} {p : RxPacket} {r : DoneRes} (h : W7.ResumeRes k (.pkt p) true r) :
    doneOf k p = some r := by
  cases h <;> simp [doneOf] <;> omega

theorem resumeOp_doneOf (w : World) (id s : Nat) {k : Wait} {p : RxPacket} {r : DoneRes} (hr : doneOf k p = some r) :
    ∃ rs, w.resumeOp id s k (.pkt p) = ({ w.clearSlot s with rsps := rs } : World).finishOp id r := by
  rcases resumeOp_cases id s k (.pkt p) with ⟨r', hres, e⟩ | ⟨a, rfl, hv, e⟩ | ⟨a, rfl, hv, ha, _⟩ | ⟨p', hv, hacc, _⟩
  · obtain rfl := Option.some.inj ((doneOf_of_resumeRes (hres true)).symm.trans hr)
    exact ⟨w.rsps, e w⟩
  · cases hv; obtain rfl := Option.some.inj hr; exact ⟨_, e w⟩
  · cases hv; simp [doneOf, Nat.not_le.mpr ha] at hr
  · cases hv; unfold doneOf at hr; split at hr <;> first | cases hacc | cases hr

theorem pollOp_done (w : World) (id s : Nat) (k : Wait) (p : RxPacket) (r : DoneRes)
    (hop : w.opSt id = some (.wait s k)) (hs : w.slot s = some (.full (.pkt p))) (hr : doneOf k p = some r) :
    w.pollOp id = w.resumeOp id s k (.pkt p) ∧ (w.pollOp id).out = w.out ++ [.done id r] ∧
    (w.pollOp id).ops = eraseFirst id w.ops := by
  have e := pollOp_of_full hop hs
  obtain ⟨rs, e'⟩ := resumeOp_doneOf w id s hr
  exact ⟨e, by rw [e, e']; exact User.finishOp_out _ _ _, by rw [e, e']; exact User.finishOp_ops _ _ _⟩

theorem pollOp_pubrec_goes_on (w : World) (id s : Nat) (a : AckRx) (hop : w.opSt id = some (.wait s .pubrec))
    (hs : w.slot s = some (.full (.pkt (.pubrec a)))) (ha : a.reason < 128) (hc : w.hasCtx = true) :
    (w.pollOp id).opSt id = some (.wait (s + 1) .pubcomp) ∧ (w.pollOp id).out = w.out ∧
    (w.pollOp id).queue = w.queue ++ [.awaitAck (actionId 7 a.packetId) (ackBytes 0x62 a.packetId) (s + 1)] := by
  obtain ⟨wk, qr, e2⟩ := User.sendAwait_ctx (w.clearSlot s)
    (.awaitAck (actionId 7 a.packetId) (ackBytes 0x62 a.packetId) (s + 1)) id (s + 1) .pubcomp (by simpa using hc)
  rw [pollOp_of_full hop hs, User.resumeOp_pubrec_accepted w id s a ha, e2]
  refine ⟨by simp [opSt, lookupFirst_setAssoc_self], rfl, rfl⟩

/-- PUBACK for packet identifier 1, short form -/
def puback1 : Bytes := [0x40, 2, 0, 1]

/-- reconnected within the session (60 s, disconnection recorded 5 s ago): the QoS 1 PUBLISH 1 of operation 1 is still
    unacknowledged (its future waits, registered, on oneshot 2; the DUP-marked packet is in the retransmit queue), `run()`
    has been called and not polled yet, and the broker's PUBACK 1 is already readable on the new connection -/
def wAck : World :=
  { hasCtx := true, handles := [0], task := .running false,
    c := { awaiting := [(actionId 4 1, 2)], retx := [(actionId 4 1, [0x3A, 6, 0, 1, 0x61, 0, 1, 0])], quota := 65534,
           sei := 60, disc := some 5 },
    ops := [(1, .wait 2 .puback)], slots := [(2, .empty)], slotReg := [2], reader := [.data puback1] }

theorem pn_puback1 : pollNext {} [.data puback1] = ({}, [], .item puback1) := Ex.pn_pubackBytes

theorem dec_puback1 : decodeRx puback1 = .ok (.puback { packetId := 1 }) := Ex.dec_pubackBytes

/-- **the `run()` loop is about to read the frame `fr`, and operation `id` waits for it**: `run()` has been polled
    before, nothing is queued, a handle is alive, the next frame the transport yields is `fr`; operation `id` waits with
    kind `k` on the empty oneshot `s`, which is the first waiter registered under the action identifier `aid` -/
structure Awaits (w : World) (fr : Bytes) (aid s id : Nat) (k : Wait) : Prop where
  own : OwnInv w
  task : w.task = .running true
  queue : w.queue = []
  senders : w.senders ≠ 0
  frame : ∃ rx' rd', pollNext w.rx w.reader = (rx', rd', .item fr)
  first : lookupFirst aid w.c.awaiting = some s
  op : w.opSt id = some (.wait s k)
  empty : w.slot s = some .empty

theorem loopFuel_succ (w : World) : ∃ f, w.loopFuel = f + 1 :=
  ⟨w.queue.length + 2 * (evBytes w.reader + w.reader.length + w.rx.valid.length) + 3, rfl⟩

theorem pollCtx_runLoop (w : World) (ht : w.task = .running true) : w.pollCtx = runLoop w.loopFuel w :=
  World.pollCtx_running ht

theorem pollCtx_disconnect (w : World) (rx' : Rx) (rd' : List ReadEv) (fr : Bytes) (d : DisconnectRx)
    (ht : w.task = .running true) (hq : w.queue = []) (hsn : w.senders ≠ 0)
    (hp : pollNext w.rx w.reader = (rx', rd', .item fr)) (hdec : decodeRx fr = .ok (.disconnect d)) :
    w.pollCtx = ({ w with rx := rx', reader := rd' } : World).finish .run
      (if d.reason = 0 then .ok else .disconnected d) := by
  obtain ⟨f, hf⟩ := loopFuel_succ w
  rw [pollCtx_runLoop w ht, hf]
  have hr : ({ w with rx := rx', reader := rd' } : World).runHandler
      (fun wok => w.c.handlePkt w.chanRxAlive (.disconnect d) wok) =
      (({ w with rx := rx', reader := rd' } : World), if d.reason = 0 then Flow.exitOk else Flow.exitDisconnected d) := by
    rw [runHandler_eq]
    rfl
  rw [(RunEnd.pktExit rx' rd' fr (.disconnect d) _ _ hq hsn hp hdec hr (by split <;> simp)).loop f]
  split <;> rfl

theorem getBool_none_of_find {id : Nat} {ps : List Property} (h : Spec.find id ps = none) :
    Spec.getBool id ps = none := by
  simp [Spec.getBool, h]

theorem subIds_absent (ps : List Property) (h : ∀ q ∈ ps, q.id ≠ 11) : Spec.subIds ps = [] := by
  induction ps with
  | nil => rfl
  | cons q qs ih =>
    obtain ⟨j, v⟩ := q
    rw [subIds_cons_ne v qs (h _ List.mem_cons_self)]
    exact ih fun x hx => h x (List.mem_cons_of_mem _ hx)

theorem pollCtx_items (w : World) (ch : Nat) : itemsOf ch w.pollCtx.out = itemsOf ch w.out :=
  filterMap_outExtP (pollCtx_ctxLine w) fun o ho => by
    rcases ho with ⟨_, rfl | rfl⟩ | ⟨_, _, rfl⟩ | ⟨_, rfl⟩ <;> rfl

theorem pollCtx_pkt_buffer (w : World) (wf : ChanWf w) (rx' : Rx) (rd' : List ReadEv) (fr : Bytes) (p : RxPacket)
    (ht : w.task = .running true) (hq : w.queue = []) (hsn : w.senders ≠ 0)
    (hp : pollNext w.rx w.reader = (rx', rd', .item fr)) (hdec : decodeRx fr = .ok p)
    (ch : Nat) (c0 : Chan) (hc : w.chan ch = some c0) :
    ∃ c1 rest, w.pollCtx.chan ch = some c1 ∧
      c1.buf = c0.buf ++ deliversTo ch (w.c.stepIn (w.inPkt p)).2.effs ++ rest ∧
      itemsOf ch w.pollCtx.out = itemsOf ch w.out := by
  obtain ⟨f, hf⟩ := loopFuel_succ w
  have e0 : w.pollCtx = runLoop (f + 1) w := by rw [pollCtx_runLoop w ht, hf]
  generalize hw1 : (({ w with rx := rx', reader := rd', c := (w.c.stepIn (w.inPkt p)).1 } : World).applyEffs
    (w.c.stepIn (w.inPkt p)).2.effs) = w1
  have hm : SMove (.ctx (.handler w.c (w.inPkt p))) w w1 := by
    rw [← hw1]; exact smove_handler_pkt w rx' rd' fr p hq hp hdec
  have hr := runHandler_eq_stepIn_pkt w rx' rd' p
  rw [hw1] at hr
  have hi := runIter_pkt w rx' rd' fr p w1 _ hq hsn hp hdec hr
  have hdec' : Dec CtxLab w1 w.pollCtx := by
    rw [e0, runLoop_succ, hi]
    by_cases hfl : (w.c.stepIn (w.inPkt p)).2.flow = Flow.cont
    · rw [if_pos hfl]; exact runLoop_dec f w1
    · rw [if_neg hfl]; exact .one (smove_finish _ _ _) ctxLab_tau
  obtain ⟨tr, htr, hlab⟩ := hdec'
  obtain ⟨c1, hc1, _, _⟩ := (hand_pollCtx w).act.chanSome ch c0 hc
  have hnew : SLab.new ch ∉ (SLab.ctx (.handler w.c (w.inPkt p)) :: tr) := by
    intro hmem
    simp only [List.mem_cons] at hmem
    rcases hmem with h | h
    · cases h
    · rcases hlab _ h with h1 | ⟨src, h1⟩ <;> cases h1
  have hcons := (STrace.cons hm htr).hist_alive wf ch c0 c1 hc hc1 hnew
  have hit := pollCtx_items w ch
  rw [hit] at hcons
  rw [List.append_assoc] at hcons
  have hb := List.append_cancel_left hcons
  refine ⟨c1, delivered ch tr, hc1, ?_, hit⟩
  rw [hb]
  simp [delivered, SLab.effs, CtxSrc.effs, List.append_assoc]

/-- `run()` serving; operation 1 waits with kind `k` on the empty, registered oneshot 2, the only waiter, registered
    under `aid`; the transport has the frame `fr` ready -/
def wWait (aid : Nat) (k : Wait) (fr : Bytes) : World :=
  { hasCtx := true, handles := [0], task := .running true, c := { awaiting := [(aid, 2)] },
    ops := [(1, .wait 2 k)], slots := [(2, .empty)], slotReg := [2], reader := [.data fr] }

theorem wWait_own (aid : Nat) (k : Wait) (fr : Bytes) : OwnInv (wWait aid k fr) := by
  -- the table has the one entry `(1, wait 2 k)`; its oneshot 2 is empty, registered, and owned through `awaiting`
  have only : ∀ {id st}, (wWait aid k fr).opSt id = some st → id = 1 ∧ st = .wait 2 k := by
    intro id st hop
    simp only [wWait, opSt, lookupFirst] at hop
    split at hop
    · rename_i e; cases hop; exact ⟨e.symm, rfl⟩
    · cases hop
  have s2 : (wWait aid k fr).slot 2 = some .empty := by simp [wWait, slot, lookupFirst]
  exact {
    dropped := by simp [wWait]
    nodup := by simp [wWait]
    chanNodup := by simp [wWait]
    freshWoken := fun id hd req hop => by cases (only hop).2
    slotOf := fun id s k' hop => by obtain ⟨rfl, h⟩ := only hop; cases h; exact Or.inl (by omega)
    slotSome := fun id s k' hop => by obtain ⟨_, h⟩ := only hop; cases h; rw [s2]; exact nofun
    waitReg := fun id s k' hop _ => by obtain ⟨_, h⟩ := only hop; cases h; simp [wWait]
    waitOwn := fun id s k' hop _ => by
      obtain ⟨_, h⟩ := only hop; cases h
      exact ⟨rfl, Or.inr ⟨(aid, 2), by simp [wWait], rfl⟩⟩
    waitDone := fun id s k' hop hne => by obtain ⟨_, h⟩ := only hop; cases h; exact absurd s2 hne
    chanOwn := fun ch c0 hc _ => by simp [wWait, chan, lookupFirst] at hc
    noTask := fun h => by simp [wWait] at h }

theorem wAck_own : OwnInv wAck :=
  own_congr (wWait_own (actionId 4 1) .puback puback1) rfl rfl (fun _ h => h)
    (fun h => absurd h (by decide))

theorem wWait_awaits (aid : Nat) (k : Wait) (fr : Bytes) (h2 : 2 ≤ fr.length) (h512 : fr.length ≤ 512)
    (hf : frameLen fr = .ok fr.length 1) : Awaits (wWait aid k fr) fr aid 2 1 k where
  own := wWait_own aid k fr
  task := rfl
  queue := rfl
  senders := by simp [wWait, senders]
  frame := ⟨{}, [], Ex.pollNext_whole fr h2 h512 hf⟩
  first := by simp [wWait, lookupFirst]
  op := by simp [wWait, opSt, lookupFirst]
  empty := by simp [wWait, slot, lookupFirst]

/-- the transport takes 12 bytes per connection (so that the CONNECT of `scrRe8` fails without a byte being read) -/
def cfgRe : Cfg := { wlimit := some 12 }

/-- `HistEx.scrA` (QoS 1 PUBLISH 1 and a DISCONNECT served by a first `run()`), the disconnection is recorded, a new
    transport, `connect()` asks for a 60 s session (its write fails, the interval is recorded), another transport: the
    first 8 events of `HistEx.scrB` -/
def scrRe8 : List Ev :=
  HistEx.scrA ++ [.markDisc 5, .setup, .connect { clientId := [0x63], sessionExpiry := some 60 }, .setup]

/-- … then `run()` is called again and the broker's PUBACK 1 arrives on the new connection -/
def scrRe : List Ev := scrRe8 ++ [.run, .feed [puback1]]

/-- the context `scrRe8` leaves: PUBLISH 1 unacknowledged, 60 s session, disconnection recorded 5 s ago -/
def cRe0 : Ctx :=
  { awaiting := [(actionId 4 1, 2)], retx := [(actionId 4 1, [0x3A, 6, 0, 1, 0x61, 0, 1, 0])], quota := 65534, sei := 60,
    disc := some 5 }

def wReA : World :=
  { cfg := cfgRe, hasCtx := true, handles := [0], c := cRe0, ops := [(1, .wait 2 .puback)], slots := [(2, .empty)],
    slotReg := [2], pidCtr := 2, out := (scrRe8.foldl World.step { cfg := cfgRe }).out }

theorem scrRe8_foldl : scrRe8.foldl World.step { cfg := cfgRe } = wReA := by decide +kernel

/-- after `run`: the session was resumed, PUBLISH 1 re-sent with DUP, both wakers armed -/
def wReB : World :=
  { wReA with task := .running true, c := { cRe0 with disc := none }, readerReg := true, queueReg := true, written := 8,
              out := wReA.out ++ [.ev .run, .wire [0x3A, 6, 0, 1, 0x61, 0, 1, 0]] }

theorem wReA_run : wReA.step .run = wReB := by
  refine step_eq wReA .run wReB (by decide) (by decide) ?_ (by decide) (by decide)
  -- the drain polls the context once: the prelude on a live session, then a turn of the loop that finds nothing
  rw [drain_pick _ _ .ctx (by decide) (by decide), pollTask_ctx_first _ (by decide) (by decide),
    runLoop_idle _ _ (by decide) (by decide) (by decide) (by decide) (by decide)]
  rw [drain_none _ _ (by decide)]
  decide +kernel

/-- after the PUBACK was fed: the ORIGINAL publish future has completed with `Ok`, the session is clean -/
def wReC : World :=
  { wReB with c := { sei := 60 }, ops := [], slots := [], slotReg := [],
              out := wReB.out ++ [.ev (.feed [puback1]), .done 1 .ok] }

/-- the last step: the drain polls the context (the loop handles the PUBACK in the resumed context, then finds nothing),
    then the woken operation 1 -/
theorem wReB_feed : wReB.step (.feed [puback1]) = wReC ∧
    wReB.stepEvs (.feed [puback1]) = [.handler { cRe0 with disc := none } (.pkt (.puback { packetId := 1 }) [] true)] := by
  refine stepBoth_eq wReB _ _ _ (by decide) (by decide) (by decide) ?_ (by decide)
  rw [drain_pick _ _ .ctx (by decide) (by decide), drainEvs_pick _ _ .ctx (by decide) (by decide),
    taskEvs_ctx_frame _ puback1 (.puback { packetId := 1 }) (by decide) (by decide) (by decide) pn_puback1 dec_puback1,
    pollTask_ctx_frame _ puback1 (.puback { packetId := 1 }) (by decide) (by decide) (by decide) pn_puback1 dec_puback1
      (by decide),
    drain_pick _ _ (.op 1) (by decide) (by decide), drainEvs_pick _ _ (.op 1) (by decide) (by decide),
    drain_none _ _ (by decide), drainEvs_none _ _ (by decide)]
  decide +kernel

theorem scrRe_foldl : scrRe.foldl World.step { cfg := cfgRe } = wReC := by
  simp only [scrRe, List.foldl_append, scrRe8_foldl, List.foldl_cons, List.foldl_nil, wReA_run, wReB_feed.1]

theorem scrRe_history :
    World.history cfgRe scrRe = World.history cfgRe (scrRe8 ++ [.run]) ++
      [.handler { cRe0 with disc := none } (.pkt (.puback { packetId := 1 }) [] true)] := by
  have e : scrRe = (scrRe8 ++ [.run]) ++ [.feed [puback1]] := by simp [scrRe]
  rw [e]
  unfold World.history
  rw [scriptEvs_append]
  have hf : (scrRe8 ++ [Ev.run]).foldl World.step { cfg := cfgRe } = wReB := by
    simp only [List.foldl_append, scrRe8_foldl, List.foldl_cons, List.foldl_nil, wReA_run]
  rw [hf]
  simp only [scriptEvs, wReB_feed.2, List.append_nil]

end W13
end World
end Poster

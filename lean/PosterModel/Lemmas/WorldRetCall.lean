/-
  The calls `connect()` / `authorize()` / `run()` and their `RET` lines. Every `RET` was logged by the poll of the context
  task that ended the call (`during_ret_origin`), and until the next call starts the context task is idle and writes nothing
  (`during_after_ret`); a call returns no more often than it was started (`CallInv`), and `run()` has no connecting phase
  (`TaskOk`). That poll returned for one of the causes the crate documents: `ReturnCause` for `run()` (`EndCause` for the
  iteration that ends it, which starts in a world `InPoll`), `ConnectCause` for the other two. A poll of `run()` that does
  not return leaves the queue empty and the wakers armed (`run_pending_facts`).
-/
import PosterModel.Lemmas.WorldDuring


namespace Poster
open Framing
namespace World
namespace W7

def NoRet (o : Obs) : Prop := ∀ c r, o ≠ .ret c r

theorem noRet_of_plain {o : Obs} (h : Plain o) : NoRet o := h.1

theorem noRet_wire (bs : Bytes) : NoRet (.wire bs) ∧ NoRet (.wraw bs) :=
  ⟨(by intro c r h; cases h), (by intro c r h; cases h)⟩

def isRetOf (c : Call) : Obs → Bool
  | .ret c' _ => decide (c' = c)
  | _ => false

def isCallOf (c : Call) : Obs → Bool
  | .ev e => decide (isCallEv e = some c)
  | _ => false

def retCount (c : Call) (out : List Obs) : Nat := out.countP (isRetOf c)
def callCount (c : Call) (out : List Obs) : Nat := out.countP (isCallOf c)
def inFlight (w : World) (c : Call) : Nat := if taskCall w.task = some c then 1 else 0

def CallInv (w : World) : Prop := ∀ c, retCount c w.out + inFlight w c ≤ callCount c w.out

theorem counts_noRet {w w' : World} (h : OutExtP NoRet w w') (c : Call) :
    retCount c w'.out = retCount c w.out ∧ callCount c w.out ≤ callCount c w'.out :=
  countP_outExtP h (p := isRetOf c) (fun o ho => by
    cases o with
    | ret c' r => exact absurd rfl (ho c' r)
    | _ => rfl) (isCallOf c)

theorem callInv_still {w w' : World} (hs : Still w w') (h : CallInv w) : CallInv w' := by
  intro c
  obtain ⟨h1, h2⟩ := counts_noRet (outExtP_mono hs.out (fun _ => noRet_of_plain)) c
  have h0 := h c
  have h3 : inFlight w' c ≤ inFlight w c := by
    unfold inFlight
    rcases hs.task with e | e <;> rw [e]
    · exact Nat.le_refl _
    · simp [taskCall]
  omega

theorem callInv_start {w : World} {e : Ev} {tk : CtxTask} (h : CallInv w) (hst : startTask e = some tk) :
    CallInv (({ (w.emit (.ev e)) with task := tk }).wake .ctx) := by
  intro c
  have h0 := h c
  have e1 : ((({ (w.emit (.ev e)) with task := tk }).wake .ctx)).out = w.out ++ [.ev e] := by rw [wake_out]; rfl
  have e2 : ((({ (w.emit (.ev e)) with task := tk }).wake .ctx)).task = tk := by rw [wake_task]
  have e4 : isCallEv e = taskCall tk := by rw [isCallEv, hst]; rfl
  -- the event is no `RET`, and it counts as a call of `c` exactly if `tk` executes `c`
  have e5 : retCount c (w.out ++ [.ev e]) = retCount c w.out :=
    countP_append_of_false _ _ _ fun o ho => by rw [List.mem_singleton.mp ho]; rfl
  have e6 : callCount c (w.out ++ [.ev e]) = callCount c w.out + if taskCall tk = some c then 1 else 0 := by
    rw [callCount, List.countP_append, List.countP_singleton]
    simp only [isCallOf, e4, decide_eq_true_eq]; rfl
  rw [e1, e5, e6, inFlight, e2]
  omega

theorem callInv_pollCtx {w : World} (h : CallInv w) : CallInv w.pollCtx := by
  intro c
  have h0 := h c
  rcases pollCtx_shape w with ⟨h1, h2⟩ | ⟨h1, pre, last, hq, ho, hl⟩
  · obtain ⟨h3, h4⟩ := counts_noRet (outExtP_of_outExt h2 noRet_wire) c
    have : inFlight w.pollCtx c = inFlight w c := by unfold inFlight; rw [h1.call]
    omega
  · obtain ⟨h3, h4⟩ := counts_noRet (w' := { w with out := w.out ++ pre }) ⟨pre, rfl, hq.all noRet_wire⟩ c
    simp only at h3 h4
    have e0 : inFlight w.pollCtx c = 0 := by simp [inFlight, h1, taskCall]
    have e1 : retCount c w.pollCtx.out = retCount c (w.out ++ pre) + if isRetOf c last then 1 else 0 := by
      rw [ho, retCount, List.countP_append, List.countP_singleton]; rfl
    have e2 : callCount c (w.out ++ pre) ≤ callCount c w.pollCtx.out := by
      rw [ho]; exact (List.sublist_append_left _ _).countP_le
    -- the last line is a `RET` of the call in flight, or a panic
    have e3 : (if isRetOf c last then 1 else 0) ≤ inFlight w c := by
      rcases hl with ⟨c0, r, rfl, hc0⟩ | ⟨cls, rfl⟩
      · unfold inFlight; rw [hc0]; simp [isRetOf]
      · exact Nat.zero_le _
    omega

theorem callInv_micro {w w' : World} (hm : Micro w w') (h : CallInv w) : CallInv w' := by
  rcases hm.call_cases with rfl | ⟨e, tk, h1, rfl⟩ | hs
  · exact callInv_pollCtx h
  · exact callInv_start h h1
  · exact callInv_still hs h

theorem during_callInv {cfg : Cfg} {w : World} (h : During cfg w) : CallInv w :=
  h.inv (fun c => by simp [retCount, callCount, inFlight, taskCall]) fun _ ih hm => callInv_micro hm ih

/-- `run()` is never in a connecting phase (the `TaskOk` of Lemmas/WorldWire.lean and of Lemmas/WorldQuietInv.lean are
    other notions) -/
def TaskOk (w : World) : Prop := ∀ t a s, w.task ≠ .connecting .run t a s

theorem taskOk_micro {w w' : World} (hm : Micro w w') (h : TaskOk w) : TaskOk w' := by
  rcases hm.call_cases with rfl | ⟨e, tk, h1, rfl⟩ | hs
  · rcases pollCtx_shape w with ⟨h1, _⟩ | ⟨h1, _⟩
    · intro t a s hc
      rcases h1 with e | ⟨call, t', au, e1, e2⟩ | ⟨e1, e2⟩
      · rw [e] at hc; exact h t a s hc
      · rw [e2] at hc; cases hc; exact h _ _ _ e1
      · rw [e2] at hc; cases hc
    · intro t a s hc; rw [h1] at hc; cases hc
  · intro t a s hc
    simp only [wake_task] at hc
    subst hc
    cases e <;> simp [startTask] at h1
  · intro t a s hc
    rcases hs.task with e | e
    · rw [e] at hc; exact h t a s hc
    · rw [e] at hc; cases hc

theorem during_taskOk {cfg : Cfg} {w : World} (h : During cfg w) : TaskOk w :=
  h.inv (fun _ _ _ hc => nomatch hc) fun _ ih hm => taskOk_micro hm ih

theorem running_of_call_run {w : World} (h : TaskOk w) (hc : taskCall w.task = some .run) :
    ∃ s, w.task = .running s :=
  (taskCall_eq_some.1 hc).elim (fun ⟨t, a, s, e⟩ => absurd e (h t a s)) (·.2)

theorem during_ret_origin {cfg : Cfg} {w : World} (h : During cfg w) {pre post : List Obs} {c : Call} {r : RetRes}
    (ho : w.out = pre ++ .ret c r :: post) :
    ∃ w0, During cfg w0 ∧ taskCall w0.task = some c ∧ w0.pollCtx.task = .none ∧
      w0.pollCtx.out = pre ++ [.ret c r] ∧ Reaches w0.pollCtx w := by
  obtain ⟨w0, w1, a, b, hd, hm, hr, hpre, ho1⟩ := h.line_origin ho
  have no : ∀ added, w1.out = w0.out ++ added → Obs.ret c r ∉ added → False := fun added e hx =>
    hx (List.append_cancel_left (e.symm.trans ho1) ▸ List.mem_append_right a List.mem_cons_self)
  rcases hm.call_cases with rfl | ⟨e, tk, _, rfl⟩ | hs
  · obtain ⟨rfl, hc0, h1⟩ := pollCtx_ret_last ho1
    exact ⟨w0, hd, hc0, h1, by rw [ho1, hpre, List.append_assoc], hr⟩
  · exact (no [.ev e] (by simp) (by simp)).elim
  · obtain ⟨added, e, hP⟩ := hs.out
    exact (no added e fun hx => (hP _ hx).1 c r rfl).elim

/-- **Why the iteration of the `select!` loop that starts in the world `wm` makes `run()` return `r`** (`fin` is the
    world after it). -/
inductive EndCause (wm fin : World) : RetRes → Prop
  /-- the user's DISCONNECT (fire-and-forget, packet type 14, within the size limit) was at the head of the queue and the
      transport took it; the messages behind it are not handled -/
  | userDisconnect (pkt : Bytes) (slot : Nat) (q : List Msg) :
      wm.queue = .ff pkt slot :: q → pktType pkt = 14 → wm.c.sizeOk pkt = true → wm.canWrite pkt.length = true →
      fin = ((({ wm with queue := q }).writeBytes pkt).sendSlot slot .unit).finish .run .ok →
      EndCause wm fin .ok
  /-- nothing queued; the next frame decodes to a server DISCONNECT with reason 0 -/
  | serverDisconnect0 (rx' : Rx) (rd' : List ReadEv) (fr : Bytes) (d : DisconnectRx) :
      wm.queue = [] → wm.senders ≠ 0 → pollNext wm.rx wm.reader = (rx', rd', .item fr) →
      decodeRx fr = .ok (.disconnect d) → d.reason = 0 → EndCause wm fin .ok
  /-- nothing queued; the next frame decodes to a server DISCONNECT `d` with another reason -/
  | serverDisconnect (rx' : Rx) (rd' : List ReadEv) (fr : Bytes) (d : DisconnectRx) :
      wm.queue = [] → wm.senders ≠ 0 → pollNext wm.rx wm.reader = (rx', rd', .item fr) →
      decodeRx fr = .ok (.disconnect d) → d.reason ≠ 0 → EndCause wm fin (.disconnected d)
  /-- nothing queued and no sender of the message queue left: every handle and every pending handle future is gone -/
  | handleClosed : wm.queue = [] → wm.senders = 0 → fin = wm.finish .run (.err .handleClosed) →
      EndCause wm fin (.err .handleClosed)
  /-- nothing queued; the framing layer reports the end of the stream (end of stream, read error, malformed length) -/
  | streamEnded (rx' : Rx) (rd' : List ReadEv) :
      wm.queue = [] → wm.senders ≠ 0 → pollNext wm.rx wm.reader = (rx', rd', .none) →
      EndCause wm fin (.err .socketClosed)
  /-- the request at the head of the queue had to be written and the transport refused the write -/
  | requestWriteFailed (m : Msg) (q : List Msg) :
      wm.queue = m :: q → wm.canWrite (writeNeed (wm.c.handleMsg m true).2.1) = false →
      writesOf (wm.c.handleMsg m false).2.1 ≠ [] → EndCause wm fin (.err .socketClosed)
  /-- the acknowledgement owed for the inbound packet `p` had to be written and the transport refused the write -/
  | ackWriteFailed (rx' : Rx) (rd' : List ReadEv) (fr : Bytes) (p : RxPacket) :
      wm.queue = [] → wm.senders ≠ 0 → pollNext wm.rx wm.reader = (rx', rd', .item fr) → decodeRx fr = .ok p →
      wm.canWrite (writeNeed (wm.c.handlePkt wm.chanRxAlive p true).2.1) = false →
      writesOf (wm.c.handlePkt wm.chanRxAlive p false).2.1 ≠ [] → EndCause wm fin (.err .socketClosed)
  /-- nothing queued; the next complete frame does not decode -/
  | undecodable (rx' : Rx) (rd' : List ReadEv) (fr : Bytes) :
      wm.queue = [] → wm.senders ≠ 0 → pollNext wm.rx wm.reader = (rx', rd', .item fr) → decodeRx fr = .err →
      EndCause wm fin (.err .codecError)

theorem canWrite_queue (w : World) (q : List Msg) (n : Nat) : ({ w with queue := q } : World).canWrite n = w.canWrite n := rfl
theorem canWrite_rx (w : World) (rx' : Rx) (rd' : List ReadEv) (n : Nat) :
    ({ w with rx := rx', reader := rd' } : World).canWrite n = w.canWrite n := rfl

theorem runEnd_cause {wm fin : World} (h : RunEnd wm fin) :
    (fin.task = .none ∧ ∃ r pre, fin.out = pre ++ [.ret .run r] ∧ EndCause wm fin r) ∨
    (fin.task = .none ∧ ∃ pre, fin.out = pre ++ [.panic .ctx "other"]) ∨
    fin.task = wm.task := by
  cases h with
  | msgExit m q w1 fl hq hr hne =>
    left
    refine ⟨rfl, flowRet fl, w1.out, rfl, ?_⟩
    have e := hr ▸ runHandler_eq_stepIn_msg wm q m
    rw [stepIn_inMsg] at e
    have hfl : fl = (wm.c.handleMsg m (wm.canWrite (writeNeed (wm.c.handleMsg m true).2.1))).2.2 :=
      congrArg Prod.snd e
    have hw1 : w1 = _ := congrArg Prod.fst e
    simp only [wokMsg, CObs.effs] at hw1
    obtain ⟨f1, f2, f3, f4⟩ := handleMsg_flow wm.c m (wm.canWrite (writeNeed (wm.c.handleMsg m true).2.1))
    cases fl with
    | cont => exact absurd rfl hne
    | exitOk =>
      obtain ⟨pkt, slot, rfl, h14, hs, hb⟩ := f1.mp hfl.symm
      have hn : writeNeed (wm.c.handleMsg (.ff pkt slot) true).2.1 = pkt.length := by
        simp [Ctx.handleMsg, hs, writeNeed]
      rw [hn] at hb
      refine .userDisconnect pkt slot q hq h14 hs hb ?_
      rw [hw1, hn, hb]
      simp [Ctx.handleMsg, hs, h14, applyEffs, applyEff, flowRet]
    | exitSocket =>
      obtain ⟨hb, hwr⟩ := f2.mp hfl.symm
      rw [hb] at hwr
      exact .requestWriteFailed m q hq hb hwr
    | exitDisconnected d => exact absurd hfl.symm (f3 d)
  | closed hq hs => exact Or.inl ⟨rfl, _, wm.out, rfl, .handleClosed hq hs rfl⟩
  | pktExit rx' rd' fr p w1 fl hq hs hp hd hr hne =>
    left
    refine ⟨rfl, flowRet fl, w1.out, rfl, ?_⟩
    have e := hr ▸ runHandler_eq_stepIn_pkt wm rx' rd' p
    rw [stepIn_inPkt] at e
    have hfl : fl = (wm.c.handlePkt wm.chanRxAlive p
        (wm.canWrite (writeNeed (wm.c.handlePkt wm.chanRxAlive p true).2.1))).2.2 := congrArg Prod.snd e
    obtain ⟨f1, f2, f3, f4⟩ := handlePkt_flow wm.c wm.chanRxAlive p
      (wm.canWrite (writeNeed (wm.c.handlePkt wm.chanRxAlive p true).2.1))
    cases fl with
    | cont => exact absurd rfl hne
    | exitOk =>
      obtain ⟨d, rfl, hr0⟩ := f1.mp hfl.symm
      exact .serverDisconnect0 rx' rd' fr d hq hs hp hd hr0
    | exitSocket =>
      obtain ⟨hb, hwr⟩ := f3.mp hfl.symm
      rw [hb] at hwr
      exact .ackWriteFailed rx' rd' fr p hq hs hp hd hb hwr
    | exitDisconnected d =>
      obtain ⟨rfl, hr0⟩ := (f2 d).mp hfl.symm
      exact .serverDisconnect rx' rd' fr d hq hs hp hd hr0
  | codec rx' rd' fr hq hs hp hd => exact Or.inl ⟨rfl, _, wm.out, rfl, .undecodable rx' rd' fr hq hs hp hd⟩
  | panic rx' rd' fr hq hs hp hd => exact Or.inr (Or.inl ⟨rfl, wm.out, rfl⟩)
  | sock rx' rd' hq hs hp => exact Or.inl ⟨rfl, _, wm.out, rfl, .streamEnded rx' rd' hq hs hp⟩
  | pending rx' rd' hq hs hp =>
    refine Or.inr (Or.inr ?_)
    split <;> simp

/-- **Why a poll of `run()` that starts in the world `w` returns `r`** (`started`: the future was polled before;
    `fin`: the world after the poll). -/
inductive ReturnCause (w : World) (started : Bool) (fin : World) : RetRes → Prop
  /-- first poll: the session is resumed and the transport fails while the unfinished handshakes are re-sent -/
  | resendFailed : started = false → w.resumed.canWrite ((w.c.resume.2.2.map List.length).sum) = false →
      ReturnCause w started fin (.err .socketClosed)
  /-- after zero or more iterations of the loop that go on — from `w` itself, or on a first poll from `w.resent`
      (session resumed, unfinished handshakes re-sent) — the iteration that starts in `wm` ends the call -/
  | loop (w1 wm : World) (r : RetRes) : (started = true → w1 = w) →
      (started = false → w.resumed.canWrite ((w.c.resume.2.2.map List.length).sum) = true ∧ w1 = w.resent) →
      Serve w1 wm → EndCause wm fin r → ReturnCause w started fin r

/-- `wm` is the world at the start of an iteration of the poll of `run()` that starts in `w` -/
def InPoll (w : World) (started : Bool) (wm : World) : Prop :=
  ∃ w1, (started = true → w1 = w) ∧
    (started = false → w.resumed.canWrite ((w.c.resume.2.2.map List.length).sum) = true ∧ w1 = w.resent) ∧
    Serve w1 wm

theorem InPoll.senders {w wm : World} {s : Bool} (h : InPoll w s wm) : wm.senders = w.senders := by
  obtain ⟨w1, h1, h2, hs⟩ := h
  rw [(serve_frame hs).ctx.senders]
  cases s with
  | true => rw [h1 rfl]
  | false =>
    obtain ⟨_, rfl⟩ := h2 rfl
    obtain ⟨_, _, _, _, e⟩ := resent_shape w
    rw [e]; simp [World.senders, resumed]

theorem runLoop_cause (f : Nat) (w1 : World) (ht : w1.task ≠ .none) (hn : (runLoop f w1).task = .none) :
    (∃ r pre wm, (runLoop f w1).out = pre ++ [.ret .run r] ∧ Serve w1 wm ∧ EndCause wm (runLoop f w1) r) ∨
    (∃ pre, (runLoop f w1).out = pre ++ [.panic .ctx "other"]) := by
  obtain ⟨wm, hs, he | ⟨he, _⟩⟩ := runLoop_decomp f w1
  · rcases runEnd_cause he with ⟨_, r, pre, ho, hc⟩ | ⟨_, pre, ho⟩ | h1
    · exact Or.inl ⟨r, pre, wm, ho, hs, hc⟩
    · exact Or.inr ⟨pre, ho⟩
    · rw [h1, (serve_frame hs).task] at hn; exact absurd hn ht
  · rw [he, (serve_frame hs).task] at hn; exact absurd hn ht

theorem pollRun_enters (w : World) (s : Bool) (ht : w.task = .running s) :
    (s = false ∧ w.resumed.canWrite ((w.c.resume.2.2.map List.length).sum) = false ∧
      w.pollCtx = (w.resumed.writeBytes w.c.resume.2.2.flatten).finish .run (.err .socketClosed)) ∨
    ∃ w1, (s = true → w1 = w) ∧
      (s = false → w.resumed.canWrite ((w.c.resume.2.2.map List.length).sum) = true ∧ w1 = w.resent) ∧
      w1.task = .running true ∧ w1.rx = w.rx ∧ w.pollCtx = runLoop w1.loopFuel w1 := by
  rw [pollCtx_running ht]
  cases s with
  | true => exact Or.inr ⟨w, fun _ => rfl, nofun, ht, rfl, by simp only [pollRun, ↓reduceIte]⟩
  | false =>
    rw [pollRun_first_eq]
    cases hcw : w.resumed.canWrite ((w.c.resume.2.2.map List.length).sum) with
    | false => exact Or.inl ⟨rfl, rfl, by simp only [Bool.false_eq_true, ↓reduceIte]⟩
    | true =>
      obtain ⟨_, _, _, _, e⟩ := resent_shape w
      refine Or.inr ⟨w.resent, nofun, fun _ => ⟨rfl, rfl⟩, ?_, ?_, by simp only [↓reduceIte]⟩
      · rw [e]; simp [resumed]
      · rw [e]; simp [resumed]

theorem pollRun_ret_cause (w : World) (s : Bool) (ht : w.task = .running s) (hn : w.pollCtx.task = .none)
    {pre : List Obs} {r : RetRes} (ho : w.pollCtx.out = pre ++ [.ret .run r]) : ReturnCause w s w.pollCtx r := by
  rcases pollRun_enters w s ht with ⟨rfl, hcw, e⟩ | ⟨w1, h1, h2, ht1, _, e⟩
  · rw [e] at ho
    cases (List.append_singleton_inj.mp (ho.symm.trans (finish_out' _ _ _))).2
    exact .resendFailed rfl hcw
  · rw [e] at hn ho ⊢
    rcases runLoop_cause w1.loopFuel w1 (by rw [ht1]; simp) hn with ⟨r', pre', wm, ho', hs, hc⟩ | ⟨pre', ho'⟩ <;>
      cases (List.append_singleton_inj.mp (ho.symm.trans ho')).2
    exact .loop w1 wm r h1 h2 hs hc

theorem startTask_call {e : Ev} {tk : CtxTask} (h : startTask e = some tk) :
    ∃ c, isCallEv e = some c ∧ taskCall tk = some c := by
  cases e <;> simp [startTask] at h <;> subst h <;> exact ⟨_, rfl, rfl⟩

/-- from a moment at which no call is executing, as long as no call is started: no call is executing, nothing is handed
    to the transport, no `W` line is logged -/
theorem Reaches.idle {a b : World} (hr : Reaches a b) (ha : a.task = .none) {mid : List Obs} (ho : b.out = a.out ++ mid)
    (hmid : ∀ o ∈ mid, ∀ e, o = .ev e → isCallEv e = none) :
    b.task = .none ∧ b.sent = a.sent ∧ ∀ o ∈ mid, ∀ bs, o ≠ .wire bs := by
  induction hr generalizing mid with
  | refl =>
    cases List.self_eq_append_right.mp ho
    exact ⟨ha, rfl, fun _ h => nomatch h⟩
  | tail hab hm ih =>
    obtain ⟨m1, e1⟩ := hab.out_prefix
    obtain ⟨m2, e2⟩ := hm.out_prefix
    cases (List.append_cancel_left (by rw [← ho, e2, e1, List.append_assoc]) : mid = m1 ++ m2)
    obtain ⟨i1, i2, i3⟩ := ih e1 fun o h => hmid o (List.mem_append_left _ h)
    rcases hm.call_cases with rfl | ⟨e, tk, h1, rfl⟩ | hs
    · rw [pollCtx_none i1] at e2 ⊢
      cases List.self_eq_append_right.mp e2
      exact ⟨i1, i2, by simpa using i3⟩
    · cases (List.append_cancel_left (e2.symm.trans (by simp)) : m2 = [.ev e])
      obtain ⟨c0, h5, _⟩ := startTask_call h1
      have := hmid (.ev e) (by simp) e rfl
      rw [h5] at this; cases this
    · obtain ⟨added, e, hP⟩ := hs.out
      cases List.append_cancel_left (e2.symm.trans e)
      refine ⟨hs.task.elim (fun e => e ▸ i1) id, hs.sent.trans i2, fun o ho' bs => ?_⟩
      exact (List.mem_append.mp ho').elim (fun h => i3 o h bs) fun h => (hP o h).2 bs

theorem during_after_ret {cfg : Cfg} {w : World} (h : During cfg w) {pre mid : List Obs} {c : Call} {r : RetRes}
    (ho : w.out = pre ++ .ret c r :: mid) (hmid : ∀ o ∈ mid, ∀ e, o = .ev e → isCallEv e = none) :
    w.task = .none ∧ (∀ o ∈ mid, ∀ bs, o ≠ .wire bs) ∧
    ∃ w0, During cfg w0 ∧ taskCall w0.task = some c ∧ w0.pollCtx.task = .none ∧
      w0.pollCtx.out = pre ++ [.ret c r] ∧ w.sent = w0.pollCtx.sent ∧ Reaches w0.pollCtx w := by
  obtain ⟨w0, hd, hc, hn, ho0, hr⟩ := during_ret_origin h ho
  obtain ⟨i1, i2, i3⟩ := hr.idle hn (by rw [ho, ho0]; simp) hmid
  exact ⟨i1, i3, w0, hd, hc, hn, ho0, i2, hr⟩

theorem userDisconnect_last_write {wm fin : World} {pkt : Bytes} {slot : Nat} {q : List Msg}
    (hw : wm.canWrite pkt.length = true)
    (hf : fin = ((({ wm with queue := q }).writeBytes pkt).sendSlot slot .unit).finish .run .ok) :
    fin.sent = wm.sent ++ pkt ∧
    fin.out = (({ wm with queue := q } : World).writeBytes pkt).out ++ [.ret .run .ok] := by
  subst hf
  refine ⟨?_, by simp⟩
  rw [sent_finish]
  have h1 : ((({ wm with queue := q } : World).writeBytes pkt).sendSlot slot .unit).sent =
      (({ wm with queue := q } : World).writeBytes pkt).sent := sent_congr (by simp) (by simp)
  rw [h1, (sent_writeBytes ({ wm with queue := q } : World) pkt hw).1]
  rfl

theorem run_pending_facts (w : World) (s : Bool) (ht : w.task = .running s) (hok : w.rx.Ok)
    (hn : w.pollCtx.task ≠ .none) :
    w.pollCtx.task = .running true ∧ w.pollCtx.queue = [] ∧ w.pollCtx.queueReg = true ∧ w.senders ≠ 0 ∧
    ((w.pollCtx.reader = [] ∧ w.pollCtx.readerReg = true) ∨ .ctx ∈ w.pollCtx.woken) ∧
    ∃ wm : World, InPoll w s wm ∧ wm.queue = [] ∧ wm.senders ≠ 0 ∧
      pollNext wm.rx wm.reader = (w.pollCtx.rx, w.pollCtx.reader, .pending) := by
  rcases pollRun_enters w s ht with ⟨_, _, e⟩ | ⟨w1, h1, h2, ht1, hrx, e⟩
  · rw [e] at hn; exact absurd rfl hn
  · rw [e] at hn ⊢
    obtain ⟨wm, hs, he⟩ := runLoop_full w1 (hrx ▸ hok)
    rcases sEnd_out (.of_runEnd he) with over | waits
    · exact absurd over.task hn
    · exact ⟨by rw [waits.task, (serve_frame hs).task, ht1], waits.queue, waits.queueReg,
        (InPoll.senders ⟨w1, h1, h2, hs⟩) ▸ waits.senders, waits.armed, wm, ⟨w1, h1, h2, hs⟩, waits.drained,
        waits.senders, waits.read⟩

theorem firstEnd_cause {w0 r : World} {call : Call} {t : ConnectTx} {a : AuthTx} (h : FirstEnd w0 call t a r) :
    (r.task = .none ∧ ∃ res, r.out = w0.out ++ [.ret call res] ∧ FirstCause w0 res) ∨
    (r.task = .none ∧ ∃ cls, r.out = w0.out ++ [.panic .ctx cls]) ∨
    (r.task = .connecting call t a true ∧ r.out = w0.out) := by
  rcases firstEnd_out h with over | waits
  · obtain ⟨last, ho, ⟨res, rfl, hc⟩ | ⟨rfl, _⟩ | ⟨rfl, _⟩⟩ := over.out
    · exact Or.inl ⟨over.task, res, ho, hc⟩
    · exact Or.inr (Or.inl ⟨over.task, _, ho⟩)
    · exact Or.inr (Or.inl ⟨over.task, _, ho⟩)
  · exact Or.inr (Or.inr ⟨waits.task, waits.out⟩)

/-- **Why a poll of `connect()` / `authorize()` that starts in the world `w` returns `r`** (`started`: the future was
    polled before, i.e. the request is already written). -/
inductive ConnectCause (w : World) (call : Call) (t : ConnectTx) (a : AuthTx) (started : Bool) : RetRes → Prop
  /-- first poll: the request cannot be encoded; nothing is written -/
  | invalid : started = false → reqValid call t a = false → ConnectCause w call t a started (.err .codecError)
  /-- first poll: the transport refuses the request -/
  | writeFailed : started = false → reqValid call t a = true → w.canWrite (reqBytes call t a).length = false →
      ConnectCause w call t a started (.err .socketClosed)
  /-- the first response, awaited in the world `w0` — `w` itself, or on a first poll `w` after the request was written
      (same framing state and reader; the bytes handed to the transport are those of `w` followed by the request) -/
  | response (w0 : World) (r : RetRes) : (started = true → w0 = w) →
      (started = false → reqValid call t a = true ∧ w.canWrite (reqBytes call t a).length = true ∧
        w0.rx = w.rx ∧ w0.reader = w.reader ∧ w0.sent = w.sent ++ reqBytes call t a) →
      FirstCause w0 r → ConnectCause w call t a started r

/-- a poll that ends `connect()`/`authorize()` logs last either the `RET` line or a panic of the context task (the
    `subIdAvail` assertion; a decoder panic, excluded by C04); `ho` selects the first -/
theorem pollConnect_ret_cause (w : World) (call : Call) (t : ConnectTx) (a : AuthTx) (s : Bool)
    (ht : w.task = .connecting call t a s) (hn : w.pollCtx.task = .none) {pre : List Obs} {r : RetRes}
    (ho : w.pollCtx.out = pre ++ [.ret call r]) : ConnectCause w call t a s r := by
  suffices h : (∃ r pre, w.pollCtx.out = pre ++ [.ret call r] ∧ ConnectCause w call t a s r) ∨
      (∃ pre cls, w.pollCtx.out = pre ++ [.panic .ctx cls]) by
    rcases h with ⟨r', pre', ho', hc⟩ | ⟨pre', cls, ho'⟩ <;> cases (List.append_singleton_inj.mp (ho.symm.trans ho')).2
    exact hc
  clear ho
  have hp : w.pollCtx = w.pollConnect call t a s := pollCtx_connecting ht
  rw [hp] at hn ⊢
  cases s with
  | true =>
    rw [pollConnect_true_eq] at hn ⊢
    rcases firstEnd_cause (awaitFirst_spec w call t a) with ⟨_, res, ho, hc⟩ | ⟨_, cls, ho⟩ | ⟨h1, _⟩
    · exact Or.inl ⟨res, w.out, ho, .response w res (fun _ => rfl) (fun h => by cases h) hc⟩
    · exact Or.inr ⟨w.out, cls, ho⟩
    · rw [h1] at hn; cases hn
  | false =>
    rw [pollConnect_false_eq] at hn ⊢
    cases hv : reqValid call t a with
    | false =>
      simp only [Bool.not_false, ↓reduceIte]
      exact Or.inl ⟨_, w.out, rfl, .invalid rfl hv⟩
    | true =>
      simp only [hv, Bool.not_true, Bool.false_eq_true, ↓reduceIte] at hn ⊢
      obtain ⟨_, _, f3, _, f5⟩ := seiSet_facts w call t
      cases hcw : w.canWrite (reqBytes call t a).length with
      | false =>
        simp only [Bool.false_eq_true, ↓reduceIte]
        exact Or.inl ⟨_, _, rfl, .writeFailed rfl hv hcw⟩
      | true =>
        simp only [hcw, ↓reduceIte] at hn ⊢
        generalize hw0 : (seiSet w call t).writeBytes (reqBytes call t a) = w0 at hn ⊢
        obtain ⟨g1, g2, _⟩ := hw0 ▸ reqWritten_prelude w call t a
        have g3 : w0.sent = w.sent ++ reqBytes call t a := by
          rw [← hw0, (sent_writeBytes _ _ (by rw [f5]; exact hcw)).1, f3]
        rcases firstEnd_cause (awaitFirst_spec w0 call t a) with ⟨_, res, ho, hc⟩ | ⟨_, cls, ho⟩ | ⟨h1, _⟩
        · exact Or.inl ⟨res, w0.out, ho, .response w0 res (fun h => by cases h) (fun _ => ⟨hv, hcw, g1, g2, g3⟩) hc⟩
        · exact Or.inr ⟨w0.out, cls, ho⟩
        · rw [h1] at hn; cases hn

theorem pollCtx_ret_cause {w : World} {a b : List Obs} {c : Call} {r : RetRes}
    (h : w.pollCtx.out = w.out ++ (a ++ .ret c r :: b)) :
    b = [] ∧ ((∃ s, w.task = .running s ∧ c = .run ∧ ReturnCause w s w.pollCtx r) ∨
      ∃ t au s, w.task = .connecting c t au s ∧ ConnectCause w c t au s r) := by
  obtain ⟨rfl, hc, hn⟩ := pollCtx_ret_last h
  rw [← List.append_assoc] at h
  refine ⟨rfl, ?_⟩
  rcases taskCall_eq_some.1 hc with ⟨t, au, s, ht⟩ | ⟨rfl, s, ht⟩
  · exact Or.inr ⟨t, au, s, ht, pollConnect_ret_cause w c t au s ht hn h⟩
  · exact Or.inl ⟨s, ht, rfl, pollRun_ret_cause w s ht hn h⟩

end W7
end World
end Poster

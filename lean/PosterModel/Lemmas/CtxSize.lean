/-
  The Maximum Packet Size check of `handle_message`, at the level of the context: what the handler returns, exactly, when
  the packet is too big; when it fits, either the refusal for the send quota (`QuotaRefused`) or the write of the packet
  and no size refusal.
-/
import PosterModel.Lemmas.CtxPkt

namespace Poster
namespace World
namespace W10

def TooBig (c : Ctx) (pkt : Bytes) : Prop := ∃ M, c.maxPkt = some M ∧ M < pkt.length

instance (c : Ctx) (pkt : Bytes) : Decidable (TooBig c pkt) := by
  unfold TooBig
  cases h : c.maxPkt with
  | none => exact isFalse (by simp)
  | some M =>
    by_cases hl : M < pkt.length
    · exact isTrue ⟨M, rfl, hl⟩
    · exact isFalse (by rintro ⟨M', e, h'⟩; cases e; exact hl h')

/-- what a refused request causes: the caller's oneshot receives `MaximumPacketSizeExceeded`; the subscription sender
    a SUBSCRIBE message carries is dropped (its stream ends) -/
def refusalEffs : Msg → List Eff
  | .ff _ s => [.send s .errSize]
  | .awaitAck _ _ s => [.send s .errSize]
  | .subscribe _ _ _ s ch => [.send s .errSize, .dropChan ch]

theorem sizeOk_false_iff (c : Ctx) (pkt : Bytes) : c.sizeOk pkt = false ↔ TooBig c pkt := by
  unfold Ctx.sizeOk TooBig
  cases h : c.maxPkt with
  | none => simp
  | some M => simp

theorem sizeOk_true_iff (c : Ctx) (pkt : Bytes) : c.sizeOk pkt = true ↔ ¬ TooBig c pkt := by
  rw [← sizeOk_false_iff]; cases c.sizeOk pkt <;> simp

theorem handleMsg_tooBig (c : Ctx) (m : Msg) (wok : Bool) (h : TooBig c m.pkt) :
    c.handleMsg m wok = (c, refusalEffs m, .cont) := by
  have hs := (sizeOk_false_iff c m.pkt).2 h
  cases m <;> simp only [Msg.pkt] at hs <;> simp [Ctx.handleMsg, hs, refusalEffs]

def QuotaRefused (c : Ctx) (m : Msg) : Prop := pktType m.pkt = 3 ∧ c.quota = 0 ∧ ∃ aid pkt slot, m = .awaitAck aid pkt slot

theorem handleMsg_fits (c : Ctx) (m : Msg) (wok : Bool) (h : ¬ TooBig c m.pkt) :
    (QuotaRefused c m ∧ c.handleMsg m wok = (c, [.send m.slot .errQuota], .cont)) ∨
    (¬ QuotaRefused c m ∧ writesOf (c.handleMsg m wok).2.1 = [m.pkt] ∧
      ((c.handleMsg m wok).2.2 = .exitSocket ↔ wok = false) ∧
      ∀ s, (s, SlotVal.errSize) ∉ sendsOf (c.handleMsg m wok).2.1) := by
  have hs := (sizeOk_true_iff c m.pkt).2 h
  cases m with
  | ff pkt slot =>
    refine .inr ⟨(by rintro ⟨_, _, _, _, _, e⟩; cases e), ?_⟩
    rcases Ctx.handleMsg_ff_cases c pkt slot wok with ⟨h0, _⟩ | ⟨_, rfl, e⟩ | ⟨_, rfl, e⟩
    · exact absurd (h0.symm.trans hs) Bool.false_ne_true
    · rw [e]; simp [Msg.pkt]
    · rw [e]; refine ⟨rfl, ?_, by simp⟩
      by_cases h14 : pktType pkt = 14 <;> simp [h14]
  | subscribe aid sid pkt slot chan =>
    refine .inr ⟨(by rintro ⟨_, _, _, _, _, e⟩; cases e), ?_⟩
    rcases Ctx.handleMsg_subscribe_cases c aid sid pkt slot chan wok with ⟨h0, _⟩ | ⟨_, e⟩
    · exact absurd (h0.symm.trans hs) Bool.false_ne_true
    · rw [e]; cases wok <;> simp [Msg.pkt]
  | awaitAck aid pkt slot =>
    rcases Ctx.handleMsg_awaitAck_cases c aid pkt slot wok with ⟨h0, _⟩ | ⟨_, h3, hq, e⟩ | ⟨_, hq, rfl, e⟩ | ⟨_, hq, rfl, e⟩
    · exact absurd (h0.symm.trans hs) Bool.false_ne_true
    · exact .inl ⟨⟨h3, hq, aid, pkt, slot, rfl⟩, e⟩
    · rw [e]; exact .inr ⟨fun hh => hq hh.1 hh.2.1, by simp [Msg.pkt]⟩
    · rw [e]; exact .inr ⟨fun hh => hq hh.1 hh.2.1, by simp [Msg.pkt]⟩

theorem handleMsg_fits_no_errSize (c : Ctx) (m : Msg) (wok : Bool) (h : ¬ TooBig c m.pkt) :
    ∀ s, (s, SlotVal.errSize) ∉ sendsOf (c.handleMsg m wok).2.1 := by
  rcases handleMsg_fits c m wok h with ⟨_, e⟩ | ⟨_, _, _, h⟩
  · rw [e]; simp [sendsOf]
  · exact h

theorem handleMsg_errSize_iff (c : Ctx) (m : Msg) (wok : Bool) :
    (∃ s, (s, SlotVal.errSize) ∈ sendsOf (c.handleMsg m wok).2.1) ↔ TooBig c m.pkt := by
  constructor
  · rintro ⟨s, hs⟩
    by_cases h : TooBig c m.pkt
    · exact h
    · exact absurd hs (handleMsg_fits_no_errSize c m wok h s)
  · intro h
    rw [handleMsg_tooBig c m wok h]
    refine ⟨m.slot, ?_⟩
    cases m <;> simp [refusalEffs, Msg.slot, sendsOf]

end W10
end World
end Poster

/-
  Lemmas/CtxBasic.lean — what holds of every history `Ctx.serve` produces, each an instance of
  `Ctx.serve_induction`: every observation is one `stepIn` (`serve_obs`), a component of the state that every step
  folds is the fold of the history (`serve_fold`), a step invariant is an invariant (`serve_inv`); and a history
  split at any observation is a served prefix followed by one `stepIn` (`serve_split`).
-/
import PosterModel.Lemmas.CtxApi

namespace Poster
namespace Ctx

theorem serve_obs (c : Ctx) (is : List CIn) : ∀ o ∈ (c.serve is).2, ∃ c' i, i ∈ is ∧ o = (Ctx.stepIn c' i).2 := by
  refine serve_induction (P := fun _ is _ t => ∀ o ∈ t, ∃ c' i, i ∈ is ∧ o = (Ctx.stepIn c' i).2) ?_ ?_ ?_ c is
  · intro _ o ho; cases ho
  · intro c i is _ o ho
    exact ⟨c, i, List.mem_cons_self, List.mem_singleton.1 ho⟩
  · intro c i is _ t _ ih o ho
    rcases List.mem_cons.1 ho with rfl | ho
    · exact ⟨c, i, List.mem_cons_self, rfl⟩
    · obtain ⟨c', j, hj, rfl⟩ := ih o ho
      exact ⟨c', j, List.mem_cons_of_mem _ hj, rfl⟩

theorem serve_split (c : Ctx) (is : List CIn) (pre post : List CObs) (o : CObs)
    (h : (c.serve is).2 = pre ++ o :: post) :
    ∃ is1 i is2, is = is1 ++ i :: is2 ∧ (c.serve is1).2 = pre ∧ o = ((c.serve is1).1.stepIn i).2 := by
  induction pre generalizing c is with
  | nil =>
    cases is with
    | nil => simp [serve_nil] at h
    | cons i is =>
      rw [serve_cons] at h
      refine ⟨[], i, is, rfl, rfl, ?_⟩
      split at h <;> simp at h <;> simp [serve_nil, h.1]
  | cons o' pre ih =>
    cases is with
    | nil => simp [serve_nil] at h
    | cons i is =>
      rw [serve_cons] at h
      split at h
      · rename_i hc
        simp only [List.cons_append, List.cons.injEq] at h
        obtain ⟨is1, j, is2, rfl, h1, h2⟩ := ih _ _ h.2
        refine ⟨i :: is1, j, is2, rfl, ?_, ?_⟩
        · rw [serve_cons]; rw [if_pos hc]; simp [h1, h.1]
        · rw [serve_cons]; rw [if_pos hc]; simp [h2]
      · simp at h

theorem serve_fold {α} (f : Ctx → α) (g : α → CObs → α)
    (hstep : ∀ (c : Ctx) (i : CIn), f (c.stepIn i).1 = g (f c) (c.stepIn i).2) (c : Ctx) (is : List CIn) :
    f (c.serve is).1 = (c.serve is).2.foldl g (f c) := by
  refine serve_induction (P := fun c _ c' t => f c' = t.foldl g (f c)) ?_ ?_ ?_ c is
  · intro c; rfl
  · intro c i _ _; exact hstep c i
  · intro c i _ c' t _ ih; rw [ih, hstep]; rfl

theorem serve_inv (P : Ctx → Prop) (hstep : ∀ (c : Ctx) (i : CIn), P c → P (c.stepIn i).1) (c : Ctx) (is : List CIn)
    (h : P c) : P (c.serve is).1 :=
  serve_induction (P := fun c _ c' _ => P c → P c') (fun _ h => h) (fun c i _ _ => hstep c i)
    (fun c i _ _ _ _ ih h => ih (hstep c i h)) c is h

end Ctx
end Poster

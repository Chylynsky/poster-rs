/-
  Lemmas/WorldLift.lean — the executor, once. `step` = log the event, apply it, drain, (sweep, drain), stall check; `drain`
  and `sweep` are iterated polls. The one induction over them carries a LABEL beside the world: a poll contributes `fp w t`,
  a script event `fa w e` (`w` with the `ev` line logged), and `scriptAcc` multiplies them in execution order; a relation
  `R w w' l` that composes with the labels multiplied and is respected by one poll of a live task, by `apply` and by the
  `ev` / `stall` lines holds of a whole script (`scriptAcc_lift`). A relation between worlds alone is the case `L = Unit`,
  an invariant `I` the relation `fun w w' => I w → I w'`; `applyEffs_lift` is the same principle for the effects of a
  handler. `Along P w evs` says `P` of every event in the world its step starts from (before its `ev` line is logged), for
  what `apply` keeps only under a side condition (`steps_inv_along`, whose `emitP` carries `P` across that line).
-/
import PosterModel.Lemmas.Assoc

namespace Poster
namespace World

theorem foldl_lift {α β : Type _} {f : β → α → β} {R : β → β → Prop} (refl : ∀ b, R b b)
    (trans : ∀ {a b c : β}, R a b → R b c → R a c) {l : List α} (step : ∀ b, ∀ a ∈ l, R b (f b a)) (b : β) :
    R b (l.foldl f b) := by
  induction l generalizing b with
  | nil => exact refl b
  | cons a t ih =>
    exact trans (step b a List.mem_cons_self) (ih (fun b a h => step b a (List.mem_cons_of_mem _ h)) _)

theorem applyEffs_lift {R : World → World → Prop} (refl : ∀ w, R w w) (trans : ∀ {a b c : World}, R a b → R b c → R a c)
    {es : List Eff} (step : ∀ w, ∀ e ∈ es, R w (w.applyEff e)) (w : World) : R w (w.applyEffs es) :=
  foldl_lift refl trans step w

theorem applyEffs_of_mem {es : List Eff} {e : Eff} (h : e ∈ es) (w : World) :
    ∃ pre post, es = pre ++ e :: post ∧ w.applyEffs es = ((w.applyEffs pre).applyEff e).applyEffs post := by
  obtain ⟨pre, post, rfl⟩ := List.append_of_mem h
  exact ⟨pre, post, rfl, List.foldl_append⟩

theorem minNat_mem {l : List Nat} {n : Nat} (h : minNat l = some n) : n ∈ l := by
  induction l generalizing n with
  | nil => simp [minNat] at h
  | cons a t ih =>
    simp only [minNat] at h
    split at h
    · simp only [Option.some.injEq] at h; subst h; exact List.mem_cons_self
    · rename_i b hb
      simp only [Option.some.injEq] at h
      split at h
      · subst h; exact List.mem_cons_self
      · subst h; exact List.mem_cons_of_mem _ (ih hb)

theorem minNat_eq_none {l : List Nat} (h : minNat l = none) : l = [] := by
  cases l with
  | nil => rfl
  | cons a t => simp only [minNat] at h; split at h <;> cases h

theorem pick_ready (w : World) :
    (∀ t, w.pick = some t → t ∈ w.woken.filter fun t => w.taskLive t ∧ t ∉ w.held) ∧
    (w.pick = none → (w.woken.filter fun t => w.taskLive t ∧ t ∉ w.held) = []) := by
  unfold pick
  simp only
  generalize w.woken.filter _ = ready
  have sel : ∀ {f : Task → Option Nat} {n : Nat} {t : Task}, (∀ u, f u = some n → u = t) →
      minNat (ready.filterMap f) = some n → t ∈ ready := by
    intro f n t hf hn
    obtain ⟨u, hu, e⟩ := List.mem_filterMap.mp (minNat_mem hn)
    exact hf u e ▸ hu
  split
  next hctx => exact ⟨fun t hp => by cases hp; exact hctx, nofun⟩ -- the context task is ready: it goes first
  next hctx =>
    split
    next n hn => -- else the ready operation with the least id
      exact ⟨fun t hp => by cases hp; exact sel (fun u e => by cases u <;> simp at e; rw [e]) hn, nofun⟩
    next hops =>
      split
      next n hn => -- else the ready stream with the least id
        exact ⟨fun t hp => by cases hp; exact sel (fun u e => by cases u <;> simp at e; rw [e]) hn, nofun⟩
      next hsts => -- nothing is ready
        refine ⟨nofun, fun _ => List.eq_nil_iff_forall_not_mem.mpr fun t hr => ?_⟩
        cases t with
        | ctx => exact hctx hr
        | op n => simpa using List.filterMap_eq_nil_iff.mp (minNat_eq_none hops) (.op n) hr
        | st n => simpa using List.filterMap_eq_nil_iff.mp (minNat_eq_none hsts) (.st n) hr

theorem pick_some_spec (w : World) (t : Task) (hp : w.pick = some t) :
    t ∈ w.woken ∧ w.taskLive t = true ∧ t ∉ w.held := by
  simpa [List.mem_filter] using (pick_ready w).1 t hp

theorem pick_none_held (w : World) (t : Task) (hp : w.pick = none) (hw : t ∈ w.woken)
    (hl : w.taskLive t = true) : t ∈ w.held := by
  simpa [List.mem_filter, hw, hl] using List.eq_nil_iff_forall_not_mem.mp ((pick_ready w).2 hp) t

theorem pick_emit (w : World) (o : Obs) : (w.emit o).pick = w.pick := rfl

/-- the tasks `sweep` goes through: the context, the operations by id, the streams by id -/
def sweepTasks (w : World) : List Task :=
  [Task.ctx] ++ (sortNat (w.ops.map (·.1))).map Task.op ++ (sortNat w.streams).map Task.st

def sweepF (w : World) (t : Task) : World :=
  if w.taskLive t ∧ t ∉ w.woken ∧ t ∉ w.held then w.pollTask t else w

theorem sweep_eq_fold (w : World) : w.sweep = w.sweepTasks.foldl sweepF w := rfl

/-- the rest of a script step once the event has been applied: drain, optional sweep, stall check -/
def settle (w : World) : World :=
  if w.bad then w else
  let w := drain w.drainFuel w
  let w := if w.cfg.sweep then (let w := w.sweep; drain w.drainFuel w) else w
  if w.task ≠ .none ∧ w.reader ≠ [] then w.emit .stall else w

theorem step_eq_settle (w : World) (e : Ev) :
    w.step e = if w.bad then w else ((w.emit (.ev e)).apply e).settle := rfl

theorem step_of_bad (w : World) (e : Ev) (h : w.bad = true) : w.step e = w := by
  rw [step_eq_settle, if_pos h]

theorem foldl_step_of_bad (evs : List Ev) (w : World) (h : w.bad = true) : evs.foldl World.step w = w := by
  induction evs with
  | nil => rfl
  | cons e t ih => rw [List.foldl_cons, step_of_bad w e h]; exact ih

theorem drain_none (f : Nat) (w : World) (h : w.pick = none) : drain f w = w := by
  cases f <;> simp only [drain, h]

/-- the world a step ends in before its stall check: drained and, with the sweeping executor, swept and drained again -/
def drained (w : World) : World :=
  let w := drain w.drainFuel w
  if w.cfg.sweep then drain w.sweep.drainFuel w.sweep else w

theorem settle_eq (w : World) : w.settle = if w.bad then w else
    if (drained w).task ≠ .none ∧ (drained w).reader ≠ [] then (drained w).emit .stall else drained w := rfl

section Acc
variable {L : Type} (one : L) (mul : L → L → L) (fp : World → Task → L) (fa : World → Ev → L)

def drainAcc : Nat → World → L
  | 0, _ => one
  | f+1, w =>
    match w.pick with
    | none => one
    | some t => mul (fp w t) (drainAcc f (w.pollTask t))

theorem drainAcc_pick (f : Nat) (w : World) (t : Task) (hf : 0 < f) (h : w.pick = some t) :
    drainAcc one mul fp f w = mul (fp w t) (drainAcc one mul fp (f - 1) (w.pollTask t)) := by
  obtain ⟨f, rfl⟩ : ∃ g, f = g + 1 := ⟨f - 1, by omega⟩
  simp only [drainAcc, h, Nat.add_sub_cancel]

theorem drainAcc_none (f : Nat) (w : World) (h : w.pick = none) : drainAcc one mul fp f w = one := by
  cases f <;> simp only [drainAcc, h]

def sweepListAcc : List Task → World → L
  | [], _ => one
  | t :: l, w =>
    if w.taskLive t ∧ t ∉ w.woken ∧ t ∉ w.held then mul (fp w t) (sweepListAcc l (w.pollTask t))
    else sweepListAcc l w

def sweepAcc (w : World) : L := sweepListAcc one mul fp w.sweepTasks w

def drainedAcc (w : World) : L :=
  let w2 := drain w.drainFuel w
  mul (drainAcc one mul fp w.drainFuel w)
    (if w2.cfg.sweep then mul (sweepAcc one mul fp w2) (drainAcc one mul fp w2.sweep.drainFuel w2.sweep) else one)

def settleAcc (w : World) : L := if w.bad then one else drainedAcc one mul fp w

def stepAcc (w : World) (e : Ev) : L :=
  if w.bad then one else mul (fa (w.emit (.ev e)) e) (settleAcc one mul fp ((w.emit (.ev e)).apply e))

def scriptAcc : World → List Ev → L
  | _, [] => one
  | w, e :: es => mul (stepAcc one mul fp fa w e) (scriptAcc (w.step e) es)

variable {one mul fp fa}

theorem scriptAcc_append (one_mul : ∀ l, mul one l = l) (assoc : ∀ a b c, mul (mul a b) c = mul a (mul b c))
    (a b : List Ev) (w : World) :
    scriptAcc one mul fp fa w (a ++ b) =
      mul (scriptAcc one mul fp fa w a) (scriptAcc one mul fp fa (a.foldl step w) b) := by
  induction a generalizing w with
  | nil => exact (one_mul _).symm
  | cons e es ih => simp only [List.cons_append, scriptAcc, List.foldl_cons, ih, assoc]

variable {R : World → World → L → Prop} (refl : ∀ w, R w w one)
  (trans : ∀ {a b c : World} {l m : L}, R a b l → R b c m → R a c (mul l m))
include refl trans

theorem drainAcc_lift (poll : ∀ w t, w.pick = some t → R w (w.pollTask t) (fp w t)) (f : Nat) (w : World) :
    R w (drain f w) (drainAcc one mul fp f w) := by
  induction f generalizing w with
  | zero => exact refl w
  | succ f ih =>
    simp only [drain, drainAcc]
    cases hp : w.pick with
    | none => exact refl w
    | some t => exact trans (poll w t hp) (ih _)

/-- `sweep` polls the live tasks that are neither flagged nor held -/
theorem sweepAcc_lift (poll : ∀ w t, w.taskLive t = true → t ∉ w.woken → t ∉ w.held → R w (w.pollTask t) (fp w t))
    (w : World) : R w w.sweep (sweepAcc one mul fp w) := by
  rw [sweep_eq_fold, sweepAcc]
  generalize w.sweepTasks = tasks
  induction tasks generalizing w with
  | nil => exact refl w
  | cons t l ih =>
    simp only [List.foldl_cons, sweepListAcc, sweepF]
    split
    · rename_i h; exact trans (poll w t h.1 h.2.1 h.2.2) (ih _)
    · exact ih w

variable (poll : ∀ w t, w.taskLive t = true → t ∉ w.held → R w (w.pollTask t) (fp w t))
  (mul_one : ∀ l : L, mul l one = l)
include poll mul_one

theorem drainedAcc_lift (w : World) : R w (drained w) (drainedAcc one mul fp w) := by
  have hd : ∀ f w, R w (drain f w) (drainAcc one mul fp f w) :=
    drainAcc_lift refl @trans fun w t h => poll w t (pick_some_spec w t h).2.1 (pick_some_spec w t h).2.2
  unfold drained drainedAcc
  by_cases hs : (drain w.drainFuel w).cfg.sweep = true
  · simp only [if_pos hs]
    exact trans (hd _ _) (trans (sweepAcc_lift refl @trans (fun w t hl _ hh => poll w t hl hh) _) (hd _ _))
  · simp only [if_neg hs, mul_one]
    exact hd _ _

theorem settleAcc_lift (stall : ∀ w, R w (w.emit .stall) one) (w : World) :
    R w w.settle (settleAcc one mul fp w) := by
  rw [settle_eq]
  unfold settleAcc
  by_cases hb : w.bad = true
  · rw [if_pos hb, if_pos hb]; exact refl w
  rw [if_neg hb, if_neg hb]
  have h2 := drainedAcc_lift refl @trans poll mul_one w
  by_cases hs : (drained w).task ≠ .none ∧ (drained w).reader ≠ []
  · rw [if_pos hs]
    have := trans h2 (stall _)
    rwa [mul_one] at this
  · rw [if_neg hs]; exact h2

theorem stepAcc_lift {e : Ev} (stall : ∀ w, R w (w.emit .stall) one) (w : World)
    (ev : w.bad = false → R w ((w.emit (.ev e)).apply e) (fa (w.emit (.ev e)) e)) :
    R w (w.step e) (stepAcc one mul fp fa w e) := by
  rw [step_eq_settle]
  unfold stepAcc
  by_cases hb : w.bad = true
  · rw [if_pos hb, if_pos hb]; exact refl w
  rw [if_neg hb, if_neg hb]
  exact trans (ev (by simpa using hb)) (settleAcc_lift refl @trans poll mul_one stall _)

theorem scriptAcc_lift (one_mul : ∀ l : L, mul one l = l) (evs : List Ev)
    (emit : ∀ w o, (∃ e ∈ evs, o = .ev e) ∨ o = .stall → R w (w.emit o) one)
    (apply : ∀ e ∈ evs, ∀ w, R w (w.apply e) (fa w e)) (w : World) :
    R w (evs.foldl step w) (scriptAcc one mul fp fa w evs) := by
  induction evs generalizing w with
  | nil => exact refl w
  | cons e t ih =>
    refine trans (stepAcc_lift refl @trans poll mul_one (fun w => emit w _ (Or.inr rfl)) w fun _ => ?_)
      (ih (fun w o h => emit w o (h.imp (fun ⟨e', he', h⟩ => ⟨e', by simp [he'], h⟩) id))
        (fun e' he' => apply e' (by simp [he'])) _)
    have h1 := trans (emit w (.ev e) (Or.inl ⟨e, by simp, rfl⟩)) (apply e (by simp) (w.emit (.ev e)))
    rwa [one_mul] at h1

end Acc

section Lift
variable {R : World → World → Prop} (refl : ∀ w, R w w) (trans : ∀ {a b c : World}, R a b → R b c → R a c)
include refl trans

theorem drain_lift (poll : ∀ w t, w.pick = some t → R w (w.pollTask t)) (f : Nat) (w : World) : R w (drain f w) :=
  drainAcc_lift (one := ()) (mul := fun _ _ => ()) (fp := fun _ _ => ()) (R := fun w w' _ => R w w') refl trans poll f w

theorem sweep_lift_unflagged (poll : ∀ w t, w.taskLive t = true → t ∉ w.woken → t ∉ w.held → R w (w.pollTask t))
    (w : World) : R w w.sweep :=
  sweepAcc_lift (one := ()) (mul := fun _ _ => ()) (fp := fun _ _ => ()) (R := fun w w' _ => R w w') refl trans poll w

theorem sweep_lift (poll : ∀ w t, w.taskLive t = true → t ∉ w.held → R w (w.pollTask t)) (w : World) : R w w.sweep :=
  sweep_lift_unflagged refl @trans (fun w t hl _ hh => poll w t hl hh) w

variable (poll : ∀ w t, w.taskLive t = true → t ∉ w.held → R w (w.pollTask t))
include poll

theorem settle_lift (stall : ∀ w, R w (w.emit .stall)) (w : World) : R w w.settle :=
  settleAcc_lift (one := ()) (mul := fun _ _ => ()) (fp := fun _ _ => ()) (R := fun w w' _ => R w w') refl trans poll
    (fun _ => rfl) stall w

theorem step_lift_ev (stall : ∀ w, R w (w.emit .stall)) (w : World) (e : Ev)
    (ev : w.bad = false → R w ((w.emit (.ev e)).apply e)) : R w (w.step e) :=
  stepAcc_lift (one := ()) (mul := fun _ _ => ()) (fp := fun _ _ => ()) (fa := fun _ _ => ()) (R := fun w w' _ => R w w')
    refl trans poll (fun _ => rfl) stall w ev

end Lift

/-- `P` holds of every event of the script in the world the step starts from, before the `EV` line is logged (`stepAcc`
    labels the event in the world after that line), as long as the script is not refused -/
def Along (P : World → Ev → Prop) (w : World) : List Ev → Prop
  | [] => True
  | e :: t => (w.bad = false → P w e) ∧ Along P (w.step e) t

section Along
variable {P Q : World → Ev → Prop}

theorem Along.of_forall {P : Ev → Prop} {evs : List Ev} (h : ∀ e ∈ evs, P e) (w : World) :
    Along (fun _ => P) w evs := by
  induction evs generalizing w with
  | nil => trivial
  | cons e t ih => exact ⟨fun _ => h e List.mem_cons_self, ih (fun e' he' => h e' (List.mem_cons_of_mem _ he')) _⟩

theorem Along.and {w : World} {evs : List Ev} (hp : Along P w evs) (hq : Along Q w evs) :
    Along (fun w e => P w e ∧ Q w e) w evs := by
  induction evs generalizing w with
  | nil => trivial
  | cons e t ih => exact ⟨fun hb => ⟨hp.1 hb, hq.1 hb⟩, ih hp.2 hq.2⟩

theorem Along.steps {I : World → Prop} (hstep : ∀ w e, I w → (w.bad = false → P w e) → I (w.step e))
    (w : World) (evs : List Ev) (h : I w) (hp : Along P w evs) : I (evs.foldl step w) := by
  induction evs generalizing w with
  | nil => exact h
  | cons e t ih => exact ih _ (hstep w e h hp.1) hp.2

theorem steps_inv_along {I : World → Prop} (poll : ∀ w t, w.taskLive t = true → t ∉ w.held → I w → I (w.pollTask t))
    (emit : ∀ w o, I w → I (w.emit o)) (apply : ∀ w e, I w → P w e → I (w.apply e))
    (emitP : ∀ w o e, P w e → P (w.emit o) e)
    (w : World) (evs : List Ev) (h : I w) (hp : Along P w evs) : I (evs.foldl step w) :=
  Along.steps (fun w e h hp => step_lift_ev (R := fun a b => I a → I b) (fun _ h => h) (fun f g h => g (f h)) poll
    (fun w => emit w _) w e (fun hb h => apply _ e (emit w _ h) (emitP w _ e (hp hb))) h) w evs h hp

end Along

end World
end Poster

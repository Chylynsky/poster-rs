/-
  The panics a whole script can log, and where the documented assertion can come from. The relation `W5Trk P` carries
  two facts together: every observation added is `PanicDoc` (no panic, or one of the three panics the model has at all);
  and `ConnOnlyIf P` — "the context task is the `connect()` / `authorize()` future, or `PANIC ctx assert-subid` is in
  the transcript, only if `P`" — is kept by every event `e` provided `P` holds whenever `e` is `connect` / `authorize`. At the end, for the transcript
  of a run under any scheduler (`RunAny`): its panics are among those three, and with pairwise distinct operation
  identifiers only the documented assertion is left (`RunAny.documented`), which is what Properties/C04World.lean uses.
-/
import PosterModel.Lemmas.WorldReach
import PosterModel.Lemmas.WorldPanic
import PosterModel.Properties.C04
import PosterModel.Lemmas.WorldOpsEx
import PosterModel.Lemmas.WorldDuring

namespace Poster
open Framing
namespace World

/-- the only panics the model can log at all -/
def PanicDoc (o : Obs) : Prop :=
  ∀ t cls, o = .panic t cls →
    (t = .ctx ∧ (cls = "assert-subid" ∨ cls = "other")) ∨ (∃ id, t = .op id ∧ cls = "unreachable")

theorem panicDoc_of_calm {o : Obs} (h : Obs.calm o) : PanicDoc o := fun t cls e => absurd e (h t cls)

/-- the context task is the `connect()` / `authorize()` future -/
def IsConn (w : World) : Prop := ∃ call t a st, w.task = .connecting call t a st

/-- the event creates a `connect()` / `authorize()` future -/
def ConnEv (e : Ev) : Prop := (∃ t, e = .connect t) ∨ (∃ a, e = .authorize a)

/-- "connecting, or the assertion was logged, only if `P`" -/
def ConnOnlyIf (P : Prop) (w : World) : Prop := (IsConn w ∨ Obs.panic .ctx "assert-subid" ∈ w.out) → P

/-- `w'` extends the transcript of `w` by documented observations only, and keeps `ConnOnlyIf P` -/
def W5Trk (P : Prop) (w w' : World) : Prop := OutExtP PanicDoc w w' ∧ (ConnOnlyIf P w → ConnOnlyIf P w')

theorem W5Trk.refl (P : Prop) (w : World) : W5Trk P w w := ⟨outExtP_refl _ _, id⟩
theorem W5Trk.trans {P : Prop} {a b c : World} (h1 : W5Trk P a b) (h2 : W5Trk P b c) : W5Trk P a c :=
  ⟨outExtP_trans h1.1 h2.1, fun h => h2.2 (h1.2 h)⟩

theorem W5Trk.of_calm {P : Prop} {w w' : World} (ho : OutExtP Obs.calm w w') (ht : IsConn w' → IsConn w) :
    W5Trk P w w' := by
  refine ⟨outExtP_mono ho (fun _ => panicDoc_of_calm), fun hj h => ?_⟩
  rcases h with h | h
  · exact hj (Or.inl (ht h))
  · obtain ⟨added, e, hc⟩ := ho
    rw [e] at h
    rcases List.mem_append.mp h with h | h
    · exact hj (Or.inr h)
    · exact absurd rfl (hc _ h .ctx "assert-subid")

theorem W5Trk.of_P {P : Prop} {w w' : World} (ho : OutExtP Obs.calm w w') (hp : P) : W5Trk P w w' :=
  ⟨outExtP_mono ho (fun _ => panicDoc_of_calm), fun _ _ => hp⟩

theorem W5Trk.emit {P : Prop} (w : World) (o : Obs) (ho : Obs.calm o) : W5Trk P w (w.emit o) :=
  W5Trk.of_calm (outExtP_one o rfl ho) (by rintro ⟨c, t, a, s, h⟩; exact ⟨c, t, a, s, by simpa using h⟩)

theorem panicDoc_of_ctxObs {w : World} {o : Obs} (h : CtxObs w o) : PanicDoc o := by
  rcases h with hc | ⟨rfl, _⟩ | ⟨rfl, _⟩
  · exact panicDoc_of_calm hc
  · intro t cls e; cases e; exact Or.inl ⟨rfl, Or.inl rfl⟩
  · intro t cls e; cases e; exact Or.inl ⟨rfl, Or.inr rfl⟩

theorem pollCtxS_conn (sched : Nat → Bool) (w : World) (h : IsConn (w.pollCtxS sched)) : IsConn w := by
  obtain ⟨c, t, a, s, h⟩ := h
  rcases pollCtxS_outcome sched w with ⟨h1, _⟩ | ⟨h1, _⟩
  · rw [h1] at h
    cases ht : w.task with
    | connecting call t' a' st => exact ⟨call, t', a', st, ht⟩
    | none => rw [ht] at h; cases h
    | running st => rw [ht] at h; cases h
  · rw [h1] at h; cases h

/-- the context future logs the documented assertion only while it is the `connect()` / `authorize()` future
    (`CtxObs`); a handle future or a stream logs no line of the context task and leaves the task alone -/
theorem pollTaskAny_trk (P : Prop) {w : World} {t : Task} {w' : World} (hp : PollTaskAny w t w') : W5Trk P w w' := by
  rcases pollTaskAny_cases hp with ⟨rfl, sched, rfl⟩ | ⟨ht, rfl⟩
  · obtain ⟨added, e, hP⟩ := pollCtxS_panics sched (w.unwake .ctx)
    have e' : ((w.unwake .ctx).pollCtxS sched).out = w.out ++ added := e
    refine ⟨⟨added, e', fun o ho => panicDoc_of_ctxObs (hP o ho)⟩, fun hj h => ?_⟩
    rcases h with h | h
    · exact hj (Or.inl (pollCtxS_conn sched (w.unwake .ctx) h))
    · rw [e'] at h
      rcases List.mem_append.mp h with h | h
      · exact hj (Or.inr h)
      · rcases hP _ h with hc | ⟨_, call, tx, a, st, _, _, _, _, ht, _⟩ | ⟨he, _⟩
        · exact absurd rfl (hc .ctx "assert-subid")
        · exact hj (Or.inl ⟨call, tx, a, st, ht⟩)
        · simp at he
  · have m := pollTask_userMove w t ht
    obtain ⟨added, e, hQ⟩ : OutExtP (TaskLine t) w (w.pollTask t) := outExtP_of_out m.out
    refine ⟨⟨added, e, fun o ho => ?_⟩, fun hj h => hj (h.imp ?_ ?_)⟩
    · exact (hQ o ho).user (P := PanicDoc) ht (fun _ _ _ _ => nofun) (fun id _ _ h => by cases h; exact Or.inr ⟨id, rfl, rfl⟩)
        (fun _ _ _ _ => nofun) (fun _ _ _ => nofun)
    · rintro ⟨c, t, a, s, h⟩; exact ⟨c, t, a, s, m.frame.task ▸ h⟩
    · intro h
      rw [e] at h
      refine (List.mem_append.mp h).resolve_right fun h => ?_
      exact (hQ _ h).user (P := fun o => o ≠ .panic .ctx "assert-subid") ht (fun _ _ => nofun) (fun _ => nofun)
        (fun _ _ => nofun) (fun _ => nofun) rfl


theorem W5Trk.pollTask (P : Prop) (w : World) (t : Task) : W5Trk P w (w.pollTask t) :=
  pollTaskAny_trk P (pollTaskAny_pollTask w t)

theorem PanicDoc.pollTask (w : World) (t : Task) : OutExtP PanicDoc w (w.pollTask t) := (W5Trk.pollTask True w t).1

theorem W5Trk.flushRaw (P : Prop) (w : World) : W5Trk P w w.flushRaw :=
  W5Trk.of_calm (flushRaw_outExtP w (by intro t c h; cases h))
    (by rintro ⟨c, t, a, s, h⟩; exact ⟨c, t, a, s, (flushRaw_task w) ▸ h⟩)

/-- an event polls a task, or starts a call — `connect()` / `authorize()` only if `P` —, or is passive: it logs no
    panic and leaves the context task alone or drops it -/
theorem W5Trk.applied (P : Prop) {w w' : World} {e : Ev} (h : Applied w e w') (hp : ConnEv e → P) : W5Trk P w w' := by
  rcases W7.applied_cases h with ⟨t, rfl, rfl⟩ | ⟨tk, hk, rfl⟩ | pas
  · exact W5Trk.pollTask P w t
  · have ho : OutExtP Obs.calm w (({ w with task := tk } : World).wake .ctx) := outExtP_of_eq (wake_out _ _)
    cases e with
    | connect t => exact W5Trk.of_P ho (hp (Or.inl ⟨t, rfl⟩))
    | authorize a => exact W5Trk.of_P ho (hp (Or.inr ⟨a, rfl⟩))
    | run =>
      cases hk
      exact W5Trk.of_calm ho (by rintro ⟨c, t, a, s, h⟩; simp at h)
    | _ => cases hk
  · refine W5Trk.of_calm (outExtP_mono pas.out fun o ho => ?_) ?_
    · rcases ho with rfl | rfl | ⟨_, rfl⟩ | ⟨_, rfl⟩ <;> (intro t c h; cases h)
    · rintro ⟨c, t, a, s, h⟩
      rcases pas.task with e | e
      · exact ⟨c, t, a, s, e ▸ h⟩
      · rw [e] at h; cases h

theorem stepsAny_trk (P : Prop) {evs : List Ev} (hp : ∀ e ∈ evs, ConnEv e → P) {w w' : World}
    (h : StepsAny w evs w') : W5Trk P w w' :=
  StepsAny.rel (W5Trk.refl P) W5Trk.trans (fun _ hpoll => pollTaskAny_trk P hpoll)
    (fun e he w => W5Trk.applied P (apply_spec w e) (hp e he))
    (fun w o ho => W5Trk.emit w o (by rcases ho with ⟨e, _, rfl⟩ | rfl <;> (intro t c h; cases h))) h

theorem W5Trk.steps (P : Prop) (evs : List Ev) (w : World) (hp : ∀ e ∈ evs, ConnEv e → P) :
    W5Trk P w (evs.foldl step w) := stepsAny_trk P hp (stepsAny_foldl evs w)

theorem W5Trk.run (P : Prop) (cfg : Cfg) (evs : List Ev) (hp : ∀ e ∈ evs, ConnEv e → P) :
    W5Trk P { cfg := cfg } (evs.foldl step { cfg := cfg }).finishScript :=
  W5Trk.trans (W5Trk.steps P evs _ hp) (W5Trk.flushRaw P _)

theorem PanicDoc.drain (f : Nat) (w : World) : OutExtP PanicDoc w (drain f w) :=
  drain_lift (outExtP_refl _) outExtP_trans (fun w t _ => PanicDoc.pollTask w t) f w
theorem PanicDoc.sweep (w : World) : OutExtP PanicDoc w w.sweep :=
  sweep_lift (outExtP_refl _) outExtP_trans (fun w t _ _ => PanicDoc.pollTask w t) w
theorem w5_step_doc (w : World) (e : Ev) : OutExtP PanicDoc w (w.step e) := (W5Trk.steps True [e] w (fun _ _ _ => trivial)).1
theorem w5_steps_doc (evs : List Ev) (w : World) : OutExtP PanicDoc w (evs.foldl step w) :=
  (W5Trk.steps True evs w (fun _ _ _ => trivial)).1
theorem PanicDoc.flushRaw (w : World) : OutExtP PanicDoc w w.flushRaw := (W5Trk.flushRaw True w).1

theorem RunAny.panicDoc {cfg : Cfg} {evs : List Ev} {out : List Obs} (h : RunAny cfg evs out) : ∀ o ∈ out, PanicDoc o :=
  h.of_outExtP (fun hw => (stepsAny_trk True (fun _ _ _ => trivial) hw).1) fun _ => panicDoc_of_calm (calm_wire _).2

theorem run_assert_needs_connEv (cfg : Cfg) (evs : List Ev)
    (h : Obs.panic .ctx "assert-subid" ∈ World.run cfg evs) : ∃ e ∈ evs, ConnEv e := by
  have tr := W5Trk.run (∃ e ∈ evs, ConnEv e) cfg evs (fun e he hc => ⟨e, he, hc⟩)
  refine tr.2 ?_ (Or.inr h)
  rintro (⟨c, t, a, s, h0⟩ | h0)
  · cases h0
  · simp at h0

/-! ### a concrete script that logs the documented assertion (for the non-vacuity examples of Properties/C04World.lean) -/

theorem W5.step_after_drain (w : World) (e : Ev) (hb : w.bad = false)
    (hab : ((w.emit (.ev e)).apply e).bad = false) :
    OutExtP PanicDoc (drain ((w.emit (.ev e)).apply e).drainFuel ((w.emit (.ev e)).apply e)) (w.step e) := by
  rw [step_eq_settle, if_neg (by simp [hb]), settle_eq, if_neg (by simp [hab])]
  generalize (w.emit (.ev e)).apply e = w1
  have h3 : OutExtP PanicDoc (drain w1.drainFuel w1) (drained w1) := by
    unfold drained
    simp only
    split
    · exact outExtP_trans (PanicDoc.sweep _) (PanicDoc.drain _ _)
    · exact outExtP_refl _ _
  split
  · exact outExtP_trans h3 (outExtP_one .stall rfl (panicDoc_of_calm (by intro t c h; cases h)))
  · exact h3

/-- `connect()` / `authorize()` polled for the first time on a transport that takes the request, with the
    CONNACK announcing no subscription-identifier support already readable: the request is written and the
    assertion fires in the same poll -/
theorem W5.pollConnect_first_assert (w : World) (call : Call) (tx : ConnectTx) (a : AuthTx) (rx' : Rx)
    (rd' : List ReadEv) (fr : Bytes) (k : ConnackRx) (hv : reqValid call tx a = true) (hw : w.cfg.wlimit = none)
    (hp : pollNext w.rx w.reader = (rx', rd', .item fr)) (hd : decodeRx fr = .ok (.connack k))
    (hk : k.reason < 128) (hs : k.subIdAvail = false) :
    ∃ pre, (w.pollConnect call tx a false).out = w.out ++ pre ++ [.panic .ctx "assert-subid"] := by
  have key : ∀ (w0 : World) (pkt : Bytes), w0.rx = w.rx → w0.reader = w.reader → w0.out = w.out →
      ∃ pre, ((w0.writeBytes pkt).awaitFirst call tx a).out = w.out ++ pre ++ [.panic .ctx "assert-subid"] := by
    intro w0 pkt h1 h2 h3
    have e := (awaitFirst_panics (w0.writeBytes pkt) call tx a).1.mpr
      ⟨rx', rd', fr, k, by simpa [h1, h2] using hp, hd, hk, hs⟩
    obtain ⟨pre, _, e2⟩ := writeBytes_outExt w0 pkt
    exact ⟨pre, by rw [e, e2, h3]⟩
  cases call with
  | connect =>
    simp only [reqValid] at hv
    simp only [pollConnect, Bool.false_eq_true, ↓reduceIte, hv, Bool.not_true, canWrite, hw]
    exact key _ _ rfl rfl rfl
  | authorize =>
    simp only [reqValid] at hv
    simp only [pollConnect, Bool.false_eq_true, ↓reduceIte, hv, Bool.not_true, canWrite, hw]
    exact key _ _ rfl rfl rfl
  | run =>
    simp only [reqValid] at hv
    simp only [pollConnect, Bool.false_eq_true, ↓reduceIte, hv, Bool.not_true, canWrite, hw]
    exact key _ _ rfl rfl rfl

/-- `SETUP`, the broker's CONNACK (no subscription-identifier support) already readable, then `connect()` -/
def evsAssert : List Ev := [.setup, .feed [Ex.connackNoSubId], .connect {}]

def w5_a2 : World :=
  { s1 with reader := [.data Ex.connackNoSubId], out := s1.out ++ [.ev (.feed [Ex.connackNoSubId])] }
def w5_a3 : World :=
  { w5_a2 with task := .connecting .connect {} {} false, woken := [.ctx], out := w5_a2.out ++ [.ev (.connect {})] }

theorem evsAssert_panics : Obs.panic .ctx "assert-subid" ∈ World.run {} evsAssert := by
  show _ ∈ (((({} : World).step .setup).step (.feed [Ex.connackNoSubId])).step (.connect {})).finishScript.out
  rw [stage1, show s1.step (.feed [Ex.connackNoSubId]) = w5_a2 by decide]
  refine (PanicDoc.flushRaw _).prefix.subset ?_
  refine (W5.step_after_drain w5_a2 _ (by decide) (by decide)).prefix.subset ?_
  rw [show (w5_a2.emit (.ev (.connect {}))).apply (.connect {}) = w5_a3 by decide, drain_pick _ _ .ctx (by decide) (by decide)]
  refine (PanicDoc.drain _ _).prefix.subset ?_
  obtain ⟨pre, e⟩ := W5.pollConnect_first_assert (w5_a3.unwake .ctx) .connect {} {} {} [] Ex.connackNoSubId Ex.kNoSubId
    (by decide) (by decide) Ex.pn_connackNoSubId Ex.dec_connackNoSubId (by decide) rfl
  have : w5_a3.pollTask .ctx = (w5_a3.unwake .ctx).pollConnect .connect {} {} false := rfl
  rw [this, e]
  simp

/-! ### the panics of a run under any scheduler -/

theorem RunAny.noUnr {cfg : Cfg} {evs : List Ev} {out : List Obs} (h : RunAny cfg evs out) (hn : (opIds evs).Nodup)
    (id : Nat) : Obs.panic (.op id) "unreachable" ∉ out := by
  obtain ⟨w, hs, rfl⟩ := h
  exact (((Good.init (fun _ => False) cfg).stepsAny hs hn (fun _ _ hx => hx)).move (flushRaw_move w)).noUnr id

theorem RunAny.enumerated {cfg : Cfg} {evs : List Ev} {out : List Obs} (h : RunAny cfg evs out) :
    ∀ o ∈ out, (∃ t cls, o = .panic t cls) →
      o = .panic .ctx "assert-subid" ∨ ∃ id, o = .panic (.op id) "unreachable" := by
  rintro o ho ⟨t, cls, rfl⟩
  rcases h.panicDoc _ ho t cls rfl with ⟨rfl, rfl | rfl⟩ | ⟨id, rfl, rfl⟩
  · exact Or.inl rfl
  · exact absurd ho h.no_other
  · exact Or.inr ⟨id, rfl⟩

theorem RunAny.documented {cfg : Cfg} {evs : List Ev} {out : List Obs} (h : RunAny cfg evs out)
    (hn : (opIds evs).Nodup) : ∀ o ∈ out, (∃ t cls, o = .panic t cls) → o = .panic .ctx "assert-subid" := by
  intro o ho hp
  rcases h.enumerated o ho hp with e | ⟨id, rfl⟩
  · exact e
  · exact absurd ho (h.noUnr hn id)

end World
end Poster

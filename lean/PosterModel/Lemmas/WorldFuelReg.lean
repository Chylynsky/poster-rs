/-
  The registration invariant `RegInv` of the whole client: every oneshot whose receiver has registered its
  waker (`World.slotReg`) belongs to an operation that is waiting on exactly that oneshot. The context side only
  ever removes registrations (`RegSub`) and never touches the operation table; a handle future registers only
  the oneshot it is waiting on, and un-registers it before it completes.
-/
import PosterModel.Lemmas.WorldFuelRun
import PosterModel.Lemmas.WorldOwnDrop

namespace Poster
open Framing
namespace World

/-- every registered oneshot waker belongs to an operation that waits on exactly that oneshot -/
def RegInv (w : World) : Prop := ∀ s, s ∈ w.slotReg → ∃ k, w.opSt (s / 2) = some (.wait s k)

theorem regInv_init (cfg : Cfg) : RegInv { cfg := cfg } := by
  intro s hs
  simp at hs

theorem RegSub.regInv {w w' : World} (f : RegSub w w') (h : RegInv w) : RegInv w' := by
  intro s hs
  obtain ⟨k, hk⟩ := h s (f.sub s hs)
  exact ⟨k, by simpa [opSt, f.ops_eq] using hk⟩

theorem w5_regSub_clearSlot (w : World) (s : Nat) : RegSub w (w.clearSlot s) :=
  ⟨rfl, fun _ h => (List.mem_filter.mp h).1⟩

theorem w5_regSub_wake (w : World) (t : Task) : RegSub w (w.wake t) := RegSub.of_eq (wake_ops w t) (wake_slotReg w t)
theorem RegSub.unwake (w : World) (t : Task) : RegSub w (w.unwake t) := RegSub.of_eq rfl rfl

theorem RegSub.pollCtxS (sched : Nat → Bool) (w : World) : RegSub w (w.pollCtxS sched) := (W5.pollCtxS_pot sched w).1

theorem RegSub.pollCtx (w : World) : RegSub w w.pollCtx := pollCtxS_false w ▸ RegSub.pollCtxS _ w

theorem w5_pollCtx_ops (w : World) : w.pollCtx.ops = w.ops := (RegSub.pollCtx w).ops_eq

theorem w5_pollCtx_slotReg_sub (w : World) : ∀ s, s ∈ w.pollCtx.slotReg → s ∈ w.slotReg :=
  (RegSub.pollCtx w).sub

theorem RegSub.closes {w w' : World} (h : Closes w w') : RegSub w w' := by
  obtain ⟨es, _, rfl⟩ := h.effs
  exact (W5.applyEffs_effStep w es).1.reg

theorem RegSub.pollStream (w : World) (id : Nat) : RegSub w (w.pollStream id) := by
  obtain ⟨ch, st, wk, ou, e, _⟩ := pollStream_footprint w id
  rw [e]; exact RegSub.of_eq rfl rfl

/-! A poll of the handle future `id` first takes the future's own registration back (`Consumed`, `pollOp_spec`); then the operation leaves the table
(`RegInv.erase`) or starts to wait on a oneshot of its own, the only one it may register (`RegInv.await`). -/

theorem RegInv.erase {a b : World} {id : Nat} (h : RegInv a) (hc : Consumed id a) (e : b.ops = eraseFirst id a.ops)
    (r : b.slotReg = a.slotReg) : RegInv b := by
  intro s hs
  obtain ⟨k, hk⟩ := h s (r ▸ hs)
  have hj : s / 2 ≠ id := fun hj => hc s k (hj ▸ hk) (r ▸ hs)
  exact ⟨k, by rw [opSt, e, lookupFirst_eraseFirst_of_ne hj]; exact hk⟩

theorem RegInv.await {a b : World} {id s : Nat} {k : Wait} (h : RegInv a) (hc : Consumed id a) (hs : s / 2 = id)
    (e : b.ops = setAssoc id (.wait s k) a.ops) (r : ∀ s', s' ∈ b.slotReg → s' = s ∨ s' ∈ a.slotReg) : RegInv b := by
  intro s' hs'
  rcases r s' hs' with rfl | hr
  · exact ⟨k, by rw [hs]; exact opSt_setWait id s' k e⟩
  · obtain ⟨k', hk'⟩ := h s' hr
    have hj : s' / 2 ≠ id := fun hj => hc s' k' (hj ▸ hk') hr
    exact ⟨k', by rw [opSt, e, lookupFirst_setAssoc_of_ne hj]; exact hk'⟩

theorem regInv_pollOp (w : World) (id : Nat) (hso : ∀ s k, w.opSt id = some (.wait s k) → SlotOf id s k)
    (h : RegInv w) : RegInv (w.pollOp id) := by
  rcases pollOp_spec w id with ⟨_, e⟩ | ⟨s, k, hop, _, e⟩ | ⟨st, w0, ho, hp, hend⟩
  · rw [e]; exact h
  · rw [e]
    intro s' hs'
    rcases mem_register_iff.1 hs' with rfl | hr
    · exact ⟨k, by show w.opSt (s' / 2) = _; rw [(hso s' k hop).half]; exact hop⟩
    · exact h s' hr
  · have h0 : RegInv w0 := (⟨hp.ops, fun _ => hp.slotReg_subset⟩ : RegSub w w0).regInv h
    have hc := hp.consumed ho
    rcases hend with ⟨o, _, e, _⟩ | ⟨m, s, k, hw, hctx, e, _⟩ <;> rw [e]
    · obtain ⟨wk, qr, e'⟩ := endOp_shape w0 id o
      exact h0.erase hc (by rw [e']) (by rw [e'])
    · -- the oneshot of the request, or — after a PUBREC, which came on `2 * id` — the next one
      have hs : s / 2 = id := by
        rcases hw.shape with ⟨_, _, _, rfl, _⟩ | ⟨s0, rfl, rfl, _⟩
        · omega
        · rcases hso s0 .pubrec ho with rfl | ⟨_, hk⟩
          · omega
          · cases hk
      obtain ⟨wk, qr, e'⟩ := User.sendAwait_ctx w0 m id s k hctx
      exact h0.await hc hs (by rw [e']) (fun s' hs' => by rw [e'] at hs'; exact mem_register_iff.1 hs')

/-- the owner drops a handle future (a pending `subscribe` also drops its response channel: neither the table nor
    the registrations change) -/
theorem regInv_dropOp (w : World) (id : Nat) (h : RegInv w) : RegInv (w.dropOp id) := by
  rcases dropOp_spec w id with ⟨_, e⟩ | ⟨st, w0, hop, hp, e⟩ <;> rw [e]
  · exact h
  · obtain ⟨wk, qr, e'⟩ := eraseOp_shape w0 id
    -- in the prepared world the registration of the dropped future, if it had one, is taken back
    have h0 : RegInv w0 ∧ Consumed id w0 := by
      cases hp with
      | fresh hd req => exact ⟨h, fun s k h' => by rw [hop] at h'; cases h'⟩
      | wait s k ch _ =>
        exact ⟨fun s' hs' => h s' (List.mem_filter.mp hs').1, fun s' k' h' => by
          have h' : w.opSt id = _ := h'
          rw [hop] at h'
          cases h'
          exact fun hm => by simpa using (List.mem_filter.mp hm).2⟩
    exact h0.1.erase h0.2 (by rw [e']) (by rw [e'])

theorem regInv_pollTaskAny {w : World} {t : Task} {w' : World} (ho : OwnInv w) (h : RegInv w)
    (hp : PollTaskAny w t w') : RegInv w' := by
  obtain ⟨sched, rfl⟩ := hp
  cases t with
  | ctx => exact (RegSub.trans (RegSub.unwake w .ctx) (RegSub.pollCtxS sched _)).regInv h
  | op n =>
    exact regInv_pollOp (w.unwake (.op n)) n (fun s k hop => ho.slotOf n s k hop) ((RegSub.unwake w _).regInv h)
  | st n => exact (RegSub.trans (RegSub.unwake w (.st n)) (RegSub.pollStream _ n)).regInv h

theorem regInv_pollTask (w : World) (t : Task) (ho : OwnInv w) (h : RegInv w) : RegInv (w.pollTask t) :=
  regInv_pollTaskAny ho h (pollTaskAny_pollTask w t)

theorem regInv_emit (w : World) (o : Obs) (h : RegInv w) : RegInv (w.emit o) :=
  (RegSub.of_eq (w' := w.emit o) rfl rfl).regInv h

theorem regInv_applied {w w' : World} {e : Ev} (a : Applied w e w') (ho : OwnInv w) (h : RegInv w) : RegInv w' := by
  cases a.norm with
  | poll t => exact regInv_pollTask w t ho h
  | op id hd req =>
    -- a new handle future: its identifier is unused, so no registration belongs to it
    intro s hs
    obtain ⟨k, hk⟩ := h s hs
    exact ⟨k, by
      show lookupFirst (s / 2) (w.ops ++ [(id, OpSt.fresh hd req)]) = _
      rw [lookupFirst_append, show lookupFirst (s / 2) w.ops = some (.wait s k) from hk]⟩
  | dropOp id o sl sr ch wk qr e => rw [← e]; exact regInv_dropOp w id h
  | dropCtx sl sr ch wk e =>
    have r := RegSub.trans (RegSub.of_eq rfl rfl : RegSub w (dropCtxStart w))
      (RegSub.closes (closes_dropCtxClosed w))
    rw [e] at r
    exact fun s hs => h s (r.sub s hs)
  -- the other events touch neither the table of operations nor the registrations
  | _ => exact (RegSub.of_eq rfl rfl).regInv h

theorem regInv_apply (w : World) (e : Ev) (ho : OwnInv w) (h : RegInv w) : RegInv (w.apply e) :=
  regInv_applied (apply_spec w e) ho h

theorem ownReg_anyInv : AnyInv (fun w => OwnInv w ∧ RegInv w) :=
  ⟨fun _ hi hp => ⟨own_pollTaskAny hi.1 hp, regInv_pollTaskAny hi.1 hi.2 hp⟩,
    fun w e hi => ⟨own_apply w e hi.1, regInv_apply w e hi.1 hi.2⟩,
    fun w o hi => ⟨own_emit w o hi.1, regInv_emit w o hi.2⟩⟩

theorem regInv_drain (f : Nat) (w : World) (ho : OwnInv w) (h : RegInv w) : RegInv (drain f w) :=
  (ownReg_anyInv.drainAny (drainAny_drain f w) ⟨ho, h⟩).2

theorem regInv_sweep (w : World) (ho : OwnInv w) (h : RegInv w) : RegInv w.sweep :=
  (ownReg_anyInv.sweepAny (sweepAny_sweep w) ⟨ho, h⟩).2

theorem regInv_steps (evs : List Ev) (w : World) (ho : OwnInv w) (h : RegInv w) : RegInv (evs.foldl step w) :=
  (ownReg_anyInv.stepsAny (stepsAny_foldl evs w) ⟨ho, h⟩).2

theorem regInv_step (w : World) (e : Ev) (ho : OwnInv w) (h : RegInv w) : RegInv (w.step e) :=
  regInv_steps [e] w ho h

theorem regInv_script (cfg : Cfg) (evs : List Ev) : RegInv (evs.foldl step { cfg := cfg }) :=
  regInv_steps evs _ (ownInv_init cfg) (regInv_init cfg)

/-- a ping is started (its message is queued, its oneshot `2` registered); a QoS 2 publish in its second phase
    would be registered on `2*id+1` (the hand-written world of the last example has one) -/
def w5_scrPing : List Ev := [.setup, .op 1 0 .ping]

/-- the invariants hold in a reachable world that has a registration (so the hypotheses of `regInv_pollTask`,
    `regInv_apply`, `regInv_drain`, `regInv_sweep`, `regInv_step` are satisfiable, and `RegInv` is not trivially
    true there) -/
example : OwnInv (w5_scrPing.foldl step {}) ∧ RegInv (w5_scrPing.foldl step {}) ∧
    (w5_scrPing.foldl step {}).slotReg = [2] ∧ (w5_scrPing.foldl step {}).opSt 1 = some (.wait 2 .pingresp) :=
  ⟨ownInv_script {} _, regInv_script {} _, by decide, by decide⟩

/-- `RegInv` can fail: a registration without a waiting operation (such a world is not reachable) -/
example : ¬ RegInv { slotReg := [2] } := by
  intro h
  obtain ⟨k, hk⟩ := h 2 (by simp)
  simp [opSt, lookupFirst] at hk

/-- a hand-written world with both kinds of registration (`2*id` and, in the PUBCOMP phase, `2*id+1`) -/
example : RegInv { ops := [(1, .wait 2 .puback), (3, .wait 7 .pubcomp), (5, .fresh 0 .ping)], slotReg := [7, 2] } := by
  intro s hs
  simp only [List.mem_cons, List.not_mem_nil, or_false] at hs
  rcases hs with rfl | rfl
  · exact ⟨.pubcomp, by decide⟩
  · exact ⟨.puback, by decide⟩

end World
end Poster

#print axioms Poster.World.regInv_init
#print axioms Poster.World.regInv_pollTask
#print axioms Poster.World.regInv_apply
#print axioms Poster.World.regInv_emit
#print axioms Poster.World.regInv_drain
#print axioms Poster.World.regInv_sweep
#print axioms Poster.World.regInv_step
#print axioms Poster.World.w5_pollCtx_ops
#print axioms Poster.World.w5_pollCtx_slotReg_sub
#print axioms Poster.World.regInv_script

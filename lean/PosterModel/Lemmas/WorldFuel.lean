/-
  C04: the executor reaches quiescence within the fuel `drainFuel` gives it. Every poll it makes strictly decreases
  the potential `W5.phi` (`pollTaskAny_phi`, in a world with `OwnInv` and `RegInv`); the potential is below `drainFuel` while at most 30 never-polled operations are ready at
  once (a never-polled operation is the only thing that costs more than the 4 units the fuel formula grants per
  table entry); and along a script at most ONE is ready when a drain starts (Lemmas/WorldFuelScript.lean).
-/
import PosterModel.Lemmas.WorldFuelOp
import PosterModel.Lemmas.WorldFuelUser
import PosterModel.Lemmas.WorldFuelReg
import PosterModel.Lemmas.WorldPanic

namespace Poster
open Framing
namespace World
namespace W5

theorem regE_of_regInv {w : World} (hn : (w.ops.map (·.1)).Nodup) (h : RegInv w) : RegE w := by
  intro s hs id st hm hid
  obtain ⟨k, hk⟩ := h s hs
  have h1 := lookupFirst_of_mem_nodup id st w.ops hn hm
  subst hid
  have e : lookupFirst (s / 2) w.ops = some (.wait s k) := hk
  rw [h1] at e
  exact ⟨k, Option.some.inj e⟩

theorem unwake_ctx_phi (w : World) (hl : w.task ≠ .none) (hw : Task.ctx ∈ w.woken) :
    phi (w.unwake .ctx) + 1 ≤ phi w := by
  obtain ⟨h1, h2⟩ := unwake_pots w .ctx nofun
  have h3 : ctxFlag (w.unwake .ctx) = 0 := by simp [ctxFlag, mem_unwake_iff]
  have h4 : ctxFlag w = 1 := by simp [ctxFlag, hl, hw]
  have h5 : ctxZ (w.unwake .ctx) = ctxZ w := rfl
  have h6 : mu (w.unwake .ctx).rx (w.unwake .ctx).reader = mu w.rx w.reader := rfl
  unfold phi phiU
  rw [h6]
  omega

theorem pollTaskAny_phi {w : World} {t : Task} {w' : World} (hpoll : PollTaskAny w t w') (ho : OwnInv w) (hr : RegInv w)
    (hp : w.pick = some t) : phi w' < phi w := by
  obtain ⟨sched, rfl⟩ := hpoll
  obtain ⟨hw, hl, hh⟩ := pick_some_spec w t hp
  cases t with
  | ctx =>
    have hlive : w.task ≠ .none := by simpa [taskLive] using hl
    have hr0 : RegInv (w.unwake .ctx) := hr
    have hre : RegE (w.unwake .ctx) := regE_of_regInv (w := w.unwake .ctx) ho.nodup hr0
    have h1 := (pollCtxS_pot sched (w.unwake .ctx)).2 hre
    have h2 := unwake_ctx_phi w hlive hw
    show phi ((w.unwake .ctx).pollCtxS sched) < phi w
    omega
  | op id =>
    simp only [taskLive, Option.isSome_iff_exists] at hl
    obtain ⟨st, hst⟩ := hl
    exact pollOp_phi w id ho hw hh st hst
  | st id =>
    simp only [taskLive, decide_eq_true_eq] at hl
    exact pollStream_phi w id hw hl hh

theorem drainAny_quiet {f : Nat} {w w' : World} (h : DrainAny f w w') (ho : OwnInv w) (hr : RegInv w)
    (hf : phi w < f) : w'.pick = none := by
  induction h with
  | zero => omega
  | idle f w hp => exact hp
  | poll f t hp hpoll _ ih =>
    have h2 := pollTaskAny_phi hpoll ho hr hp
    exact ih (own_pollTaskAny ho hpoll) (regInv_pollTaskAny ho hr hpoll) (by omega)

/-- a never-polled operation that the script does not hold -/
def isFreshNH (held : List Task) (e : Nat × OpSt) : Bool :=
  match e.2 with
  | .fresh _ _ => decide (Task.op e.1 ∉ held)
  | .wait _ _ => false

def nFreshP (held : List Task) (ops : List (Nat × OpSt)) : Nat := (ops.filter (isFreshNH held)).length

/-- the number of never-polled operations ready to be polled -/
def nFresh (w : World) : Nat := nFreshP w.held w.ops

theorem opCost_le (held woken : List Task) (slots : List (Nat × Slot)) (e : Nat × OpSt) :
    opCost held woken slots e ≤ 4 + (if isFreshNH held e then 2 else 0) := by
  obtain ⟨id, st⟩ := e
  unfold opCost
  split
  · omega
  · rename_i hh
    cases st with
    | fresh h r => simp [isFreshNH, hh, opBase, opSpur]
    | wait s k =>
      have a := opBase_wait_le s k
      have b := opSpur_le woken slots id (.wait s k)
      simp only [isFreshNH]; omega

theorem sum_map_le_count {α} (f : α → Nat) (p : α → Bool) (l : List α)
    (h : ∀ x ∈ l, f x ≤ 4 + (if p x then 2 else 0)) : (l.map f).sum ≤ 4 * l.length + 2 * (l.filter p).length := by
  induction l with
  | nil => simp
  | cons a t ih =>
    have h1 := h a List.mem_cons_self
    have h2 := ih (fun x hx => h x (List.mem_cons_of_mem _ hx))
    simp only [List.map_cons, List.sum_cons, List.length_cons, List.filter_cons]
    by_cases hp : p a = true
    · simp only [hp, ↓reduceIte, List.length_cons] at h1 ⊢; omega
    · simp only [hp, Bool.false_eq_true, ↓reduceIte] at h1 ⊢; omega

theorem opsPot_le_fuel (w : World) : opsPot w ≤ 4 * w.ops.length + 2 * nFresh w :=
  sum_map_le_count _ _ _ (fun e _ => opCost_le _ _ _ e)

theorem stSum_le_fuel (w : World) : stSum w ≤ 3 * w.streams.length := by
  unfold stSum
  have h1 : ((uniq w.streams).map (stCost w.held w.woken w.chans)).sum ≤ ((uniq w.streams).map (fun _ => 3)).sum :=
    sum_map_le _ _ _ (fun n _ => stCost_le _ _ _ n)
  have h2 : ((uniq w.streams).map (fun _ => 3)).sum = 3 * (uniq w.streams).length := by
    generalize uniq w.streams = l
    induction l with
    | nil => rfl
    | cons a t ih => simp only [List.map_cons, List.sum_cons, List.length_cons, ih]; omega
  have h3 := length_uniq_le w.streams
  omega

theorem phi_lt_drainFuel (w : World) (h : nFresh w ≤ 30) : phi w < w.drainFuel := by
  have h1 := opsPot_le_fuel w
  have h2 := stSum_le_fuel w
  have h3 := ctxFlag_le_one w
  have h4 := ctxZ_le_one w
  unfold phi phiU stPot mu drainFuel bufSum
  omega

theorem nFresh_congr {w w' : World} (h1 : w'.ops = w.ops) (h2 : w'.held = w.held) : nFresh w' = nFresh w := by
  unfold nFresh; rw [h1, h2]

theorem nFreshP_erase (held : List Task) (id : Nat) (l : List (Nat × OpSt)) :
    nFreshP held (eraseFirst id l) ≤ nFreshP held l :=
  ((eraseFirst_sublist id l).filter _).length_le

theorem nFreshP_setAssoc_wait (held : List Task) (id s : Nat) (k : Wait) (l : List (Nat × OpSt)) :
    nFreshP held (setAssoc id (.wait s k) l) ≤ nFreshP held l := by
  induction l with
  | nil => simp [setAssoc, nFreshP, isFreshNH]
  | cons x t ih =>
    obtain ⟨a, b⟩ := x
    simp only [setAssoc]
    split
    · have h1 : nFreshP held ((id, OpSt.wait s k) :: t) = nFreshP held t := by
        simp [nFreshP, isFreshNH]
      have h2 : nFreshP held t ≤ nFreshP held ((a, b) :: t) := by
        unfold nFreshP
        simp only [List.filter_cons]
        split
        · simp
        · exact Nat.le_refl _
      omega
    · unfold nFreshP at ih ⊢
      simp only [List.filter_cons]
      split
      · simp only [List.length_cons]; omega
      · exact ih

theorem nFreshP_append_one (held : List Task) (l : List (Nat × OpSt)) (e : Nat × OpSt) :
    nFreshP held (l ++ [e]) ≤ nFreshP held l + 1 := by
  simp only [nFreshP, List.filter_append, List.length_append, List.filter_cons, List.filter_nil]
  split <;> simp

theorem length_filter_le_add {α} (p' p q : α → Bool) (l : List α)
    (h : ∀ x ∈ l, p' x = true → p x = true ∨ q x = true) :
    (l.filter p').length ≤ (l.filter p).length + (l.filter q).length := by
  induction l with
  | nil => simp
  | cons a t ih =>
    have iht := ih (fun x hx => h x (List.mem_cons_of_mem _ hx))
    have mono : ∀ r : α → Bool, (t.filter r).length ≤ ((a :: t).filter r).length :=
      fun r => ((List.sublist_cons_self a t).filter r).length_le
    have hp := mono p
    have hq := mono q
    by_cases hp' : p' a = true
    · rw [List.filter_cons_of_pos hp', List.length_cons]
      rcases h a List.mem_cons_self hp' with ha | ha
      · rw [List.filter_cons_of_pos ha, List.length_cons]
        omega
      · rw [List.filter_cons_of_pos ha, List.length_cons]
        omega
    · rw [List.filter_cons_of_neg hp']
      omega

theorem length_filter_key_le_one (t : Task) (l : List (Nat × OpSt)) (hn : (l.map (·.1)).Nodup) :
    (l.filter (fun e => decide (Task.op e.1 = t))).length ≤ 1 := by
  induction l with
  | nil => simp
  | cons x r ih =>
    obtain ⟨a, b⟩ := x
    simp only [List.map_cons, List.nodup_cons] at hn
    simp only [List.filter_cons]
    by_cases ha : Task.op a = t
    · subst ha
      have : r.filter (fun e => decide (Task.op e.1 = Task.op a)) = [] := by
        rw [List.filter_eq_nil_iff]
        intro e he
        simp only [decide_eq_true_eq, Task.op.injEq]
        intro h
        exact hn.1 (List.mem_map.mpr ⟨e, he, h⟩)
      rw [this]; simp
    · simp only [ha, decide_false, Bool.false_eq_true, ↓reduceIte]
      exact ih hn.2

/-- releasing `t` makes ready what was ready before, and the operation `t` stands for, if any -/
theorem nFreshP_release (held : List Task) (t : Task) (l : List (Nat × OpSt)) (hn : (l.map (·.1)).Nodup) :
    nFreshP (held.filter (· ≠ t)) l ≤ nFreshP held l + 1 := by
  have h1 := length_filter_le_add (isFreshNH (held.filter (· ≠ t))) (isFreshNH held)
    (fun e => decide (Task.op e.1 = t)) l (fun e _ he => by
      obtain ⟨id, st⟩ := e
      cases st with
      | wait s k => simp [isFreshNH] at he
      | fresh h r =>
        simp only [isFreshNH, List.mem_filter, decide_eq_true_eq, not_and, Decidable.not_not] at he ⊢
        by_cases hm : Task.op id ∈ held
        · right; simpa using he hm
        · left; exact hm)
  have h2 := length_filter_key_le_one t l hn
  unfold nFreshP; omega

theorem nFreshP_hold (held : List Task) (t : Task) (l : List (Nat × OpSt)) :
    nFreshP (held ++ [t]) l ≤ nFreshP held l := by
  unfold nFreshP
  rw [← List.countP_eq_length_filter, ← List.countP_eq_length_filter]
  refine List.countP_mono_left (fun e _ he => ?_)
  obtain ⟨id, st⟩ := e
  cases st with
  | wait s k => simp [isFreshNH] at he
  | fresh h r =>
    simp only [isFreshNH, List.mem_append, decide_eq_true_eq, not_or] at he ⊢
    exact he.1

theorem nFresh_zero_of_quiet (w : World) (ho : OwnInv w) (hq : w.pick = none) : nFresh w = 0 := by
  unfold nFresh nFreshP
  rw [List.length_eq_zero_iff, List.filter_eq_nil_iff]
  intro e he
  obtain ⟨id, st⟩ := e
  cases st with
  | wait s k => simp [isFreshNH]
  | fresh h r =>
    have hst : w.opSt id = some (.fresh h r) := lookupFirst_of_mem_nodup id _ w.ops ho.nodup he
    have hw := ho.freshWoken id h r hst
    have hheld := pick_none_held w (.op id) hq hw (by simp [taskLive, hst])
    simp [isFreshNH, hheld]

theorem nFresh_pollOp (w : World) (id : Nat) : nFresh (w.pollOp id) ≤ nFresh w := by
  have hh := (pollOp_userFrame w id).held
  rcases pollOp_spec w id with ⟨_, e⟩ | ⟨s, k, _, _, e⟩ | ⟨st, w0, _, hp, hend⟩
  · rw [e]; exact Nat.le_refl _
  · rw [e]; exact Nat.le_refl _
  · unfold nFresh
    rw [hh, ← hp.ops]
    rcases hend with ⟨o, _, e, _⟩ | ⟨m, s, k, _, hctx, e, _⟩ <;> rw [e]
    · obtain ⟨wk, qr, e'⟩ := endOp_shape w0 id o
      rw [e']; exact nFreshP_erase _ _ _
    · obtain ⟨wk, qr, e'⟩ := User.sendAwait_ctx w0 m id s k hctx
      rw [e']; exact nFreshP_setAssoc_wait _ _ _ _ _

theorem nFresh_pollTaskAny {w : World} {t : Task} {w' : World} (hp : PollTaskAny w t w') : nFresh w' ≤ nFresh w := by
  obtain ⟨sched, rfl⟩ := hp
  cases t with
  | ctx =>
    have f := pollCtxS_ctxFrame sched (w.unwake .ctx)
    exact Nat.le_of_eq (nFresh_congr f.ops f.held)
  | op id =>
    have := nFresh_pollOp (w.unwake (.op id)) id
    exact this
  | st id =>
    obtain ⟨ch, st, wk, ou, e, _⟩ := pollStream_footprint (w.unwake (.st id)) id
    show nFresh ((w.unwake (.st id)).pollStream id) ≤ _
    rw [e]; exact Nat.le_refl _

theorem nFresh_pollTask (w : World) (t : Task) : nFresh (w.pollTask t) ≤ nFresh w :=
  nFresh_pollTaskAny (pollTaskAny_pollTask w t)

theorem nFresh_drain (f : Nat) (w : World) : nFresh (drain f w) ≤ nFresh w :=
  drain_lift (R := fun w w' => nFresh w' ≤ nFresh w) (fun _ => Nat.le_refl _) (fun h1 h2 => Nat.le_trans h2 h1)
    (fun w t _ => nFresh_pollTask w t) f w

theorem dropOp_nFresh (w : World) (id : Nat) : nFresh (w.dropOp id) ≤ nFresh w := by
  rcases dropOp_spec w id with ⟨_, e⟩ | ⟨st, w0, _, hp, e⟩ <;> rw [e]
  · exact Nat.le_refl _
  · unfold nFresh
    rw [eraseOp_ops, (eraseOp_userFrame w0 id).held]
    cases hp <;> exact nFreshP_erase _ _ _

/-- **a script event makes at most one never-polled operation ready**: `op` creates one, `release` frees at most one
    (identifiers in the table are distinct); no other event adds an operation or takes a task off hold -/
theorem nFresh_applied {w w' : World} {e : Ev} (a : Applied w e w') (ho : OwnInv w) : nFresh w' ≤ nFresh w + 1 := by
  cases a.norm with
  | poll t => exact Nat.le_succ_of_le (nFresh_pollTask w t)
  | op id hd req => exact nFreshP_append_one _ _ _
  | hold t => exact Nat.le_succ_of_le (nFreshP_hold w.held t w.ops)
  | release t => exact nFreshP_release w.held t w.ops ho.nodup
  | dropOp id o sl sr ch wk qr e => rw [← e]; exact Nat.le_succ_of_le (dropOp_nFresh w id)
  | _ => exact Nat.le_succ _

end W5
end World
end Poster

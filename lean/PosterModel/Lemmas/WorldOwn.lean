/-
  Lemmas/WorldOwn.lean — the sender-ownership invariant `OwnInv` of the whole client (C14, end to end): while the
  context exists it holds the sender of everything somebody sleeps on (a queued message, `awaiting_ack`,
  `subscriptions`: `OwnsSlot`, `OwnsChan` of Lemmas/WorldDrop.lean); once it is gone nobody owns anything. The context side
  is walked through `Hand`, a step of a handle future through `OpFrame`.
-/
import PosterModel.Lemmas.WorldOwnCtx
import PosterModel.Lemmas.WorldAny
import PosterModel.Lemmas.WorldCtl

namespace Poster
open Framing
namespace World

/-- the oneshots operation `id` may wait on: `2*id`, and `2*id+1` for the second phase of a QoS 2 publish -/
def SlotOf (id s : Nat) (k : Wait) : Prop := s = 2 * id ∨ (s = 2 * id + 1 ∧ k = .pubcomp)

theorem SlotOf.half {id s : Nat} {k : Wait} (h : SlotOf id s k) : s / 2 = id := by
  rcases h with h | ⟨h, _⟩ <;> omega

structure OwnInv (w : World) : Prop where
  /-- a context that was dropped does not exist -/
  dropped : w.ctxDropped = true → w.hasCtx = false
  nodup : (w.ops.map (·.1)).Nodup
  chanNodup : (w.chans.map (·.1)).Nodup
  /-- an operation that was never polled is flagged -/
  freshWoken : ∀ id h req, w.opSt id = some (.fresh h req) → .op id ∈ w.woken
  slotOf : ∀ id s k, w.opSt id = some (.wait s k) → SlotOf id s k
  /-- the oneshot a waiting operation waits on exists -/
  slotSome : ∀ id s k, w.opSt id = some (.wait s k) → w.slot s ≠ none
  /-- … if it has no value yet, the operation's waker is registered … -/
  waitReg : ∀ id s k, w.opSt id = some (.wait s k) → w.slot s = some .empty → s ∈ w.slotReg
  /-- … and its sender is inside the (existing) context -/
  waitOwn : ∀ id s k, w.opSt id = some (.wait s k) → w.slot s = some .empty → w.hasCtx = true ∧ OwnsSlot w s
  /-- … if it has a value or is closed, the operation is flagged -/
  waitDone : ∀ id s k, w.opSt id = some (.wait s k) → w.slot s ≠ some .empty → .op id ∈ w.woken
  /-- a channel whose sending half is alive has it inside the (existing) context -/
  chanOwn : ∀ ch c0, w.chan ch = some c0 → c0.txAlive = true → w.hasCtx = true ∧ OwnsChan w ch
  /-- without a context there is no `connect()` / `run()` future -/
  noTask : w.hasCtx = false → w.task = .none

/-- what the fields of `OwnInv` say of operation `id`, by the state the table holds for it (`OwnInv.op` reads it off them,
    `OwnInv.of` builds them from it) -/
def OpOwn (w : World) (id : Nat) : OpSt → Prop
  | .fresh _ _ => Task.op id ∈ w.woken
  | .wait s k => SlotOf id s k ∧ w.slot s ≠ none ∧
      (w.slot s = some .empty → s ∈ w.slotReg ∧ w.hasCtx = true ∧ OwnsSlot w s) ∧
      (w.slot s ≠ some .empty → Task.op id ∈ w.woken)

theorem OwnInv.op {w : World} (h : OwnInv w) {id : Nat} {st : OpSt} (hop : w.opSt id = some st) : OpOwn w id st := by
  cases st with
  | fresh hd req => exact h.freshWoken id hd req hop
  | wait s k =>
    exact ⟨h.slotOf id s k hop, h.slotSome id s k hop, fun he => ⟨h.waitReg id s k hop he, h.waitOwn id s k hop he⟩,
      h.waitDone id s k hop⟩

theorem OwnInv.of {w : World} (dropped : w.ctxDropped = true → w.hasCtx = false)
    (noTask : w.hasCtx = false → w.task = .none) (nodup : (w.ops.map (·.1)).Nodup)
    (chanNodup : (w.chans.map (·.1)).Nodup) (op : ∀ id st, w.opSt id = some st → OpOwn w id st)
    (chan : ∀ ch c0, w.chan ch = some c0 → c0.txAlive = true → w.hasCtx = true ∧ OwnsChan w ch) : OwnInv w where
  dropped := dropped
  noTask := noTask
  nodup := nodup
  chanNodup := chanNodup
  freshWoken := fun id _ _ hop => op id _ hop
  slotOf := fun id _ _ hop => (op id _ hop).1
  slotSome := fun id _ _ hop => (op id _ hop).2.1
  waitReg := fun id _ _ hop he => ((op id _ hop).2.2.1 he).1
  waitOwn := fun id _ _ hop he => ((op id _ hop).2.2.1 he).2
  waitDone := fun id _ _ hop => (op id _ hop).2.2.2
  chanOwn := chan

theorem OpOwn.mono {w w' : World} {id : Nat} {st : OpSt} (h : OpOwn w id st)
    (wk : Task.op id ∈ w.woken → Task.op id ∈ w'.woken)
    (sl : ∀ s k, st = .wait s k → w'.slot s = w.slot s ∧
      (w.slot s = some .empty → s ∈ w.slotReg → w.hasCtx = true → OwnsSlot w s →
        s ∈ w'.slotReg ∧ w'.hasCtx = true ∧ OwnsSlot w' s)) : OpOwn w' id st := by
  cases st with
  | fresh => exact wk h
  | wait s k =>
    obtain ⟨e, own⟩ := sl s k rfl
    obtain ⟨h1, h2, h3, h4⟩ := h
    refine ⟨h1, e ▸ h2, fun he => ?_, fun hne => wk (h4 (e ▸ hne))⟩
    obtain ⟨r, c, o⟩ := h3 (e ▸ he)
    exact own (e ▸ he) r c o

theorem own_of_empty {w : World} (hops : w.ops = []) (hd : w.ctxDropped = true → w.hasCtx = false)
    (hn : (w.chans.map (·.1)).Nodup) (hch : ∀ ch c0, w.chan ch = some c0 → c0.txAlive = false)
    (hT : w.hasCtx = false → w.task = .none) : OwnInv w :=
  .of hd hT (by rw [hops]; exact List.nodup_nil) hn (fun id st e => by rw [opSt, hops] at e; cases e)
    fun ch c0 hc ht => absurd ((hch ch c0 hc).symm.trans ht) Bool.noConfusion

theorem OwnInv.ctl {w : World} (h : OwnInv w) : CtlOk w :=
  ⟨fun ht => Decidable.byContradiction fun hc => ht (h.noTask (by simpa using hc)), h.dropped⟩

theorem ownInv_init (cfg : Cfg) : OwnInv { cfg := cfg } :=
  own_of_empty rfl Bool.noConfusion List.nodup_nil (fun _ _ hc => nomatch hc) (fun _ => rfl)

/-- what the invariant reads of a world, besides the channels (of which it reads only which have a live sender),
    the flags of the handle futures and whether a call is in progress -/
def ownView (w : World) :=
  (w.hasCtx, w.ctxDropped, w.ops, w.slots, w.slotReg, w.queue, w.c.awaiting, w.c.subs)

theorem own_of_view {w w' : World} (h : OwnInv w) (e : ownView w' = ownView w)
    (hwk : ∀ n, Task.op n ∈ w.woken → Task.op n ∈ w'.woken) (htask : w'.hasCtx = false → w'.task = .none)
    (hn : (w'.chans.map (·.1)).Nodup)
    (hch : ∀ ch c0, w'.chan ch = some c0 → c0.txAlive = true → ∃ c00, w.chan ch = some c00 ∧ c00.txAlive = true) :
    OwnInv w' := by
  simp only [ownView, Prod.mk.injEq] at e
  obtain ⟨hctx, hdrop, hops, hslots, hreg, hq, haw, hsubs⟩ := e
  have hs : ∀ s, w'.slot s = w.slot s := fun s => by simp [slot, hslots]
  refine .of (by rw [hctx, hdrop]; exact h.dropped) htask (by rw [hops]; exact h.nodup) hn (fun id st hop => ?_)
    fun ch c0 hc ht => ?_
  · exact (h.op (show w.opSt id = some st by rw [← hop]; simp [opSt, hops])).mono (hwk id)
      fun s k _ => ⟨hs s, fun _ r c o => ⟨hreg ▸ r, hctx ▸ c, (ownsSlot_congr hq haw s).2 o⟩⟩
  · obtain ⟨c00, a, b⟩ := hch ch c0 hc ht
    rw [hctx, ownsChan_congr hq hsubs]
    exact h.chanOwn ch c00 a b

theorem own_congr {w w' : World} (h : OwnInv w) (e : ownView w' = ownView w) (hchans : w'.chans = w.chans)
    (hwk : ∀ n, Task.op n ∈ w.woken → Task.op n ∈ w'.woken)
    (htask : w'.hasCtx = false → w'.task = .none) : OwnInv w' :=
  own_of_view h e hwk htask (hchans ▸ h.chanNodup)
    (fun ch c0 hc ht => ⟨c0, by rw [← hc]; simp [chan, hchans], ht⟩)

theorem own_of_hand {w w' : World} (h : OwnInv w) (hd : Hand w w')
    (hT : w'.hasCtx = false → w'.task = .none) : OwnInv w' := by
  have a := hd.act
  refine .of (by rw [a.hasCtx_eq, a.ctxDropped_eq]; exact h.dropped) hT (by rw [a.ops_eq]; exact h.nodup)
    (by rw [a.chanKeys]; exact h.chanNodup) (fun id st hop => ?_) fun ch c1 hch ht => ?_
  · have o := h.op (show w.opSt id = some st by rw [← hop]; simp [opSt, a.ops_eq])
    cases st with
    | fresh => exact a.wokenMono _ o
    | wait s k =>
      obtain ⟨h1, h2, h3, h4⟩ := o
      refine ⟨h1, a.slot_ne_none s h2, fun he => ?_, fun hne => ?_⟩
      · -- still empty: it was empty, and the context still owns its sender
        have he' := a.slot_empty_inv s he
        obtain ⟨r, c, ow⟩ := h3 he'
        exact ⟨(a.slotEmpty s he').elim (fun x => x.2 r) fun x => absurd he x.1, a.hasCtx_eq ▸ c,
          (hd.slots s ow).resolve_right fun n => n he⟩
      · -- settled: now (the operation's waker was registered and is flagged) or before
        by_cases he' : w.slot s = some .empty
        · rcases a.slotEmpty s he' with ⟨e, _⟩ | ⟨_, _, wk⟩
          · exact absurd e hne
          · exact h1.half ▸ wk (h3 he').1
        · exact a.wokenMono _ (h4 he')
  · cases hv : w.chan ch with
    | none => rw [a.chanNone ch hv] at hch; cases hch
    | some c0 =>
      obtain ⟨c1', e1, t1, _⟩ := a.chanSome ch c0 hv
      rw [e1] at hch; cases hch
      have ht0 : c0.txAlive = true := by
        cases hb : c0.txAlive with
        | true => rfl
        | false => rw [t1 hb] at ht; cases ht
      obtain ⟨hc, hown⟩ := h.chanOwn ch c0 hv ht0
      refine ⟨by rw [a.hasCtx_eq]; exact hc, ?_⟩
      rcases hd.chans ch hown with h1 | h1
      · exact h1
      · have := h1 c1 e1; rw [this] at ht; cases ht

theorem own_pollCtxS (sched : Nat → Bool) (w : World) (h : OwnInv w) : OwnInv (w.pollCtxS sched) := by
  cases hc : w.hasCtx with
  | false =>
    rw [pollCtxS_none sched (h.noTask hc)]; exact h
  | true =>
    refine own_of_hand h (hand_pollCtxS sched w) (fun hc' => ?_)
    rw [(hand_pollCtxS sched w).act.hasCtx_eq, hc] at hc'; cases hc'

theorem own_pollCtx (w : World) (h : OwnInv w) : OwnInv w.pollCtx := pollCtxS_false w ▸ own_pollCtxS _ w h

/-- `w'` is `w` after a step of the handle future `id`: only that operation, its oneshots (`2*id`, `2*id+1`) and
    its response channel (`id`) can have changed, messages were at most added to the queue, and no wakeup other
    than the operation's own was consumed -/
structure OpFrame (id : Nat) (w w' : World) : Prop extends UserFrame w w' where
  woken : ∀ t, t ∈ w.woken → t ≠ .op id → t ∈ w'.woken
  ops : ∀ id', id' ≠ id → w'.opSt id' = w.opSt id'
  opsNodup : (w.ops.map (·.1)).Nodup → (w'.ops.map (·.1)).Nodup
  slot : ∀ s, s / 2 ≠ id → w'.slot s = w.slot s
  slotReg : ∀ s, s / 2 ≠ id → s ∈ w.slotReg → s ∈ w'.slotReg
  queue : ∀ m, m ∈ w.queue → m ∈ w'.queue
  chan : ∀ ch, ch ≠ id → w'.chan ch = w.chan ch
  chanNodup : (w.chans.map (·.1)).Nodup → (w'.chans.map (·.1)).Nodup
  streams_eq : w'.streams = w.streams
  rspsSub : ∀ n, n ∈ w'.rsps → n ∈ w.rsps ∨ n = id
  /-- a `run()` with its queue waker registered that is still not flagged afterwards finds its queue and its waker as
      they were, and a sender alive if there was one (a message pushed, or the last sender gone, flags it) -/
  ctxKeep : Task.ctx ∉ w'.woken → w.queueReg = true →
    w'.queue = w.queue ∧ w'.queueReg = true ∧ (w.hasCtx = true → w.senders ≠ 0 → w'.senders ≠ 0)

theorem opFrame_refl (id : Nat) (w : World) : OpFrame id w w :=
  ⟨.refl w, fun _ h _ => h, fun _ _ => rfl, fun h => h, fun _ _ => rfl, fun _ _ h => h, fun _ h => h,
    fun _ _ => rfl, fun h => h, rfl, fun _ h => Or.inl h, fun _ hq => ⟨rfl, hq, fun _ h => h⟩⟩

theorem opFrame_trans {id : Nat} {a b c : World} (h1 : OpFrame id a b) (h2 : OpFrame id b c) : OpFrame id a c where
  toUserFrame := h1.toUserFrame.trans h2.toUserFrame
  woken := fun t ht hne => h2.woken t (h1.woken t ht hne) hne
  ops := fun i hi => (h2.ops i hi).trans (h1.ops i hi)
  opsNodup := fun hn => h2.opsNodup (h1.opsNodup hn)
  slot := fun s hs => (h2.slot s hs).trans (h1.slot s hs)
  slotReg := fun s hs hr => h2.slotReg s hs (h1.slotReg s hs hr)
  queue := fun m hm => h2.queue m (h1.queue m hm)
  chan := fun ch hc => (h2.chan ch hc).trans (h1.chan ch hc)
  chanNodup := fun hn => h2.chanNodup (h1.chanNodup hn)
  streams_eq := h2.streams_eq.trans h1.streams_eq
  rspsSub := fun n h => by
    rcases h2.rspsSub n h with h | h
    · exact h1.rspsSub n h
    · exact Or.inr h
  ctxKeep := fun hn hq => by
    obtain ⟨a1, a2, a3⟩ := h1.ctxKeep (fun hm => hn (h2.woken _ hm Task.noConfusion)) hq
    obtain ⟨b1, b2, b3⟩ := h2.ctxKeep hn a2
    exact ⟨b1.trans a1, b2, fun hc hs => b3 (h1.hasCtx.trans hc) (a3 hc hs)⟩

theorem opFrame_unwake (id : Nat) (w : World) : OpFrame id w (w.unwake (.op id)) :=
  { opFrame_refl id w with
    woken := fun t ht hne => by simp [unwake, ht, hne]
    ctxKeep := fun _ hq => ⟨rfl, hq, fun _ h => h⟩ }

theorem senderGone_ctxKeep (w : World) (hn : Task.ctx ∉ w.senderGone.woken) :
    w.senderGone.queueReg = w.queueReg ∧ (w.queueReg = true → w.hasCtx = true → w.senders ≠ 0) := by
  unfold senderGone at hn ⊢
  by_cases hc : w.senders = 0 ∧ w.hasCtx = true ∧ w.queueReg = true
  · rw [if_pos hc] at hn; exact absurd (mem_wake_self _ _) hn
  · rw [if_neg hc]; exact ⟨rfl, fun a b c => hc ⟨c, b, a⟩⟩

theorem opFrame_emit (id : Nat) (w : World) (o : Obs) : OpFrame id w (w.emit o) :=
  { opFrame_refl id w with }

theorem opFrame_eraseOp (id : Nat) (w : World) : OpFrame id w (w.eraseOp id) := by
  have ck := senderGone_ctxKeep ({ w with ops := eraseFirst id w.ops } : World)
  unfold eraseOp
  rw [senderGone_eq] at ck ⊢
  exact { opFrame_refl id w with
    woken := fun t ht _ => mem_wakeIf ht
    ops := fun i hi => lookupFirst_eraseFirst_of_ne hi _
    opsNodup := fun hn => eraseFirst_keys_nodup id w.ops hn
    ctxKeep := fun hn hq => ⟨rfl, (ck hn).1.trans hq, fun hc _ => (ck hn).2 hq hc⟩ }

theorem opFrame_clearSlot (id s : Nat) (w : World) (hs : s / 2 = id) : OpFrame id w (w.clearSlot s) :=
  have ne : ∀ s', s' / 2 ≠ id → s' ≠ s := fun s' hs' e => hs' (e ▸ hs)
  { opFrame_refl id w with
    slot := fun s' hs' => by simp [clearSlot, slot, lookupFirst_eraseFirst_of_ne (ne s' hs') _]
    slotReg := fun s' hs' hr => by simp [clearSlot, hr, ne s' hs'] }

theorem opFrame_dropChanRx (id : Nat) (w : World) : OpFrame id w (w.dropChanRx id) :=
  { opFrame_refl id w with
    chan := fun ch hc => by simp [dropChanRx, chan, lookupFirst_eraseFirst_of_ne hc _]
    chanNodup := fun hn => eraseFirst_keys_nodup id w.chans hn }

theorem opFrame_register (id s : Nat) (w : World) :
    OpFrame id w { w with slotReg := if s ∈ w.slotReg then w.slotReg else w.slotReg ++ [s] } :=
  { opFrame_refl id w with slotReg := fun _ _ hr => mem_register_iff.2 (.inr hr) }

theorem opFrame_awaitSlot (id s : Nat) (k : Wait) (w : World) (hs : s / 2 = id) :
    OpFrame id w (w.awaitSlot id s k) :=
  { opFrame_refl id w with
    ops := fun i hi => by simp [awaitSlot, opSt, lookupFirst_setAssoc_of_ne hi _ _]
    opsNodup := fun hn => nodup_keys_setAssoc id _ w.ops hn
    slot := fun s' hs' => by
      have : s' ≠ s := fun e => hs' (e ▸ hs)
      simp [awaitSlot, slot, lookupFirst_setAssoc_of_ne this _ _]
    slotReg := fun _ _ hr => mem_register_iff.2 (.inr hr)
    ctxKeep := fun _ hq => ⟨rfl, hq, fun _ hs => by
      have := length_le_setAssoc id (OpSt.wait s k) w.ops
      simp only [senders, awaitSlot] at hs ⊢; omega⟩ }

theorem opFrame_prep {id : Nat} {w w0 : World} {st : OpSt} (hp : OpPrep w id st w0)
    (hs : ∀ s k, st = .wait s k → s / 2 = id) : OpFrame id w w0 := by
  cases hp with
  | fresh h req ch hch =>
    exact { opFrame_refl id w with
      chan := fun c hc => by
        show lookupFirst c ch = _
        rcases hch with e | ⟨_, _, e | e⟩ <;> rw [e]
        · rfl
        · exact lookupFirst_setAssoc_of_ne hc _ _
        · rw [lookupFirst_eraseFirst_of_ne hc, lookupFirst_setAssoc_of_ne hc]; rfl
      chanNodup := fun hn => by
        show (ch.map (·.1)).Nodup
        rcases hch with e | ⟨_, _, e | e⟩ <;> rw [e]
        · exact hn
        · exact nodup_keys_setAssoc id _ w.chans hn
        · exact eraseFirst_keys_nodup id _ (nodup_keys_setAssoc id _ w.chans hn) }
  | wait s k rs _ hrs =>
    have ne : ∀ s', s' / 2 ≠ id → s' ≠ s := fun s' hs' e => hs' (e ▸ hs s k rfl)
    exact { opFrame_refl id w with
      slot := fun s' hs' => lookupFirst_eraseFirst_of_ne (ne s' hs') _
      slotReg := fun s' hs' hr => List.mem_filter.mpr ⟨hr, decide_eq_true (ne s' hs')⟩
      rspsSub := fun n hn => by
        have hn' : n ∈ rs := hn
        rcases hrs with e | ⟨_, e⟩ <;> rw [e] at hn'
        · exact Or.inl hn'
        · exact (List.mem_append.mp hn').imp_right List.mem_singleton.mp }

theorem opFrame_sendMsg (id : Nat) {w w1 : World} {m : Msg} (h : w.sendMsg m = some w1) : OpFrame id w w1 := by
  rw [sendMsg_eq] at h
  split at h
  · simp only [Option.some.injEq] at h
    subst h
    exact { opFrame_refl id w with
      woken := fun t ht _ => mem_wakeIf ht
      queue := fun m' hm => List.mem_append_left _ hm
      ctxKeep := fun hn hq => absurd (mem_wakeIf_self (w := w) (u := .ctx) hq) hn }
  · cases h

theorem OpFrame.ownsSlot {id : Nat} {w w' : World} (f : OpFrame id w w') (s : Nat) (h : OwnsSlot w s) :
    OwnsSlot w' s := by
  rcases h with ⟨m, hm, hs⟩ | h
  · exact Or.inl ⟨m, f.queue m hm, hs⟩
  · right; rw [f.c]; exact h

theorem OpFrame.ownsChan {id : Nat} {w w' : World} (f : OpFrame id w w') (ch : Nat) (h : OwnsChan w ch) :
    OwnsChan w' ch := by
  rcases h with ⟨aid, sid, pkt, s, hm⟩ | h
  · exact Or.inl ⟨aid, sid, pkt, s, f.queue _ hm⟩
  · right; rw [f.c]; exact h

/-- the response channel `id` after the step: as before, or its live sender is owned by the context -/
def ChanSelfOk (id : Nat) (w w' : World) : Prop :=
  ∀ c0, w'.chan id = some c0 → c0.txAlive = true →
    (∃ c00, w.chan id = some c00 ∧ c00.txAlive = true) ∨ (w'.hasCtx = true ∧ OwnsChan w' id)

theorem chanSelfOk_of_eq {id : Nat} {w w' : World} (h : w'.chan id = w.chan id) : ChanSelfOk id w w' :=
  fun c0 hc ht => Or.inl ⟨c0, by rw [← h]; exact hc, ht⟩

theorem chanSelfOk_of_none {id : Nat} {w w' : World} (h : w'.chan id = none) : ChanSelfOk id w w' :=
  fun c0 hc ht => by rw [h] at hc; cases hc

theorem OpOwn.of_empty {w : World} {id s : Nat} {k : Wait} (hs : SlotOf id s k) (he : w.slot s = some .empty)
    (hr : s ∈ w.slotReg) (hc : w.hasCtx = true) (ho : OwnsSlot w s) : OpOwn w id (.wait s k) :=
  ⟨hs, by rw [he]; simp, fun _ => ⟨hr, hc, ho⟩, fun hne => absurd he hne⟩

theorem own_of_opFrame {id : Nat} {w w' : World} (h : OwnInv w) (f : OpFrame id w w')
    (hself : ∀ st, w'.opSt id = some st → OpOwn w' id st)
    (hch : ChanSelfOk id w w') : OwnInv w' := by
  refine .of (by rw [f.hasCtx, f.ctxDropped]; exact h.dropped)
    (fun hc => by rw [f.task]; exact h.noTask (by rw [← f.hasCtx]; exact hc))
    (f.opsNodup h.nodup) (f.chanNodup h.chanNodup) (fun id' st hop => ?_) fun ch c0 hc ht => ?_
  · by_cases hi : id' = id
    · subst hi; exact hself st hop
    · -- another operation: its oneshots are not those of `id`
      have hop' : w.opSt id' = some st := by rw [← f.ops id' hi]; exact hop
      refine (h.op hop').mono (fun m => f.woken _ m fun e => hi (Task.op.inj e)) fun s k e => ?_
      have hh : s / 2 ≠ id := by rw [(h.slotOf id' s k (e ▸ hop')).half]; exact hi
      exact ⟨f.slot s hh, fun _ r c o => ⟨f.slotReg s hh r, f.hasCtx ▸ c, f.ownsSlot s o⟩⟩
  · by_cases hi : ch = id
    · subst hi
      rcases hch c0 hc ht with ⟨c00, h1, h2⟩ | h1
      · obtain ⟨x, y⟩ := h.chanOwn ch c00 h1 h2
        exact ⟨by rw [f.hasCtx]; exact x, f.ownsChan ch y⟩
      · exact h1
    · obtain ⟨x, y⟩ := h.chanOwn ch c0 (by rw [← f.chan ch hi]; exact hc) ht
      exact ⟨by rw [f.hasCtx]; exact x, f.ownsChan ch y⟩

/-- proved together: what the frame says of the oneshots (`s / 2 ≠ id`) needs `OwnInv.slotOf` of the world before -/
structure OpStep (id : Nat) (w w' : World) : Prop where
  own : OwnInv w'
  frame : OpFrame id w w'

theorem opStep_of_opFrame {id : Nat} {w w' : World} (h : OwnInv w) (f : OpFrame id w w')
    (hself : ∀ st, w'.opSt id = some st → OpOwn w' id st) (hch : ChanSelfOk id w w') : OpStep id w w' :=
  ⟨own_of_opFrame h f hself hch, f⟩

theorem own_step_eraseOp {id : Nat} {w w1 : World} (h : OwnInv w) (f : OpFrame id w w1)
    (hch : ChanSelfOk id w w1) : OpStep id w (w1.eraseOp id) := by
  have f2 := opFrame_eraseOp id w1
  refine opStep_of_opFrame h (opFrame_trans f f2)
    (fun st hs => nomatch (eraseOp_opSt_self (f.opsNodup h.nodup) id).symm.trans hs) fun c0 hc ht => ?_
  rcases hch c0 (by simpa [eraseOp, chan] using hc) ht with h1 | ⟨h1, h2⟩
  · exact Or.inl h1
  · exact Or.inr ⟨by simpa [eraseOp] using h1, f2.ownsChan id h2⟩

theorem own_step_endOp {id : Nat} {w w1 : World} (h : OwnInv w) (f : OpFrame id w w1)
    (hch : ChanSelfOk id w w1) (o : Obs) : OpStep id w (w1.endOp id o) :=
  own_step_eraseOp (w1 := w1.emit o) h (opFrame_trans f (opFrame_emit id w1 o)) hch

theorem own_step_await {id s : Nat} {k : Wait} {w w2 : World} (h : OwnInv w) (f : OpFrame id w w2)
    (hs : SlotOf id s k) (hctx : w2.hasCtx = true) (hown : ∃ m ∈ w2.queue, m.slot = s)
    (hch : ChanSelfOk id w w2) : OpStep id w (w2.awaitSlot id s k) := by
  have hst : (w2.awaitSlot id s k).opSt id = some (.wait s k) := by simp [opSt, lookupFirst_setAssoc_self]
  refine opStep_of_opFrame h (opFrame_trans f (opFrame_awaitSlot id s k w2 hs.half))
    (fun st x => Option.some.inj (hst.symm.trans x) ▸ ?_) ?_
  · exact .of_empty hs (by simp [slot, awaitSlot, lookupFirst_setAssoc_self]) (mem_register_iff.2 (.inl rfl)) (by simpa using hctx)
      (Or.inl (by simpa using hown))
  · intro c0 hc ht
    rcases hch c0 (by simpa using hc) ht with h1 | ⟨h1, h2⟩
    · exact Or.inl h1
    · exact Or.inr ⟨by simpa using h1, (opFrame_awaitSlot id s k w2 hs.half).ownsChan id h2⟩

theorem own_pollOp_task (w : World) (id : Nat) (h : OwnInv w) : OpStep id w ((w.unwake (.op id)).pollOp id) := by
  have f := opFrame_unwake id w
  have hc : (w.unwake (.op id)).chan id = w.chan id := rfl
  rcases pollOp_spec (w.unwake (.op id)) id with ⟨hop, e⟩ | ⟨s, k, hop, hsl, e⟩ |
    ⟨st, w0, hop, hp, ⟨o, _, e, _, hch⟩ | ⟨m, s, k, hw, hctx, e, _⟩⟩ <;> rw [e]
  · exact opStep_of_opFrame h f (fun st x => nomatch hop.symm.trans x) (chanSelfOk_of_eq hc)
  · -- nothing there yet: the sender is still inside the context, the waker is registered again
    have hsl : w.slot s = some .empty := hsl.resolve_left (h.slotSome id s k hop)
    obtain ⟨hx, hy⟩ := h.waitOwn id s k hop hsl
    have f2 := opFrame_trans f (opFrame_register id s (w.unwake (.op id)))
    exact opStep_of_opFrame h f2
      (fun st x => Option.some.inj (hop.symm.trans x) ▸
        .of_empty (h.slotOf id s k hop) hsl (mem_register_iff.2 (.inl rfl)) hx (f2.ownsSlot s hy))
      (chanSelfOk_of_eq hc)
  · -- the future ends: a channel it created (SUBSCRIBE without a context) is dropped again
    have f1 := opFrame_trans f (opFrame_prep hp fun s k e => (h.slotOf id s k (e ▸ hop)).half)
    refine own_step_endOp h f1 ?_ o
    rcases hch with e1 | e1
    · exact chanSelfOk_of_eq (show lookupFirst id w0.chans = _ by rw [e1]; rfl)
    · refine chanSelfOk_of_none (show lookupFirst id w0.chans = none from ?_)
      rw [e1]; exact lookupFirst_eraseFirst_self _ _ (nodup_keys_setAssoc id _ _ h.chanNodup)
  · -- the future sends and waits on a fresh oneshot of its own; the sender of a SUBSCRIBE's channel travels in the message
    have f1 := opFrame_trans f (opFrame_prep hp fun s k e => (h.slotOf id s k (e ▸ hop)).half)
    have hs : SlotOf id s k := by
      rcases hw.shape with ⟨_, req, _, rfl, _⟩ | ⟨s0, rfl, rfl, rfl⟩
      · exact Or.inl rfl
      · rcases h.slotOf id s0 .pubrec hop with e0 | ⟨_, e0⟩
        · exact Or.inr ⟨by omega, rfl⟩
        · cases e0
    obtain ⟨wk, qr, hm⟩ := User.sendMsg_shape w0 m hctx
    unfold sendAwait
    rw [hm]
    refine own_step_await h (opFrame_trans f1 (opFrame_sendMsg id hm)) hs hctx
      ⟨m, List.mem_append_right _ (List.mem_singleton.mpr rfl), hw.slot⟩ fun c0 hc0 ht => ?_
    have hc0' : w0.chan id = some c0 := hc0
    cases hp with
    | wait => exact Or.inl ⟨c0, hc0', ht⟩
    | fresh hh req ch hcond =>
      rcases hcond with e1 | ⟨t, rfl, _⟩
      · exact Or.inl ⟨c0, by rw [← hc0']; show _ = lookupFirst id ch; rw [e1]; rfl, ht⟩
      · rcases hw with ⟨_, _, e0, rfl, _, _⟩ | ⟨_, _, e0, _⟩ <;> cases e0
        exact Or.inr ⟨hctx, Or.inl ⟨_, _, _, _, List.mem_append_right _ (List.mem_singleton.mpr rfl)⟩⟩

theorem own_dropOp (w : World) (id : Nat) (h : OwnInv w) : OpStep id w (w.dropOp id) := by
  rcases dropOp_cases w id with ⟨_, e⟩ | ⟨hd, req, _, e⟩ | ⟨s, k, hop, _, e⟩ | ⟨s, hop, e⟩ <;> rw [e]
  · exact ⟨h, opFrame_refl id w⟩
  · exact own_step_eraseOp h (opFrame_refl id w) (chanSelfOk_of_eq rfl)
  · exact own_step_eraseOp h (opFrame_clearSlot id s w (h.slotOf id s k hop).half) (chanSelfOk_of_eq rfl)
  · -- a pending `subscribe`: the response channel goes with it
    refine own_step_eraseOp h (opFrame_trans (opFrame_clearSlot id s w (h.slotOf id s _ hop).half)
      (opFrame_dropChanRx id _)) (chanSelfOk_of_none ?_)
    exact lookupFirst_eraseFirst_self _ _ h.chanNodup

theorem own_chanOnly {w w' : World} (h : OwnInv w) (e : ownView w' = ownView w)
    (hwk : ∀ n, Task.op n ∈ w.woken → Task.op n ∈ w'.woken) (hT : w'.task = w.task)
    (hn : (w'.chans.map (·.1)).Nodup)
    (hch : ∀ ch c0, w'.chan ch = some c0 → c0.txAlive = true → ∃ c00, w.chan ch = some c00 ∧ c00.txAlive = true) :
    OwnInv w' :=
  have hctx : w'.hasCtx = w.hasCtx := congrArg (·.1) e
  own_of_view h e hwk (fun hc => hT ▸ h.noTask (hctx ▸ hc)) hn hch

theorem own_dropChanRx (w : World) (id : Nat) (h : OwnInv w) : OwnInv (w.dropChanRx id) := by
  refine own_chanOnly h rfl (fun _ hn => hn) rfl
    (eraseFirst_keys_nodup _ _ h.chanNodup) ?_
  intro ch c0 hch ht
  simp only [chan, dropChanRx, lookupFirst_eraseFirst_nodup _ _ _ h.chanNodup] at hch
  split at hch
  · cases hch
  · exact ⟨c0, hch, ht⟩

theorem own_setChan (w : World) (id : Nat) {ch : Chan} (c1 : Chan) (hch : w.chan id = some ch)
    (ht : c1.txAlive = ch.txAlive) (h : OwnInv w) : OwnInv (w.setChan id c1) := by
  refine own_chanOnly h rfl (fun _ hn => hn) rfl
    (nodup_keys_setAssoc id c1 w.chans h.chanNodup) ?_
  intro c c0 hc hc0
  simp only [chan, setChan, lookupFirst_setAssoc] at hc
  split at hc
  · rename_i e; subst e
    cases hc
    exact ⟨ch, hch, ht ▸ hc0⟩
  · exact ⟨c0, hc, hc0⟩

theorem own_unwake (w : World) {t : Task} (ht : ∀ n, t ≠ .op n) (h : OwnInv w) : OwnInv (w.unwake t) :=
  own_congr h rfl rfl
    (fun n hn => List.mem_filter.mpr ⟨hn, decide_eq_true (Ne.symm (ht n))⟩) h.noTask

theorem own_emit (w : World) (o : Obs) (h : OwnInv w) : OwnInv (w.emit o) :=
  { h with }

theorem own_pollStream (w : World) (id : Nat) (h : OwnInv w) : OwnInv ((w.unwake (.st id)).pollStream id) := by
  have hu : OwnInv (w.unwake (.st id)) := own_unwake w (fun _ => Task.noConfusion) h
  generalize w.unwake (.st id) = w1 at hu ⊢
  rcases pollStream_shape w1 id with
    ⟨_, e⟩ | ⟨ch, p, rest, _, hch, _, e⟩ | ⟨ch, _, hch, _, _, e⟩ | ⟨ch, _, _, _, _, e⟩ <;> rw [e]
  · exact hu
  · exact own_congr (own_setChan w1 id { ch with buf := rest } hch rfl hu) rfl rfl
      (fun _ hn => wake_woken w1 (.st id) ▸ mem_wake_of_mem w1 _ _ hn) hu.noTask
  · exact own_setChan w1 id _ hch rfl hu
  · exact own_emit _ _ (own_dropChanRx { w1 with streams := w1.streams.filter (· ≠ id) } id { hu with })

theorem own_pollTaskAny {w : World} {t : Task} {w' : World} (h : OwnInv w) (hp : PollTaskAny w t w') : OwnInv w' := by
  obtain ⟨sched, rfl⟩ := hp
  cases t with
  | ctx => exact own_pollCtxS sched _ (own_unwake w (fun _ => Task.noConfusion) h)
  | op id => exact (own_pollOp_task w id h).own
  | st id => exact own_pollStream w id h

theorem own_pollTask (w : World) (t : Task) (h : OwnInv w) : OwnInv (w.pollTask t) :=
  own_pollTaskAny h (pollTaskAny_pollTask w t)

theorem own_senderGone (w : World) (h : OwnInv w) : OwnInv w.senderGone :=
  own_congr h (by simp [ownView]) (by simp) (fun n hn => senderGone_woken_mono _ _ hn) (by simpa using h.noTask)

theorem own_ctxGone {w w' : World} (h : OwnInv w) (hs : ∀ s, OwnsSlot w s → w.slot s ≠ some .empty)
    (hc : ∀ ch, OwnsChan w ch → TxGone w ch) (hctx : w'.hasCtx = false) (htask : w'.task = .none)
    (hops : w'.ops = w.ops) (hslots : w'.slots = w.slots) (hchans : w'.chans = w.chans) (hwk : w'.woken = w.woken) :
    OwnInv w' := by
  have hsl : ∀ s, w'.slot s = w.slot s := fun s => by simp [slot, hslots]
  refine .of (fun _ => hctx) (fun _ => htask) (hops ▸ h.nodup) (hchans ▸ h.chanNodup) (fun id st hop => ?_)
    fun ch c0 hch ht => ?_
  · exact (h.op (show w.opSt id = some st by rw [← hop]; simp [opSt, hops])).mono (fun m => hwk ▸ m)
      fun s k _ => ⟨hsl s, fun he _ _ o => absurd he (hs s o)⟩
  · have hch' : w.chan ch = some c0 := by rw [← hch]; simp [chan, hchans]
    exact absurd ((hc ch (h.chanOwn ch c0 hch' ht).2 c0 hch').symm.trans ht) Bool.noConfusion

theorem own_dropCtx (w : World) (h : OwnInv w) :
    OwnInv { dropCtxClosed w with queue := [], c := {} } := by
  have inv := dropCtxClosed_inv w
  -- the world after the senders were dropped, the context object still there
  have a : ActInv w { dropCtxClosed w with hasCtx := w.hasCtx, ctxDropped := w.ctxDropped, task := w.task } :=
    { actInv_closes (closes_dropCtxClosed w) with hasCtx_eq := rfl, ctxDropped_eq := rfl }
  have hX := own_of_hand h ⟨a, fun s hs => Or.inr (dropCtxClosed_slot w s hs),
    fun ch hc => Or.inr (dropCtxClosed_chan w ch hc).txGone⟩ h.noTask
  have hq : (dropCtxClosed w).queue = w.queue := inv.queue_eq
  have hcc : (dropCtxClosed w).c = w.c := by rw [inv.frame]; rfl
  exact own_ctxGone hX
    (fun s hs => dropCtxClosed_slot w s ((ownsSlot_congr hq (congrArg Ctx.awaiting hcc) s).1 hs))
    (fun ch hc => (dropCtxClosed_chan w ch ((ownsChan_congr hq (congrArg Ctx.subs hcc) ch).1 hc)).txGone)
    inv.hasCtx_eq inv.task_eq rfl rfl rfl rfl

theorem opSt_newOp_self {w : World} {id : Nat} (st : OpSt) (hnone : w.opSt id = none) :
    ({ w with woken := if Task.op id ∈ w.woken then w.woken else w.woken ++ [.op id],
              ops := w.ops ++ [(id, st)] } : World).opSt id = some st := by
  simp only [opSt, lookupFirst_append]
  rw [show lookupFirst id w.ops = none from hnone]
  simp [lookupFirst]

/-- a new handle future is created (not yet polled) and flagged: seen from the others, a step of that future -/
theorem opFrame_newOp (w : World) (id hd : Nat) (req : Req) (hnone : w.opSt id = none) :
    OpFrame id w { w with woken := if Task.op id ∈ w.woken then w.woken else w.woken ++ [.op id],
                          ops := w.ops ++ [(id, OpSt.fresh hd req)] } :=
  { opFrame_refl id w with
    woken := fun t ht _ => wake_woken w (.op id) ▸ mem_wake_of_mem _ _ _ ht
    ops := fun i hi => by
      simp only [opSt, lookupFirst_append]
      cases lookupFirst i w.ops with
      | none => simp [lookupFirst, Ne.symm hi]
      | some v => rfl
    opsNodup := fun hn => by
      have hk : id ∉ w.ops.map (·.1) := (lookupFirst_none_iff id w.ops).1 hnone
      simp only [List.map_append, List.map_cons, List.map_nil]
      rw [List.nodup_append]
      refine ⟨hn, by simp, ?_⟩
      intro a ha b hb
      simp only [List.mem_singleton] at hb
      subst hb
      intro e; subst e; exact hk ha
    ctxKeep := fun _ hq => ⟨rfl, hq, fun _ _ => by simp [senders]⟩ }

theorem own_newOp (w : World) (id hd : Nat) (req : Req) (h : OwnInv w) (hnone : w.opSt id = none) :
    OwnInv { w with woken := if Task.op id ∈ w.woken then w.woken else w.woken ++ [.op id],
                    ops := w.ops ++ [(id, OpSt.fresh hd req)] } :=
  own_of_opFrame h (opFrame_newOp w id hd req hnone)
    (fun _ x => Option.some.inj ((opSt_newOp_self _ hnone).symm.trans x) ▸ wake_woken w (.op id) ▸ mem_wake_self _ _)
    (chanSelfOk_of_eq rfl)

theorem own_applied {w w' : World} {e : Ev} (a : Applied w e w') (h : OwnInv w) : OwnInv w' := by
  have wk : ∀ (t : Task) n, Task.op n ∈ w.woken → Task.op n ∈ (if t ∈ w.woken then w.woken else w.woken ++ [t]) :=
    fun t n hn => wake_woken w t ▸ mem_wake_of_mem w t _ hn
  cases a.norm with
  | same => exact h
  | poll t => exact own_pollTask w t h
  | newCtx ht hd hc hh hops =>
    -- a brand-new context: there is no operation yet, and no channel with a live sender
    exact own_of_empty hops (fun hd' => Bool.noConfusion (hd.symm.trans hd')) h.chanNodup
      (fun ch c0 hch => Bool.eq_false_iff.mpr fun ht => Bool.noConfusion (hc.symm.trans (h.chanOwn ch c0 hch ht).1))
      Bool.noConfusion
  | bad | newConn | markDisc | snap | hold | release | clone => exact { h with }
  | dropFut | dropCtxNone => exact { h with noTask := fun _ => rfl }
  | start _ tk _ hc => exact own_congr h rfl rfl (wk .ctx) (fun hc' => absurd (hc.symm.trans hc') (by simp))
  | stream id => exact own_congr h rfl rfl (wk (.st id)) h.noTask
  | feed => exact own_congr h rfl rfl (fun _ hn => mem_wakeIf hn) h.noTask
  | dropCtx _ _ _ _ he => have := own_dropCtx w h; rw [he] at this; exact this
  | op id hd req _ hop => exact own_newOp w id hd req h hop
  | dropOp id _ _ _ _ _ _ he => exact he ▸ (own_dropOp w id h).own
  | dropStream id => exact own_dropChanRx { w with streams := w.streams.filter (· ≠ id) } id { h with }
  | dropRsp id => exact own_dropChanRx { w with rsps := w.rsps.filter (· ≠ id) } id { h with }
  | dropHandle hh _ _ _ he => exact he ▸ own_senderGone { w with handles := w.handles.filter (· ≠ hh) } { h with }

theorem own_apply (w : World) (e : Ev) (h : OwnInv w) : OwnInv (w.apply e) := own_applied (apply_spec w e) h

theorem ownInv_anyInv : AnyInv OwnInv := ⟨fun _ hi hp => own_pollTaskAny hi hp, own_apply, own_emit⟩

theorem ownInv_stepsAny {w : World} {evs : List Ev} {w' : World} (h : StepsAny w evs w') (hi : OwnInv w) :
    OwnInv w' :=
  ownInv_anyInv.stepsAny h hi

theorem own_step (w : World) (e : Ev) (h : OwnInv w) : OwnInv (w.step e) := ownInv_anyInv.step w e h

theorem own_steps (evs : List Ev) (w : World) (h : OwnInv w) : OwnInv (evs.foldl step w) := ownInv_anyInv.steps evs w h

/-- **`OwnInv` holds in every world reachable by any script** -/
theorem ownInv_script (cfg : Cfg) (evs : List Ev) : OwnInv (evs.foldl step { cfg := cfg }) :=
  own_steps evs _ (ownInv_init cfg)

end World
end Poster

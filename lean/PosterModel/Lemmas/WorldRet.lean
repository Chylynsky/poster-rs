/- Lemmas/WorldRet.lean — WorldRetCall (calls and their `RET` lines) and WorldRetPub (what `publish()` queues and reports), and
   through them WorldDuring and WorldOpsUnit, under one import -/
import PosterModel.Lemmas.WorldRetCall
import PosterModel.Lemmas.WorldRetPub

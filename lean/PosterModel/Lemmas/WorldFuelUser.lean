/-
  The user side of the potential argument (C04, quiescence of the drain): every poll of a flagged live stream that is
  not held strictly decreases the potential `W5.phi` (`pollStream_phi`; handle futures: Lemmas/WorldFuelOp.lean).
-/
import PosterModel.Lemmas.WorldFuelPot
import PosterModel.Lemmas.WorldShape

namespace Poster
open Framing
namespace World
namespace W5

theorem length_setAssoc_of_lookup {β} (k : Nat) (v v0 : β) (l : List (Nat × β)) (h : lookupFirst k l = some v0) :
    (setAssoc k v l).length = l.length := by
  simpa using congrArg List.length (keys_setAssoc_of_lookup k v v0 l h)

theorem stPot_lt_of_poll {w W : World} {id : Nat} (hl : id ∈ w.streams) (hst : W.streams = w.streams)
    (hheld : W.held = w.held) (hwo : ∀ n, n ≠ id → (Task.st n ∈ W.woken ↔ Task.st n ∈ w.woken))
    (hch : ∀ n, n ≠ id → lookupFirst n W.chans = lookupFirst n w.chans) (d b : Nat)
    (hd : stCost w.held W.woken W.chans id + d ≤ stCost w.held w.woken w.chans id)
    (hb : bufSum W + b = bufSum w) (h1 : 1 ≤ d + b) : stPot W + 1 ≤ stPot w := by
  have hsum : stSum W + d ≤ stSum w := by
    unfold stSum
    rw [hst, hheld]
    refine sum_map_le_gap _ _ _ (fun n _ => ?_) id ((mem_uniq id _).mpr hl) d hd
    by_cases hn : n = id
    · subst hn
      exact Nat.le_of_add_right_le hd
    · unfold stCost
      rw [hch n hn]
      simp only [hwo n hn]
      exact Nat.le_refl _
  unfold stPot
  refine Nat.le_trans (Nat.add_le_add_left h1 _) ?_
  rw [← hb, Nat.add_add_add_comm]
  exact Nat.add_le_add_right hsum _

theorem phi_lt_of_stream {w w' : World} (ht : w'.task = w.task) (hrx : w'.rx = w.rx) (hrd : w'.reader = w.reader)
    (hh : w'.handles = w.handles) (hops : w'.ops = w.ops) (hheld : w'.held = w.held) (hsl : w'.slots = w.slots)
    (hw : ∀ t, t ∈ w'.woken → t ∈ w.woken) (hs : stPot w' + 1 ≤ stPot w) : phi w' < phi w := by
  have h1 : ctxFlag w' ≤ ctxFlag w := ctxFlag_le (by rw [ht]; exact id) (fun _ h => hw _ h)
  have h2 : ctxZ w' ≤ ctxZ w := ctxZ_le (by rw [ht]; exact id) (by
    show w'.handles.length + w'.ops.length ≠ 0 → _
    rw [hh, hops]; exact id)
  have h3 : opsPot w' ≤ opsPot w := opsPot_le_of_woken hops hheld hsl (fun id h => hw _ h)
  unfold phi phiU
  rw [hrx, hrd]
  exact Nat.add_lt_add_of_le_of_lt (Nat.add_le_add_right (Nat.add_le_add h1 h2) _) (Nat.add_lt_add_of_le_of_lt h3 hs)

theorem pollStream_phi (w : World) (id : Nat) (hw : Task.st id ∈ w.woken) (hl : id ∈ w.streams)
    (hh : Task.st id ∉ w.held) : phi ((w.unwake (.st id)).pollStream id) < phi w := by
  have hu : ∀ t, t ∈ (w.unwake (.st id)).woken → t ∈ w.woken := fun t ht => ((mem_unwake_iff w _ t).mp ht).1
  have hnf : Task.st id ∉ (w.unwake (.st id)).woken := fun h => ((mem_unwake_iff w _ _).mp h).2 rfl
  have hother : ∀ n, n ≠ id → (Task.st n ∈ (w.unwake (.st id)).woken ↔ Task.st n ∈ w.woken) := by
    intro n hn
    rw [mem_unwake_iff]
    exact ⟨fun h => h.1, fun h => ⟨h, by simpa using hn⟩⟩
  -- Four outcomes, each pays one unit of `stPot` (`stPot_lt_of_poll … d b`: `d` off the entry of `id`, `b` off the
  -- buffers); everything else `phi` reads is untouched or only loses flags (`phi_lt_of_stream`).
  rcases pollStream_shape (w.unwake (.st id)) id with ⟨hno, e⟩ | ⟨ch, p, rest, _, hch, hb, e⟩ | ⟨ch, _, hch, hb, htx, e⟩ |
    ⟨ch, _, hch, hb, htx, e⟩ <;> rw [e]
  · -- no channel, nothing happens: the flag is gone (2 → 1)
    have hc : lookupFirst id w.chans = none := hno.resolve_left fun h => h hl
    refine phi_lt_of_stream rfl rfl rfl rfl rfl rfl rfl hu
      (stPot_lt_of_poll hl rfl rfl hother (fun _ _ => rfl) 1 0 ?_ rfl (Nat.le_refl _))
    unfold stCost
    simp only [unwake_chans, hc, hnf, hw, hh, ↓reduceIte]
    exact Nat.le_refl _
  · -- the poll flags the stream again: it pays with the message it took
    have hc : lookupFirst id w.chans = some ch := hch
    rw [if_neg hnf]
    refine phi_lt_of_stream rfl rfl rfl rfl rfl rfl rfl (fun t ht => ?_)
      (stPot_lt_of_poll hl rfl rfl (fun n hn => ?_) (fun n hn => lookupFirst_setAssoc_of_ne hn _ _) 0 1 ?_
        (bufs_setAssoc_tail id ch p rest w.chans hch hb) (Nat.le_refl _))
    · rcases List.mem_append.mp ht with h | h
      · exact hu t h
      · rw [List.mem_singleton.mp h]
        exact hw
    · show Task.st n ∈ w.woken.filter (· ≠ .st id) ++ [.st id] ↔ _
      rw [List.mem_append, List.mem_singleton, Task.st.injEq]
      exact (or_iff_left hn).trans (hother n hn)
    · show stCost w.held (w.woken.filter (· ≠ .st id) ++ [.st id]) (setAssoc id { ch with buf := rest } w.chans) id + 0 ≤ _
      unfold stCost
      simp only [lookupFirst_setAssoc_self, hc, List.mem_append, List.mem_singleton, or_true, hw, hh, ↓reduceIte,
        true_or]
      exact Nat.le_refl _
  · -- pending: the flag is gone and the registration costs nothing while the sender is alive (3 → 2)
    have hc : lookupFirst id w.chans = some ch := hch
    refine phi_lt_of_stream rfl rfl rfl rfl rfl rfl rfl hu
      (stPot_lt_of_poll hl rfl rfl hother (fun n hn => lookupFirst_setAssoc_of_ne hn _ _) 1 0 ?_
        (bufs_setAssoc_same id ch _ w.chans hch rfl) (Nat.le_refl _))
    show stCost w.held (w.unwake (.st id)).woken (setAssoc id { ch with reg := true } w.chans) id + 1 ≤ _
    unfold stCost
    simp only [lookupFirst_setAssoc_self, hc, hnf, hw, hh, htx, ↓reduceIte, true_or]
    simp
  · -- the stream ends: its entry, which costs 2 while it is flagged, leaves the sum
    have hc : lookupFirst id w.chans = some ch := hch
    have hcost : 2 ≤ stCost w.held w.woken w.chans id := by
      unfold stCost
      simp only [hc, hw, hh, ↓reduceIte, true_or]
      exact Nat.le_add_right 2 _
    have h1 : (((uniq w.streams).filter (fun x => decide (x ≠ id))).map
        (stCost w.held (w.unwake (.st id)).woken (eraseFirst id w.chans))).sum ≤
        (((uniq w.streams).filter (fun x => decide (x ≠ id))).map (stCost w.held w.woken w.chans)).sum := by
      refine sum_map_le _ _ _ (fun n hn => ?_)
      have hne : n ≠ id := by simpa using (List.mem_filter.mp hn).2
      unfold stCost
      simp only [lookupFirst_eraseFirst_of_ne hne _, hother n hne]
      exact Nat.le_refl _
    have h2 := sum_map_filter_gap (stCost w.held w.woken w.chans) id (uniq w.streams) ((mem_uniq id _).mpr hl)
    refine phi_lt_of_stream rfl rfl rfl rfl rfl rfl rfl hu ?_
    simp only [stPot, stSum, uniq_filter]
    rw [Nat.add_right_comm]
    exact Nat.add_le_add (Nat.le_trans (Nat.add_le_add h1 (Nat.le_of_succ_le hcost)) h2)
      (sum_map_eraseFirst_le _ id w.chans)

end W5
end World
end Poster

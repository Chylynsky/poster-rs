/-
  Lemmas/WorldQuietInv.lean — the registration invariant `Inv`: every live task that is not flagged woken is
  parked with all its wake sources registered (`TaskOk`), plus the bookkeeping that makes this inductive
  (oneshot ownership, distinct operation ids, subscription ids not shared with a live stream). Under an exemption `E`
  it is kept by whatever the context's effects do (`Inv.of_act`); along a script nobody is exempt, and it is kept as
  `OwnInv` plus `Park` (WorldQuietPark).
-/
import PosterModel.Lemmas.WorldReach
import PosterModel.Lemmas.WorldSweep
import PosterModel.Lemmas.WorldOwnAct


namespace Poster
open Framing
namespace World

/-- the context future is parked: nothing to read and the transport waker registered, the framing machine
    idle; for `run()` additionally nothing queued, the queue waker registered and a sender alive -/
def CtxParked (w : World) : Prop :=
  w.reader = [] ∧ w.readerReg = true ∧ w.rx.st = .idle ∧
  ((w.task = .running true ∧ w.queue = [] ∧ w.queueReg = true ∧ w.senders ≠ 0) ∨
   (∃ call t a, w.task = .connecting call t a true))

/-- task `t` (if it is alive) is pending on events that have not happened, with every wake source registered -/
def TaskOk (w : World) : Task → Prop
  | .ctx => w.task ≠ .none → CtxParked w
  | .op id => ∀ st, w.opSt id = some st → ∃ s k, st = .wait s k ∧ w.slot s = some .empty ∧ s ∈ w.slotReg
  | .st id => id ∈ w.streams → ∀ ch, w.chan id = some ch → ch.buf = [] ∧ ch.txAlive = true ∧ ch.reg = true

/-- the registration invariant; `E` exempts tasks (the one being polled right now) -/
structure Inv (E : Task → Prop) (w : World) : Prop where
  hasCtx : w.task ≠ .none → w.hasCtx = true
  ok : ∀ t, t ∉ w.woken → ¬ E t → TaskOk w t
  own : ∀ id s k, w.opSt id = some (.wait s k) → s = 2 * id ∨ (s = 2 * id + 1 ∧ k = .pubcomp)
  slotEx : ∀ id s k, w.opSt id = some (.wait s k) → ¬ E (.op id) → w.slot s ≠ none
  nodup : (w.ops.map (·.1)).Nodup
  subp : ∀ id, ((∃ h t, w.opSt id = some (.fresh h (.subscribe t))) ∨ (∃ s, w.opSt id = some (.wait s .suback))) →
    id ∉ w.streams ∧ id ∉ w.rsps
  disj : ∀ id, id ∈ w.rsps → id ∉ w.streams

/-- nobody exempt -/
def NoE : Task → Prop := fun _ => False

theorem parked_pollCtx (w : World) (hp : CtxParked w) : w.pollCtx = w := by
  obtain ⟨h1, h2, h3, h4⟩ := hp
  -- the poll sets registrations that are set already
  have e : ∀ r q, w.readerReg = r → w.queueReg = q → ({ w with readerReg := r, queueReg := q } : World) = w :=
    fun r q hr hq => by subst hr hq; rfl
  rcases h4 with ⟨a1, a2, a3, a4⟩ | ⟨call, t, a, a1⟩
  · rw [pollCtx_idle_running w a1 a2 h1 (Nat.pos_of_ne_zero a4) h3]
    exact e _ _ h2 a3
  · rw [pollCtx_idle_connecting w call t a a1 h1 h3]
    exact e _ _ h2 rfl

theorem pollTask_eq_self (w : World) (t : Task) (hl : w.taskLive t = true) (hw : t ∉ w.woken)
    (hok : TaskOk w t) : w.pollTask t = w := by
  unfold pollTask
  rw [unwake_of_not_mem w t hw]
  cases t with
  | ctx => exact parked_pollCtx w (hok (by simpa [taskLive] using hl))
  | op n =>
    obtain ⟨st, hst⟩ := Option.isSome_iff_exists.mp hl
    obtain ⟨s, k, rfl, hs, hr⟩ := hok st hst
    show w.pollOp n = w
    rw [pollOp_of_empty hst (Or.inr hs), if_pos hr]
  | st n =>
    have hn : n ∈ w.streams := of_decide_eq_true hl
    show w.pollStream n = w
    cases hc : w.chan n with
    | none => exact User.pollStream_noop w n (Or.inr hc)
    | some ch =>
      obtain ⟨h1, h2, h3⟩ := hok hn ch hc
      have e : ∀ r, ch.reg = r → ({ ch with reg := r } : Chan) = ch := fun r hr => by subst hr; rfl
      rw [User.pollStream_pending w n ch hn hc h1 h2, e _ h3, setAssoc_lookup_self _ _ _ hc]

theorem sweep_eq_self (w : World) (h : Inv NoE w) : w.sweep = w :=
  sweep_lift_unflagged (R := fun w w' => Inv NoE w → w' = w) (fun _ _ => rfl)
    (fun f g h => by have e := f h; subst e; exact g h)
    (fun w t hl hw _ h => pollTask_eq_self w t hl hw (h.ok t hw (fun x => x))) w h

theorem TaskOk.ctx_congr {w w' : World} (h : TaskOk w .ctx) (h1 : w'.task = w.task) (h2 : w'.reader = w.reader)
    (h3 : w'.readerReg = w.readerReg) (h4 : w'.rx = w.rx) (h5 : w'.queue = w.queue)
    (h6 : w'.queueReg = w.queueReg) (h7 : w.senders ≠ 0 → w'.senders ≠ 0) : TaskOk w' .ctx := by
  intro hne
  obtain ⟨a1, a2, a3, a4⟩ := h (h1 ▸ hne)
  refine ⟨by rw [h2]; exact a1, by rw [h3]; exact a2, by rw [h4]; exact a3, ?_⟩
  rcases a4 with ⟨b1, b2, b3, b4⟩ | ⟨call, t, a, b1⟩
  · exact Or.inl ⟨by rw [h1]; exact b1, by rw [h5]; exact b2, by rw [h6]; exact b3, h7 b4⟩
  · exact Or.inr ⟨call, t, a, by rw [h1]; exact b1⟩

theorem ActInv.taskOk_st {w w' : World} (a : ActInv w w') {id : Nat} (hn : Task.st id ∉ w'.woken)
    (h0 : TaskOk w (.st id)) : TaskOk w' (.st id) := by
  intro hs ch' hch'
  cases hv : w.chan id with
  | none => rw [a.chanNone id hv] at hch'; cases hch'
  | some c0 =>
    obtain ⟨c1, e1, _, k⟩ := a.chanSome id c0 hv
    obtain ⟨b1, b2, b3⟩ := h0 (a.streams_eq ▸ hs) c0 hv
    rw [e1] at hch'; cases hch'
    rcases k with k | k
    · subst k; exact ⟨b1, b2, b3⟩
    · exact absurd (k b3) hn

/-- a oneshot that stops being `empty` wakes the operation registered on it, likewise for the channels (`ActInv`), so
    a task that is still not flagged finds what it waits on as it was. The context task is exempt, or keeps its
    parking. -/
theorem Inv.of_act {E : Task → Prop} {w w' : World} (h : Inv E w) (a : ActInv w w')
    (hhc : w'.task ≠ .none → w'.hasCtx = true)
    (hctx : ¬ E .ctx → Task.ctx ∉ w'.woken → TaskOk w .ctx → TaskOk w' .ctx) : Inv E w' := by
  have ho : ∀ i, w'.opSt i = w.opSt i := fun i => by simp [opSt, a.ops_eq]
  refine ⟨hhc, fun t ht hE => ?_, fun id s k hop => h.own id s k (ho id ▸ hop),
    fun id s k hop hE => a.slot_ne_none s (h.slotEx id s k (ho id ▸ hop) hE), a.ops_eq ▸ h.nodup,
    fun id hs => ?_, fun id hs => ?_⟩
  · have h0 := h.ok t (fun hm => ht (a.wokenMono t hm)) hE
    cases t with
    | ctx => exact hctx hE ht h0
    | op id =>
      intro st hst
      obtain ⟨s, k, rfl, he, hr⟩ := h0 st (ho id ▸ hst)
      rcases a.slotEmpty s he with ⟨e, r⟩ | ⟨_, _, wk⟩
      · exact ⟨s, k, rfl, e, r hr⟩
      · have hid : s / 2 = id := by have := h.own id s k (ho id ▸ hst); omega
        exact absurd (hid ▸ wk hr) ht
    | st id => exact a.taskOk_st ht h0
  · rw [a.streams_eq, a.rsps_eq]; exact h.subp id (by simpa only [ho] using hs)
  · rw [a.streams_eq]; exact h.disj id (a.rsps_eq ▸ hs)

theorem Inv.emit {E : Task → Prop} {w : World} (h : Inv E w) (o : Obs) : Inv E (w.emit o) :=
  { h with }

/-- the identifier counters are invisible to the invariant, like every field it does not read -/
theorem Inv.allocPid {E : Task → Prop} {w : World} (h : Inv E w) : Inv E w.allocPid.2 :=
  { h with }

theorem length_eraseFirst_le {β} (k : Nat) (l : List (Nat × β)) : (eraseFirst k l).length ≤ l.length :=
  (eraseFirst_sublist k l).length_le

end World
end Poster

/-
  Lemmas/WorldCancelSub.lean — the context's side of a dropped receiver (a `subscribe()` future dropped while it waits
  for its SUBACK, a dropped response, a dropped stream): the dispatch loop of the PUBLISH arm unregisters the dead
  receiver instead of buffering for it. This affects the registration and the effects of that one channel only.
-/
import PosterModel.Lemmas.WorldCancelHide
import PosterModel.Lemmas.CtxBasic

namespace Poster
open Framing
namespace World
namespace W11

/-- the effect does not concern subscription channel `ch` (it is not a delivery into `ch`, nor the drop of its sender) -/
def offCh (ch : Nat) : Eff → Bool
  | .deliver c _ => decide (c ≠ ch)
  | .dropChan c => decide (c ≠ ch)
  | _ => true

def subsOff (ch : Nat) (subs : List (Nat × Nat)) : List (Nat × Nat) := subs.filter (fun x => decide (x.2 ≠ ch))

theorem subsOff_cons (ch a b : Nat) (t : List (Nat × Nat)) :
    subsOff ch ((a, b) :: t) = if b ≠ ch then (a, b) :: subsOff ch t else subsOff ch t := by
  unfold subsOff
  by_cases h : b = ch <;> simp [h]

theorem subsOff_keys_subset (ch sid : Nat) (t : List (Nat × Nat)) (h : sid ∈ (subsOff ch t).map (·.1)) :
    sid ∈ t.map (·.1) := by
  obtain ⟨x, hx, rfl⟩ := List.mem_map.mp h
  exact List.mem_map.mpr ⟨x, (List.mem_filter.mp hx).1, rfl⟩

theorem subsOff_nodup (ch : Nat) (t : List (Nat × Nat)) (h : (t.map (·.1)).Nodup) : ((subsOff ch t).map (·.1)).Nodup :=
  (List.Sublist.map _ List.filter_sublist).nodup h

theorem subsOff_no_ch (ch : Nat) (t : List (Nat × Nat)) : ∀ x ∈ subsOff ch t, x.2 ≠ ch := by
  intro x hx
  simpa using (List.mem_filter.mp hx).2

theorem lookupFirst_subsOff (ch sid : Nat) (subs : List (Nat × Nat)) (hn : (subs.map (·.1)).Nodup) :
    lookupFirst sid (subsOff ch subs) =
      match lookupFirst sid subs with
      | some x => if x = ch then none else some x
      | none => none := by
  induction subs with
  | nil => rfl
  | cons e t ih =>
    obtain ⟨a, b⟩ := e
    simp only [List.map_cons, List.nodup_cons] at hn
    rw [subsOff_cons]
    by_cases ha : a = sid
    · subst ha
      simp only [lookupFirst, ↓reduceIte]
      by_cases hb : b = ch
      · simp only [hb, ne_eq, not_true_eq_false, ↓reduceIte]
        rw [lookupFirst_none_iff]
        exact fun hm => hn.1 (subsOff_keys_subset ch a t hm)
      · simp [hb, lookupFirst]
    · by_cases hb : b = ch
      · simp only [hb, ne_eq, not_true_eq_false, ↓reduceIte, lookupFirst, ha]
        exact ih hn.2
      · simp only [hb, ne_eq, not_false_eq_true, ↓reduceIte, lookupFirst, ha]
        exact ih hn.2

theorem subsOff_eraseFirst (ch sid : Nat) (subs : List (Nat × Nat)) :
    subsOff ch (eraseFirst sid subs) =
      if lookupFirst sid subs = some ch then subsOff ch subs else eraseFirst sid (subsOff ch subs) := by
  induction subs with
  | nil => simp [subsOff, eraseFirst_nil, lookupFirst]
  | cons e t ih =>
    obtain ⟨a, b⟩ := e
    rw [eraseFirst_cons]
    by_cases ha : a = sid
    · subst ha
      simp only [↓reduceIte, lookupFirst, Option.some.injEq, subsOff_cons]
      by_cases hb : b = ch
      · simp [hb]
      · simp [hb, eraseFirst_cons]
    · simp only [ha, ↓reduceIte, lookupFirst, subsOff_cons, ih]
      by_cases hl : lookupFirst sid t = some ch
      · simp [hl]
      · by_cases hb : b = ch
        · simp [hl, hb]
        · simp [hl, hb, eraseFirst_cons, ha]

/-- whether the receiver of `ch` is alive (messages are buffered for it) or dead (it is unregistered): away from `ch`,
    dispatching is dispatching with the table that never had `ch` -/
theorem dispatch_off (ch : Nat) (alive : Nat → Bool) (p : PublishRx) (sids : List Nat) (subs : List (Nat × Nat))
    (hn : (subs.map (·.1)).Nodup) :
    subsOff ch (Ctx.dispatch alive p sids subs).1 = (Ctx.dispatch alive p sids (subsOff ch subs)).1 ∧
    (Ctx.dispatch alive p sids subs).2.filter (offCh ch) = (Ctx.dispatch alive p sids (subsOff ch subs)).2 := by
  -- what the table without `ch` says under an identifier
  have look : ∀ {sid subs}, (subs.map (·.1)).Nodup → ∀ x, lookupFirst sid subs = x →
      lookupFirst sid (subsOff ch subs) = match x with
        | some y => if y = ch then none else some y
        | none => none := fun hn x hx => hx ▸ lookupFirst_subsOff ch _ _ hn
  refine Ctx.dispatch_induct (alive := alive) (p := p)
    (motive := fun sids subs r => (subs.map (·.1)).Nodup →
      subsOff ch r.1 = (Ctx.dispatch alive p sids (subsOff ch subs)).1 ∧
      r.2.filter (offCh ch) = (Ctx.dispatch alive p sids (subsOff ch subs)).2)
    (fun _ _ => ⟨rfl, rfl⟩) (fun sid rest subs r h ih hn => ?_) (fun sid x rest subs r h ha ih hn => ?_)
    (fun sid x rest subs r h ha ih hn => ?_) sids subs hn
  · rw [Ctx.dispatch_cons_absent _ _ _ _ _ (look hn _ h)]; exact ih hn
  · by_cases hx : x = ch
    · -- a delivery into `ch`: the other table does not know the identifier
      rw [Ctx.dispatch_cons_absent _ _ _ _ _ ((look hn _ h).trans (if_pos hx)),
        List.filter_cons_of_neg (by simp [offCh, hx])]
      exact ih hn
    · rw [Ctx.dispatch_cons_alive _ _ _ _ _ _ ((look hn _ h).trans (if_neg hx)) ha,
        List.filter_cons_of_pos (by simp [offCh, hx])]
      exact ⟨(ih hn).1, congrArg _ (ih hn).2⟩
  · have ih := ih (eraseFirst_keys_nodup sid subs hn)
    rw [subsOff_eraseFirst] at ih
    by_cases hx : x = ch
    · -- `ch` is unregistered: the other table never had it
      rw [if_pos (hx ▸ h)] at ih
      rw [Ctx.dispatch_cons_absent _ _ _ _ _ ((look hn _ h).trans (if_pos hx)),
        List.filter_cons_of_neg (by simp [offCh, hx])]
      exact ih
    · rw [if_neg (fun e => hx (Option.some.inj (h.symm.trans e)))] at ih
      rw [Ctx.dispatch_cons_dead _ _ _ _ _ _ ((look hn _ h).trans (if_neg hx)) ha,
        List.filter_cons_of_pos (by simp [offCh, hx])]
      exact ⟨ih.1, congrArg _ ih.2⟩

theorem dispatch_congr_off (ch : Nat) (alive alive' : Nat → Bool) (hag : ∀ x, x ≠ ch → alive x = alive' x)
    (p : PublishRx) (sids : List Nat) (subs : List (Nat × Nat)) (hno : ∀ x ∈ subs, x.2 ≠ ch) :
    Ctx.dispatch alive p sids subs = Ctx.dispatch alive' p sids subs := by
  exact Ctx.dispatch_congr alive alive' p sids subs fun x hx => by
    obtain ⟨e, he, rfl⟩ := List.mem_map.mp hx
    exact hag _ (hno e he)

theorem dispatch_sim (ch : Nat) (alive alive' : Nat → Bool) (hag : ∀ x, x ≠ ch → alive x = alive' x)
    (p : PublishRx) (sids : List Nat) (subs subs' : List (Nat × Nat)) (hn : (subs.map (·.1)).Nodup)
    (hn' : (subs'.map (·.1)).Nodup) (hf : subsOff ch subs = subsOff ch subs') :
    subsOff ch (Ctx.dispatch alive p sids subs).1 = subsOff ch (Ctx.dispatch alive' p sids subs').1 ∧
    (Ctx.dispatch alive p sids subs).2.filter (offCh ch) = (Ctx.dispatch alive' p sids subs').2.filter (offCh ch) ∧
    (((Ctx.dispatch alive p sids subs).1).map (·.1)).Nodup ∧
    (((Ctx.dispatch alive' p sids subs').1).map (·.1)).Nodup := by
  obtain ⟨a1, a2⟩ := dispatch_off ch alive p sids subs hn
  obtain ⟨b1, b2⟩ := dispatch_off ch alive' p sids subs' hn'
  have a3 := ((Ctx.dispatch_sublist alive p sids subs).map (·.1)).nodup hn
  have b3 := ((Ctx.dispatch_sublist alive' p sids subs').map (·.1)).nodup hn'
  have e := dispatch_congr_off ch alive alive' hag p sids (subsOff ch subs') (subsOff_no_ch ch subs')
  rw [hf, e] at a1 a2
  exact ⟨a1.trans b1.symm, a2.trans b2.symm, a3, b3⟩

def noSubs (c : Ctx) : Ctx := { c with subs := [] }

theorem bump_withSubs (c : Ctx) (s' : List (Nat × Nat)) :
    ({ c with subs := s' } : Ctx).bump = { c.bump with subs := s' } := by
  by_cases h : c.quota ≠ c.recvMax
  · rw [Ctx.bump, Ctx.bump, if_pos h, if_pos (show ({ c with subs := s' } : Ctx).quota ≠ _ from h)]
  · rw [Ctx.bump, Ctx.bump, if_neg h, if_neg (show ¬ ({ c with subs := s' } : Ctx).quota ≠ _ from h)]

theorem handlePkt_withSubs (c : Ctx) (s' : List (Nat × Nat)) (alive alive' : Nat → Bool) (p : RxPacket) (wok : Bool)
    (hp : ∀ pb, p ≠ .publish pb) :
    ({ c with subs := s' } : Ctx).handlePkt alive' p wok =
      ({ (c.handlePkt alive p wok).1 with subs := s' }, (c.handlePkt alive p wok).2) := by
  cases p.kind with
  | publish pb => exact absurd rfl (hp pb)
  | pubrel a | disconnect d => rfl
  | idle p _ _ hi => rw [hi, hi]
  | ack p aid h hrel =>
    rw [Ctx.handlePkt_ack_eq _ alive' p wok aid h hrel, Ctx.handlePkt_ack_eq c alive p wok aid h hrel,
      Ctx.complete_effs, Ctx.complete_effs]
    simp only [bump_withSubs]

theorem subsOff_append (ch : Nat) (a b : List (Nat × Nat)) : subsOff ch (a ++ b) = subsOff ch a ++ subsOff ch b :=
  List.filter_append ..

theorem handlePkt_sim (ch : Nat) (c : Ctx) (s' : List (Nat × Nat)) (alive alive' : Nat → Bool)
    (hag : ∀ x, x ≠ ch → alive x = alive' x) (hn : (c.subs.map (·.1)).Nodup) (hn' : (s'.map (·.1)).Nodup)
    (hf : subsOff ch c.subs = subsOff ch s') (p : RxPacket) (wok : Bool) :
    (c.handlePkt alive p wok).2.2 = (({ c with subs := s' } : Ctx).handlePkt alive' p wok).2.2 ∧
    (c.handlePkt alive p wok).2.1.filter (offCh ch) =
      (({ c with subs := s' } : Ctx).handlePkt alive' p wok).2.1.filter (offCh ch) ∧
    noSubs (c.handlePkt alive p wok).1 = noSubs (({ c with subs := s' } : Ctx).handlePkt alive' p wok).1 ∧
    subsOff ch (c.handlePkt alive p wok).1.subs =
      subsOff ch (({ c with subs := s' } : Ctx).handlePkt alive' p wok).1.subs ∧
    (((c.handlePkt alive p wok).1.subs).map (·.1)).Nodup ∧
    (((({ c with subs := s' } : Ctx).handlePkt alive' p wok).1.subs).map (·.1)).Nodup := by
  by_cases hp : ∃ pb, p = .publish pb
  · obtain ⟨pb, rfl⟩ := hp
    rw [Ctx.handlePkt_publish_eq c alive pb wok, Ctx.handlePkt_publish_eq _ alive' pb wok]
    by_cases hr : pb.qos = 2 ∧ pb.packetId.getD 0 ∈ c.inQos2
    · simp only [hr, and_self, ↓reduceIte]
      exact ⟨trivial, trivial, rfl, hf, hn, hn'⟩
    · obtain ⟨d1, d2, d3, d4⟩ := dispatch_sim ch alive alive' hag pb pb.subIds c.subs s' hn hn' hf
      simp only [hr, ↓reduceIte]
      refine ⟨trivial, ?_, rfl, d1, d3, d4⟩
      rw [List.filter_append, List.filter_append, d2]
  · -- every other arm ignores the table and leaves it as it is
    have hp' : ∀ pb, p ≠ .publish pb := fun pb e => hp ⟨pb, e⟩
    rw [handlePkt_withSubs c s' alive alive' p wok hp']
    have e := Ctx.handlePkt_subs_other c alive p wok hp'
    exact ⟨rfl, rfl, rfl, by rw [e]; exact hf, by rw [e]; exact hn, hn'⟩

theorem handleMsg_sim (ch : Nat) (c : Ctx) (s' : List (Nat × Nat)) (hf : subsOff ch c.subs = subsOff ch s')
    (m : Msg) (wok : Bool) :
    (c.handleMsg m wok).2 = (({ c with subs := s' } : Ctx).handleMsg m wok).2 ∧
    noSubs (c.handleMsg m wok).1 = noSubs (({ c with subs := s' } : Ctx).handleMsg m wok).1 ∧
    subsOff ch (c.handleMsg m wok).1.subs = subsOff ch (({ c with subs := s' } : Ctx).handleMsg m wok).1.subs := by
  rw [Ctx.handleMsg_withSubs c s' m wok]
  exact ⟨rfl, rfl, by rw [Ctx.handleMsg_subs c m wok, subsOff_append, subsOff_append, hf]⟩

theorem onChan_footprint (w : World) (c : Nat) (f : Chan → Chan) :
    ∃ chs wk, onChan w c f = { w with chans := chs, woken := wk } ∧
      (∀ y, y ≠ c → lookupFirst y chs = w.chan y) ∧ (∀ t, t ≠ .st c → (t ∈ wk ↔ t ∈ w.woken)) := by
  cases h : w.chan c with
  | none => exact ⟨w.chans, w.woken, onChan_none h f, fun _ _ => rfl, fun _ _ => Iff.rfl⟩
  | some ch =>
    refine ⟨_, _, onChan_some h f, fun y hy => lookupFirst_setAssoc_of_ne hy _ _, fun t ht => ?_⟩
    split
    · rw [mem_wake_iff]; exact ⟨fun h => h.resolve_left ht, Or.inr⟩
    · exact Iff.rfl

/-- two sessions that differ at most in the registrations of channel `ch` -/
def CSim (ch : Nat) (c c' : Ctx) : Prop := noSubs c = noSubs c' ∧ subsOff ch c.subs = subsOff ch c'.subs

theorem CSim.eq_with {ch : Nat} {c c' : Ctx} (h : CSim ch c c') : c' = { c with subs := c'.subs } := by
  have := h.1
  cases c; cases c'
  simp only [noSubs, Ctx.mk.injEq] at this
  simp_all

/-- two inputs of the serving loop that differ at most in whether the receiver of `ch` is reported dead -/
def InSim (ch : Nat) : CIn → CIn → Prop
  | .msg m wok, .msg m' wok' => m = m' ∧ wok = wok'
  | .pkt p dead wok, .pkt p' dead' wok' => p = p' ∧ wok = wok' ∧ ∀ x, x ≠ ch → (x ∈ dead ↔ x ∈ dead')
  | _, _ => False

def InsSim (ch : Nat) : List CIn → List CIn → Prop
  | [], [] => True
  | i :: is, i' :: is' => InSim ch i i' ∧ InsSim ch is is'
  | _, _ => False

/-- every subscription identifier is registered once in every session the served history goes through -/
def OnceAlong (c : Ctx) : List CIn → Prop
  | [] => (c.subs.map (·.1)).Nodup
  | i :: is => (c.subs.map (·.1)).Nodup ∧ ((c.stepIn i).2.flow = .cont → OnceAlong (c.stepIn i).1 is)

def obsOff (ch : Nat) : CObs → CObs
  | .msg m effs fl => .msg m (effs.filter (offCh ch)) fl
  | .pkt p effs fl => .pkt p (effs.filter (offCh ch)) fl

theorem stepIn_sim (ch : Nat) (c c' : Ctx) (i i' : CIn) (hc : CSim ch c c') (hi : InSim ch i i')
    (hn : (c.subs.map (·.1)).Nodup) (hn' : (c'.subs.map (·.1)).Nodup) :
    CSim ch (c.stepIn i).1 (c'.stepIn i').1 ∧ obsOff ch (c.stepIn i).2 = obsOff ch (c'.stepIn i').2 ∧
    (c.stepIn i).2.flow = (c'.stepIn i').2.flow := by
  have e := hc.eq_with
  cases i with
  | msg m wok =>
    cases i' with
    | pkt p' dead' wok' => exact hi.elim
    | msg m' wok' =>
      obtain ⟨rfl, rfl⟩ := hi
      obtain ⟨h1, h2, h3⟩ := handleMsg_sim ch c c'.subs hc.2 m wok
      rw [← e] at h1 h2 h3
      simp only [Ctx.stepIn]
      refine ⟨⟨h2, h3⟩, ?_, ?_⟩
      · simp only [obsOff, CObs.msg.injEq, true_and]
        rw [h1]; exact ⟨rfl, rfl⟩
      · simp only [CObs.flow]; rw [h1]
  | pkt p dead wok =>
    cases i' with
    | msg m' wok' => exact hi.elim
    | pkt p' dead' wok' =>
      obtain ⟨rfl, rfl, hd⟩ := hi
      have hag : ∀ x, x ≠ ch → (fun c0 => decide (c0 ∉ dead)) x = (fun c0 => decide (c0 ∉ dead')) x := by
        intro x hx; simp [hd x hx]
      obtain ⟨h1, h2, h3, h4, _, _⟩ := handlePkt_sim ch c c'.subs _ _ hag hn hn' hc.2 p wok
      rw [← e] at h1 h2 h3 h4
      simp only [Ctx.stepIn]
      refine ⟨⟨h3, h4⟩, ?_, ?_⟩
      · simp only [obsOff, CObs.pkt.injEq, true_and]
        exact ⟨h2, h1⟩
      · simp only [CObs.flow]; exact h1

end W11
end World
end Poster

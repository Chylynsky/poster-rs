/-
  Lemmas/TxMock.lean — the mock transport's answers (TxMock.lean) always suffice to complete a `write_all`.
-/
import PosterModel.TxMock
import PosterModel.Lemmas.TxStream

namespace Poster.TxStream
open Poster

theorem MockW.answers_pending (f rem : Nat) {m : MockW} (h : m.pend ∧ (!m.yielded) = true) :
    (m.answers (f + 1) (rem + 1)).1 = .pending :: (MockW.answers f { m with yielded := true } (rem + 1)).1 := by
  simp only [MockW.answers, h, and_self, if_true]

theorem MockW.answers_accept (f rem : Nat) {m : MockW} (h : ¬(m.pend ∧ (!m.yielded) = true)) :
    (m.answers (f + 1) (rem + 1)).1 = .accept (if m.one then 0 else rem) ::
      (MockW.answers f { m with yielded := false } (rem - if m.one then 0 else rem)).1 := by
  simp only [MockW.answers, h, if_false]
  cases m.one
  · simp only [Bool.false_eq_true, if_false, Nat.add_sub_cancel, Nat.sub_self]
  · simp only [if_true, Nat.sub_self, Nat.add_sub_cancel, Nat.sub_zero]

theorem MockW.yields_iff (m : MockW) : (m.pend ∧ !m.yielded) ↔ ¬(m.yielded ∨ !m.pend) := by
  cases m.pend <;> cases m.yielded <;> simp

/-- The mock's answers always suffice to complete the `write_all` they are generated for. Fuel measure: a `Pending`
    answer is always followed by an `accept` of at least one byte, so two units per byte suffice, one less if the mock
    does not start with `Pending`. -/
theorem answers_complete (f : Nat) (m : MockW) (p : Bytes)
    (h : 2 * p.length ≤ f + (if m.yielded ∨ !m.pend then 1 else 0)) :
    (writeAll p (m.answers f p.length).1).1.out = .done ∧ (writeAll p (m.answers f p.length).1).1.acc = p := by
  induction f generalizing m p with
  | zero =>
    cases p with
    | nil => exact ⟨rfl, rfl⟩
    | cons b bs =>
      have : (if m.yielded ∨ !m.pend then 1 else 0) ≤ 1 := by split <;> decide
      rw [List.length_cons] at h
      omega
  | succ f ih =>
    cases p with
    | nil => exact ⟨rfl, rfl⟩
    | cons b bs =>
      rw [List.length_cons] at h ⊢
      by_cases hy : m.pend ∧ (!m.yielded) = true
      · -- `Pending` first; the mock has yielded: the same packet with one unit of fuel less
        rw [if_neg (m.yields_iff.mp hy)] at h
        rw [MockW.answers_pending f _ hy, (writeAll_pending (List.cons_ne_nil b bs) _).1,
          (writeAll_pending (List.cons_ne_nil b bs) _).2]
        exact ih { m with yielded := true } (b :: bs) (by rw [if_pos (Or.inl rfl)]; exact h)
      · -- an `accept` of `n + 1` bytes
        rw [if_pos (Decidable.not_not.mp (mt m.yields_iff.mpr hy))] at h
        rw [MockW.answers_accept f _ hy, (writeAll_accept (List.cons_ne_nil b bs) _ _).1,
          (writeAll_accept (List.cons_ne_nil b bs) _ _).2]
        generalize (if m.one then 0 else bs.length) = n
        have := ih { m with yielded := false } (bs.drop n) (by rw [List.length_drop]; omega)
        rw [List.length_drop] at this
        exact ⟨this.1, by rw [List.drop_succ_cons, this.2]; exact List.take_append_drop (n + 1) (b :: bs)⟩

/-- one `write_all` of a connection: the step of the fold in `mockStats` -/
def mockStep (acc : WStats × MockW) (p : Bytes) : WStats × MockW :=
  let (evs, m') := acc.2.answers (2 * p.length + 2) p.length
  let (r, polls) := writeAll p evs
  ({ calls := acc.1.calls + r.calls, pend := acc.1.pend + (polls - 1), bytes := acc.1.bytes + r.acc.length,
     ok := acc.1.ok && r.out == .done }, m')

theorem mockStats_eq (m : MockW) (pkts : List Bytes) : mockStats m pkts = (pkts.foldl mockStep ({}, m)).1 := rfl

theorem mockStep_complete (a : WStats × MockW) (p : Bytes) :
    (mockStep a p).1.ok = a.1.ok ∧ (mockStep a p).1.bytes = a.1.bytes + p.length := by
  have hc := answers_complete (2 * p.length + 2) a.2 p (by omega)
  show (a.1.ok && (writeAll p _).1.out == .done) = a.1.ok ∧ a.1.bytes + (writeAll p _).1.acc.length = _
  rw [hc.1, hc.2]
  exact ⟨Bool.and_true _, rfl⟩

theorem foldl_mockStep (pkts : List Bytes) (a : WStats × MockW) :
    (pkts.foldl mockStep a).1.ok = a.1.ok ∧
    (pkts.foldl mockStep a).1.bytes = a.1.bytes + (pkts.map List.length).sum := by
  induction pkts generalizing a with
  | nil => exact ⟨rfl, rfl⟩
  | cons p ps ih =>
    obtain ⟨h1, h2⟩ := mockStep_complete a p
    obtain ⟨i1, i2⟩ := ih (mockStep a p)
    rw [List.foldl_cons, List.map_cons, List.sum_cons, i1, i2, h1, h2, Nat.add_assoc]
    exact ⟨rfl, rfl⟩

end Poster.TxStream

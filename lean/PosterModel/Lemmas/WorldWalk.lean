/-
  Lemmas/WorldWalk.lean — a relation that holds across the moves of a poll of the context task holds across the poll, under
  every order in which `select!` polls its two branches. ONE walk over the loop and one over `connect()` / `authorize()`, for
  relations that carry a label multiplied along the moves (`LoopAcc`, `ConnAcc`; `LoopAcc.pollCtxS` puts them together);
  relations between worlds alone are its reading at `Unit`: `pollCtxS_via` (the moves that compute nothing are one frame,
  `CtxInert`), and from it the frames every poll respects (`pollCtxS_ctxFrame`, `pollTaskAny_pollFrame`).
-/
import PosterModel.Lemmas.WorldIter

namespace Poster
open Framing
namespace World

/-! ## what a poll is labelled with

The moves that matter to the context carry a label: a handler call (`fi`, with the context state it happens in and its
input), the resumption prelude of `run()` (`fr`), the request of `connect()` / `authorize()` handed to the transport
(`fq`), a CONNACK (`fk`). Labels are multiplied in the order of the moves. The functions below are what a poll of the
loop, of `run()`, of `connect()` / `authorize()` is labelled with; for labels that are lists of inputs the first one is
`loopHistS` (`loopAccS_hist`, Lemmas/WorldSelectIndep.lean). -/

section Acc
variable {L : Type} (one : L) (mul : L → L → L) (fi : Ctx → CIn → L) (fr : Ctx → L)
  (fq : Ctx → Call → ConnectTx → AuthTx → L) (fk : Ctx → ConnackRx → L)

def loopAccS (sched : Nat → Bool) : Nat → World → L
  | 0, _ => one
  | f+1, w =>
    match iterInS (sched f) w with
    | none => one
    | some i => mul (fi w.c i) (match runIterS (sched f) w with | .inl w1 => loopAccS sched f w1 | .inr _ => one)

def runAccS (sched : Nat → Bool) (w : World) (started : Bool) : L :=
  if started then loopAccS one mul fi sched w.loopFuel w else
  mul (fr w.c) (if w.resumed.canWrite ((w.c.resume.2.2.map List.length).sum) then
    loopAccS one mul fi sched w.resent.loopFuel w.resent else one)

def firstAcc (w : World) : L :=
  match pollNext w.rx w.reader with
  | (_, _, .item fr) =>
    (match decodeRx fr with
     | .ok (.connack k) => fk w.c k
     | _ => one)
  | _ => one

def connAcc (w : World) (call : Call) (t : ConnectTx) (a : AuthTx) (started : Bool) : L :=
  if started then firstAcc one fk w else
  if !reqValid call t a then one else
    mul (fq w.c call t a)
      (if w.canWrite (W7.reqBytes call t a).length then
         firstAcc one fk ((W7.seiSet w call t).writeBytes (W7.reqBytes call t a))
       else one)

theorem loopAccS_succ (sched : Nat → Bool) (f : Nat) (w : World) :
    loopAccS one mul fi sched (f + 1) w = match iterInS (sched f) w with
      | none => one
      | some i => mul (fi w.c i)
          (match runIterS (sched f) w with | .inl w1 => loopAccS one mul fi sched f w1 | .inr _ => one) := rfl

/-! ## the walk -/

/-- `R` relates a world to itself at the unit label and composes, the labels multiplied -/
structure Labelled (R : World → World → L → Prop) : Prop where
  refl : ∀ w, R w w one
  trans : ∀ {a b c x y}, R a b x → R b c y → R a c (mul x y)
  mul_one : ∀ l, mul l one = l
  one_mul : ∀ l, mul one l = l

theorem Labelled.then_ {one mul} {R : World → World → L → Prop} (T : Labelled one mul R) {a b c : World} {x : L}
    (h1 : R a b x) (h2 : R b c one) : R a c x := T.mul_one x ▸ T.trans h1 h2

/-- `R` holds across the moves of the loop under the scheduler `sched`: a handler run on a queued message or on a decoded
    packet — labelled with that call; unless `sched` polls the packet branch first somewhere, nothing is queued when a
    packet is handled —, and with the unit label the reader armed after a `Pending` packet branch, `run()` returning, the
    framing layer consuming input, the decoder panic -/
structure LoopAcc (sched : Nat → Bool) (R : World → World → L → Prop) : Prop extends Labelled one mul R where
  msg : ∀ w m q, w.queue = m :: q →
    R w (({ w with queue := q }).runHandler (fun wok => w.c.handleMsg m wok)).1 (fi w.c (w.inMsg m))
  pkt : ∀ w rx' rd' fr p, (w.queue = [] ∨ ∃ n, sched n = true) → pollNext w.rx w.reader = (rx', rd', .item fr) →
    decodeRx fr = .ok p →
    R w (({ w with rx := rx', reader := rd' }).runHandler (fun wok => w.c.handlePkt w.chanRxAlive p wok)).1
      (fi w.c (w.inPkt p))
  arm : ∀ w rx' rd' qr, pollNext w.rx w.reader = (rx', rd', .pending) →
    R w (armReader { w with rx := rx', reader := rd', queueReg := qr }) one
  fin : ∀ w res, R w (w.finish .run res) one
  adv : ∀ w rx' rd' o, pollNext w.rx w.reader = (rx', rd', o) → R w { w with rx := rx', reader := rd' } one
  panic : ∀ w rx' rd' fr, pollNext w.rx w.reader = (rx', rd', .item fr) → decodeRx fr = .panic →
    R w (({ w with rx := rx', reader := rd', task := .none }).emit (.panic .ctx "other")) one

namespace LoopAcc
variable {one mul fi} {sched : Nat → Bool} {R : World → World → L → Prop} (M : LoopAcc one mul fi sched R)
include M

theorem after {w w1 : World} {x : L} (h : R w w1 x) (fl : Flow) : R w ((afterHandler w1 fl).elim id id) x := by
  cases fl with
  | cont => exact h
  | _ => exact M.then_ h (M.fin _ _)

theorem runIterS (pf : Bool) (hpf : pf = true → ∃ n, sched n = true) (w : World) :
    (∃ i, iterInS pf w = some i ∧ R w ((World.runIterS pf w).elim id id) (fi w.c i)) ∨
    (iterInS pf w = none ∧ ∃ r, World.runIterS pf w = .inr r ∧ R w r one) := by
  obtain ⟨wa, ha, h, hpk, hq0⟩ := runIterS_spec pf w
  -- the packet branch, polled first, may have returned `Pending`: the reader is armed, the context is as before
  have harm : R w wa one ∧ wa.c = w.c := by
    rcases ha with rfl | ⟨rx', rd', hp, rfl⟩
    · exact ⟨M.refl _, rfl⟩
    · exact ⟨M.arm w rx' rd' w.queueReg hp, (armReader_in _).1⟩
  rcases h with ⟨i, w1, fl, hh, hi, e⟩ | ⟨r, hr, hi, e⟩
  · have h1 : R wa w1 (fi wa.c i) := by
      cases hh with
      | msg m q hq => exact M.msg wa m q hq
      | pkt rx' rd' fr p hp hd =>
        -- a packet is handled from `w` itself; with the message branch first nothing is queued then
        have hw : wa = w := hpk.resolve_right fun hn => hn _ _ _ hi
        subst hw
        refine M.pkt wa rx' rd' fr p ?_ hp hd
        cases pf with
        | true => exact Or.inr (hpf rfl)
        | false => exact Or.inl (hq0 rfl _ _ _ hi)
    have h2 := M.trans harm.1 (M.after h1 fl)
    rw [M.one_mul, harm.2, ← e] at h2
    exact Or.inl ⟨i, hi, h2⟩
  · have h1 : R wa r one := by
      cases hr with
      | closed => exact M.fin _ _
      | codec rx' rd' fr hp => exact M.then_ (M.adv wa rx' rd' _ hp) (M.fin _ _)
      | panic rx' rd' fr hp hd => exact M.panic wa rx' rd' fr hp hd
      | sock rx' rd' hp => exact M.then_ (M.adv wa rx' rd' _ hp) (M.fin _ _)
      | park rx' rd' _ _ hp => exact M.arm wa rx' rd' true hp
    exact Or.inr ⟨hi, r, e, M.then_ harm.1 h1⟩

theorem runLoopS (f : Nat) (w : World) : R w (World.runLoopS sched f w) (loopAccS one mul fi sched f w) := by
  induction f generalizing w with
  | zero => exact M.refl w
  | succ f ih =>
    rw [runLoopS_succ, loopAccS_succ]
    rcases M.runIterS (sched f) (fun h => ⟨f, h⟩) w with ⟨i, hi, h⟩ | ⟨hi, r, hr, h⟩
    · rw [hi]
      cases hr : World.runIterS (sched f) w with
      | inl w1 => rw [hr] at h; exact M.trans h (ih w1)
      | inr r =>
        rw [hr] at h
        show R w r (mul (fi w.c i) one)
        rw [M.mul_one]; exact h
    · rw [hi, hr]; exact h

theorem pollRunS (resent : ∀ w, w.task ≠ .none → R w w.resent (fr w.c))
    (resentFail : ∀ w, w.task ≠ .none → w.resumed.canWrite ((w.c.resume.2.2.map List.length).sum) = false →
      R w (w.resumed.writeBytes w.c.resume.2.2.flatten) (fr w.c))
    (w : World) (started : Bool) (hl : w.task ≠ .none) :
    R w (w.pollRunS sched started) (runAccS one mul fi fr sched w started) := by
  unfold runAccS
  cases started with
  | true => exact M.runLoopS _ w
  | false =>
    rw [pollRunS_first]
    simp only [Bool.false_eq_true, ↓reduceIte]
    by_cases hc : w.resumed.canWrite ((w.c.resume.2.2.map List.length).sum) = true
    · rw [if_pos hc, if_pos hc]
      exact M.trans (resent w hl) (M.runLoopS _ _)
    · rw [if_neg hc, if_neg hc]
      exact M.trans (resentFail w hl (by simpa using hc)) (M.fin _ _)

end LoopAcc

/-- `R` holds across the moves of a poll of `connect()` / `authorize()`, each with what is known when it happens: the
    request — encodable, first poll — is handed to the transport (`connect()` records its session expiry first); a frame
    is read that decodes to a CONNACK, which is handled; and with the unit label the reader armed when nothing is there yet
    (the call waits), the call returning, the framing layer consuming input, the task ending with a `PANIC` line -/
structure ConnAcc (R : World → World → L → Prop) : Prop extends Labelled one mul R where
  request : ∀ w call t a, w.task = .connecting call t a false → reqValid call t a = true →
    R w ((W7.seiSet w call t).writeBytes (W7.reqBytes call t a)) (fq w.c call t a)
  connack : ∀ w call t a st rx' rd' fr k, w.task = .connecting call t a st →
    pollNext w.rx w.reader = (rx', rd', .item fr) → decodeRx fr = .ok (.connack k) →
    R w { w with rx := rx', reader := rd', c := w.c.handleConnack k } (fk w.c k)
  arm : ∀ w call t a st rx' rd', w.task = .connecting call t a st → pollNext w.rx w.reader = (rx', rd', .pending) →
    R w (armReader { w with rx := rx', reader := rd', task := .connecting call t a true }) one
  fin : ∀ w call t a st r, w.task = .connecting call t a st → R w (w.finish call r) one
  adv : ∀ w rx' rd' o, pollNext w.rx w.reader = (rx', rd', o) → R w { w with rx := rx', reader := rd' } one
  panic : ∀ w call t a st cls, w.task = .connecting call t a st →
    R w (({ w with task := .none }).emit (.panic .ctx cls)) one

namespace ConnAcc
variable {one mul fq fk} {R : World → World → L → Prop} (C : ConnAcc one mul fq fk R)
include C

theorem awaitFirst (w : World) {call : Call} {t : ConnectTx} {a : AuthTx} {st : Bool}
    (ht : w.task = .connecting call t a st) : R w (w.awaitFirst call t a) (firstAcc one fk w) := by
  have h := awaitFirst_spec w call t a
  generalize w.awaitFirst call t a = r at h
  unfold firstAcc
  cases h with
  | connack rx' rd' fr k hp hd =>
    simp only [hp, hd]; exact C.then_ (C.connack w call t a st rx' rd' fr k ht hp hd) (C.fin _ call t a st _ ht)
  | refused rx' rd' fr k hp hd =>
    simp only [hp, hd]; exact C.then_ (C.connack w call t a st rx' rd' fr k ht hp hd) (C.fin _ call t a st _ ht)
  | assertSubId rx' rd' fr k hp hd =>
    simp only [hp, hd]
    exact C.then_ (C.connack w call t a st rx' rd' fr k ht hp hd) (C.panic _ call t a st _ ht)
  | auth rx' rd' fr au hp hd => simp only [hp, hd]; exact C.then_ (C.adv w rx' rd' _ hp) (C.fin _ call t a st _ ht)
  | unexpected rx' rd' fr p hp hd h1 h2 =>
    simp only [hp, hd]
    cases p with
    | connack k => exact absurd rfl (h1 k)
    | _ => exact C.then_ (C.adv w rx' rd' _ hp) (C.fin _ call t a st _ ht)
  | codec rx' rd' fr hp hd => simp only [hp, hd]; exact C.then_ (C.adv w rx' rd' _ hp) (C.fin _ call t a st _ ht)
  | panic rx' rd' fr hp hd =>
    simp only [hp, hd]; exact C.then_ (C.adv w rx' rd' _ hp) (C.panic _ call t a st _ ht)
  | sock rx' rd' hp => simp only [hp]; exact C.then_ (C.adv w rx' rd' _ hp) (C.fin _ call t a st _ ht)
  | pending rx' rd' hp => simp only [hp]; exact C.arm w call t a st rx' rd' ht hp

theorem pollConnect (w : World) (call : Call) (t : ConnectTx) (a : AuthTx) (started : Bool)
    (ht : w.task = .connecting call t a started) :
    R w (w.pollConnect call t a started) (connAcc one mul fq fk w call t a started) := by
  unfold connAcc
  cases started with
  | true => simp only [World.pollConnect, ↓reduceIte]; exact C.awaitFirst w ht
  | false =>
    rw [pollConnect_false_eq]
    simp only [Bool.false_eq_true, ↓reduceIte]
    by_cases hv : reqValid call t a = true
    · have hv' : ¬ (!reqValid call t a) = true := by simp [hv]
      have ht1 : ((W7.seiSet w call t).writeBytes (W7.reqBytes call t a)).task = .connecting call t a false := by
        rw [writeBytes_task, ← ht]; cases call <;> rfl
      rw [if_neg hv', if_neg hv']
      by_cases hc : w.canWrite (W7.reqBytes call t a).length = true
      · rw [if_pos hc, if_pos hc]; exact C.trans (C.request w call t a ht hv) (C.awaitFirst _ ht1)
      · rw [if_neg hc, if_neg hc]; exact C.trans (C.request w call t a ht hv) (C.fin _ call t a false _ ht1)
    · have hv' : (!reqValid call t a) = true := by simpa using hv
      rw [if_pos hv', if_pos hv']; exact C.fin w call t a false _ ht

end ConnAcc

/-- what one poll of the context task is labelled with -/
def ctxAccS (sched : Nat → Bool) (w : World) : L :=
  match w.task with
  | .none => one
  | .connecting call t a started => connAcc one mul fq fk w call t a started
  | .running started => runAccS one mul fi fr sched w started

section
variable {one mul fi fr fq fk}

theorem LoopAcc.pollCtxS {sched : Nat → Bool} {R : World → World → L → Prop} (M : LoopAcc one mul fi sched R)
    (C : ConnAcc one mul fq fk R) (resent : ∀ w, w.task ≠ .none → R w w.resent (fr w.c))
    (resentFail : ∀ w, w.task ≠ .none → w.resumed.canWrite ((w.c.resume.2.2.map List.length).sum) = false →
      R w (w.resumed.writeBytes w.c.resume.2.2.flatten) (fr w.c))
    (w : World) : R w (w.pollCtxS sched) (ctxAccS one mul fi fr fq fk sched w) := by
  unfold World.pollCtxS ctxAccS
  cases ht : w.task with
  | none => exact M.refl w
  | connecting call t a started => exact C.pollConnect w call t a started ht
  | running started => exact M.pollRunS (fr := fr) resent resentFail w started (by rw [ht]; nofun)

end

/-! ### the primitive moves

The moves of both records that run no handler consist of setting fields private to the task, reading from the framing
layer, the task waking itself and its `RET` / `PANIC` line. -/

section Prims
variable {one mul fi fq fk} {R : World → World → L → Prop} (T : Labelled one mul R)
include T

variable (priv : ∀ (w : World) task readerReg queueReg,
    task = .none ∨ task = w.task ∨ (∃ call t a st, w.task = .connecting call t a st ∧ task = .connecting call t a true) →
    R w { w with task := task, readerReg := readerReg, queueReg := queueReg } one)
  (read : ∀ (w : World) rx' rd' o, pollNext w.rx w.reader = (rx', rd', o) →
    R w { w with rx := rx', reader := rd' } one)
  (wake : ∀ w : World, R w (w.wake .ctx) one)
  (log : ∀ (w : World) o, (∃ c r, o = .ret c r) ∨ (∃ cls, o = .panic .ctx cls) → R w (w.emit o) one)
include priv log

theorem prims_fin (w : World) (call : Call) (r : RetRes) : R w (w.finish call r) one :=
  T.then_ (priv w .none w.readerReg w.queueReg (.inl rfl)) (log _ _ (.inl ⟨call, r, rfl⟩))

theorem prims_panic (w : World) (cls : String) : R w (({ w with task := .none }).emit (.panic .ctx cls)) one :=
  T.then_ (priv w .none w.readerReg w.queueReg (.inl rfl)) (log _ _ (.inr ⟨cls, rfl⟩))

include read wake

omit log in
theorem prims_arm (w : World) (rx' : Rx) (rd' : List ReadEv) (task : CtxTask) (qr : Bool)
    (ht : task = w.task ∨ ∃ call t a st, w.task = .connecting call t a st ∧ task = .connecting call t a true)
    (hp : pollNext w.rx w.reader = (rx', rd', .pending)) :
    R w (armReader { w with rx := rx', reader := rd', task := task, queueReg := qr }) one := by
  unfold armReader
  split
  · exact T.then_ (read w rx' rd' _ hp) (priv _ task true qr (.inr ht))
  · exact T.then_ (read w rx' rd' _ hp) (T.then_ (priv _ task w.readerReg qr (.inr ht)) (wake _))

theorem LoopAcc.of_prims {sched : Nat → Bool}
    (msg : ∀ w m q, w.queue = m :: q →
      R w (({ w with queue := q }).runHandler (fun wok => w.c.handleMsg m wok)).1 (fi w.c (w.inMsg m)))
    (pkt : ∀ w rx' rd' fr p, (w.queue = [] ∨ ∃ n, sched n = true) → pollNext w.rx w.reader = (rx', rd', .item fr) →
      decodeRx fr = .ok p →
      R w (({ w with rx := rx', reader := rd' }).runHandler (fun wok => w.c.handlePkt w.chanRxAlive p wok)).1
        (fi w.c (w.inPkt p))) : LoopAcc one mul fi sched R where
  toLabelled := T
  msg := msg
  pkt := pkt
  arm := fun w rx' rd' qr hp => prims_arm T priv read wake w rx' rd' w.task qr (.inl rfl) hp
  fin := fun w r => prims_fin T priv log w .run r
  adv := read
  panic := fun w rx' rd' _ hp _ => T.then_ (read w rx' rd' _ hp) (prims_panic T priv log _ _)

theorem ConnAcc.of_prims (connack : ∀ (w : World) k, R w { w with c := w.c.handleConnack k } (fk w.c k))
    (request : ∀ (w : World) call t a, w.task = .connecting call t a false → reqValid call t a = true →
      R w ((W7.seiSet w call t).writeBytes (W7.reqBytes call t a)) (fq w.c call t a)) :
    ConnAcc one mul fq fk R where
  toLabelled := T
  request := request
  connack := fun w _ _ _ _ rx' rd' _ k _ hp _ => T.one_mul (fk w.c k) ▸ T.trans (read w rx' rd' _ hp) (connack _ k)
  arm := fun w call t a st rx' rd' ht hp =>
    prims_arm T priv read wake w rx' rd' (.connecting call t a true) w.queueReg (.inr ⟨call, t, a, st, ht, rfl⟩) hp
  fin := fun w call _ _ _ r _ => prims_fin T priv log w call r
  adv := read
  panic := fun w _ _ _ _ cls _ => prims_panic T priv log w cls

end Prims

end Acc

/-! ## the moves that compute nothing

Of the moves of a poll, only the two handlers and session resumption compute. The others — private fields of the task, a
read of the framing layer, a CONNACK or the CONNECT's expiry interval applied to the connection parameters, a write, the
task's own flag, its own log lines — are all described by one frame, so a relation needs one congruence lemma for them. -/

/-- `w'` is `w` after a move of a poll of the context task that runs no handler and does not resume the session:
    everything the user side or an invariant about the session tables can look at is the same -/
structure CtxInert (w w' : World) : Prop extends CtxFrame w w' where
  queue : w'.queue = w.queue
  slots : w'.slots = w.slots
  slotReg : w'.slotReg = w.slotReg
  chans : w'.chans = w.chans
  c : w'.c = w.c ∨ (∃ n, w'.c = { w.c with sei := n }) ∨ ∃ k, w'.c = w.c.handleConnack k
  woken : w'.woken = w.woken ∨ w'.woken = (w.wake .ctx).woken
  read : (w'.rx = w.rx ∧ w'.reader = w.reader) ∨ ∃ o, pollNext w.rx w.reader = (w'.rx, w'.reader, o)
  out : OutExtP CtxLine w w'

namespace CtxInert

theorem tables {w w' : World} (h : CtxInert w w') :
    w'.c.inQos2 = w.c.inQos2 ∧ w'.c.awaiting = w.c.awaiting ∧ w'.c.subs = w.c.subs ∧ w'.c.retx = w.c.retx ∧
    w'.c.disc = w.c.disc := by
  rcases h.c with e | ⟨n, e⟩ | ⟨k, e⟩ <;> rw [e]
  · exact ⟨rfl, rfl, rfl, rfl, rfl⟩
  · exact ⟨rfl, rfl, rfl, rfl, rfl⟩
  · exact Ctx.handleConnack_frame w.c k

theorem woken_mono {w w' : World} (h : CtxInert w w') : ∀ t, t ∈ w.woken → t ∈ w'.woken := by
  intro t ht
  rcases h.woken with e | e <;> rw [e]
  · exact ht
  · exact mem_wake_of_mem w _ _ ht

theorem reach {w w' : World} (h : CtxInert w w') (hr : Reach w.rx) : Reach w'.rx := by
  rcases h.read with ⟨e, _⟩ | ⟨o, e⟩
  · rw [e]; exact hr
  · exact pollNext_reach e hr

theorem slot {w w' : World} (h : CtxInert w w') (s : Nat) : w'.slot s = w.slot s := by
  unfold World.slot; rw [h.slots]

theorem of_eq {w : World} (task : CtxTask) (c : Ctx) (rx : Rx) (reader : List ReadEv) (readerReg queueReg : Bool)
    (woken : List Task) (out : List Obs)
    (hc : c = w.c ∨ (∃ n, c = { w.c with sei := n }) ∨ ∃ k, c = w.c.handleConnack k)
    (hw : woken = w.woken ∨ woken = (w.wake .ctx).woken)
    (hr : (rx = w.rx ∧ reader = w.reader) ∨ ∃ o, pollNext w.rx w.reader = (rx, reader, o))
    (ho : ∃ added, out = w.out ++ added ∧ ∀ o ∈ added, CtxLine o) :
    CtxInert w { w with task := task, c := c, rx := rx, reader := reader, readerReg := readerReg, queueReg := queueReg,
                        woken := woken, out := out } :=
  ⟨⟨⟨rfl, rfl, rfl, rfl, rfl, rfl⟩, rfl, rfl, rfl, rfl, rfl⟩, rfl, rfl, rfl, rfl, hc, hw, hr, ho⟩

theorem priv (w : World) (task : CtxTask) (readerReg queueReg : Bool) :
    CtxInert w { w with task := task, readerReg := readerReg, queueReg := queueReg } :=
  of_eq task w.c w.rx w.reader readerReg queueReg w.woken w.out (.inl rfl) (.inl rfl) (.inl ⟨rfl, rfl⟩) (outExtP_refl _ w)

theorem adv {w : World} {rx' : Rx} {rd' : List ReadEv} {o : Out} (hp : pollNext w.rx w.reader = (rx', rd', o)) :
    CtxInert w { w with rx := rx', reader := rd' } :=
  of_eq w.task w.c rx' rd' w.readerReg w.queueReg w.woken w.out (.inl rfl) (.inl rfl) (.inr ⟨o, hp⟩) (outExtP_refl _ w)

theorem connack (w : World) (k : ConnackRx) : CtxInert w { w with c := w.c.handleConnack k } :=
  of_eq w.task _ w.rx w.reader w.readerReg w.queueReg w.woken w.out (.inr (.inr ⟨k, rfl⟩)) (.inl rfl) (.inl ⟨rfl, rfl⟩)
    (outExtP_refl _ w)

theorem sei (w : World) (n : Nat) : CtxInert w { w with c := { w.c with sei := n } } :=
  of_eq w.task _ w.rx w.reader w.readerReg w.queueReg w.woken w.out (.inr (.inl ⟨n, rfl⟩)) (.inl rfl) (.inl ⟨rfl, rfl⟩)
    (outExtP_refl _ w)

theorem log (w : World) (o : Obs) (ho : (∃ c r, o = .ret c r) ∨ (∃ cls, o = .panic .ctx cls)) : CtxInert w (w.emit o) :=
  of_eq w.task w.c w.rx w.reader w.readerReg w.queueReg w.woken _ (.inl rfl) (.inl rfl) (.inl ⟨rfl, rfl⟩)
    ⟨[o], rfl, fun x hx => by cases List.mem_singleton.mp hx; exact .inr ho⟩

theorem write (w : World) (bs : Bytes) : CtxInert w (w.writeBytes bs) := by
  obtain ⟨wr, ou, p, e⟩ := writeBytes_shape w bs
  obtain ⟨pre, q, x⟩ := writeBytes_outExt w bs
  rw [e] at x ⊢
  exact ⟨⟨⟨rfl, rfl, rfl, rfl, rfl, rfl⟩, rfl, rfl, rfl, rfl, rfl⟩, rfl, rfl, rfl, rfl, .inl rfl, .inl rfl, .inl ⟨rfl, rfl⟩,
    pre, x, fun o ho => .inl (q o ho)⟩

theorem wake (w : World) : CtxInert w (w.wake .ctx) :=
  ⟨⟨⟨by simp, by simp, by simp, by simp, by simp, by simp⟩, by simp, by simp, by simp, by simp, by simp⟩, by simp, by simp,
    by simp, by simp, .inl (by simp), .inr rfl, .inl ⟨by simp, by simp⟩, [], by simp, fun _ h => absurd h List.not_mem_nil⟩

end CtxInert

section Via
variable {R : World → World → Prop} (trans : ∀ {a b c : World}, R a b → R b c → R a c)
  (inert : ∀ {w w' : World}, CtxInert w w' → R w w')
include trans inert

theorem ConnAcc.of_inert : ConnAcc () (fun _ _ => ()) (fun _ _ _ _ => ()) (fun _ _ => ()) (fun w w' _ => R w w') :=
  ConnAcc.of_prims (L := Unit) (R := fun w w' _ => R w w')
    ⟨fun w => inert (.priv w w.task w.readerReg w.queueReg), trans, fun _ => rfl, fun _ => rfl⟩
    (fun w a b c _ => inert (.priv w a b c)) (fun _ _ _ _ hp => inert (.adv hp)) (fun w => inert (.wake w))
    (fun w o ho => inert (.log w o ho)) (fun w k => inert (.connack w k))
    (fun w call t a _ _ => by
      cases call with
      | connect => exact trans (inert (.sei w _)) (inert (.write _ _))
      | _ => exact inert (.write w _))

theorem pollConnect_via (w : World) (call : Call) (t : ConnectTx) (a : AuthTx) (started : Bool)
    (ht : w.task = .connecting call t a started) : R w (w.pollConnect call t a started) :=
  (ConnAcc.of_inert (R := R) trans inert).pollConnect w call t a started ht

variable (refl : ∀ w, R w w)
  (msg : ∀ (w : World) m q, w.queue = m :: q →
    R w (({ w with queue := q }).runHandler (fun wok => w.c.handleMsg m wok)).1)
  (pkt : ∀ (w : World) rx' rd' fr p, pollNext w.rx w.reader = (rx', rd', .item fr) → decodeRx fr = .ok p →
    R w (({ w with rx := rx', reader := rd' }).runHandler (fun wok => w.c.handlePkt w.chanRxAlive p wok)).1)
include refl msg pkt

theorem LoopAcc.of_inert (sched : Nat → Bool) :
    LoopAcc () (fun _ _ => ()) (fun _ _ => ()) sched (fun w w' _ => R w w') :=
  LoopAcc.of_prims (L := Unit) (R := fun w w' _ => R w w') ⟨refl, trans, fun _ => rfl, fun _ => rfl⟩
    (fun w a b c _ => inert (.priv w a b c)) (fun _ _ _ _ hp => inert (.adv hp)) (fun w => inert (.wake w))
    (fun w o ho => inert (.log w o ho)) msg (fun w rx' rd' fr p _ => pkt w rx' rd' fr p)

theorem runLoop_via (f : Nat) (w : World) : R w (runLoop f w) :=
  runLoop_is_a_resolution f w ▸ (LoopAcc.of_inert (R := R) trans inert refl msg pkt _).runLoopS f w

variable (resume : ∀ w : World, R w w.resumed)
include resume

/-- **one poll of the context task under every scheduler**: a reflexive, transitive relation holds across it as soon as
    it holds across the moves that compute nothing, the two handlers and session resumption -/
theorem pollCtxS_via (sched : Nat → Bool) (w : World) : R w (w.pollCtxS sched) :=
  (LoopAcc.of_inert (R := R) trans inert refl msg pkt sched).pollCtxS (fr := fun _ => ())
    (ConnAcc.of_inert (R := R) trans inert)
    (fun w _ => trans (resume w) (foldl_lift refl trans (fun x p _ => inert (.write x p)) w.resumed))
    (fun w _ _ => trans (resume w) (inert (.write _ _))) w

theorem pollCtx_via (w : World) : R w w.pollCtx :=
  pollCtxS_false w ▸ pollCtxS_via (R := R) trans inert refl msg pkt resume _ w

end Via

theorem pollCtxS_ctxFrame (sched : Nat → Bool) (w : World) : CtxFrame w (w.pollCtxS sched) :=
  pollCtxS_via (R := CtxFrame) CtxFrame.trans (fun i => i.toCtxFrame) CtxFrame.refl
    (fun _ _ _ hq => (msgStep_frame hq _).1.ctx) (fun _ _ _ _ _ hp _ => (pktStep_frame hp _).1.ctx)
    (fun w => by
      unfold resumed
      exact ⟨⟨by simp, by simp, by simp, by simp, by simp, by simp⟩, by simp, by simp, by simp, by simp, by simp⟩)
    sched w

theorem pollCtx_ctxFrame (w : World) : CtxFrame w w.pollCtx := pollCtxS_false w ▸ pollCtxS_ctxFrame _ w

theorem pollTaskAny_pollFrame {w : World} {t : Task} {w' : World} (hp : PollTaskAny w t w') : PollFrame w w' := by
  by_cases ht : t = .ctx
  · obtain ⟨sched, rfl⟩ := hp; subst ht
    exact .trans (b := w.unwake .ctx) ⟨rfl, rfl, rfl, rfl, rfl, rfl⟩ (pollCtxS_ctxFrame sched _).toPollFrame
  · exact .trans (b := w.unwake t) ⟨rfl, rfl, rfl, rfl, rfl, rfl⟩ (pollTaskAny_userMove hp ht).frame.toPollFrame

theorem pollTask_pollFrame (w : World) (t : Task) : PollFrame w (w.pollTask t) :=
  pollTaskAny_pollFrame (pollTaskAny_pollTask w t)

theorem settle_pollFrame (w : World) : PollFrame w w.settle :=
  settle_lift PollFrame.refl PollFrame.trans (fun w t _ _ => pollTask_pollFrame w t) (fun _ => ⟨rfl, rfl, rfl, rfl, rfl, rfl⟩) w

end World
end Poster

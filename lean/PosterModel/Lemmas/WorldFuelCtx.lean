/-
  The context side of the potential argument (C04, quiescence of the drain): the effects of a handler (`sendSlot`,
  `dropSlotTx`, `deliver`, `dropChanTx`, `writeBytes`) never increase the user part `phiU` of the potential, except
  that every delivered message costs 2; a PUBLISH frame pays for its deliveries with its bytes; hence no poll of
  the context task increases `phi` (`W5.pollCtxS_pot`, Lemmas/WorldFuelRun.lean). What the effects leave alone (`UFrame`) includes `RegSub`: the table of
  operations stays and registrations only shrink.
-/
import PosterModel.Lemmas.WorldFuelPot
import PosterModel.Lemmas.WorldFuelCodec
import PosterModel.Lemmas.WorldPanic

namespace Poster
open Framing
namespace World

structure RegSub (w w' : World) : Prop where
  ops_eq : w'.ops = w.ops
  sub : ∀ s, s ∈ w'.slotReg → s ∈ w.slotReg

theorem RegSub.refl (w : World) : RegSub w w := ⟨rfl, fun _ h => h⟩

theorem RegSub.trans {a b c : World} (h1 : RegSub a b) (h2 : RegSub b c) : RegSub a c :=
  ⟨h2.ops_eq.trans h1.ops_eq, fun s h => h1.sub s (h2.sub s h)⟩

theorem RegSub.of_eq {w w' : World} (h1 : w'.ops = w.ops) (h2 : w'.slotReg = w.slotReg) : RegSub w w' :=
  ⟨h1, fun s h => by rw [← h2]; exact h⟩

namespace W5

/-- every entry of the operation table for the owner of a registered oneshot waits on exactly that oneshot
    (entry-wise form of `RegInv`, Lemmas/WorldFuelReg.lean, from which it follows when the table's keys are distinct:
    `regE_of_regInv`, Lemmas/WorldFuel.lean) -/
def RegE (w : World) : Prop :=
  ∀ s, s ∈ w.slotReg → ∀ id st, (id, st) ∈ w.ops → id = s / 2 → ∃ k, st = .wait s k

theorem regE_of_regSub {w w' : World} (f : RegSub w w') (h : RegE w) : RegE w' :=
  fun s hs id st hm hid => h s (f.sub s hs) id st (f.ops_eq ▸ hm) hid

structure UFrame (w w' : World) : Prop where
  task_eq : w'.task = w.task
  rx_eq : w'.rx = w.rx
  reader_eq : w'.reader = w.reader
  handles_eq : w'.handles = w.handles
  held_eq : w'.held = w.held
  streams_eq : w'.streams = w.streams
  ctxW : Task.ctx ∈ w'.woken ↔ Task.ctx ∈ w.woken
  reg : RegSub w w'

theorem UFrame.refl (w : World) : UFrame w w :=
  ⟨rfl, rfl, rfl, rfl, rfl, rfl, Iff.rfl, RegSub.refl w⟩

theorem UFrame.trans {a b c : World} (h1 : UFrame a b) (h2 : UFrame b c) : UFrame a c :=
  ⟨h2.task_eq.trans h1.task_eq, h2.rx_eq.trans h1.rx_eq, h2.reader_eq.trans h1.reader_eq,
    h2.handles_eq.trans h1.handles_eq, h2.held_eq.trans h1.held_eq,
    h2.streams_eq.trans h1.streams_eq, h2.ctxW.trans h1.ctxW, RegSub.trans h1.reg h2.reg⟩


theorem UFrame.senders {w w' : World} (f : UFrame w w') : w'.senders = w.senders := by
  show w'.handles.length + w'.ops.length = w.handles.length + w.ops.length
  rw [f.handles_eq, f.reg.ops_eq]

/-- `w'` is `w` after effects of the context that deliver at most `d / 2` messages -/
def EffStep (d : Nat) (w w' : World) : Prop := UFrame w w' ∧ (RegE w → phiU w' ≤ phiU w + d)

theorem EffStep.refl (w : World) : EffStep 0 w w := ⟨UFrame.refl w, fun _ => Nat.le_refl _⟩

theorem EffStep.trans {a b c : World} {d1 d2 : Nat} (h1 : EffStep d1 a b) (h2 : EffStep d2 b c) :
    EffStep (d1 + d2) a c := by
  refine ⟨h1.1.trans h2.1, fun hr => ?_⟩
  have e1 := h1.2 hr
  have e2 := h2.2 (regE_of_regSub h1.1.reg hr)
  omega

theorem EffStep.mono {a b : World} {d d' : Nat} (h : EffStep d a b) (hd : d ≤ d') : EffStep d' a b :=
  ⟨h.1, fun hr => by have := h.2 hr; omega⟩

theorem fill_effStep (w : World) (s : Nat) (v : Slot) (hv : v ≠ .empty) : EffStep 0 w (w.fillSlot s v) := by
  have hwk : ∀ t, t ∈ (w.fillSlot s v).woken → t = .op (s / 2) ∧ s ∈ w.slotReg ∨ t ∈ w.woken := fun t ht =>
    ((mem_wakeIf_iff w _ t).1 ht).imp_left And.symm
  refine ⟨⟨rfl, rfl, rfl, rfl, rfl, rfl, ?_, rfl, ?_⟩, fun hr => ?_⟩
  · constructor
    · intro h
      rcases hwk _ h with ⟨h1, _⟩ | h1
      · cases h1
      · exact h1
    · exact fillSlot_woken_mono w s v
  · intro s' hs'
    simp only [fillSlot] at hs'
    split at hs'
    · exact (List.mem_filter.mp hs').1
    · exact hs'
  · -- The only task `fillSlot` can flag is the owner `s / 2`, and only if `s` was registered; by `RegE` that owner waits
    -- on `s` itself, which holds a value after the fill: no entry gains the surcharge for "flagged on an empty oneshot".
    have h1 : opsPot (w.fillSlot s v) ≤ opsPot w := by
      refine opsPot_le rfl rfl (fun id s' k hm hh hw hi => ?_)
      have hne : s' ≠ s := by
        intro e
        subst e
        have : lookupFirst s' (fillSlot w s' v).slots = some v := lookupFirst_setAssoc_self _ _ _
        rcases hi with hi | hi
        · rw [this] at hi; simp only [Option.some.injEq] at hi; exact hv hi
        · rw [this] at hi; cases hi
      have hi' : idle w.slots s' := by
        have e : lookupFirst s' (w.fillSlot s v).slots = lookupFirst s' w.slots := lookupFirst_setAssoc_of_ne hne _ _
        unfold idle at hi ⊢
        rw [e] at hi; exact hi
      rcases hwk _ hw with ⟨h2, hs⟩ | h2
      · exfalso
        simp only [Task.op.injEq] at h2
        obtain ⟨k', hk'⟩ := hr s hs id _ hm h2
        simp only [OpSt.wait.injEq] at hk'
        exact hne hk'.1
      · exact ⟨h2, hi'⟩
    have h2 : stPot (w.fillSlot s v) = stPot w := by
      refine stPot_congr rfl rfl (fun n => ⟨fun h => ?_, fillSlot_woken_mono w s v⟩) rfl
      rcases hwk _ h with ⟨h1, _⟩ | h1
      · cases h1
      · exact h1
    unfold phiU
    rw [h2]
    exact Nat.add_le_add_right h1 _

theorem sendSlot_effStep (w : World) (s : Nat) (v : SlotVal) : EffStep 0 w (w.sendSlot s v) := by
  rw [sendSlot_eq]
  split
  · exact fill_effStep w s (.full v) (by intro h; cases h)
  · exact EffStep.refl w

theorem dropSlotTx_effStep (w : World) (s : Nat) : EffStep 0 w (w.dropSlotTx s) := by
  rw [dropSlotTx_eq]
  split
  · exact fill_effStep w s .closed (by intro h; cases h)
  · exact EffStep.refl w

theorem putChan_woken (w : World) (c : Nat) (ch ch' : Chan) (t : Task) :
    t ∈ (putChan w c ch ch').woken ↔ (t = .st c ∧ ch.reg = true) ∨ t ∈ w.woken :=
  (mem_wakeIf_iff w _ t).trans (or_congr_left And.comm)

theorem putChan_uframe (w : World) (c : Nat) (ch ch' : Chan) : UFrame w (putChan w c ch ch') :=
  ⟨rfl, rfl, rfl, rfl, rfl, rfl, by rw [putChan_woken]; simp, RegSub.of_eq rfl rfl⟩

theorem putChan_chans (w : World) (c : Nat) (ch ch' : Chan) :
    (putChan w c ch ch').chans = setAssoc c ch' w.chans := rfl

theorem putChan_opsPot (w : World) (c : Nat) (ch ch' : Chan) : opsPot (putChan w c ch ch') ≤ opsPot w := by
  have f := putChan_uframe w c ch ch'
  refine opsPot_le_of_woken f.reg.ops_eq f.held_eq ?_ (fun id h => ?_)
  · rfl
  · rcases (putChan_woken w c ch ch' _).mp h with ⟨h1, _⟩ | h1
    · cases h1
    · exact h1

/-- the arithmetic of `stCost_putChan_self`: `r`, `a` are the old entry's `reg`, `txAlive`, `a'` the new entry's
    `txAlive`, `W` the stream's flag. The flag's term only grows when `r ∧ a ∧ ¬ W`, and then either the sender's
    term falls or `d` pays. -/
theorem stCost_arith (r a a' : Bool) (W : Prop) [Decidable W] (d : Nat) (htx : a' = true → a = true)
    (hd : r = true → a = true → a' = true → 1 ≤ d) :
    ((if r = true ∨ W then 2 else 1) + if a' = true then 1 else 0) ≤
      ((if W ∨ r = true ∧ a = false then 2 else 1) + if a = true then 1 else 0) + d := by
  by_cases hW : W <;> cases r <;> cases a <;> cases a' <;> simp_all <;> omega

theorem stCost_putChan_self (w : World) (c : Nat) (ch ch' : Chan) (hl : lookupFirst c w.chans = some ch)
    (hreg : ch'.reg = false) (htx : ch'.txAlive = true → ch.txAlive = true) (d : Nat)
    (hd : ch.reg = true → ch.txAlive = true → ch'.txAlive = true → 1 ≤ d) :
    stCost w.held (putChan w c ch ch').woken (putChan w c ch ch').chans c ≤ stCost w.held w.woken w.chans c + d := by
  unfold stCost
  by_cases hh : Task.st c ∈ w.held
  · rw [if_pos hh, if_pos hh]
    exact Nat.zero_le _
  · rw [if_neg hh, if_neg hh, putChan_chans, lookupFirst_setAssoc_self, hl]
    simp only [putChan_woken, hreg, Bool.false_eq_true, false_and, or_false, true_and]
    exact stCost_arith _ _ _ _ d htx hd

theorem stCost_putChan_other (w : World) (c : Nat) (ch ch' : Chan) (id : Nat) (hne : id ≠ c) :
    stCost w.held (putChan w c ch ch').woken (putChan w c ch ch').chans id = stCost w.held w.woken w.chans id := by
  unfold stCost
  rw [putChan_chans, lookupFirst_setAssoc_of_ne hne _ _]
  have : Task.st id ∈ (putChan w c ch ch').woken ↔ Task.st id ∈ w.woken := by
    rw [putChan_woken]; simp [hne]
  simp only [this]

/-- an existing channel gets a new state whose waker is consumed: `d` pays for a flag the stream gets while its sender
    stays alive, `b` for the messages added -/
theorem putChan_effStep {w : World} {c : Nat} {ch : Chan} (ch' : Chan) (hch : w.chan c = some ch) (hreg : ch'.reg = false)
    (htx : ch'.txAlive = true → ch.txAlive = true) (d b : Nat)
    (hd : ch.reg = true → ch.txAlive = true → ch'.txAlive = true → 1 ≤ d) (hb : ch'.buf.length = ch.buf.length + b) :
    EffStep (d + b) w (putChan w c ch ch') := by
  have f := putChan_uframe w c ch ch'
  refine ⟨f, fun _ => ?_⟩
  have h1 := putChan_opsPot w c ch ch'
  have h2 : stSum (putChan w c ch ch') ≤ stSum w + d :=
    stSum_le_at c d f.streams_eq f.held_eq (fun n hn => Nat.le_of_eq (stCost_putChan_other w c ch ch' n hn))
      (stCost_putChan_self w c ch ch' hch hreg htx d hd)
  have h3 : bufSum (putChan w c ch ch') + ch.buf.length = bufSum w + ch'.buf.length := bufSum_setChan hch ch'
  unfold phiU stPot; omega

theorem deliver_effStep (w : World) (c : Nat) (p : PublishRx) : EffStep 2 w (w.deliver c p) := by
  cases hch : w.chan c with
  | none => rw [User.deliver_none w c p hch]; exact (EffStep.refl w).mono (by omega)
  | some ch =>
    rw [deliver_eq, onChan_some hch]
    exact putChan_effStep { ch with buf := ch.buf ++ [p], reg := false } hch rfl id 1 1 (fun _ _ _ => Nat.le_refl _)
      (by simp)

theorem dropChanTx_effStep (w : World) (c : Nat) : EffStep 0 w (w.dropChanTx c) := by
  cases hch : w.chan c with
  | none => rw [User.dropChanTx_none w c hch]; exact EffStep.refl w
  | some ch =>
    rw [dropChanTx_eq, onChan_some hch]
    exact putChan_effStep { ch with txAlive := false, reg := false } hch rfl (fun h => by cases h) 0 0
      (fun _ _ h => by cases h) rfl

theorem EffStep.of_frame {w w' : World} (f : PhiFrame w w') (h1 : w'.task = w.task) (h2 : w'.rx = w.rx)
    (h3 : w'.reader = w.reader) (h9 : w'.slotReg = w.slotReg) : EffStep 0 w w' :=
  ⟨⟨h1, h2, h3, f.handles, f.held, f.streams, by rw [f.woken], RegSub.of_eq f.ops h9⟩,
    fun _ => Nat.le_of_eq f.phiU_eq⟩

theorem writeBytes_effStep (w : World) (bs : Bytes) : EffStep 0 w (w.writeBytes bs) := by
  obtain ⟨wr, ou, p, e⟩ := writeBytes_shape w bs
  rw [e]
  exact .of_frame rfl rfl rfl rfl rfl

def nDeliver (es : List Eff) : Nat := (deliversOf es).length

theorem nDeliver_append (a b : List Eff) : nDeliver (a ++ b) = nDeliver a + nDeliver b := by
  simp [nDeliver]

theorem nDeliver_cons (e : Eff) (t : List Eff) : nDeliver (e :: t) = nDeliver [e] + nDeliver t :=
  nDeliver_append [e] t

theorem applyEff_effStep (w : World) (e : Eff) : EffStep (2 * nDeliver [e]) w (w.applyEff e) := by
  cases e with
  | write bs => exact (writeBytes_effStep w bs).mono (by omega)
  | send s v => exact (sendSlot_effStep w s v).mono (by omega)
  | dropSlot s => exact (dropSlotTx_effStep w s).mono (by omega)
  | deliver c p => exact (deliver_effStep w c p).mono (by simp [nDeliver, deliversOf])
  | dropChan c => exact (dropChanTx_effStep w c).mono (by omega)

theorem applyEffs_effStep (w : World) (es : List Eff) : EffStep (2 * nDeliver es) w (w.applyEffs es) := by
  induction es generalizing w with
  | nil => exact EffStep.refl w
  | cons e t ih =>
    have h1 := applyEff_effStep w e
    have h2 := ih (w.applyEff e)
    have := h1.trans h2
    rw [nDeliver_cons]
    exact this.mono (by omega)

theorem runHandler_effStep (w : World) (h : Bool → Ctx × List Eff × Flow) (d : Nat)
    (hd : ∀ b, 2 * nDeliver (h b).2.1 ≤ d) : EffStep d w (w.runHandler h).1 := by
  rw [runHandler_eq]
  simp only
  have h0 : EffStep 0 w ({ w with c := (h (w.canWrite (writeNeed (h true).2.1))).1 } : World) :=
    .of_frame rfl rfl rfl rfl rfl
  exact (h0.trans (applyEffs_effStep _ _)).mono (by have := hd (w.canWrite (writeNeed (h true).2.1)); omega)

theorem handleMsg_nDeliver (c : Ctx) (m : Msg) (wok : Bool) : nDeliver (c.handleMsg m wok).2.1 = 0 := by
  rw [nDeliver, Ctx.deliversOf_handleMsg]; rfl

theorem dispatch_nDeliver (alive : Nat → Bool) (p : PublishRx) (sids : List Nat) (subs : List (Nat × Nat)) :
    nDeliver (Ctx.dispatch alive p sids subs).2 ≤ sids.length :=
  Ctx.dispatch_induct (motive := fun sids _ r => nDeliver r.2 ≤ sids.length) (fun _ => Nat.le_refl 0)
    (fun _ _ _ _ _ ih => Nat.le_succ_of_le ih) (fun _ _ _ _ _ _ _ ih => Nat.succ_le_succ ih)
    (fun _ _ _ _ _ _ _ ih => Nat.le_succ_of_le ih) sids subs

/-- the number of subscription identifiers of an inbound packet -/
def subIdCount : RxPacket → Nat
  | .publish pb => pb.subIds.length
  | _ => 0

theorem complete_nDeliver (c : Ctx) (aid : Nat) (p : RxPacket) : nDeliver (c.complete aid p).2 = 0 := by
  simp [nDeliver]

theorem handlePkt_nDeliver (c : Ctx) (alive : Nat → Bool) (p : RxPacket) (wok : Bool) :
    nDeliver (c.handlePkt alive p wok).2.1 ≤ subIdCount p := by
  cases p with
  | publish pb =>
    rw [Ctx.handlePkt_publish_eq]
    show nDeliver (_ ++ _) ≤ pb.subIds.length
    rw [nDeliver_append]
    refine Nat.add_le_add (d := 0) ?_ ?_
    · split
      · exact Nat.zero_le _
      · exact dispatch_nDeliver _ _ _ _
    · cases pb.packetId <;> exact Nat.le_refl 0
  | disconnect _ | connack _ | auth _ | pubrel _ => exact Nat.le_refl 0
  | _ =>
    rw [Ctx.handlePkt_ack_eq c alive _ wok _ rfl (by intro a h; cases h)]
    exact Nat.le_of_eq (complete_nDeliver c _ _)

theorem decodeRx_subIdCount (fr : Bytes) (p : RxPacket) (h : decodeRx fr = .ok p) : 2 * subIdCount p ≤ fr.length := by
  cases p with
  | publish pb => exact decodeRx_publish_subIds_len fr pb h
  | _ => simp [subIdCount]

end W5
end World
end Poster

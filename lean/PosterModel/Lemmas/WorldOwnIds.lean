/-
  Lemmas/WorldOwnIds.lean — the identifiers in use in a world (live streams, un-taken SUBACK responses, pending
  operations) only ever come from `op` events. Hence a script whose operation identifiers are pairwise distinct never
  starts an operation under the identifier of a response or stream that is still alive (`GoodFrom`).
-/
import PosterModel.Lemmas.WorldOwnStream
import PosterModel.Lemmas.ScriptIds


namespace Poster
open Framing
namespace World

/-- identifier `id` is in use: a live stream, an un-taken SUBACK response, or a pending operation -/
def used (w : World) (id : Nat) : Prop := id ∈ w.streams ∨ id ∈ w.rsps ∨ id ∈ w.ops.map (·.1)

structure UsedLe (w' w : World) : Prop where
  le : ∀ id, used w' id → used w id

theorem UsedLe.of_fields {w' w : World} (h1 : ∀ id, id ∈ w'.streams → used w id)
    (h2 : ∀ id, id ∈ w'.rsps → used w id) (h3 : ∀ id, id ∈ w'.ops.map (·.1) → used w id) : UsedLe w' w := by
  constructor
  rintro id (h | h | h)
  · exact h1 id h
  · exact h2 id h
  · exact h3 id h

theorem UsedLe.of_eq {w' w : World} (h1 : w'.streams = w.streams) (h2 : w'.rsps = w.rsps) (h3 : w'.ops = w.ops) :
    UsedLe w' w :=
  UsedLe.of_fields (fun _ h => Or.inl (h1 ▸ h)) (fun _ h => Or.inr (Or.inl (h2 ▸ h)))
    (fun _ h => Or.inr (Or.inr (h3 ▸ h)))

theorem usedLe_of_opFrame {id : Nat} {w w' : World} (f : OpFrame id w w') (s : OpSelf id w w')
    (hl : w'.opSt id ≠ none → w.opSt id ≠ none) : UsedLe w' w := by
  refine UsedLe.of_fields (fun j h => Or.inl (f.streams_eq ▸ h)) (fun j h => ?_) (fun j h => Or.inr (Or.inr ?_))
  · rcases s.rsps j h with h1 | ⟨e, h1, _⟩
    · exact Or.inr (Or.inl h1)
    · exact Or.inr (Or.inr (e ▸ (mem_keys_iff id w.ops).2 h1.opSt_ne_none))
  · rw [mem_keys_iff] at h ⊢
    by_cases e : j = id
    · subst e; exact hl h
    · exact fun e0 => h ((f.ops j e).trans e0)

theorem pollOp_live (w : World) (id : Nat) (h : (w.pollOp id).opSt id ≠ none) : w.opSt id ≠ none :=
  fun e => h (by rw [pollOp_of_none e]; exact e)

theorem dropOp_live (w : World) (id : Nat) (h : (w.dropOp id).opSt id ≠ none) : w.opSt id ≠ none :=
  fun e => h (by rw [dropOp_of_none e]; exact e)

theorem usedLe_dropOp (w : World) (id : Nat) (ho : OwnInv w) : UsedLe (w.dropOp id) w :=
  usedLe_of_opFrame (own_dropOp w id ho).frame (dropOp_opSelf w id ho.nodup) (dropOp_live w id)

theorem usedLe_pollStream (w : World) (id : Nat) : UsedLe (w.pollStream id) w := by
  obtain ⟨_, _, _, _, e, hs⟩ := pollStream_footprint w id
  rw [e]
  exact UsedLe.of_fields (fun j h => Or.inl (hs j h)) (fun j h => Or.inr (Or.inl h)) (fun j h => Or.inr (Or.inr h))

/-- the flag the executor takes first is not among the fields `used` reads -/
theorem usedLe_pollTask (w : World) (t : Task) (ho : OwnInv w) : UsedLe (w.pollTask t) w := by
  cases t with
  | ctx =>
    have f := pollCtx_ctxFrame (w.unwake .ctx)
    exact ⟨(UsedLe.of_eq f.streams f.rsps f.ops).le⟩
  | op n =>
    exact ⟨(usedLe_of_opFrame (own_pollOp_task w n ho).frame (pollTask_opSelf w n ho.nodup)
      (pollOp_live (w.unwake (.op n)) n)).le⟩
  | st n => exact ⟨(usedLe_pollStream _ n).le⟩

theorem used_applied {w w' : World} {e : Ev} (h : Applied w e w') (ho : OwnInv w) (id : Nat) (hu : used w' id) :
    used w id ∨ evOpId e = some id := by
  -- as record updates (`Applied.norm`): only six events touch `streams`, `rsps` or `ops`
  cases h.norm with
  | poll t _ => exact Or.inl ((usedLe_pollTask w t ho).le id hu)
  | op id' hh req =>
    rcases hu with h | h | h
    · exact Or.inl (Or.inl h)
    · exact Or.inl (Or.inr (Or.inl h))
    · simp only [List.map_append, List.mem_append, List.map_cons, List.map_nil, List.mem_singleton] at h
      rcases h with x | x
      · exact Or.inl (Or.inr (Or.inr x))
      · exact Or.inr (congrArg some x.symm)
  | dropOp id' o sl sr ch wk qr he => exact Or.inl ((usedLe_dropOp w id' ho).le id (by rw [he]; exact hu))
  | dropStream id' => exact Or.inl (hu.imp_left fun h => (List.mem_filter.mp h).1)
  | dropRsp id' => exact Or.inl (hu.imp_right (Or.imp_left fun h => (List.mem_filter.mp h).1))
  | stream id' hc =>
    exact Or.inl (hu.elim (fun h => (List.mem_append.mp h).imp_right fun x => Or.inl (by rw [List.mem_singleton.mp x]; exact hc))
      fun h => Or.inr (h.imp_left fun h => (List.mem_filter.mp h).1))
  | _ => exact Or.inl hu

theorem used_apply (w : World) (e : Ev) (ho : OwnInv w) (id : Nat) (h : used (w.apply e) id) :
    used w id ∨ evOpId e = some id :=
  used_applied (apply_spec w e) ho id h

theorem used_step (w : World) (e : Ev) (ho : OwnInv w) (id : Nat) (h : used (w.step e) id) :
    used w id ∨ evOpId e = some id :=
  (step_lift_ev (R := fun a b => OwnInv a → OwnInv b ∧ ∀ id, used b id → used a id ∨ evOpId e = some id)
    (fun _ h => ⟨h, fun _ x => Or.inl x⟩)
    (fun f g h => ⟨(g (f h).1).1, fun id x => ((g (f h).1).2 id x).elim ((f h).2 id) Or.inr⟩)
    (fun w t _ _ h => ⟨own_pollTask w t h, fun id x => Or.inl ((usedLe_pollTask w t h).le id x)⟩)
    (fun w h => ⟨own_emit w _ h, fun _ x => Or.inl x⟩) w e
    (fun _ h => have h0 := own_emit w (.ev e) h; ⟨own_apply _ e h0, used_apply (w.emit (.ev e)) e h0⟩) ho).2 id h

theorem goodFrom_of_nodup (evs : List Ev) (w : World) (ho : OwnInv w) (hn : (opIds evs).Nodup)
    (hu : ∀ n, n ∈ opIds evs → ¬ used w n) : GoodFrom w evs := by
  induction evs generalizing w with
  | nil => trivial
  | cons e t ih =>
    obtain ⟨hfirst, hnt, hrest, _⟩ := filterMap_cons_fresh hn hu
    refine ⟨?_, ih _ (own_step w e ho) hnt fun n hm hused => hrest n hm (used_step w e ho n hused)⟩
    cases e with
    | op id hd req =>
      have := hfirst id rfl
      exact ⟨fun hm => this (Or.inr (Or.inl hm)), fun hm => this (Or.inl hm)⟩
    | _ => trivial

theorem goodFrom_script (cfg : Cfg) (evs : List Ev) (hn : (opIds evs).Nodup) : GoodFrom { cfg := cfg } evs :=
  goodFrom_of_nodup evs _ (ownInv_init cfg) hn (fun n _ hu => by rcases hu with hu | hu | hu <;> simp at hu)

end World
end Poster

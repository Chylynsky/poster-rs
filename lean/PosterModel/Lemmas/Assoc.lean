/-
  The association lists of the model (`awaiting`, `subs`, `retx`, `slots`, `chans`, `ops`). A present key splits the table
  (`lookupFirst_some_iff`: the first entry with the key, no such key before it), and each operation is computed on the
  split: `removeFirst_append_of_not_mem`, `eraseFirst_split`, `setAssoc_split`. At the end, list facts the world-level
  files share: the model's `sortNat` is sorted and commutes with filtering, `filterMap_cons_fresh`.
-/
import PosterModel.World

namespace Poster

theorem removeFirst_append_of_not_mem {β} (k : Nat) (v : β) (pre post : List (Nat × β))
    (hpre : k ∉ pre.map (·.1)) : removeFirst k (pre ++ (k, v) :: post) = some (v, pre ++ post) := by
  induction pre with
  | nil => simp [removeFirst]
  | cons p pre ih =>
    simp only [List.map_cons, List.mem_cons, not_or] at hpre
    simp [removeFirst, Ne.symm hpre.1, ih hpre.2]

theorem removeFirst_some_iff {β} (k : Nat) (l l' : List (Nat × β)) (v : β) :
    removeFirst k l = some (v, l') ↔
      ∃ pre post, l = pre ++ (k, v) :: post ∧ k ∉ pre.map (·.1) ∧ l' = pre ++ post := by
  constructor
  · induction l generalizing l' with
    | nil => simp [removeFirst]
    | cons h t ih =>
      obtain ⟨a, b⟩ := h
      by_cases hk : a = k
      · simp only [removeFirst, if_pos hk, Option.some.injEq, Prod.mk.injEq]
        rintro ⟨rfl, rfl⟩
        exact ⟨[], t, by rw [hk]; rfl, by simp, rfl⟩
      · simp only [removeFirst, if_neg hk, Option.map_eq_some_iff]
        rintro ⟨⟨o, t'⟩, h1, h2⟩
        cases h2
        obtain ⟨pre, post, rfl, e2, rfl⟩ := ih t' h1
        exact ⟨(a, b) :: pre, post, rfl, by simp [Ne.symm hk, e2], rfl⟩
  · rintro ⟨pre, post, rfl, h, rfl⟩
    exact removeFirst_append_of_not_mem k v pre post h

theorem removeFirst_none_iff {β} (k : Nat) (l : List (Nat × β)) :
    removeFirst k l = none ↔ k ∉ l.map (·.1) := by
  induction l with
  | nil => simp [removeFirst]
  | cons h t ih =>
    obtain ⟨a, b⟩ := h
    by_cases hk : a = k
    · simp [removeFirst, hk]
    · have : ¬ k = a := fun e => hk e.symm
      simp [removeFirst, hk, ih, this]

@[simp] theorem eraseFirst_nil {β} (k : Nat) : eraseFirst k ([] : List (Nat × β)) = [] := rfl

theorem eraseFirst_cons {β} (k a : Nat) (b : β) (t : List (Nat × β)) :
    eraseFirst k ((a, b) :: t) = if a = k then t else (a, b) :: eraseFirst k t := by
  by_cases hak : a = k
  · simp [eraseFirst, removeFirst, hak]
  · cases h : removeFirst k t <;> simp [eraseFirst, removeFirst, hak, h]

theorem eraseFirst_of_removeFirst {β} {k : Nat} {l l' : List (Nat × β)} {v : β}
    (h : removeFirst k l = some (v, l')) : eraseFirst k l = l' := by
  simp [eraseFirst, h]

theorem eraseFirst_sublist {β} (k : Nat) (l : List (Nat × β)) : (eraseFirst k l).Sublist l := by
  induction l with
  | nil => simp
  | cons x t ih =>
    obtain ⟨a, b⟩ := x
    rw [eraseFirst_cons]
    split
    · exact List.sublist_cons_self _ _
    · exact ih.cons_cons _

theorem removeFirst_sublist {β} (k : Nat) (l : List (Nat × β)) (o : β) (l' : List (Nat × β))
    (h : removeFirst k l = some (o, l')) : l'.Sublist l := by
  rw [← eraseFirst_of_removeFirst h]; exact eraseFirst_sublist k l

theorem eraseFirst_keys_nodup {β} (k : Nat) (l : List (Nat × β)) (hnd : (l.map (·.1)).Nodup) :
    ((eraseFirst k l).map (·.1)).Nodup :=
  ((eraseFirst_sublist k l).map _).nodup hnd

theorem lookupFirst_eq_removeFirst {β} (k : Nat) (l : List (Nat × β)) :
    lookupFirst k l = (removeFirst k l).map (·.1) := by
  induction l with
  | nil => rfl
  | cons h t ih =>
    obtain ⟨a, b⟩ := h
    by_cases hk : a = k
    · simp [lookupFirst, removeFirst, hk]
    · simp only [lookupFirst, removeFirst, hk, if_false, ih, Option.map_map]; rfl

theorem lookupFirst_none_iff {β} (k : Nat) (l : List (Nat × β)) :
    lookupFirst k l = none ↔ k ∉ l.map (·.1) := by
  rw [lookupFirst_eq_removeFirst, Option.map_eq_none_iff, removeFirst_none_iff]

theorem lookupFirst_some_iff {β} (k : Nat) (l : List (Nat × β)) (v : β) :
    lookupFirst k l = some v ↔ ∃ pre post, l = pre ++ (k, v) :: post ∧ k ∉ pre.map (·.1) := by
  rw [lookupFirst_eq_removeFirst, Option.map_eq_some_iff]
  constructor
  · rintro ⟨⟨v', l'⟩, h, rfl⟩
    obtain ⟨pre, post, e, hpre, -⟩ := (removeFirst_some_iff _ _ _ _).1 h
    exact ⟨pre, post, e, hpre⟩
  · rintro ⟨pre, post, rfl, hpre⟩
    exact ⟨_, removeFirst_append_of_not_mem k v pre post hpre, rfl⟩

theorem mem_of_lookupFirst {β} (k : Nat) (v : β) (l : List (Nat × β)) (h : lookupFirst k l = some v) :
    (k, v) ∈ l := by
  obtain ⟨pre, post, rfl, -⟩ := (lookupFirst_some_iff k l v).1 h
  simp

theorem eraseFirst_split {β} (k : Nat) (v : β) (pre post : List (Nat × β)) (h : k ∉ pre.map (·.1)) :
    eraseFirst k (pre ++ (k, v) :: post) = pre ++ post :=
  eraseFirst_of_removeFirst (removeFirst_append_of_not_mem k v pre post h)

theorem setAssoc_split {β} (k : Nat) (v v' : β) (pre post : List (Nat × β)) (h : k ∉ pre.map (·.1)) :
    World.setAssoc k v' (pre ++ (k, v) :: post) = pre ++ (k, v') :: post := by
  induction pre with
  | nil => simp [World.setAssoc]
  | cons x t ih =>
    obtain ⟨a, b⟩ := x
    simp only [List.map_cons, List.mem_cons, not_or] at h
    have hak : ¬ a = k := fun e => h.1 e.symm
    simp only [List.cons_append, World.setAssoc, hak, ↓reduceIte, ih h.2]

theorem eraseFirst_absent {β} (k : Nat) (l : List (Nat × β)) (h : lookupFirst k l = none) : eraseFirst k l = l := by
  simp [eraseFirst, (removeFirst_none_iff k l).2 ((lookupFirst_none_iff k l).1 h)]

theorem lookupFirst_eraseFirst_of_ne {β} {j k : Nat} (h : j ≠ k) (l : List (Nat × β)) :
    lookupFirst j (eraseFirst k l) = lookupFirst j l := by
  induction l with
  | nil => rfl
  | cons x t ih =>
    obtain ⟨a, b⟩ := x
    rw [eraseFirst_cons]
    split
    · subst_vars; simp [lookupFirst, Ne.symm h]
    · simp [lookupFirst, ih]

theorem lookupFirst_setAssoc {β} (j k : Nat) (v : β) (l : List (Nat × β)) :
    lookupFirst j (World.setAssoc k v l) = if j = k then some v else lookupFirst j l := by
  by_cases hjk : j = k
  · subst hjk
    induction l with
    | nil => simp [World.setAssoc, lookupFirst]
    | cons x t ih =>
      obtain ⟨a, b⟩ := x
      by_cases ha : a = j <;> simp [World.setAssoc, lookupFirst, ha, ih]
  · have hkj : ¬ k = j := fun e => hjk e.symm
    induction l with
    | nil => simp [World.setAssoc, lookupFirst, hjk, hkj]
    | cons x t ih =>
      obtain ⟨a, b⟩ := x
      by_cases ha : a = k
      · subst ha; simp [World.setAssoc, lookupFirst, hjk, hkj]
      · simp only [World.setAssoc, ha, if_false, lookupFirst, ih, hjk]

theorem lookupFirst_setAssoc_self {β} (k : Nat) (v : β) (l : List (Nat × β)) :
    lookupFirst k (World.setAssoc k v l) = some v := by
  rw [lookupFirst_setAssoc, if_pos rfl]

theorem lookupFirst_setAssoc_of_ne {β} {j k : Nat} (h : j ≠ k) (v : β) (l : List (Nat × β)) :
    lookupFirst j (World.setAssoc k v l) = lookupFirst j l := by
  rw [lookupFirst_setAssoc, if_neg h]

theorem setAssoc_lookup_self {β} (k : Nat) (v : β) (l : List (Nat × β)) (h : lookupFirst k l = some v) :
    World.setAssoc k v l = l := by
  obtain ⟨pre, post, rfl, hpre⟩ := (lookupFirst_some_iff k l v).1 h
  exact setAssoc_split k v v pre post hpre

theorem mem_setAssoc {β} {k k0 : Nat} {v v0 : β} {l : List (Nat × β)} (h : (k, v) ∈ World.setAssoc k0 v0 l) :
    (k, v) = (k0, v0) ∨ (k, v) ∈ l := by
  induction l with
  | nil => simpa [World.setAssoc] using h
  | cons hd t ih =>
    obtain ⟨a, b⟩ := hd
    simp only [World.setAssoc] at h
    split at h
    · rcases List.mem_cons.1 h with h | h
      · exact Or.inl h
      · exact Or.inr (List.mem_cons_of_mem _ h)
    · rcases List.mem_cons.1 h with h | h
      · exact Or.inr (h ▸ List.mem_cons_self)
      · exact (ih h).imp id (List.mem_cons_of_mem _)

theorem nodup_append_singleton {α} (l : List α) (a : α) : (l ++ [a]).Nodup ↔ l.Nodup ∧ a ∉ l := by
  rw [List.nodup_append]
  constructor
  · rintro ⟨h, -, hd⟩; exact ⟨h, fun ha => hd a ha a (by simp) rfl⟩
  · rintro ⟨h, ha⟩
    refine ⟨h, by simp, ?_⟩
    intro x hx y hy
    rw [List.mem_singleton.1 hy]
    rintro rfl; exact ha hx

theorem lookupFirst_of_mem_nodup {β} (k : Nat) (v : β) (l : List (Nat × β)) (hn : (l.map (·.1)).Nodup)
    (h : (k, v) ∈ l) : lookupFirst k l = some v := by
  obtain ⟨pre, post, rfl⟩ := List.append_of_mem h
  refine (lookupFirst_some_iff k _ v).2 ⟨pre, post, rfl, fun hm => ?_⟩
  rw [List.map_append, List.map_cons, List.nodup_append] at hn
  exact hn.2.2 k hm k List.mem_cons_self rfl

theorem lookupFirst_append {β} (k : Nat) (a b : List (Nat × β)) :
    lookupFirst k (a ++ b) = match lookupFirst k a with
      | some v => some v
      | none => lookupFirst k b := by
  induction a with
  | nil => simp [lookupFirst]
  | cons x t ih =>
    obtain ⟨a', b'⟩ := x
    simp only [List.cons_append, lookupFirst]
    split
    · rfl
    · exact ih

theorem keys_setAssoc_of_lookup {β} (k : Nat) (v v0 : β) (l : List (Nat × β)) (h : lookupFirst k l = some v0) :
    (World.setAssoc k v l).map (·.1) = l.map (·.1) := by
  obtain ⟨pre, post, rfl, hpre⟩ := (lookupFirst_some_iff k l v0).1 h
  rw [setAssoc_split k v0 v pre post hpre]; simp

theorem keys_setAssoc_of_absent {β} (k : Nat) (v : β) (l : List (Nat × β)) (h : lookupFirst k l = none) :
    (World.setAssoc k v l).map (·.1) = l.map (·.1) ++ [k] := by
  induction l with
  | nil => simp [World.setAssoc]
  | cons x t ih =>
    obtain ⟨a, b⟩ := x
    simp only [lookupFirst] at h
    simp only [World.setAssoc]
    split at h
    · cases h
    · rename_i hk; simp [hk, ih h]

theorem nodup_keys_setAssoc {β} (k : Nat) (v : β) (l : List (Nat × β)) (hn : (l.map (·.1)).Nodup) :
    ((World.setAssoc k v l).map (·.1)).Nodup := by
  cases h : lookupFirst k l with
  | none =>
    rw [keys_setAssoc_of_absent k v l h, nodup_append_singleton]
    exact ⟨hn, (lookupFirst_none_iff k l).1 h⟩
  | some v0 => rw [keys_setAssoc_of_lookup k v v0 l h]; exact hn

theorem length_eraseFirst_of_lookup {β} (k : Nat) (v : β) (l : List (Nat × β)) (h : lookupFirst k l = some v) :
    (eraseFirst k l).length + 1 = l.length := by
  obtain ⟨pre, post, rfl, hpre⟩ := (lookupFirst_some_iff k l v).1 h
  rw [eraseFirst_of_removeFirst (removeFirst_append_of_not_mem k v pre post hpre)]
  simp only [List.length_append, List.length_cons]
  omega

theorem lookupFirst_split {β} (k : Nat) (v : β) (l : List (Nat × β)) (hn : (l.map (·.1)).Nodup)
    (h : lookupFirst k l = some v) :
    ∃ pre post, l = pre ++ (k, v) :: post ∧ k ∉ pre.map (·.1) ∧ k ∉ post.map (·.1) ∧
      eraseFirst k l = pre ++ post ∧ ∀ v', World.setAssoc k v' l = pre ++ (k, v') :: post := by
  obtain ⟨pre, post, rfl, hpre⟩ := (lookupFirst_some_iff k l v).1 h
  rw [List.map_append, List.map_cons] at hn
  exact ⟨pre, post, rfl, hpre, (List.nodup_cons.1 (List.nodup_append.1 hn).2.1).1, eraseFirst_split k v pre post hpre,
    fun v' => setAssoc_split k v v' pre post hpre⟩

theorem mem_eraseFirst_of_ne {β} (k : Nat) (l : List (Nat × β)) (e : Nat × β) (he : e ∈ l) (hk : e.1 ≠ k) :
    e ∈ eraseFirst k l := by
  cases hl : lookupFirst k l with
  | none => rw [eraseFirst_absent k l hl]; exact he
  | some v =>
    obtain ⟨pre, post, rfl, hpre⟩ := (lookupFirst_some_iff k l v).1 hl
    rw [eraseFirst_split k v pre post hpre]
    rcases List.mem_append.1 he with m | m
    · exact List.mem_append_left _ m
    · exact List.mem_append_right _ ((List.mem_cons.1 m).resolve_left fun e' => hk (e' ▸ rfl))

theorem mem_eraseFirst_or {β} (k a : Nat) (b : β) (l : List (Nat × β)) (h : (a, b) ∈ l) :
    (a, b) ∈ eraseFirst k l ∨ (a = k ∧ lookupFirst k l = some b) := by
  by_cases hk : a = k
  · subst hk
    cases hl : lookupFirst a l with
    | none => exact absurd (List.mem_map_of_mem (f := (·.1)) h) ((lookupFirst_none_iff a l).1 hl)
    | some v =>
      obtain ⟨pre, post, rfl, hpre⟩ := (lookupFirst_some_iff a l v).1 hl
      rw [eraseFirst_split a v pre post hpre]
      rcases List.mem_append.1 h with m | m
      · exact Or.inl (List.mem_append_left _ m)
      · rcases List.mem_cons.1 m with e | m
        · exact Or.inr ⟨rfl, by rw [(Prod.mk.inj e).2]⟩
        · exact Or.inl (List.mem_append_right _ m)
  · exact Or.inl (mem_eraseFirst_of_ne k l _ h hk)

theorem eraseFirst_no_key {β} (k : Nat) (l : List (Nat × β)) (hnd : (l.map (·.1)).Nodup) :
    ∀ e ∈ eraseFirst k l, e.1 ≠ k := by
  intro e he hek
  cases hl : lookupFirst k l with
  | none =>
    rw [eraseFirst_absent k l hl] at he
    exact (lookupFirst_none_iff k l).1 hl (hek ▸ List.mem_map_of_mem (f := (·.1)) he)
  | some v =>
    obtain ⟨pre, post, rfl, h1, h2, h3, _⟩ := lookupFirst_split k v l hnd hl
    rw [h3] at he
    rcases List.mem_append.1 he with m | m
    · exact h1 (hek ▸ List.mem_map_of_mem (f := (·.1)) m)
    · exact h2 (hek ▸ List.mem_map_of_mem (f := (·.1)) m)

theorem lookupFirst_eraseFirst_self {β} (k : Nat) (l : List (Nat × β)) (h : (l.map (·.1)).Nodup) :
    lookupFirst k (eraseFirst k l) = none := by
  rw [lookupFirst_none_iff]
  intro hm
  obtain ⟨e, he, hk⟩ := List.mem_map.1 hm
  exact eraseFirst_no_key k l h e he hk

theorem mem_setAssoc_nodup {β} (k j : Nat) (v v0 x : β) (l : List (Nat × β)) (hn : (l.map (·.1)).Nodup)
    (hl : lookupFirst k l = some v0) (h : (j, x) ∈ World.setAssoc k v l) :
    (j = k ∧ x = v) ∨ (j ≠ k ∧ (j, x) ∈ l) := by
  by_cases hj : j = k
  · subst hj
    left
    have hn' : ((World.setAssoc j v l).map (·.1)).Nodup := by rw [keys_setAssoc_of_lookup j v v0 l hl]; exact hn
    have h1 := lookupFirst_of_mem_nodup j x _ hn' h
    rw [lookupFirst_setAssoc_self] at h1
    exact ⟨rfl, (Option.some.inj h1).symm⟩
  · right
    rcases mem_setAssoc h with h | h
    · simp only [Prod.mk.injEq] at h; exact absurd h.1 hj
    · exact ⟨hj, h⟩

theorem lookupFirst_filter {β} (P : Nat → Bool) (k : Nat) (l : List (Nat × β)) (h : P k = true) :
    lookupFirst k (l.filter (fun x => P x.1)) = lookupFirst k l := by
  induction l with
  | nil => rfl
  | cons x t ih =>
    obtain ⟨a, b⟩ := x
    by_cases hp : P a = true
    · simp only [List.filter_cons, hp, ↓reduceIte, lookupFirst, ih]
    · have hne : a ≠ k := by intro e; subst e; exact hp h
      simp only [List.filter_cons, hp, Bool.false_eq_true, ↓reduceIte, lookupFirst, hne, ih]

theorem lookupFirst_filter_not {β} (P : Nat → Bool) (k : Nat) (l : List (Nat × β)) (h : P k = false) :
    lookupFirst k (l.filter (fun x => P x.1)) = none := by
  rw [lookupFirst_none_iff]
  intro hm
  obtain ⟨x, hx, rfl⟩ := List.mem_map.mp hm
  have := (List.mem_filter.mp hx).2
  rw [h] at this; cases this

theorem setAssoc_filter {β} (P : Nat → Bool) (k : Nat) (v : β) (l : List (Nat × β)) (h : P k = true) :
    World.setAssoc k v (l.filter (fun x => P x.1)) = (World.setAssoc k v l).filter (fun x => P x.1) := by
  induction l with
  | nil => simp [World.setAssoc, h]
  | cons x t ih =>
    obtain ⟨a, b⟩ := x
    by_cases hk : a = k
    · subst hk
      simp [World.setAssoc, h]
    · by_cases hp : P a = true
      · simp [World.setAssoc, hk, hp, ih]
      · simp [World.setAssoc, hk, hp, ih]

theorem setAssoc_filter_not {β} (P : Nat → Bool) (k : Nat) (v : β) (l : List (Nat × β)) (h : P k = false) :
    (World.setAssoc k v l).filter (fun x => P x.1) = l.filter (fun x => P x.1) := by
  induction l with
  | nil => simp [World.setAssoc, h]
  | cons x t ih =>
    obtain ⟨a, b⟩ := x
    by_cases hk : a = k
    · subst hk
      simp [World.setAssoc, h]
    · simp [World.setAssoc, List.filter_cons, hk, ih]

theorem eraseFirst_filter {β} (P : Nat → Bool) (k : Nat) (l : List (Nat × β)) (h : P k = true) :
    eraseFirst k (l.filter (fun x => P x.1)) = (eraseFirst k l).filter (fun x => P x.1) := by
  induction l with
  | nil => rfl
  | cons x t ih =>
    obtain ⟨a, b⟩ := x
    by_cases hk : a = k
    · subst hk
      simp [eraseFirst_cons, h]
    · by_cases hp : P a = true
      · simp [eraseFirst_cons, hk, hp, ih]
      · simp [eraseFirst_cons, hk, hp, ih]

theorem eraseFirst_filter_not {β} (P : Nat → Bool) (k : Nat) (l : List (Nat × β)) (h : P k = false) :
    (eraseFirst k l).filter (fun x => P x.1) = l.filter (fun x => P x.1) := by
  induction l with
  | nil => rfl
  | cons x t ih =>
    obtain ⟨a, b⟩ := x
    by_cases hk : a = k
    · subst hk
      simp [eraseFirst_cons, h]
    · simp [eraseFirst_cons, List.filter_cons, hk, ih]

theorem filter_snoc_keep {α} (p : α → Bool) (l : List α) (a : α) (h : p a = true) :
    (l ++ [a]).filter p = l.filter p ++ [a] := by simp [List.filter_append, h]

theorem filter_addNew {α} [DecidableEq α] (p : α → Bool) (l : List α) (a : α) (h : p a = true) :
    (if a ∈ l.filter p then l.filter p else l.filter p ++ [a]) = (if a ∈ l then l else l ++ [a]).filter p := by
  by_cases hm : a ∈ l <;> simp [hm, h, List.filter_append]

theorem filter_addNew_drop {α} [DecidableEq α] (p : α → Bool) (l : List α) (a : α) (h : p a = false) :
    (if a ∈ l then l else l ++ [a]).filter p = l.filter p := by
  by_cases hm : a ∈ l <;> simp [hm, h, List.filter_append]

theorem filter_filter_comm {α} (p q : α → Bool) (l : List α) :
    (l.filter p).filter q = (l.filter q).filter p := by
  simp only [List.filter_filter]
  apply List.filter_congr
  intro x _
  exact Bool.and_comm _ _

theorem filter_ne_drop {α} [DecidableEq α] (p : α → Bool) (s : α) (l : List α) (h : p s = false) :
    (l.filter (fun x => decide (x ≠ s))).filter p = l.filter p := by
  simp only [List.filter_filter]
  apply List.filter_congr
  intro x _
  by_cases hx : x = s
  · subst hx; simp [h]
  · simp [hx]

theorem removeFirst_append_absent {β} (k : Nat) (l a : List (Nat × β)) (h : k ∉ a.map (·.1)) :
    removeFirst k (l ++ a) = (removeFirst k l).map (fun x => (x.1, x.2 ++ a)) := by
  induction l with
  | nil =>
    simp only [List.nil_append, removeFirst, Option.map_none]
    exact (removeFirst_none_iff k a).2 h
  | cons x t ih =>
    obtain ⟨a0, b0⟩ := x
    simp only [List.cons_append, removeFirst]
    split
    · rfl
    · rw [ih]
      cases removeFirst k t <;> rfl

theorem eraseFirst_append_absent {β} (k : Nat) (l a : List (Nat × β)) (h : k ∉ a.map (·.1)) :
    eraseFirst k (l ++ a) = eraseFirst k l ++ a := by
  unfold eraseFirst
  rw [removeFirst_append_absent k l a h]
  cases removeFirst k l <;> rfl

theorem lookupFirst_append_absent {β} (k : Nat) (l a : List (Nat × β)) (h : k ∉ a.map (·.1)) :
    lookupFirst k (l ++ a) = lookupFirst k l := by
  rw [lookupFirst_append, (lookupFirst_none_iff k a).2 h]
  cases lookupFirst k l <;> rfl

theorem mem_keys_iff {β} (k : Nat) (l : List (Nat × β)) : k ∈ l.map (·.1) ↔ lookupFirst k l ≠ none :=
  ⟨fun h e => (lookupFirst_none_iff k l).1 e h, fun h => Decidable.by_contra fun hn =>
    h ((lookupFirst_none_iff k l).2 hn)⟩

theorem lookupFirst_isSome_of_eraseFirst {β} (j k : Nat) (l : List (Nat × β))
    (h : (lookupFirst j (eraseFirst k l)).isSome) : (lookupFirst j l).isSome := by
  rw [Option.isSome_iff_ne_none, ← mem_keys_iff] at *
  exact ((eraseFirst_sublist k l).map _).subset h

theorem length_le_setAssoc {β} (k : Nat) (v : β) (l : List (Nat × β)) : l.length ≤ (World.setAssoc k v l).length := by
  cases h : lookupFirst k l with
  | some v0 => exact Nat.le_of_eq (by simpa using (congrArg List.length (keys_setAssoc_of_lookup k v v0 l h)).symm)
  | none => have := congrArg List.length (keys_setAssoc_of_absent k v l h); simp at this; omega

theorem lookupFirst_eraseFirst_nodup {β} (j k : Nat) (l : List (Nat × β)) (hn : (l.map (·.1)).Nodup) :
    lookupFirst j (eraseFirst k l) = if j = k then none else lookupFirst j l := by
  by_cases h : j = k
  · subst h; simp [lookupFirst_eraseFirst_self _ _ hn]
  · simp [h, lookupFirst_eraseFirst_of_ne h _]

theorem mem_setAssoc_val {β} {k k0 : Nat} {v v0 : β} {l : List (Nat × β)} (h : (k, v) ∈ World.setAssoc k0 v0 l) :
    v = v0 ∨ (k, v) ∈ l :=
  (mem_setAssoc h).imp (fun e => (Prod.mk.inj e).2) id

theorem lookupFirst_map_val {β γ} (f : β → γ) (k : Nat) (l : List (Nat × β)) :
    lookupFirst k (l.map fun kc => (kc.1, f kc.2)) = (lookupFirst k l).map f := by
  induction l with
  | nil => rfl
  | cons x t ih =>
    obtain ⟨a, b⟩ := x
    simp only [List.map_cons, lookupFirst]
    split
    · rfl
    · exact ih

theorem map_val_setAssoc {β γ} (f : β → γ) (k : Nat) (v v0 : β) (l : List (Nat × β)) (h : lookupFirst k l = some v0)
    (hf : f v = f v0) :
    (World.setAssoc k v l).map (fun kc => (kc.1, f kc.2)) = l.map fun kc => (kc.1, f kc.2) := by
  obtain ⟨pre, post, rfl, hpre⟩ := (lookupFirst_some_iff k l v0).1 h
  rw [setAssoc_split k v0 v pre post hpre]; simp [hf]

theorem sum_map_eraseFirst {β} (f : Nat × β → Nat) (k : Nat) (v : β) (l : List (Nat × β))
    (h : lookupFirst k l = some v) : ((eraseFirst k l).map f).sum + f (k, v) = (l.map f).sum := by
  obtain ⟨pre, post, rfl, hpre⟩ := (lookupFirst_some_iff k l v).1 h
  rw [eraseFirst_split k v pre post hpre]
  simp only [List.map_append, List.sum_append, List.map_cons, List.sum_cons]; omega

theorem sum_map_setAssoc {β} (f : Nat × β → Nat) (k : Nat) (v v' : β) (l : List (Nat × β))
    (h : lookupFirst k l = some v) : ((World.setAssoc k v' l).map f).sum + f (k, v) = (l.map f).sum + f (k, v') := by
  obtain ⟨pre, post, rfl, hpre⟩ := (lookupFirst_some_iff k l v).1 h
  rw [setAssoc_split k v v' pre post hpre]
  simp only [List.map_append, List.sum_append, List.map_cons, List.sum_cons]; omega

theorem sum_map_eraseFirst_le {β} (f : Nat × β → Nat) (k : Nat) (l : List (Nat × β)) :
    ((eraseFirst k l).map f).sum ≤ (l.map f).sum := by
  induction l with
  | nil => simp [eraseFirst_nil]
  | cons x t ih =>
    obtain ⟨a, b⟩ := x
    rw [eraseFirst_cons]
    split
    · simp only [List.map_cons, List.sum_cons]; omega
    · simp only [List.map_cons, List.sum_cons]; omega

theorem sum_map_setAssoc_le {β} (f : Nat × β → Nat) (k : Nat) (v' : β) (l : List (Nat × β)) :
    ((World.setAssoc k v' l).map f).sum ≤ (l.map f).sum + f (k, v') := by
  induction l with
  | nil => simp [World.setAssoc]
  | cons x t ih =>
    obtain ⟨a, b⟩ := x
    simp only [World.setAssoc]
    split
    · rename_i hk; subst hk
      simp only [List.map_cons, List.sum_cons]; omega
    · simp only [List.map_cons, List.sum_cons]; omega

theorem filterMap_cons_toList {α β} (f : α → Option β) (a : α) (l : List α) :
    (a :: l).filterMap f = (f a).toList ++ l.filterMap f := by
  rw [List.filterMap_cons]
  cases f a <;> rfl

theorem filter_all {α} (l : List α) : l.filter (fun _ => true) = l :=
  List.filter_eq_self.2 fun _ _ => rfl

theorem append_eq_append_cons {α} {l added pre post : List α} {x : α} (h : l ++ added = pre ++ x :: post) :
    (∃ post1, l = pre ++ x :: post1 ∧ post = post1 ++ added) ∨
    (∃ pre2, pre = l ++ pre2 ∧ added = pre2 ++ x :: post) := by
  rcases List.append_eq_append_iff.mp h with ⟨a', h1, h2⟩ | ⟨c', h1, h2⟩
  · exact Or.inr ⟨a', h1, h2⟩
  · rcases List.append_eq_cons_iff.mp h2.symm with ⟨rfl, e⟩ | ⟨t, rfl, e⟩
    · exact Or.inr ⟨[], by simpa using h1.symm, e⟩
    · exact Or.inl ⟨t, h1, e⟩

theorem snoc_eq_append_cons {α} {l p2 post : List α} {a x : α} (h : l ++ [a] = p2 ++ x :: post) (hx : x ∉ l) :
    p2 = l ∧ a = x ∧ post = [] := by
  rcases append_eq_append_cons h with ⟨post1, h1, _⟩ | ⟨pre2, h1, h2⟩
  · exact absurd (by rw [h1]; simp) hx
  · rcases List.append_eq_cons_iff.mp h2.symm with ⟨rfl, e⟩ | ⟨t, _, e⟩
    · cases e; exact ⟨by simpa using h1, rfl, rfl⟩
    · simp at e

theorem ne_snoc_self {α} (l : List α) (a : α) : l ≠ l ++ [a] := fun h => by
  have := congrArg List.length h
  simp at this

namespace World

theorem insertSorted_perm (n : Nat) (l : List Nat) : (insertSorted n l).Perm (n :: l) := by
  induction l with
  | nil => exact .refl _
  | cons a t ih =>
    simp only [insertSorted]; split
    · exact .refl _
    · exact (ih.cons a).trans (.swap n a t)

theorem sortNat_perm (l : List Nat) : (sortNat l).Perm l := by
  induction l with
  | nil => exact .refl _
  | cons a t ih => exact (insertSorted_perm a _).trans (ih.cons a)

theorem insertSorted_sorted (n : Nat) (l : List Nat) (h : l.Pairwise (· ≤ ·)) :
    (insertSorted n l).Pairwise (· ≤ ·) := by
  induction l with
  | nil => simp [insertSorted]
  | cons a t ih =>
    have ⟨ha, ht⟩ := List.pairwise_cons.1 h
    simp only [insertSorted]; split
    · rename_i hle
      exact List.pairwise_cons.2 ⟨fun x hx => (List.mem_cons.1 hx).elim (· ▸ hle) fun hx => Nat.le_trans hle (ha x hx), h⟩
    · refine List.pairwise_cons.2 ⟨fun x hx => ?_, ih ht⟩
      rcases List.mem_cons.1 ((insertSorted_perm n t).mem_iff.1 hx) with rfl | hx
      · omega
      · exact ha x hx

theorem sortNat_sorted (l : List Nat) : (sortNat l).Pairwise (· ≤ ·) := by
  induction l with
  | nil => simp [sortNat]
  | cons a t ih => exact insertSorted_sorted a _ ih

theorem sortNat_filter (p : Nat → Bool) (l : List Nat) : sortNat (l.filter p) = (sortNat l).filter p :=
  List.Perm.eq_of_pairwise (fun _ _ _ _ => Nat.le_antisymm) (sortNat_sorted _) ((sortNat_sorted l).filter p)
    ((sortNat_perm _).trans ((sortNat_perm l).filter p).symm)

theorem filterMap_cons_fresh {α β : Type _} {f : α → Option β} {U : β → Prop} {a : α} {t : List α}
    (hn : ((a :: t).filterMap f).Nodup) (hu : ∀ id ∈ (a :: t).filterMap f, ¬ U id) :
    (∀ id, f a = some id → ¬ U id) ∧ (t.filterMap f).Nodup ∧ (∀ id ∈ t.filterMap f, ¬ (U id ∨ f a = some id)) ∧
    ∀ x, (U x ∨ f a = some x) ∨ x ∈ t.filterMap f → U x ∨ x ∈ (a :: t).filterMap f := by
  rw [List.filterMap_cons] at hn hu ⊢
  cases hf : f a with
  | none =>
    rw [hf] at hn hu
    exact ⟨nofun, hn, fun id hid h => h.elim (hu id hid) nofun, fun x h => h.elim (·.elim Or.inl nofun) Or.inr⟩
  | some b =>
    rw [hf] at hn hu
    obtain ⟨hb, hnt⟩ := List.nodup_cons.1 hn
    refine ⟨fun id e => hu id (by cases e; exact List.mem_cons_self), hnt, fun id hid h => ?_, fun x h => ?_⟩
    · rcases h with h | h
      · exact hu id (List.mem_cons_of_mem _ hid) h
      · cases h; exact hb hid
    · rcases h with (h | h) | h
      · exact .inl h
      · cases h; exact .inr List.mem_cons_self
      · exact .inr (List.mem_cons_of_mem _ h)

end World
end Poster

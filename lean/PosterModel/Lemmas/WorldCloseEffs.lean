/-
  Lemmas/WorldCloseEffs.lean — the effects dropping the context amounts to (`closeMsgEffs`, `closeEffs`): the definitions
  only; Lemmas/WorldDrop.lean shows that `DROPCTX` applies them (`dropCtxClosed_eq`).
-/
import PosterModel.World

namespace Poster
open Framing
namespace World

/-- what every sender the context owns on behalf of the queued message `m` is: its oneshot, and for a SUBSCRIBE its
    subscription sender -/
def closeMsgEffs : Msg → List Eff
  | .ff _ s => [.dropSlot s]
  | .awaitAck _ _ s => [.dropSlot s]
  | .subscribe _ _ _ s ch => [.dropSlot s, .dropChan ch]

/-- the senders dropped together with the context: those of the queued messages, of `awaiting_ack`, of `subscriptions` -/
def closeEffs (q : List Msg) (c : Ctx) : List Eff :=
  q.flatMap closeMsgEffs ++ c.awaiting.map (fun e => Eff.dropSlot e.2) ++ c.subs.map (fun e => Eff.dropChan e.2)

end World
end Poster

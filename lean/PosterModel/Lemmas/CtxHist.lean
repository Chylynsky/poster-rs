/-
  Histories of the context as lists of events `HEv` (where the events come from: Lemmas/WorldHist.lean).
  A history is chained (`Chained`) when each event happens in the state the previous one left. `segs_spec`: cut into
  connection segments (`ctxHist`), every segment of a chained history is ONE `Ctx.serve` history and consecutive segments
  are linked as their causes say. `session_fold`: the components of the context that are folds over the observations of
  the whole session (`sessionObs`). At the end `inflightOf`, which only C10 in Properties/HistWorld.lean reads.
-/
import PosterModel.Lemmas.WorldCtx
import PosterModel.Lemmas.CtxRetx
import PosterModel.Properties.C09

namespace Poster
open Framing


/-- everything that touches the context, as an event; the argument `c` is the state it happens in. What each
    constructor stands for in poster-rs: the head of Lemmas/WorldHist.lean; the `q` of `dropCtx` is the message queue
    dropped with the context. -/
inductive HEv where
  | handler (c : Ctx) (i : CIn)
  | resume (c : Ctx)
  | connack (c : Ctx) (k : ConnackRx)
  | request (c : Ctx) (sei : Option Nat) (pkt : Bytes)
  | disc (c : Ctx) (secs : Nat)
  | dropCtx (q : List Msg) (c : Ctx)
  | fresh
deriving Repr, DecidableEq

namespace HEv

/-- the context state in which the event happens (`fresh` does not look at it) -/
def before : HEv → Option Ctx
  | handler c _ => some c
  | resume c => some c
  | connack c _ => some c
  | request c _ _ => some c
  | disc c _ => some c
  | dropCtx _ c => some c
  | fresh => none

def after : HEv → Ctx
  | handler c i => (c.stepIn i).1
  | resume c => c.resume.1
  | connack c k => c.handleConnack k
  | request c (some n) _ => { c with sei := n }
  | request c none _ => c
  | disc c n => { c with disc := some n }
  | dropCtx _ _ => {}
  | fresh => {}

/-- the packets the event hands to the transport, in order (each one `tx.write`) -/
def pkts : HEv → List Bytes
  | handler c i => writesOf (c.stepIn i).2.effs
  | resume c => c.resume.2.2
  | request _ _ p => [p]
  | _ => []

/-- handler inputs are well formed (inbound packets are decoder output) -/
def ok : HEv → Prop
  | handler _ i => i.wf
  | _ => True

def obs? : HEv → Option CObs
  | handler c i => some (c.stepIn i).2
  | _ => none

end HEv

def Chained : Ctx → List HEv → Prop
  | _, [] => True
  | c, e :: t => (∀ b, e.before = some b → b = c) ∧ Chained e.after t

def lastCtx (c : Ctx) (h : List HEv) : Ctx := h.foldl (fun _ e => e.after) c

@[simp] theorem lastCtx_nil (c : Ctx) : lastCtx c [] = c := rfl
@[simp] theorem lastCtx_cons (c : Ctx) (e : HEv) (t : List HEv) : lastCtx c (e :: t) = lastCtx e.after t := rfl
theorem lastCtx_append (c : Ctx) (a b : List HEv) : lastCtx c (a ++ b) = lastCtx (lastCtx c a) b := by
  simp [lastCtx, List.foldl_append]

theorem chained_append (c : Ctx) (a b : List HEv) : Chained c (a ++ b) ↔ Chained c a ∧ Chained (lastCtx c a) b := by
  induction a generalizing c with
  | nil => simp [Chained]
  | cons e t ih => simp only [List.cons_append, Chained, lastCtx_cons, ih, and_assoc]

/-- the inputs `is` handled one after the other from `c`, as events: `callsOf c is` below with `HEv.handler` on each pair -/
def histEvs (c : Ctx) : List CIn → List HEv
  | [] => []
  | i :: is => .handler c i :: histEvs (c.stepIn i).1 is

theorem serve_full_cons (c : Ctx) (i : CIn) (is : List CIn) (h : (c.serve (i :: is)).2.length = (i :: is).length) :
    is = [] ∨ ((c.stepIn i).2.flow = .cont ∧ ((c.stepIn i).1.serve is).2.length = is.length) := by
  rw [Ctx.serve_cons] at h
  split at h
  · rename_i hfl
    right
    exact ⟨hfl, by simpa using h⟩
  · left
    simp only [List.length_cons, List.length_nil] at h
    cases is with
    | nil => rfl
    | cons a t => simp at h

def evPkts (h : List HEv) : List Bytes := h.flatMap HEv.pkts

@[simp] theorem evPkts_nil : evPkts [] = [] := rfl
@[simp] theorem evPkts_append (a b : List HEv) : evPkts (a ++ b) = evPkts a ++ evPkts b := by
  simp [evPkts]
@[simp] theorem evPkts_cons (e : HEv) (t : List HEv) : evPkts (e :: t) = e.pkts ++ evPkts t := by
  simp [evPkts]

theorem filterMap_obs_cons (e : HEv) (t : List HEv) :
    (e :: t).filterMap HEv.obs? = e.obs?.toList ++ t.filterMap HEv.obs? := by
  rw [List.filterMap_cons]; cases e.obs? <;> rfl

/-- how the start state of a connection segment came about -/
inductive SegCause where
  /-- the state before anything happened (`Context::new` of the model's initial world) -/
  | init
  /-- `setup` created the context -/
  | fresh
  /-- `handle_connack` handled the CONNACK `k` -/
  | connack (k : ConnackRx)
  /-- `connect()` / `authorize()` handed its request `pkt` to the transport (`connect()` recorded its session expiry) -/
  | request (pkt : Bytes)
  /-- the caller recorded the disconnection time -/
  | disc
  /-- the prelude of `run()` resumed the session of the state `c` (`c.disc ≠ none`): the retransmit queue is re-sent,
      or the expired session is reset -/
  | resumed (c : Ctx)
  /-- the previous segment ended with a handler that ended `run()` -/
  | exited
  /-- the context was dropped -/
  | dropped
deriving Repr, DecidableEq

/-- a connection segment: its start state, why it starts there, and the handler calls made until it ends, each with the
    context state it was made in -/
structure CtxSeg where
  cause : SegCause
  start : Ctx
  calls : List (Ctx × CIn) := []
deriving Repr, DecidableEq

/-- the states the inputs `is` are handled in when they are handled one after the other from `c` -/
def callsOf (c : Ctx) : List CIn → List (Ctx × CIn)
  | [] => []
  | i :: is => (c, i) :: callsOf (c.stepIn i).1 is

/-- the state after handling the inputs one after the other (without stopping) -/
def runIns (c : Ctx) (is : List CIn) : Ctx := is.foldl (fun c i => (c.stepIn i).1) c

def callObs (x : Ctx × CIn) : CObs := (x.1.stepIn x.2).2

namespace CtxSeg

def ins (s : CtxSeg) : List CIn := s.calls.map (·.2)
def obs (s : CtxSeg) : List CObs := s.calls.map callObs
def endCtx (s : CtxSeg) : Ctx := runIns s.start s.ins
/-- the packets handed to the transport when the segment was opened: the CONNECT / AUTH request, or the re-sent packets
    of a resumed session -/
def opening (s : CtxSeg) : List Bytes :=
  match s.cause with
  | .request p => [p]
  | .resumed c => c.resume.2.2
  | _ => []
def pkts (s : CtxSeg) : List Bytes := s.opening ++ s.obs.flatMap fun o => writesOf o.effs
/-- what the protocol expects on the wire during a segment: what was handed to the transport when it was opened (the
    request of `connect()` / `authorize()`, the re-sent packets of a resumed session), then for each handled inbound packet
    the acknowledgement owed and for each handled request what it wrote, in order -/
def wire (s : CtxSeg) : List Bytes := s.opening ++ s.obs.flatMap obsWire
def push (s : CtxSeg) (c : Ctx) (i : CIn) : CtxSeg := { s with calls := s.calls ++ [(c, i)] }

/-- the handler calls of the segment are ONE served history from its start state: every call is made in the state the
    previous ones left, and no input was skipped (all but possibly the last let the loop go on) -/
structure Good (s : CtxSeg) : Prop where
  calls_eq : s.calls = callsOf s.start s.ins
  full : (s.start.serve s.ins).2.length = s.ins.length

end CtxSeg

def HEv.cause : HEv → SegCause
  | .handler _ _ => .exited
  | .resume c => .resumed c
  | .connack _ k => .connack k
  | .request _ _ p => .request p
  | .disc _ _ => .disc
  | .dropCtx _ _ => .dropped
  | .fresh => .fresh

/-- cut the events into segments, `cur` being the segment under construction: a handler call is appended to it (and ends
    it if it ends `run()`); the prelude of `run()` on a context without a recorded disconnection changes nothing
    (a `run()` that was cancelled and called again goes on in the same segment); every other event ends the segment
    and opens a new one in the state it leaves -/
def segs (cur : CtxSeg) : List HEv → List CtxSeg
  | [] => [cur]
  | e :: t =>
    match e with
    | .handler c i =>
      if (c.stepIn i).2.flow = .cont then segs (cur.push c i) t
      else cur.push c i :: segs ⟨.exited, e.after, []⟩ t
    | .resume c => if c.disc = none then segs cur t else cur :: segs ⟨e.cause, e.after, []⟩ t
    | _ => cur :: segs ⟨e.cause, e.after, []⟩ t

def ctxHist (h : List HEv) : List CtxSeg := segs ⟨.init, {}, []⟩ h

@[simp] theorem runIns_nil (c : Ctx) : runIns c [] = c := rfl
@[simp] theorem runIns_cons (c : Ctx) (i : CIn) (is : List CIn) : runIns c (i :: is) = runIns (c.stepIn i).1 is := rfl
theorem runIns_append (c : Ctx) (a b : List CIn) : runIns c (a ++ b) = runIns (runIns c a) b := by
  simp [runIns, List.foldl_append]

theorem callsOf_append (c : Ctx) (a b : List CIn) : callsOf c (a ++ b) = callsOf c a ++ callsOf (runIns c a) b := by
  induction a generalizing c with
  | nil => rfl
  | cons i is ih => simp [callsOf, ih]

@[simp] theorem callsOf_length (c : Ctx) (is : List CIn) : (callsOf c is).length = is.length := by
  induction is generalizing c with
  | nil => rfl
  | cons i is ih => simp [callsOf, ih]

theorem callsOf_ins (c : Ctx) (is : List CIn) : (callsOf c is).map (·.2) = is := by
  induction is generalizing c with
  | nil => rfl
  | cons i is ih => simp [callsOf, ih]

theorem serve_append_cont (c : Ctx) (a b : List CIn) (h : ∀ x ∈ callsOf c a, (callObs x).flow = .cont) :
    c.serve (a ++ b) = (((runIns c a).serve b).1, (callsOf c a).map callObs ++ ((runIns c a).serve b).2) := by
  induction a generalizing c with
  | nil => simp [callsOf]
  | cons i is ih =>
    have hfl : (c.stepIn i).2.flow = .cont := h (c, i) (by simp [callsOf])
    rw [List.cons_append, Ctx.serve_cons_cont _ _ _ hfl,
      ih _ (fun x hx => h x (by simp [callsOf, hx]))]
    simp [callsOf, callObs]

theorem serve_full (c : Ctx) (is : List CIn) (h : (c.serve is).2.length = is.length) :
    (c.serve is).2 = (callsOf c is).map callObs ∧ (c.serve is).1 = runIns c is := by
  induction is generalizing c with
  | nil => simp [Ctx.serve_nil, callsOf]
  | cons i is ih =>
    rcases serve_full_cons c i is h with rfl | ⟨hfl, hlen⟩
    · simp [Ctx.serve_single, callsOf, callObs]
    · obtain ⟨h1, h2⟩ := ih _ hlen
      rw [Ctx.serve_cons_cont _ _ _ hfl]
      exact ⟨by simp [callsOf, callObs, h1], by simpa using h2⟩

theorem serve_cont_of_full (c : Ctx) (is : List CIn) (h : (c.serve is).2.length = is.length) :
    ∀ o ∈ (c.serve is).2.dropLast, o.flow = .cont := by
  induction is generalizing c with
  | nil => simp [Ctx.serve_nil]
  | cons i is ih =>
    rcases serve_full_cons c i is h with rfl | ⟨hfl, hlen⟩
    · simp [Ctx.serve_single]
    · rw [Ctx.serve_cons_cont _ _ _ hfl]
      intro o ho
      rcases World.mem_dropLast_cons ho with rfl | ho
      · exact hfl
      · exact ih _ hlen o ho

theorem CtxSeg.Good.obs_eq {s : CtxSeg} (h : s.Good) : s.obs = (s.start.serve s.ins).2 := by
  rw [(serve_full _ _ h.full).1, ← h.calls_eq]; rfl

theorem CtxSeg.Good.endCtx_eq {s : CtxSeg} (h : s.Good) : s.endCtx = (s.start.serve s.ins).1 :=
  (serve_full _ _ h.full).2.symm

/-- the segment under construction: its calls are chained from its start, all of them let the loop go on, and `c` is the
    state they lead to -/
structure CtxSeg.Open (s : CtxSeg) (c : Ctx) : Prop where
  calls_eq : s.calls = callsOf s.start s.ins
  cont : ∀ x ∈ s.calls, (callObs x).flow = .cont
  now : c = s.endCtx

theorem CtxSeg.open_empty (cause : SegCause) (c : Ctx) : (⟨cause, c, []⟩ : CtxSeg).Open c :=
  ⟨rfl, by simp, rfl⟩

theorem CtxSeg.Open.good {s : CtxSeg} {c : Ctx} (h : s.Open c) : s.Good := by
  refine ⟨h.calls_eq, ?_⟩
  have := serve_append_cont s.start s.ins [] (by rw [← h.calls_eq]; exact h.cont)
  rw [List.append_nil] at this
  rw [this]
  simp [Ctx.serve_nil, CtxSeg.ins]

theorem CtxSeg.push_ins (s : CtxSeg) (c : Ctx) (i : CIn) : (s.push c i).ins = s.ins ++ [i] := by
  simp [CtxSeg.push, CtxSeg.ins]

theorem CtxSeg.push_calls_eq {s : CtxSeg} {c : Ctx} (h : s.Open c) (i : CIn) :
    (s.push c i).calls = callsOf (s.push c i).start (s.push c i).ins := by
  rw [CtxSeg.push_ins, show (s.push c i).start = s.start from rfl, callsOf_append, ← h.calls_eq, h.now]
  rfl

theorem CtxSeg.Open.push_end {s : CtxSeg} {c : Ctx} (h : s.Open c) (i : CIn) : (s.push c i).endCtx = (c.stepIn i).1 := by
  rw [CtxSeg.endCtx, CtxSeg.push_ins, runIns_append, show (s.push c i).start = s.start from rfl,
    show runIns s.start s.ins = c from h.now.symm]
  rfl

theorem CtxSeg.Open.push_cont {s : CtxSeg} {c : Ctx} (h : s.Open c) (i : CIn) (hfl : (c.stepIn i).2.flow = .cont) :
    (s.push c i).Open (c.stepIn i).1 where
  calls_eq := CtxSeg.push_calls_eq h i
  cont := by
    intro x hx
    simp only [CtxSeg.push, List.mem_append, List.mem_singleton] at hx
    rcases hx with hx | rfl
    · exact h.cont x hx
    · exact hfl
  now := (h.push_end i).symm

theorem CtxSeg.Open.push_good {s : CtxSeg} {c : Ctx} (h : s.Open c) (i : CIn) : (s.push c i).Good := by
  refine ⟨CtxSeg.push_calls_eq h i, ?_⟩
  rw [CtxSeg.push_ins, show (s.push c i).start = s.start from rfl,
    serve_append_cont s.start s.ins [i] (by rw [← h.calls_eq]; exact h.cont), Ctx.serve_single]
  simp [CtxSeg.ins]

def CtxSeg.upd (cur : CtxSeg) : HEv → CtxSeg
  | .handler c i => cur.push c i
  | _ => cur

def HEv.stays : HEv → Bool
  | .handler c i => decide ((c.stepIn i).2.flow = .cont)
  | .resume c => decide (c.disc = none)
  | _ => false

theorem segs_cons (cur : CtxSeg) (e : HEv) (t : List HEv) :
    segs cur (e :: t) = if e.stays then segs (cur.upd e) t else cur.upd e :: segs ⟨e.cause, e.after, []⟩ t := by
  cases e <;> simp only [segs, HEv.stays, CtxSeg.upd, HEv.cause, decide_eq_true_eq, Bool.false_eq_true, if_false]

theorem segs_skip_resume (a b : List HEv) (c : Ctx) (hd : c.disc = none) :
    ∀ cur, segs cur (a ++ .resume c :: b) = segs cur (a ++ b) := by
  induction a with
  | nil => intro cur; simp [segs, hd]
  | cons e t ih =>
    intro cur
    cases e <;> simp only [List.cons_append, segs, ih]

theorem segs_ne_nil (cur : CtxSeg) (h : List HEv) : segs cur h ≠ [] := by
  induction h generalizing cur with
  | nil => simp [segs]
  | cons e t ih => rw [segs_cons]; split <;> simp [ih]

theorem CtxSeg.upd_head (cur : CtxSeg) (e : HEv) : (cur.upd e).cause = cur.cause ∧ (cur.upd e).start = cur.start := by
  cases e <;> exact ⟨rfl, rfl⟩

theorem segs_head (h : List HEv) : ∀ cur : CtxSeg, ∃ s rest, segs cur h = s :: rest ∧ s.cause = cur.cause ∧
    s.start = cur.start := by
  induction h with
  | nil => intro cur; exact ⟨cur, [], rfl, rfl, rfl⟩
  | cons e t ih =>
    intro cur
    rw [segs_cons]
    split
    · obtain ⟨s, rest, h1, h2, h3⟩ := ih (cur.upd e)
      exact ⟨s, rest, h1, h2.trans (cur.upd_head e).1, h3.trans (cur.upd_head e).2⟩
    · exact ⟨_, _, rfl, (cur.upd_head e).1, (cur.upd_head e).2⟩

/-- the start state `start` of a segment opened for the reason `cause`, when the previous segment ended in the state `c`
    with `last` as its last observation -/
def CauseOk (c : Ctx) (last : Option CObs) (cause : SegCause) (start : Ctx) : Prop :=
  match cause with
  | .init => False
  | .fresh => start = {}
  | .dropped => start = {}
  | .connack k => start = c.handleConnack k
  | .request _ => start = c ∨ ∃ n, start = { c with sei := n }
  | .disc => ∃ n, start = { c with disc := some n }
  | .resumed c' => c' = c ∧ c.disc ≠ none ∧ start = c.resume.1
  | .exited => start = c ∧ ∃ o, last = some o ∧ o.flow ≠ .cont

def SegLink (a b : CtxSeg) : Prop := CauseOk a.endCtx a.obs.getLast? b.cause b.start

theorem SegLink.connack {a b : CtxSeg} (h : SegLink a b) {k : ConnackRx} (hc : b.cause = .connack k) :
    b.start = a.endCtx.handleConnack k := by
  unfold SegLink at h; rwa [hc] at h

theorem SegLink.resumed {a b : CtxSeg} (h : SegLink a b) {c : Ctx} (hc : b.cause = .resumed c) :
    c = a.endCtx ∧ a.endCtx.disc ≠ none ∧ b.start = a.endCtx.resume.1 := by
  unfold SegLink at h; rwa [hc] at h

def Linked : List CtxSeg → Prop
  | a :: b :: t => SegLink a b ∧ Linked (b :: t)
  | _ => True

theorem linked_cons {a : CtxSeg} {l : List CtxSeg} (hl : Linked l)
    (hh : ∀ b rest, l = b :: rest → SegLink a b) : Linked (a :: l) := by
  cases l with
  | nil => trivial
  | cons b rest => exact ⟨hh b rest rfl, hl⟩

theorem linked_pred {l : List CtxSeg} (hl : Linked l) {s : CtxSeg} (hs : s ∈ l) :
    (∃ rest, l = s :: rest) ∨ ∃ a ∈ l, SegLink a s := by
  induction l with
  | nil => cases hs
  | cons a t ih =>
    rcases List.mem_cons.mp hs with rfl | hs
    · exact Or.inl ⟨t, rfl⟩
    · right
      cases t with
      | nil => cases hs
      | cons b t' =>
        obtain ⟨h1, h2⟩ := hl
        rcases ih h2 hs with ⟨rest, e⟩ | ⟨a', ha', hl'⟩
        · cases e; exact ⟨a, by simp, h1⟩
        · exact ⟨a', by simp [ha'], hl'⟩

theorem linked_adjacent {pre : List CtxSeg} {a b : CtxSeg} {post : List CtxSeg}
    (hl : Linked (pre ++ a :: b :: post)) : SegLink a b := by
  induction pre with
  | nil => exact hl.1
  | cons x t ih =>
    cases t with
    | nil => exact ih hl.2
    | cons y t' => exact ih hl.2

theorem CtxSeg.Open.step {cur : CtxSeg} {c : Ctx} {e : HEv} (ho : cur.Open c) (hb : ∀ b, e.before = some b → b = c) :
    (cur.upd e).Good ∧ (e.stays = true → (cur.upd e).Open e.after) ∧
    (e.stays = false → CauseOk (cur.upd e).endCtx (cur.upd e).obs.getLast? e.cause e.after) := by
  have now : cur.endCtx = c := ho.now.symm
  cases e with
  | handler c' i =>
    have hc : c' = c := hb c' rfl
    subst hc
    refine ⟨ho.push_good i, fun h => ho.push_cont i (of_decide_eq_true h), fun h => ?_⟩
    show CauseOk (cur.push c' i).endCtx _ _ _
    rw [ho.push_end i]
    exact ⟨rfl, callObs (c', i), by simp [CtxSeg.upd, CtxSeg.obs, CtxSeg.push], of_decide_eq_false h⟩
  | resume c' =>
    have hc : c' = c := hb c' rfl
    subst hc
    refine ⟨ho.good, fun h => ?_, fun h => ?_⟩
    · have e1 : (HEv.resume c').after = c' := by simp [HEv.after, Ctx.resume, of_decide_eq_true h]
      rw [e1]; exact ho
    · show CauseOk cur.endCtx _ _ _
      rw [now]; exact ⟨rfl, of_decide_eq_false h, rfl⟩
  | connack c' k =>
    have hc : c' = c := hb c' rfl
    exact ⟨ho.good, nofun, fun _ => by show CauseOk cur.endCtx _ _ _; rw [now, hc]; rfl⟩
  | request c' sei p =>
    have hc : c' = c := hb c' rfl
    refine ⟨ho.good, nofun, fun _ => ?_⟩
    show CauseOk cur.endCtx _ _ _
    rw [now, hc]
    cases sei with
    | none => exact Or.inl rfl
    | some n => exact Or.inr ⟨n, rfl⟩
  | disc c' n =>
    have hc : c' = c := hb c' rfl
    exact ⟨ho.good, nofun, fun _ => by show CauseOk cur.endCtx _ _ _; rw [now, hc]; exact ⟨n, rfl⟩⟩
  | dropCtx q c' => exact ⟨ho.good, nofun, fun _ => rfl⟩
  | fresh => exact ⟨ho.good, nofun, fun _ => rfl⟩

theorem segs_spec (h : List HEv) : ∀ (cur : CtxSeg) (c : Ctx), Chained c h → cur.Open c →
    (∀ s ∈ segs cur h, s.Good) ∧ Linked (segs cur h) ∧
    ∀ s, (segs cur h).getLast? = some s → s.endCtx = lastCtx c h := by
  induction h with
  | nil =>
    intro cur c _ ho
    refine ⟨fun s hs => ?_, trivial, fun s hs => ?_⟩
    · rw [List.mem_singleton.mp hs]; exact ho.good
    · simp only [segs, List.getLast?_singleton, Option.some.injEq] at hs
      subst hs; exact ho.now.symm
  | cons e t ih =>
    intro cur c hch ho
    obtain ⟨hb, hch'⟩ := hch
    obtain ⟨hg, hst, hcut⟩ := ho.step hb
    rw [segs_cons, lastCtx_cons]
    cases hs : e.stays with
    | true => exact ih _ _ hch' (hst hs)
    | false =>
      obtain ⟨g, l, la⟩ := ih _ _ hch' (CtxSeg.open_empty e.cause e.after)
      simp only [Bool.false_eq_true, if_false]
      refine ⟨fun s hs' => ?_, linked_cons l fun b rest hbr => ?_, fun s hs' => ?_⟩
      · rcases List.mem_cons.mp hs' with rfl | hs'
        · exact hg
        · exact g s hs'
      · obtain ⟨s, rest', e1, e2, e3⟩ := segs_head t ⟨e.cause, e.after, []⟩
        rw [hbr] at e1
        cases e1
        unfold SegLink
        rw [e2, e3]
        exact hcut hs
      · rw [List.getLast?_cons_of_ne_nil (segs_ne_nil _ _)] at hs'
        exact la s hs'

theorem CtxSeg.upd_wf {cur : CtxSeg} {e : HEv} (hc : ∀ i ∈ cur.ins, i.wf) (he : e.ok) : ∀ i ∈ (cur.upd e).ins, i.wf := by
  cases e with
  | handler c i =>
    intro j hj
    rw [CtxSeg.upd, CtxSeg.push_ins] at hj
    rcases List.mem_append.mp hj with hj | hj
    · exact hc j hj
    · rw [List.mem_singleton.mp hj]; exact he
  | _ => exact hc

theorem segs_wf (h : List HEv) : ∀ (cur : CtxSeg), (∀ e ∈ h, e.ok) → (∀ i ∈ cur.ins, i.wf) →
    ∀ s ∈ segs cur h, ∀ i ∈ s.ins, i.wf := by
  induction h with
  | nil => intro cur _ hc s hs; rw [List.mem_singleton.mp hs]; exact hc
  | cons e t ih =>
    intro cur hok hc s hs
    have hok' : ∀ e' ∈ t, e'.ok := fun e' he' => hok e' (List.mem_cons_of_mem _ he')
    have hu := CtxSeg.upd_wf hc (hok e List.mem_cons_self)
    rw [segs_cons] at hs
    split at hs
    · exact ih _ hok' hu s hs
    · rcases List.mem_cons.mp hs with rfl | hs
      · exact hu
      · exact ih _ hok' (by simp [CtxSeg.ins]) s hs

theorem CtxSeg.upd_pkts (cur : CtxSeg) (e : HEv) :
    (cur.upd e).pkts ++ (if e.stays then [] else (⟨e.cause, e.after, []⟩ : CtxSeg).pkts) = cur.pkts ++ e.pkts := by
  cases e with
  | handler c i =>
    have hpush : (cur.push c i).pkts = cur.pkts ++ writesOf (c.stepIn i).2.effs := by
      simp only [CtxSeg.pkts, CtxSeg.push, CtxSeg.obs, CtxSeg.opening, List.map_append, List.flatMap_append,
        List.append_assoc, List.map_cons, List.map_nil, List.flatMap_cons, List.flatMap_nil, List.append_nil, callObs]
    -- the segment a handler call opens (cause `exited`) has no opening
    show (cur.push c i).pkts ++ (if _ then [] else []) = _
    rw [hpush, ite_self, List.append_nil]
    rfl
  | resume c =>
    show cur.pkts ++ (if decide (c.disc = none) then [] else c.resume.2.2 ++ []) = cur.pkts ++ c.resume.2.2
    rw [List.append_nil]
    split
    · rename_i hd
      rw [Ctx.resume, of_decide_eq_true hd]
    · rfl
  | _ => rfl

/-- a list read off the segments that every event extends — by what it adds to the segment it leaves behind and, if it
    cuts, by that of the segment it opens — is, over all segments, that of the segment under construction followed by what
    the events add -/
theorem segs_flatMap {β} (f : CtxSeg → List β) (g : HEv → List β)
    (hupd : ∀ cur e, f (cur.upd e) ++ (if e.stays then [] else f ⟨e.cause, e.after, []⟩) = f cur ++ g e)
    (h : List HEv) : ∀ (cur : CtxSeg), (segs cur h).flatMap f = f cur ++ h.flatMap g := by
  induction h with
  | nil => intro cur; simp [segs]
  | cons e t ih =>
    intro cur
    rw [segs_cons, List.flatMap_cons, ← List.append_assoc, ← hupd cur e]
    cases e.stays
    · simp only [Bool.false_eq_true, if_false, List.flatMap_cons, ih, List.append_assoc]
    · simp only [if_true, ih, List.append_nil]

theorem segs_pkts (h : List HEv) (cur : CtxSeg) : (segs cur h).flatMap CtxSeg.pkts = cur.pkts ++ evPkts h :=
  segs_flatMap CtxSeg.pkts HEv.pkts CtxSeg.upd_pkts h cur

theorem CtxSeg.upd_obs (cur : CtxSeg) (e : HEv) : (cur.upd e).obs = cur.obs ++ e.obs?.toList := by
  cases e <;> simp [CtxSeg.upd, CtxSeg.push, CtxSeg.obs, HEv.obs?, callObs]

theorem segs_obs (h : List HEv) (cur : CtxSeg) :
    (segs cur h).flatMap CtxSeg.obs = cur.obs ++ h.filterMap HEv.obs? := by
  rw [segs_flatMap CtxSeg.obs (fun e => e.obs?.toList)
    (fun cur e => by rw [cur.upd_obs e, show (⟨e.cause, e.after, []⟩ : CtxSeg).obs = [] from rfl, ite_self, List.append_nil])]
  congr 1
  induction h with
  | nil => rfl
  | cons e t ih => rw [List.flatMap_cons, filterMap_obs_cons, ih]

theorem ctxHist_spec {h : List HEv} (hch : Chained {} h) :
    (∀ s ∈ ctxHist h, s.Good) ∧ Linked (ctxHist h) ∧ ∀ s, (ctxHist h).getLast? = some s → s.endCtx = lastCtx {} h :=
  segs_spec h _ _ hch (CtxSeg.open_empty _ _)

theorem ctxHist_wf {h : List HEv} (hok : ∀ e ∈ h, e.ok) : ∀ s ∈ ctxHist h, ∀ i ∈ s.ins, i.wf :=
  segs_wf h _ hok (by simp [CtxSeg.ins])

theorem ctxHist_head (h : List HEv) : ∃ s rest, ctxHist h = s :: rest ∧ s.cause = .init ∧ s.start = {} := segs_head h _

theorem ctxHist_pkts (h : List HEv) : (ctxHist h).flatMap CtxSeg.pkts = evPkts h := segs_pkts h _

theorem ctxHist_obs (h : List HEv) : (ctxHist h).flatMap CtxSeg.obs = h.filterMap HEv.obs? := segs_obs h _

/-- the event starts a new session: the context is created or dropped, or the prelude of `run()` finds the session
    expired and resets it -/
def HEv.resets : HEv → Bool
  | .fresh => true
  | .dropCtx _ _ => true
  | .resume c => (match c.disc with | some e => c.sessionExpired e | none => false)
  | _ => false

/-- the observations of all handler calls since the last event that started a new session (`acc`: those before `h`) -/
def sessFrom (acc : List CObs) : List HEv → List CObs
  | [] => acc
  | e :: t => if e.resets then sessFrom [] t else sessFrom (acc ++ e.obs?.toList) t

/-- **the history of the current session**: the observations of all handler calls — across `run()` calls, connections
    and segments — since the session started -/
def sessionObs (h : List HEv) : List CObs := sessFrom [] h

theorem sessFrom_append (a b : List HEv) (acc : List CObs) : sessFrom acc (a ++ b) = sessFrom (sessFrom acc a) b := by
  induction a generalizing acc with
  | nil => rfl
  | cons e t ih =>
    simp only [List.cons_append, sessFrom]
    split <;> exact ih _

theorem sessFrom_suffix (h : List HEv) : ∀ acc : List CObs, sessFrom acc h <:+ acc ++ h.filterMap HEv.obs? := by
  induction h with
  | nil => intro acc; simp [sessFrom]
  | cons e t ih =>
    intro acc
    rw [filterMap_obs_cons]
    simp only [sessFrom]
    split
    · have h1 := ih []
      rw [List.nil_append] at h1
      exact h1.trans ((List.suffix_append _ _).trans (List.suffix_append _ _))
    · have h1 := ih (acc ++ e.obs?.toList)
      rwa [List.append_assoc] at h1

section SessionFold
variable {α : Type} (f : Ctx → α) (g : α → CObs → α)
  (hstep : ∀ c i, f (c.stepIn i).1 = g (f c) (c.stepIn i).2)
  (hconn : ∀ c k, f (c.handleConnack k) = f c) (hsei : ∀ (c : Ctx) n, f { c with sei := n } = f c)
  (hdisc : ∀ (c : Ctx) d, f { c with disc := d } = f c)
  (hreset : ∀ c : Ctx, f { c with awaiting := [], subs := [], retx := [], inQos2 := [], disc := none } = f {})
include hstep hconn hsei hdisc hreset

/-- what one event does to a component of the context that is a fold of the observations of the session: it starts
    again from the fresh context, or the observation of the event (if it is a handler call) is folded in -/
theorem HEv.fold_after (e : HEv) (c : Ctx) (hb : ∀ b, e.before = some b → b = c) :
    f e.after = if e.resets then f {} else e.obs?.toList.foldl g (f c) := by
  cases e with
  | handler c' i => have hc := hb c' rfl; subst hc; exact hstep c' i
  | resume c' =>
    have hc := hb c' rfl; subst hc
    cases hd : c'.disc with
    | none => simp only [HEv.after, HEv.resets, HEv.obs?, Ctx.resume, hd]; rfl
    | some el =>
      by_cases hx : c'.sessionExpired el = true
      · simp only [HEv.after, HEv.resets, Ctx.resume, hd, hx, ↓reduceIte, Ctx.resetSession]
        exact hreset c'
      · have hx' : c'.sessionExpired el = false := by simpa using hx
        simp only [HEv.after, HEv.resets, HEv.obs?, Ctx.resume, hd, hx', Bool.false_eq_true, ↓reduceIte]
        exact hdisc c' none
  | connack c' k => have hc := hb c' rfl; subst hc; exact hconn c' k
  | request c' sei p =>
    have hc := hb c' rfl; subst hc
    cases sei with
    | none => rfl
    | some n => exact hsei c' n
  | disc c' n => have hc := hb c' rfl; subst hc; exact hdisc c' _
  | dropCtx q c' => rfl
  | fresh => rfl

theorem session_fold (h : List HEv) : ∀ (c : Ctx) (acc : List CObs), Chained c h → f c = acc.foldl g (f {}) →
    f (lastCtx c h) = (sessFrom acc h).foldl g (f {}) := by
  induction h with
  | nil => intro c acc _ hc; exact hc
  | cons e t ih =>
    intro c acc ⟨hb, hch'⟩ hc
    have he := HEv.fold_after f g hstep hconn hsei hdisc hreset e c hb
    rw [lastCtx_cons]
    simp only [sessFrom]
    split
    · rename_i hr; exact ih _ _ hch' (by rw [he, if_pos hr]; rfl)
    · rename_i hr; exact ih _ _ hch' (by rw [he, if_neg hr, List.foldl_append, ← hc])

end SessionFold

theorem session_retx (h : List HEv) (hch : Chained {} h) : (lastCtx {} h).retx = unfinished (sessionObs h) :=
  session_fold (·.retx) retxStep step_retx (fun c k => (Ctx.handleConnack_frame c k).2.2.2.1) (fun _ _ => rfl)
    (fun _ _ => rfl) (fun _ => rfl) h {} [] hch rfl

theorem session_inQos2 (h : List HEv) (hch : Chained {} h) : (lastCtx {} h).inQos2 = pendingQ2 (sessionObs h) :=
  session_fold (·.inQos2) q2Step step_inQos2 (fun c k => (Ctx.handleConnack_frame c k).1) (fun _ _ => rfl)
    (fun _ _ => rfl) (fun _ => rfl) h {} [] hch rfl

/-- the QoS>0 PUBLISH packets of a retransmit queue: (packet identifier, QoS) — what is in flight again after they were
    re-sent -/
def inflightOf (r : List (Nat × Bytes)) : List (Nat × Nat) :=
  r.filterMap fun x => if pktType x.2 = 3 then some (aidPid x.1, if aidKind x.1 = 4 then 1 else 2) else none

end Poster

/-
  Lemmas/WorldCancelScript.lean — `hide id` along scripts. Two reachable worlds that look the same once the private
  state of the future of `id` is hidden (`Pair`) still do after any events that do not address task `op id` and leave a
  handle alive (`Pair.steps`); dropping that future and holding it for ever are two ways into such a pair (the start is
  `drop_and_hold_start_in_lockstep`, Properties/C15World.lean). At the end: the loop reads the same inputs under `hide`.
-/
import PosterModel.Lemmas.WorldCancelEv

namespace Poster
open Framing
namespace World
namespace W11

/-- `Lock (hide id) (Side id) a b` with its fields written out (`Pair.lock`, `Lock.pair`) -/
structure Pair (id : Nat) (a b : World) : Prop where
  eq : hide id a = hide id b
  ra : Reachable a
  rb : Reachable b
  sa : a.bad = false → Side id a
  sb : b.bad = false → Side id b

theorem Pair.lock {id : Nat} {a b : World} (h : Pair id a b) : Lock (hide id) (Side id) a b :=
  ⟨h.eq, h.ra, h.rb, h.sa, h.sb⟩

theorem Lock.pair {id : Nat} {a b : World} (h : Lock (hide id) (Side id) a b) : Pair id a b :=
  ⟨h.eq, h.ra, h.rb, h.sa, h.sb⟩

theorem applied_handles {w w' : World} {e : Ev} (a : Applied w e w') (hne : w.handles ≠ [])
    (hc : ∀ x y, e ≠ .clone x y) (hd : ∀ x, e ≠ .dropHandle x) : w'.handles = w.handles := by
  cases a.norm with
  | clone x y => exact absurd rfl (hc x y)
  | dropHandle x => exact absurd rfl (hd x)
  | newCtx _ _ _ h => exact absurd h hne
  | poll t _ => exact (pollTask_pollFrame w t).handles
  | _ => rfl

theorem apply_handles (w : World) (e : Ev) (hne : w.handles ≠ []) :
    (w.apply e).handles =
      match e with
      | .clone a b => if a ∉ w.handles ∨ b ∈ w.handles then w.handles else w.handles ++ [b]
      | .dropHandle x => if x ∉ w.handles then w.handles else w.handles.filter (fun y => decide (y ≠ x))
      | _ => w.handles := by
  split
  · simp only [World.apply]; split <;> rfl
  · simp only [World.apply]
    split
    · rfl
    · exact senderGone_handles _
  · rename_i hc hd
    exact applied_handles (apply_spec w e) hne hc hd

theorem apply_handles_congr (w w' : World) (e : Ev) (h : w.handles = w'.handles) (hne : w.handles ≠ []) :
    (w.apply e).handles = (w'.apply e).handles := by
  rw [apply_handles w e hne, apply_handles w' e (h ▸ hne), h]

theorem step_handles (w : World) (e : Ev) (hb : w.bad = false) :
    (w.step e).handles = ((w.emit (.ev e)).apply e).handles := by
  rw [step_eq_settle, if_neg (by simp [hb]), (settle_pollFrame _).handles]

theorem emit_hide_cases (id : Nat) (w : World) (o : Obs) :
    hide id (w.emit o) = (hide id w).emit o ∨ hide id (w.emit o) = hide id w := by
  cases hm : mine id o
  · exact Or.inl (emit_hide id w o hm).symm
  · exact Or.inr (emit_hide_mine id w o hm)

theorem keeps_congr {a b : World} (e : Ev) (hh : a.handles = b.handles) (ha : a.handles ≠ [])
    (h : ((a.emit (.ev e)).apply e).handles ≠ []) : ((b.emit (.ev e)).apply e).handles ≠ [] := by
  rw [← apply_handles_congr (a.emit (.ev e)) (b.emit (.ev e)) e hh ha]; exact h

/-- the events `hide id` admits (the `Q` of `Events`): not addressed to task `op id`, and a handle is alive after them -/
def QuietH (id : Nat) (w : World) (e : Ev) : Prop := mineEv id e = false ∧ ((w.emit (.ev e)).apply e).handles ≠ []

theorem events_hide (id : Nat) : Events (hide id) (Side id) (QuietH id) where
  event := fun w e s q =>
    ⟨by rw [emit_hide id w (.ev e) q.1, apply_hide id _ e q.1 (s.emit _) q.2], (s.emit _).apply e q.1 q.2⟩
  carry := fun a b e h sa _ q =>
    ⟨q.1, keeps_congr (a := a) (b := b) e (congrArg World.handles h : (hide id a).handles = _) sa.handles q.2⟩

/-- a handle is alive, so no sender count reaches zero -/
theorem hide_eraseOp_mine (id : Nat) (w : World) (hh : w.handles ≠ []) : hide id (w.eraseOp id) = hide id w := by
  unfold eraseOp
  rw [senderGone_of_pos { w with ops := eraseFirst id w.ops } (senders_ne_zero_of_handles hh)]
  exact congrArg (fun o => ({ hide id w with ops := o } : World)) (eraseFirst_filter_not (keepK id) id w.ops (by simp))

theorem hide_dropOp (id : Nat) (w : World) (hi : OpsInv w) (hh : w.handles ≠ [])
    (hns : ∀ s, w.opSt id ≠ some (.wait s .suback)) : hide id (w.dropOp id) = hide id w := by
  rcases dropOp_cases w id with ⟨_, e⟩ | ⟨_, _, _, e⟩ | ⟨s, k, hst, _, e⟩ | ⟨s, hst, _⟩
  · rw [e]
  · rw [e]; exact hide_eraseOp_mine id w hh
  · rw [e]
    exact (hide_eraseOp_mine id (w.clearSlot s) hh).trans (clearSlot_hide_mine id w s (hi.owner (mem_of_opSt hst)))
  · exact absurd hst (hns s)

theorem dropOp_opSt_self (w : World) (id : Nat) (hi : OpsInv w) : (w.dropOp id).opSt id = none := by
  unfold opSt
  rw [dropOp_ops_eq]
  exact lookupFirst_eraseFirst_self id w.ops hi.nodup

theorem apply_hold_eq (w : World) (t : Task) :
    w.apply (.hold t) = { w with held := if t ∈ w.held then w.held else w.held ++ [t] } := by
  by_cases h : t ∈ w.held <;> simp only [World.apply, h, ↓reduceIte]

theorem hide_hold (id : Nat) (w : World) : hide id (w.apply (.hold (.op id))) = hide id w := by
  rw [apply_hold_eq]
  exact congrArg (fun l => ({ hide id w with held := l } : World)) (filter_addNew_drop (keepT id) w.held _ (by simp))

theorem hold_mem_held (w : World) (t : Task) : t ∈ (w.apply (.hold t)).held := by
  rw [apply_hold_eq]
  show t ∈ if t ∈ w.held then w.held else w.held ++ [t]
  split
  · assumption
  · simp

theorem hide_hold_ev (id : Nat) (w : World) :
    hide id ((w.emit (.ev (.hold (.op id)))).apply (.hold (.op id))) = hide id w := by
  rw [hide_hold]; exact emit_hide_mine id w _ (by simp [mine, mineEv])

theorem side_drop (id : Nat) {w : World} (hi : OpsInv w) (hh : w.handles ≠ []) :
    Side id ((w.emit (.ev (.drop (.op id)))).apply (.drop (.op id))) :=
  ⟨by rw [(apply_drop_userFrame _ _).handles]; exact hh, (hi.emit _).apply _, Or.inr (dropOp_opSt_self _ id (hi.emit _))⟩

theorem side_hold (id : Nat) {w : World} (hi : OpsInv w) (hh : w.handles ≠ []) :
    Side id ((w.emit (.ev (.hold (.op id)))).apply (.hold (.op id))) :=
  ⟨by rw [apply_handles (w.emit _) _ hh]; exact hh, (hi.emit _).apply _, Or.inl (hold_mem_held _ _)⟩

/-- the script never drops the last handle (checked along the run from `w`) -/
def KeepsHandle (w : World) : List Ev → Prop
  | [] => True
  | e :: t => (w.bad = false → ((w.emit (.ev e)).apply e).handles ≠ []) ∧ KeepsHandle (w.step e) t

theorem keepsHandle_along {w : World} {evs : List Ev} (h : KeepsHandle w evs) :
    Along (fun w e => ((w.emit (.ev e)).apply e).handles ≠ []) w evs := by
  induction evs generalizing w with
  | nil => trivial
  | cons e t ih => exact ⟨h.1, ih h.2⟩

theorem KeepsHandle.along {id : Nat} {w : World} {evs : List Ev} (hm : ∀ e ∈ evs, mineEv id e = false)
    (h : KeepsHandle w evs) : Along (QuietH id) w evs :=
  (Along.of_forall hm w).and (keepsHandle_along h)

theorem Pair.steps {id : Nat} (evs : List Ev) {a b : World} (h : Pair id a b)
    (hm : ∀ e ∈ evs, mineEv id e = false) (hk : KeepsHandle a evs) :
    Pair id (evs.foldl World.step a) (evs.foldl World.step b) :=
  (h.lock.steps (erasure_hide id) (events_hide id) evs (hk.along hm)).pair

def isDropHandle : Ev → Bool
  | .dropHandle _ => true
  | _ => false

theorem keepsHandle_of_no_dropHandle (evs : List Ev) (w : World) (hh : w.handles ≠ [])
    (hn : ∀ e ∈ evs, isDropHandle e = false) : KeepsHandle w evs := by
  induction evs generalizing w with
  | nil => trivial
  | cons e t ih =>
    have key : ((w.emit (.ev e)).apply e).handles ≠ [] := by
      rw [apply_handles (w.emit (.ev e)) e hh]
      cases e with
      | dropHandle x => cases hn _ List.mem_cons_self
      | clone a b =>
        simp only
        split
        · exact hh
        · simp
      | _ => exact hh
    refine ⟨fun _ => key, ih _ ?_ (fun e' he' => hn e' (List.mem_cons_of_mem _ he'))⟩
    by_cases hb : w.bad = true
    · rw [step_of_bad w e hb]; exact hh
    · rw [step_handles w e (by simpa using hb)]; exact key

theorem iterIn_hide (id : Nat) (w : World) (hh : w.handles ≠ []) : (hide id w).iterIn = w.iterIn := by
  have hs : w.senders ≠ 0 := senders_ne_zero_of_handles hh
  have hs' : (hide id w).senders ≠ 0 := senders_ne_zero_of_handles (w := hide id w) hh
  unfold iterIn
  simp only [hs, hs', ↓reduceIte, hide_queue, hide_rx, hide_reader]
  rfl

theorem loopHist_hide (id : Nat) (f : Nat) (w : World) (hh : w.handles ≠ []) :
    loopHist f (hide id w) = loopHist f w := by
  induction f generalizing w with
  | zero => rfl
  | succ f ih =>
    simp only [loopHist, iterIn_hide id w hh, runIter_hide id w hh]
    cases w.iterIn with
    | none => rfl
    | some i =>
      simp only
      cases h : runIter w with
      | inl x => simp only; rw [ih x (by rw [(runCont_frame (runIter_inl h)).ctx.handles]; exact hh)]
      | inr x => rfl

end W11
end World
end Poster

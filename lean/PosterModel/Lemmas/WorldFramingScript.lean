/-
  Lemmas/WorldFramingScript.lean — the framing log, over which Properties/C03World.lean states its theorems, carried
  through whole scripts (namespace `Poster.World.W12`): a ghost `FLog` (what was fed, which frames the decoder got, where
  the connection starts in the transcript) updated alongside the executor, which it does not influence, and the invariant
  `FInv` that ties it to the world. Then `scriptFed`, what a script feeds since its last `setup` as a function of the
  script alone, with which the ghost's `fed` agrees unless the script is refused (`flog_fed`).
-/
import PosterModel.Lemmas.WorldFraming
import PosterModel.Lemmas.WorldTweak
import PosterModel.Lemmas.WorldCtl

namespace Poster
open Framing
namespace World
namespace W12

/-- the ghost bookkeeping of one connection -/
structure FLog where
  /-- the read events the script fed since the last `setup`, as the script states them (before `cfg.rdp` / `cfg.fill`
      re-chunk them) -/
  fed : List ReadEv := []
  /-- the frames the context task handed to `decodeRx` since the last `setup`, in order -/
  dec : List Bytes := []
  /-- the length of the transcript right after the last `setup` -/
  mark : Nat := 0

/-- the ghost after `w.pollTask t`: a poll of the context task appends the frames it hands to the decoder -/
def FLog.poll (g : FLog) (w : World) (t : Task) : FLog :=
  match t with
  | .ctx => { g with dec := g.dec ++ ctxFrames (w.unwake .ctx) }
  | _ => g

/-- the ghost after `w.apply e`: an accepted `setup` starts a new connection, an accepted `feed` / `feedEof` / `feedErr`
    appends its read events, a `poll` is a poll -/
def FLog.apply (g : FLog) (w : World) (e : Ev) : FLog :=
  match e with
  | .setup =>
    if w.task ≠ .none ∨ w.ctxDropped then g else
    if !w.hasCtx then
      if w.handles ≠ [] ∨ w.ops ≠ [] then g else { mark := w.out.length }
    else { mark := w.flushRaw.out.length }
  | .feed chunks => if !w.hasCtx then g else { g with fed := g.fed ++ chunks.map ReadEv.data }
  | .feedEof => if !w.hasCtx then g else { g with fed := g.fed ++ [.eof] }
  | .feedErr => if !w.hasCtx then g else { g with fed := g.fed ++ [.err] }
  | .poll t => if w.taskLive t then g.poll w t else g
  | _ => g

/-! the ghost alongside `drain`, `sweepList`, `sweep`, `step`, a script, `settle`: the recursion of the machine itself -/

def drainG : Nat → World → FLog → FLog
  | 0, _, g => g
  | f+1, w, g =>
    match w.pick with
    | none => g
    | some t => drainG f (w.pollTask t) (g.poll w t)

def sweepListG : List Task → World → FLog → FLog
  | [], _, g => g
  | t :: l, w, g =>
    if w.taskLive t ∧ t ∉ w.woken ∧ t ∉ w.held then sweepListG l (w.pollTask t) (g.poll w t) else sweepListG l w g

def sweepG (w : World) (g : FLog) : FLog :=
  sweepListG ([Task.ctx] ++ (sortNat (w.ops.map (·.1))).map Task.op ++ (sortNat w.streams).map Task.st) w g

def stepG (w : World) (e : Ev) (g : FLog) : FLog :=
  if w.bad then g else
  let g1 := g.apply (w.emit (.ev e)) e
  let w1 := (w.emit (.ev e)).apply e
  if w1.bad then g1 else
  let g2 := drainG w1.drainFuel w1 g1
  let w2 := drain w1.drainFuel w1
  if w2.cfg.sweep then drainG w2.sweep.drainFuel w2.sweep (sweepG w2 g2) else g2

def stepsG : List Ev → World → FLog → FLog
  | [], _, g => g
  | e :: t, w, g => stepsG t (w.step e) (stepG w e g)

/-- **the ghost of a script**: what was fed and what was handed to the decoder since the last `setup` -/
def flog (cfg : Cfg) (evs : List Ev) : FLog := stepsG evs { cfg := cfg } {}

def settleG (w : World) (g : FLog) : FLog :=
  if w.bad then g else
  let g2 := drainG w.drainFuel w g
  let w2 := drain w.drainFuel w
  if w2.cfg.sweep then drainG w2.sweep.drainFuel w2.sweep (sweepG w2 g2) else g2

theorem stepG_eq_settleG (w : World) (e : Ev) (g : FLog) :
    stepG w e g = if w.bad then g else settleG ((w.emit (.ev e)).apply e) (g.apply (w.emit (.ev e)) e) := rfl

/-! the ghost is the label of the script (Lemmas/WorldLift.lean): functions `FLog → FLog` under composition -/

/-- first `l`, then `m` -/
def FLog.seq (l m : FLog → FLog) : FLog → FLog := fun g => m (l g)

theorem drainG_eq (f : Nat) (w : World) (g : FLog) :
    drainG f w g = drainAcc id FLog.seq (fun w t g => g.poll w t) f w g := by
  induction f generalizing w g with
  | zero => rfl
  | succ f ih =>
    simp only [drainG, drainAcc]
    cases w.pick with
    | none => rfl
    | some t => exact ih _ _

theorem sweepListG_eq (l : List Task) (w : World) (g : FLog) :
    sweepListG l w g = sweepListAcc id FLog.seq (fun w t g => g.poll w t) l w g := by
  induction l generalizing w g with
  | nil => rfl
  | cons t l ih =>
    simp only [sweepListG, sweepListAcc]
    split
    · exact ih _ _
    · exact ih _ _

theorem settleG_eq (w : World) (g : FLog) : settleG w g = settleAcc id FLog.seq (fun w t g => g.poll w t) w g := by
  unfold settleG settleAcc drainedAcc
  split
  · rfl
  · simp only [FLog.seq, drainG_eq]
    split
    · exact congrArg _ (sweepListG_eq _ _ _)
    · rfl

theorem stepsG_eq (evs : List Ev) (w : World) (g : FLog) :
    stepsG evs w g = scriptAcc id FLog.seq (fun w t g => g.poll w t) (fun w e g => g.apply w e) w evs g := by
  induction evs generalizing w g with
  | nil => rfl
  | cons e t ih =>
    simp only [stepsG, scriptAcc, FLog.seq, ih, stepG_eq_settleG, stepAcc, settleG_eq]
    split <;> rfl

/-- an alive context future that is not flagged left the framing machine in `Idle` -/
def IdleP (w : World) : Prop := w.task ≠ .none → Task.ctx ∉ w.woken → w.rx.st = .idle

/-- `w'` is `w` after something that touches neither the receive side of the transport nor the context, takes no flag
    from the context task, and logs no `RET … SocketClosed` -/
structure Same (w w' : World) : Prop where
  rx_eq : w'.rx = w.rx
  reader_eq : w'.reader = w.reader
  cfg_eq : w'.cfg = w.cfg
  dropped_eq : w'.ctxDropped = w.ctxDropped
  idle : IdleP w → IdleP w'
  out : OutExtP NoSock w w'

theorem Same.refl (w : World) : Same w w := ⟨rfl, rfl, rfl, rfl, id, outExtP_refl _ _⟩

theorem Same.trans {a b c : World} (h1 : Same a b) (h2 : Same b c) : Same a c :=
  ⟨h2.rx_eq.trans h1.rx_eq, h2.reader_eq.trans h1.reader_eq, h2.cfg_eq.trans h1.cfg_eq,
    h2.dropped_eq.trans h1.dropped_eq, fun h => h2.idle (h1.idle h), outExtP_trans h1.out h2.out⟩

theorem Same.of_eq {w w' : World} (h1 : w'.rx = w.rx) (h2 : w'.reader = w.reader) (h3 : w'.cfg = w.cfg)
    (h4 : w'.ctxDropped = w.ctxDropped) (h5 : w'.task = w.task) (h6 : Task.ctx ∈ w.woken → Task.ctx ∈ w'.woken)
    (h7 : w'.out = w.out) : Same w w' :=
  ⟨h1, h2, h3, h4, fun hi hne hnw => h1 ▸ hi (h5 ▸ hne) (fun x => hnw (h6 x)), outExtP_of_eq h7⟩

theorem same_wake {w x : World} (s : Same w x) (t : Task) : Same w (x.wake t) :=
  s.trans (.of_eq (wake_rx _ _) (wake_reader _ _) (wake_cfg _ _) (wake_ctxDropped _ _) (wake_task _ _)
    (fun h => mem_wake_of_mem _ _ _ h) (wake_out _ _))

theorem idleP_of_none {w : World} (h : w.task = .none) : IdleP w := fun hne _ => absurd h hne
theorem idleP_of_woken {w : World} (h : Task.ctx ∈ w.woken) : IdleP w := fun _ hnw => absurd h hnw

theorem Same.of_userMove {P : Obs → Prop} {w w' : World} (m : UserMove P w w') (hp : ∀ o, P o → NoSock o) : Same w w' :=
  ⟨m.frame.rx, m.frame.reader, m.frame.cfg, m.frame.ctxDropped,
    fun hi hne hnw => m.frame.rx ▸ hi (m.frame.task ▸ hne) (fun x => hnw (m.woken _ x)),
    m.out.elim outExtP_of_eq fun ⟨o, ho, e⟩ => outExtP_one o e (hp o ho)⟩

theorem noSock_of_dull {o : Obs} (h : W7.Dull o) : NoSock o :=
  noSock_of_noRet (W7.noRet_of_plain (W7.plain_of_dull h))

theorem same_emit (w : World) (o : Obs) (ho : NoSock o) : Same w (w.emit o) :=
  ⟨rfl, rfl, rfl, rfl, id, outExtP_one o rfl ho⟩

theorem same_pollUser (w : World) (t : Task) (ht : t ≠ .ctx) : Same w (w.pollTask t) := by
  have hu : Same w (w.unwake t) :=
    ⟨rfl, rfl, rfl, rfl, fun hi hne hnw => hi hne fun x => hnw (List.mem_filter.mpr ⟨x, by simpa using ht.symm⟩),
      outExtP_of_eq rfl⟩
  exact hu.trans (.of_userMove (pollTask_userMove w t ht) fun o ho =>
    noSock_of_noRet (W7.noRet_of_plain (W7.plain_of_taskLine ht ho)))

theorem apply_noSock (w : World) (e : Ev) (hp : ∀ t, e ≠ .poll t) : OutExtP NoSock w (w.apply e) :=
  outExtP_mono (W7.apply_dull w e hp) fun _ => noSock_of_dull

/-- what ties the ghost to the world: the frames handed to the decoder are whole frames off the front of the bytes fed,
    and what they leave over is still in flight -/
structure FInv (w : World) (g : FLog) : Prop where
  /-- the framing state satisfies its invariant -/
  ok : w.rx.Ok
  /-- every frame handed to the decoder is exactly one whole frame -/
  whole : ∀ fr ∈ g.dec, OneFrame fr
  /-- the frames handed to the decoder, concatenated, are a prefix of the bytes fed; while the context exists what
      remains is exactly what is in flight on the receive side -/
  pre : ∃ rest, g.dec.flatten ++ rest = dataOf g.fed ∧ (w.ctxDropped = false → rest = inbound w)
  /-- the transport's script ends iff an end event was fed -/
  ends : w.ctxDropped = false → hasEnd w.reader = hasEnd g.fed
  /-- under `cfg.fill` no zero-length read is pending -/
  noEmpty : w.cfg.fill = true → NoEmpty w.reader
  idle : IdleP w
  mark : g.mark ≤ w.out.length
  /-- `RET … SocketClosed` was logged in this connection only for a cause -/
  sock : ∀ c, Obs.ret c (.err .socketClosed) ∈ w.out.drop g.mark →
    w.cfg.wlimit ≠ none ∨ hasEnd g.fed = true ∨ frames (dataOf g.fed) = none

theorem finv_fresh (w' : World) (h1 : w'.rx = {}) (h2 : w'.reader = []) (h3 : w'.task = .none) :
    FInv w' { mark := w'.out.length } where
  ok := by rw [h1]; exact ok_init
  whole := by intro fr h; cases h
  pre := ⟨[], rfl, fun _ => by simp [inbound, h1, h2, dataOf]⟩
  ends := fun _ => by rw [h2]
  noEmpty := fun _ => by rw [h2]; exact noEmpty_nil
  idle := idleP_of_none h3
  mark := Nat.le_refl _
  sock := by intro c h; simp at h

theorem finv_init (cfg : Cfg) : FInv { cfg := cfg } {} := finv_fresh _ rfl rfl rfl

theorem FInv.inb {w : World} {g : FLog} (h : FInv w g) (hd : w.ctxDropped = false) :
    g.dec.flatten ++ inbound w = dataOf g.fed := by
  obtain ⟨rest, e, hr⟩ := h.pre
  rw [← hr hd, e]

theorem FInv.frames_fed {w : World} {g : FLog} (h : FInv w g) (hd : w.ctxDropped = false) :
    frames (dataOf g.fed) = (frames (inbound w)).map fun q => (g.dec ++ q.1, q.2) := by
  rw [← h.inb hd, frames_flatten_append _ _ h.whole]

/-- `mark` and `sock` across a step that appends to the transcript: a `SocketClosed` it adds needs a cause -/
theorem FInv.log {w w' : World} {g : FLog} {P : Obs → Prop} (h : FInv w g) (ho : OutExtP P w w') (hc : w'.cfg = w.cfg)
    (hp : ∀ c, P (.ret c (.err .socketClosed)) →
      w.cfg.wlimit ≠ none ∨ hasEnd g.fed = true ∨ frames (dataOf g.fed) = none) :
    g.mark ≤ w'.out.length ∧ ∀ c, Obs.ret c (.err .socketClosed) ∈ w'.out.drop g.mark →
      w'.cfg.wlimit ≠ none ∨ hasEnd g.fed = true ∨ frames (dataOf g.fed) = none := by
  obtain ⟨added, e, hn⟩ := ho
  refine ⟨by rw [e, List.length_append]; exact Nat.le_trans h.mark (Nat.le_add_right _ _), fun c hm => ?_⟩
  rw [e, List.drop_append_of_le_length h.mark] at hm
  rw [hc]
  exact (List.mem_append.mp hm).elim (h.sock c) fun hm => hp c (hn _ hm)

theorem FInv.same {w w' : World} {g : FLog} (h : FInv w g) (s : Same w w') : FInv w' g where
  ok := by rw [s.rx_eq]; exact h.ok
  whole := h.whole
  pre := by
    obtain ⟨rest, e, hr⟩ := h.pre
    refine ⟨rest, e, fun hd => ?_⟩
    rw [hr (by rw [← s.dropped_eq]; exact hd)]
    simp [inbound, s.rx_eq, s.reader_eq]
  ends := fun hd => by rw [s.reader_eq]; exact h.ends (by rw [← s.dropped_eq]; exact hd)
  noEmpty := fun hf => by rw [s.reader_eq]; exact h.noEmpty (by rw [← s.cfg_eq]; exact hf)
  idle := s.idle h.idle
  mark := (h.log s.out s.cfg_eq fun c hn => absurd rfl (hn c)).1
  sock := (h.log s.out s.cfg_eq fun c hn => absurd rfl (hn c)).2

/-- the only step that adds to `dec`: the frames it hands over come off the front of `inbound w` (`pollCtx_wstep`), so
    `pre` is kept; a `SocketClosed` it logs has one of the three causes by `pollCtx_sock` -/
theorem FInv.pollCtx {w : World} {g : FLog} (h : FInv w g) (ho : CtlOk w) :
    FInv (w.pollTask .ctx) (g.poll w .ctx) := by
  show FInv (w.unwake .ctx).pollCtx { g with dec := g.dec ++ ctxFrames (w.unwake .ctx) }
  cases hd : w.ctxDropped with
  | true =>
    have ht' : w.task = .none := ho.noTask (ho.dropped hd)
    have ht : (w.unwake .ctx).task = .none := ht'
    have e1 : (w.unwake .ctx).pollCtx = w.unwake .ctx := pollCtx_none ht
    have e2 : ctxFrames (w.unwake .ctx) = [] := by simp [ctxFrames, ht']
    rw [e1, e2, List.append_nil]
    exact h.same ⟨rfl, rfl, rfl, rfl, fun _ => idleP_of_none ht, outExtP_of_eq rfl⟩
  | false =>
    have hstep := (pollCtx_wstep (w.unwake .ctx)).fs
    have hok : (w.unwake .ctx).rx.Ok := h.ok
    have hcfg : (w.unwake .ctx).pollCtx.cfg = w.cfg := (pollCtx_ctxFrame _).cfg
    have hl := h.log (w' := (w.unwake .ctx).pollCtx) (pollCtx_sock (w.unwake .ctx) hok) hcfg fun c hs => by
      rcases hs c rfl with hs | hs | hs
      · exact Or.inl hs
      · exact Or.inr (Or.inl (by rw [← h.ends hd]; exact hs))
      · exact Or.inr (Or.inr (by rw [h.frames_fed hd, show frames (inbound w) = none from hs]; rfl))
    refine ⟨hstep.ok hok, ?_, ?_, ?_, ?_, ?_, hl.1, hl.2⟩
    · intro fr hfr
      rcases List.mem_append.mp hfr with m | m
      · exact h.whole fr m
      · exact hstep.whole hok fr m
    · refine ⟨inbound (w.unwake .ctx).pollCtx, ?_, fun _ => rfl⟩
      rw [← h.inb hd, show inbound w = _ ++ inbound (w.unwake .ctx).pollCtx from hstep.inb hok]
      simp [List.flatten_append]
    · intro _
      exact hstep.ends.trans (h.ends hd)
    · intro hf
      exact hstep.noEmpty (h.noEmpty (by rw [← hcfg]; exact hf))
    · intro hne _
      exact pollCtx_idle _ hok hne

theorem FInv.pollTask {w : World} {g : FLog} (h : FInv w g) (ho : CtlOk w) (t : Task) :
    FInv (w.pollTask t) (g.poll w t) := by
  cases t with
  | ctx => exact h.pollCtx ho
  | op id => exact h.same (same_pollUser w _ (by intro e; cases e))
  | st id => exact h.same (same_pollUser w _ (by intro e; cases e))

theorem mergeRuns_facts (l : List ReadEv) (h : NoEmpty l) :
    dataOf (mergeRuns l) = dataOf l ∧ hasEnd (mergeRuns l) = hasEnd l ∧ NoEmpty (mergeRuns l) := by
  fun_induction mergeRuns l with
  | case1 a b rest ih =>
    have ha : a ≠ [] := h a (by simp)
    have hb : b ≠ [] := h b (by simp)
    have hab : a ++ b ≠ [] := by simp [ha]
    have h' : NoEmpty (.data (a ++ b) :: rest) := by
      intro bs hbs
      rcases List.mem_cons.mp hbs with e | e
      · cases e; exact hab
      · exact h bs (by simp [e])
    obtain ⟨i1, i2, i3⟩ := ih h'
    have nd : ∀ {c : Bytes}, c ≠ [] → (ReadEv.data c).isEnd = false := fun hc => by simpa [ReadEv.isEnd] using hc
    refine ⟨?_, ?_, i3⟩
    · rw [i1, dataOf_cons _ _ (nd hab), dataOf_cons _ _ (nd ha), dataOf_cons _ _ (nd hb)]; simp [ReadEv.bytes]
    · rw [i2]; simp only [hasEnd, nd hab, nd ha, nd hb, Bool.false_or]
  | case2 e rest hne ih =>
    obtain ⟨i1, i2, i3⟩ := ih (noEmpty_cons h)
    refine ⟨?_, ?_, ?_⟩
    · cases e <;> simp [dataOf, i1]
    · simp [hasEnd, i2]
    · intro bs hbs
      rcases List.mem_cons.mp hbs with e' | e'
      · exact h bs (by simp [e'])
      · exact i3 bs e'
  | case3 => exact ⟨rfl, rfl, noEmpty_nil⟩

theorem interleave_facts (evs : List ReadEv) :
    dataOf (evs.flatMap fun e => [ReadEv.pending, e]) = dataOf evs ∧
    hasEnd (evs.flatMap fun e => [ReadEv.pending, e]) = hasEnd evs ∧
    (NoEmpty evs → NoEmpty (evs.flatMap fun e => [ReadEv.pending, e])) := by
  induction evs with
  | nil => exact ⟨rfl, rfl, fun h => h⟩
  | cons e t ih =>
    obtain ⟨i1, i2, i3⟩ := ih
    refine ⟨?_, ?_, ?_⟩
    · cases e <;> simp [dataOf, i1]
    · simp [hasEnd, ReadEv.isEnd, i2]
    · intro h bs hbs
      simp only [List.flatMap_cons, List.cons_append, List.nil_append, List.mem_cons, reduceCtorEq, false_or] at hbs
      rcases hbs with e' | e'
      · exact h bs (by simp [e'])
      · exact i3 (noEmpty_cons h) bs e'

/-- the transport's script after `feedEvents evs`: `cfg.rdp` puts a spurious `Pending` in front of every event,
    `cfg.fill` merges adjacent reads -/
def fedReader (w : World) (evs : List ReadEv) : List ReadEv :=
  if w.cfg.fill then mergeRuns (w.reader ++ (if w.cfg.rdp then evs.flatMap fun e => [ReadEv.pending, e] else evs))
  else w.reader ++ (if w.cfg.rdp then evs.flatMap fun e => [ReadEv.pending, e] else evs)

theorem feedEvents_recv (w : World) (evs : List ReadEv) :
    (w.feedEvents evs).reader = fedReader w evs ∧ (w.feedEvents evs).rx = w.rx ∧ (w.feedEvents evs).cfg = w.cfg ∧
    (w.feedEvents evs).ctxDropped = w.ctxDropped ∧ (w.feedEvents evs).task = w.task ∧
    (w.feedEvents evs).out = w.out ∧ (Task.ctx ∈ w.woken → Task.ctx ∈ (w.feedEvents evs).woken) := by
  have hr : (w.feedEvents evs).reader = fedReader w evs := by
    unfold feedEvents fedReader
    simp only
    split
    · exact wake_reader _ _
    · rfl
  obtain ⟨rd, e⟩ := feedEvents_shape w evs
  refine ⟨hr, ?_⟩
  rw [e]
  exact ⟨rfl, rfl, rfl, rfl, rfl, mem_wakeIf⟩

theorem fedReader_facts (w : World) (evs : List ReadEv) (hne : w.cfg.fill = true → NoEmpty w.reader ∧ NoEmpty evs) :
    dataOf (fedReader w evs) = dataOf (w.reader ++ evs) ∧
    hasEnd (fedReader w evs) = (hasEnd w.reader || hasEnd evs) ∧
    (w.cfg.fill = true → NoEmpty (fedReader w evs)) := by
  have hE : ∃ E, (if w.cfg.rdp then evs.flatMap fun e => [ReadEv.pending, e] else evs) = E ∧
      dataOf E = dataOf evs ∧ hasEnd E = hasEnd evs ∧ (NoEmpty evs → NoEmpty E) := by
    cases w.cfg.rdp with
    | false => exact ⟨evs, by simp, rfl, rfl, id⟩
    | true => exact ⟨_, by simp, interleave_facts evs⟩
  obtain ⟨E, eE, d1, d2, d3⟩ := hE
  have hd : dataOf (w.reader ++ E) = dataOf (w.reader ++ evs) := by
    rw [dataOf_append_gen, dataOf_append_gen, d1]
  have he : hasEnd (w.reader ++ E) = (hasEnd w.reader || hasEnd evs) := by rw [hasEnd_append, d2]
  unfold fedReader
  rw [eE]
  cases hf : w.cfg.fill with
  | false => exact ⟨by simpa using hd, by simpa using he, fun h => by cases h⟩
  | true =>
    obtain ⟨n1, n2⟩ := hne hf
    obtain ⟨m1, m2, m3⟩ := mergeRuns_facts (w.reader ++ E) (noEmpty_append n1 (d3 n2))
    exact ⟨by simpa using m1.trans hd, by simpa using m2.trans he, fun _ => by simpa using m3⟩

theorem FInv.feed {w : World} {g : FLog} (h : FInv w g) (evs : List ReadEv)
    (hne : w.cfg.fill = true → NoEmpty evs) : FInv (w.feedEvents evs) { g with fed := g.fed ++ evs } := by
  obtain ⟨r1, r2, r3, r4, r5, r6, r7⟩ := feedEvents_recv w evs
  obtain ⟨f1, f2, f3⟩ := fedReader_facts w evs (fun hf => ⟨h.noEmpty hf, hne hf⟩)
  refine ⟨by rw [r2]; exact h.ok, h.whole, ?_, ?_, ?_, ?_, by rw [r6]; exact h.mark, ?_⟩
  · obtain ⟨rest, e, hr⟩ := h.pre
    refine ⟨rest ++ (if hasEnd g.fed then [] else dataOf evs), ?_, fun hd => ?_⟩
    · show g.dec.flatten ++ _ = dataOf (g.fed ++ evs)
      rw [dataOf_append_gen, ← List.append_assoc, e]
      split <;> simp
    · have hd' : w.ctxDropped = false := by rw [← r4]; exact hd
      rw [hr hd']
      unfold inbound
      rw [r1, r2, f1, dataOf_append_gen, h.ends hd']
      split <;> simp
  · intro hd
    have hd' : w.ctxDropped = false := by rw [← r4]; exact hd
    show hasEnd (w.feedEvents evs).reader = hasEnd (g.fed ++ evs)
    rw [r1, f2, hasEnd_append, h.ends hd']
  · intro hf
    rw [r1]; exact f3 (by rw [← r3]; exact hf)
  · intro hne' hnw
    rw [r2]
    exact h.idle (by rw [← r5]; exact hne') (fun x => hnw (r7 x))
  · intro c hc
    rw [r6] at hc
    rw [r3]
    show _ ∨ hasEnd (g.fed ++ evs) = true ∨ frames (dataOf (g.fed ++ evs)) = none
    rcases h.sock c hc with hs | hs | hs
    · exact Or.inl hs
    · exact Or.inr (Or.inl (by rw [hasEnd_append, hs]; rfl))
    · refine Or.inr (Or.inr ?_)
      rw [dataOf_append_gen]
      split
      · exact hs
      · exact frames_none_append _ _ hs

theorem same_badScript (w : World) : Same w w.badScript := by
  -- unfolded first: `rfl` against the folded `w.badScript` compares the two worlds field by field before it gives up
  unfold badScript
  exact ⟨rfl, rfl, rfl, rfl, id, outExtP_one .badscript rfl (by intro c e; cases e)⟩

theorem FInv.dropped {w w' : World} {g : FLog} (h : FInv w g) (h1 : w'.rx = w.rx) (h2 : w'.ctxDropped = true)
    (h3 : w'.task = .none) (h4 : w'.reader = []) (h5 : w'.out = w.out) (h6 : w'.cfg = w.cfg) : FInv w' g where
  ok := by rw [h1]; exact h.ok
  whole := h.whole
  pre := by
    obtain ⟨rest, e, _⟩ := h.pre
    exact ⟨rest, e, fun hd => by rw [h2] at hd; cases hd⟩
  ends := fun hd => by rw [h2] at hd; cases hd
  noEmpty := fun _ => by rw [h4]; exact noEmpty_nil
  idle := idleP_of_none h3
  mark := by rw [h5]; exact h.mark
  sock := by rw [h5, h6]; exact h.sock

/-- under `cfg.fill` a `feed` event must not contain an empty chunk (adjacent reads are merged, which would swallow the
    zero-length read that stands for end-of-stream) -/
def feedOk : Ev → Prop
  | .feed chunks => ∀ c ∈ chunks, c ≠ []
  | _ => True

/-- the read events a script event feeds -/
def evReads : Ev → List ReadEv
  | .feed chunks => chunks.map ReadEv.data
  | .feedEof => [.eof]
  | .feedErr => [.err]
  | _ => []

theorem ignores_reads {w : World} {e : Ev} (h : w.ignores e) : e ≠ .setup ∧ evReads e = [] := by
  cases e with
  | poll t | hold t | drop t | dropRsp id => exact ⟨nofun, rfl⟩
  | _ => exact h.elim

theorem startTask_reads {e : Ev} {tk : CtxTask} (h : W7.startTask e = some tk) : e ≠ .setup ∧ evReads e = [] := by
  cases e with
  | connect t | authorize a | run => exact ⟨nofun, rfl⟩
  | _ => cases h

theorem feedOf_reads {e : Ev} {evs : List ReadEv} (h : feedOf e = some evs) : e ≠ .setup ∧ evReads e = evs := by
  cases e with
  | feed chunks | feedEof | feedErr => cases h; exact ⟨nofun, rfl⟩
  | _ => cases h

theorem feedOk_noEmpty {e : Ev} (h : feedOk e) : NoEmpty (evReads e) := by
  intro bs hbs
  cases e with
  | feed chunks =>
    obtain ⟨ch, hch, e⟩ := List.mem_map.mp hbs
    cases e
    exact h _ hch
  | _ => simp [evReads] at hbs

theorem FLog.apply_rejects {w : World} {e : Ev} (g : FLog) (h : w.rejects e) : g.apply w e = g := by
  unfold FLog.apply
  split
  · -- `setup`
    rcases h with h | ⟨hc, h⟩
    · exact if_pos h
    · rw [hc, if_pos (show (!false) = true from rfl), if_pos h, ite_self]
  · -- `feed`
    rw [show w.hasCtx = false from h]
    rfl
  · -- `feedEof`
    rw [show w.hasCtx = false from h]
    rfl
  · -- `feedErr`
    rw [show w.hasCtx = false from h]
    rfl
  · -- `poll` is never refused
    exact h.elim
  · rfl

theorem FLog.apply_feed {w : World} {e : Ev} {evs : List ReadEv} (g : FLog) (he : feedOf e = some evs)
    (hc : w.hasCtx = true) : g.apply w e = { g with fed := g.fed ++ evs } := by
  unfold feedOf at he
  split at he
  · -- `feed`
    cases he
    unfold FLog.apply
    rw [hc]
    rfl
  · -- `feedEof`
    cases he
    unfold FLog.apply
    rw [hc]
    rfl
  · -- `feedErr`
    cases he
    unfold FLog.apply
    rw [hc]
    rfl
  · cases he

theorem FLog.apply_ignores {w : World} {e : Ev} (g : FLog) (h : w.ignores e) : g.apply w e = g := by
  -- by the arms of `ignores`: only a `poll` of a dead task meets a guard of the ghost
  unfold World.ignores at h
  split at h
  · exact if_neg (by rw [h]; exact Bool.false_ne_true)
  · rfl -- `hold`
  · rfl -- `drop .ctx`
  · rfl -- `drop (.st id)`
  · rfl -- `dropRsp`
  · exact h.elim

theorem FLog.apply_start {e : Ev} {tk : CtxTask} (g : FLog) (w : World) (h : W7.startTask e = some tk) :
    g.apply w e = g := by
  unfold W7.startTask at h
  split at h
  · rfl -- `connect`
  · rfl -- `authorize`
  · rfl -- `run`
  · cases h

theorem FLog.apply_newCtx {w : World} (g : FLog) (ht : w.task = .none) (hd : w.ctxDropped = false)
    (hc : w.hasCtx = false) (hh : w.handles = []) (hop : w.ops = []) :
    g.apply w .setup = { mark := w.out.length } := by simp [FLog.apply, ht, hd, hc, hh, hop]

theorem FLog.apply_newConn {w : World} (g : FLog) (ht : w.task = .none) (hd : w.ctxDropped = false)
    (hc : w.hasCtx = true) : g.apply w .setup = { mark := w.flushRaw.out.length } := by simp [FLog.apply, ht, hd, hc]

theorem FInv.applied {w w' : World} {e : Ev} {g : FLog} (a : Applied w e w') (h : FInv w g) (ho : CtlOk w)
    (hf : w.cfg.fill = true → feedOk e) : FInv w' (g.apply w e) := by
  induction a with
  | bad e hr => rw [FLog.apply_rejects g hr]; exact h.same (same_badScript w)
  | same e hi => rw [FLog.apply_ignores g hi]; exact h
  | poll t hl =>
    have : g.apply w (.poll t) = g.poll w t := if_pos hl
    rw [this]; exact h.pollTask ho t
  | newCtx ht hd hc hh hop => rw [g.apply_newCtx ht hd hc hh hop]; exact finv_fresh _ rfl rfl ht
  | newConn ht hd hc => rw [g.apply_newConn ht hd hc]; exact finv_fresh _ rfl rfl ((flushRaw_task w).trans ht)
  | start e tk hs hc ht =>
    rw [FLog.apply_start g w hs]
    exact h.same ⟨wake_rx _ _, wake_reader _ _, wake_cfg _ _, wake_ctxDropped _ _,
      fun _ => idleP_of_woken (mem_wake_self _ _), outExtP_of_eq (wake_out _ _)⟩
  | dropFut | dropCtxNone => exact h.same ⟨rfl, rfl, rfl, rfl, fun _ => idleP_of_none rfl, outExtP_of_eq rfl⟩
  | dropCtx hc =>
    have inv := closes_inv (closes_dropCtxClosed w)
    exact h.dropped (w' := { dropCtxClosed w with queue := [], c := {} }) (inv.rx_eq.trans rfl)
      (inv.ctxDropped_eq.trans rfl) (inv.task_eq.trans rfl) (inv.reader_eq.trans rfl) (inv.out_eq.trans rfl)
      (inv.cfg_eq.trans rfl)
  | snap hc ht => exact h.same (same_emit w _ (by intro c e; cases e))
  | feed e evs he hc =>
    rw [FLog.apply_feed g he hc]
    exact h.feed evs fun hfl => (feedOf_reads he).2 ▸ feedOk_noEmpty (hf hfl)
  | dropOp id =>
    exact h.same (.of_userMove (dropOp_userMove w id) fun _ h => h.elim)
  | op id hd req _ _ | stream id _ =>
    refine h.same (same_wake ?_ _); exact .of_eq rfl rfl rfl rfl rfl (fun x => x) rfl
  | dropHandle hd _ =>
    exact h.same (Same.of_eq (senderGone_rx _) (senderGone_reader _) (senderGone_cfg _) (senderGone_ctxDropped _)
      (senderGone_task _) (fun x => senderGone_woken_mono _ _ x) (senderGone_out _))
  -- `markDisc`, `hold`, `release`, `drop` of a stream or a response, `clone`: none of the fields `Same` reads is set
  | _ => exact h.same (Same.of_eq rfl rfl rfl rfl rfl (fun x => x) rfl)

/-- what the script-level induction carries: a dropped context has no task (`CtlOk`), and the invariant of the ghost -/
structure GInv (w : World) (g : FLog) : Prop where
  ctl : CtlOk w
  inv : FInv w g

theorem ginv_init (cfg : Cfg) : GInv { cfg := cfg } {} := ⟨.init cfg, finv_init cfg⟩

theorem GInv.pollTask {w : World} {g : FLog} (h : GInv w g) (t : Task) : GInv (w.pollTask t) (g.poll w t) :=
  ⟨h.ctl.pollTask t, h.inv.pollTask h.ctl t⟩

theorem GInv.steps (evs : List Ev) {w : World} {g : FLog} (h : GInv w g)
    (hf : w.cfg.fill = true → ∀ e ∈ evs, feedOk e) : GInv (evs.foldl World.step w) (stepsG evs w g) := by
  have emit : ∀ (a : World) (o : Obs) (g : FLog), NoSock o → GInv a g → GInv (a.emit o) g :=
    fun a o g ho hg => ⟨hg.ctl.emit o, hg.inv.same (same_emit _ _ ho)⟩
  rw [stepsG_eq]
  -- the relation also says that the configuration stays, since `hf` speaks of the configuration at the start
  refine (scriptAcc_lift (mul := FLog.seq)
    (R := fun a b (l : FLog → FLog) => a.cfg = w.cfg → b.cfg = w.cfg ∧ ∀ g, GInv a g → GInv b (l g))
    (fun _ hc => ⟨hc, fun _ h => h⟩)
    (fun h1 h2 hc => ⟨(h2 (h1 hc).1).1, fun g hg => (h2 (h1 hc).1).2 _ ((h1 hc).2 g hg)⟩)
    (fun a t _ _ hc => ⟨(pollTask_cfg a t).trans hc, fun g hg => hg.pollTask t⟩) (fun _ => rfl) (fun _ => rfl) evs
    (fun a o ho hc => ⟨hc, fun g hg => emit a o g ?_ hg⟩)
    (fun e he a hc => ⟨(apply_cfg a e).trans hc, fun g hg =>
      ⟨hg.ctl.apply e, hg.inv.applied (apply_spec a e) hg.ctl (fun hfl => hf (hc ▸ hfl) e he)⟩⟩) w rfl).2 g h
  rcases ho with ⟨e, _, rfl⟩ | rfl <;> exact fun c x => Obs.noConfusion x

/-- **the invariant holds after every script** (under `cfg.fill`, provided no `feed` event contains an empty chunk) -/
theorem ginv_script (cfg : Cfg) (evs : List Ev) (hf : cfg.fill = true → ∀ e ∈ evs, feedOk e) :
    GInv (evs.foldl World.step { cfg := cfg }) (flog cfg evs) :=
  (ginv_init cfg).steps evs hf

/-- `setup` starts a new connection, every other event appends what it feeds -/
def fedStep (acc : List ReadEv) (e : Ev) : List ReadEv := if e = .setup then [] else acc ++ evReads e

/-- **the read events a script feeds since its last `setup`** (a function of the script alone) -/
def scriptFed (evs : List Ev) : List ReadEv := evs.foldl fedStep []

theorem fedStep_of_ne {e : Ev} (h : e ≠ .setup) (acc : List ReadEv) : fedStep acc e = acc ++ evReads e := by
  simp [fedStep, h]

theorem foldl_fedStep_noSetup (post : List Ev) (hns : ∀ e ∈ post, e ≠ .setup) (acc : List ReadEv) :
    post.foldl fedStep acc = acc ++ post.flatMap evReads := by
  induction post generalizing acc with
  | nil => simp
  | cons e t ih =>
    simp only [List.foldl_cons, List.flatMap_cons]
    rw [fedStep_of_ne (hns e (by simp)), ih (fun e' he' => hns e' (by simp [he'])), List.append_assoc]

theorem scriptFed_split (pre post : List Ev) (hns : ∀ e ∈ post, e ≠ .setup) :
    scriptFed (pre ++ .setup :: post) = post.flatMap evReads := by
  unfold scriptFed
  rw [List.foldl_append, List.foldl_cons]
  have : fedStep (pre.foldl fedStep []) .setup = [] := by simp [fedStep]
  rw [this, foldl_fedStep_noSetup post hns]; rfl

theorem poll_fed (g : FLog) (w : World) (t : Task) : (g.poll w t).fed = g.fed ∧ (g.poll w t).mark = g.mark := by
  cases t <;> exact ⟨rfl, rfl⟩

theorem settleG_fed (w : World) (g : FLog) : (settleG w g).fed = g.fed :=
  settleG_eq w g ▸ settleAcc_lift (mul := FLog.seq) (R := fun _ _ (l : FLog → FLog) => ∀ g, (l g).fed = g.fed)
    (fun _ _ => rfl) (fun h1 h2 g => (h2 _).trans (h1 g)) (fun w t _ _ g => (poll_fed g w t).1) (fun _ => rfl)
    (fun _ _ => rfl) w g

theorem poll_dec (g : FLog) (w : World) (t : Task) : g.dec <+: (g.poll w t).dec := by
  cases t with
  | ctx => exact List.prefix_append _ _
  | op id => exact List.prefix_refl _
  | st id => exact List.prefix_refl _

/-- **what a script event does to the ghost**, by the outcome of the event: unless the script is refused, `fed` moves as
    the script says; only `setup` moves the mark and resets the decoded frames -/
theorem FLog.applied {w w' : World} {e : Ev} (g : FLog) (a : Applied w e w') :
    (w'.bad = false → (g.apply w e).fed = fedStep g.fed e) ∧
    (e ≠ .setup → (g.apply w e).mark = g.mark ∧ g.dec <+: (g.apply w e).dec) := by
  -- an event that is not `setup`, feeds nothing and leaves the ghost alone
  have keep : ∀ {e : Ev} {P : Prop}, g.apply w e = g → e ≠ .setup ∧ evReads e = [] →
      (P → (g.apply w e).fed = fedStep g.fed e) ∧
      (e ≠ .setup → (g.apply w e).mark = g.mark ∧ g.dec <+: (g.apply w e).dec) := fun {e _} h hr => by
    rw [h, fedStep_of_ne hr.1, hr.2, List.append_nil]
    exact ⟨fun _ => rfl, fun _ => ⟨rfl, List.prefix_refl _⟩⟩
  cases a with
  | bad e hr =>
    rw [FLog.apply_rejects g hr]
    exact ⟨fun h => Bool.noConfusion h, fun _ => ⟨rfl, List.prefix_refl _⟩⟩
  | same e hi => exact keep (FLog.apply_ignores g hi) (ignores_reads hi)
  | poll t hl =>
    rw [show g.apply w (.poll t) = g.poll w t from if_pos hl, (poll_fed g w t).1, (poll_fed g w t).2]
    exact ⟨fun _ => (List.append_nil _).symm, fun _ => ⟨rfl, poll_dec g w t⟩⟩
  | newCtx ht hd hc hh hop => rw [g.apply_newCtx ht hd hc hh hop]; exact ⟨fun _ => rfl, fun h => absurd rfl h⟩
  | newConn ht hd hc => rw [g.apply_newConn ht hd hc]; exact ⟨fun _ => rfl, fun h => absurd rfl h⟩
  | start e tk hs hc ht => exact keep (FLog.apply_start g w hs) (startTask_reads hs)
  | feed e evs he hc =>
    rw [FLog.apply_feed g he hc, fedStep_of_ne (feedOf_reads he).1, (feedOf_reads he).2]
    exact ⟨fun _ => rfl, fun _ => ⟨rfl, List.prefix_refl _⟩⟩
  | _ => exact keep rfl ⟨nofun, rfl⟩

/-- whether a step is refused is decided by its event alone (the executor never refuses anything) -/
theorem step_bad_eq (w : World) (e : Ev) (hb : w.bad = false) :
    (w.step e).bad = ((w.emit (.ev e)).apply e).bad := by
  rw [step_eq_settle, if_neg (by simp [hb])]
  exact (settle_pollFrame _).bad

theorem stepG_fed (w : World) (e : Ev) (g : FLog) (hb : w.bad = false) (hb' : (w.step e).bad = false) :
    (stepG w e g).fed = fedStep g.fed e := by
  have h1 : ((w.emit (.ev e)).apply e).bad = false := by rw [← step_bad_eq w e hb]; exact hb'
  rw [stepG_eq_settleG, if_neg (by simp [hb]), settleG_fed]
  exact (g.applied (apply_spec (w.emit (.ev e)) e)).1 h1

theorem bad_false_of_steps (evs : List Ev) (w : World) (h : (evs.foldl World.step w).bad = false) : w.bad = false := by
  cases hb : w.bad with
  | false => rfl
  | true => rw [foldl_step_of_bad evs w hb, hb] at h; cases h

/-- **the ghost's `fed` is what the script says it feeds** (for a script that is not refused as malformed) -/
theorem stepsG_fed (evs : List Ev) (w : World) (g : FLog) (h : (evs.foldl World.step w).bad = false) :
    (stepsG evs w g).fed = evs.foldl fedStep g.fed := by
  induction evs generalizing w g with
  | nil => rfl
  | cons e t ih =>
    simp only [List.foldl_cons, stepsG] at h ⊢
    have h1 : (w.step e).bad = false := bad_false_of_steps t _ h
    rw [ih _ _ h, stepG_fed w e g (bad_false_of_steps [e] w h1) h1]

theorem flog_fed (cfg : Cfg) (evs : List Ev) (h : (evs.foldl World.step { cfg := cfg }).bad = false) :
    (flog cfg evs).fed = scriptFed evs := stepsG_fed evs _ _ h

theorem stepsG_append (a b : List Ev) (w : World) (g : FLog) :
    stepsG (a ++ b) w g = stepsG b (a.foldl World.step w) (stepsG a w g) := by
  simp only [stepsG_eq]
  exact congrFun (scriptAcc_append (fun _ => rfl) (fun _ _ _ => rfl) a b w) g

theorem stepsG_mark_dec (post : List Ev) (w : World) (g : FLog) (hns : ∀ e ∈ post, e ≠ .setup) :
    (stepsG post w g).mark = g.mark ∧ g.dec <+: (stepsG post w g).dec :=
  stepsG_eq post w g ▸ scriptAcc_lift (mul := FLog.seq)
    (R := fun _ _ (l : FLog → FLog) => ∀ g, (l g).mark = g.mark ∧ g.dec <+: (l g).dec)
    (fun _ _ => ⟨rfl, List.prefix_refl _⟩) (fun h1 h2 g => ⟨(h2 _).1.trans (h1 g).1, (h1 g).2.trans (h2 _).2⟩)
    (fun w t _ _ g => ⟨(poll_fed g w t).2, poll_dec g w t⟩) (fun _ => rfl) (fun _ => rfl) post
    (fun _ _ _ _ => ⟨rfl, List.prefix_refl _⟩)
    (fun e he w g => (g.applied (apply_spec w e)).2 (hns e he)) w g

theorem flog_append_noSetup (cfg : Cfg) (evs more : List Ev) (hns : ∀ e ∈ more, e ≠ .setup) :
    (flog cfg (evs ++ more)).mark = (flog cfg evs).mark ∧ (flog cfg evs).dec <+: (flog cfg (evs ++ more)).dec ∧
    (((evs ++ more).foldl World.step { cfg := cfg }).bad = false →
      (flog cfg (evs ++ more)).fed = (flog cfg evs).fed ++ more.flatMap evReads) := by
  refine ⟨?_, ?_, fun hb => ?_⟩
  · unfold flog; rw [stepsG_append]; exact (stepsG_mark_dec more _ _ hns).1
  · unfold flog; rw [stepsG_append]; exact (stepsG_mark_dec more _ _ hns).2
  · have hb0 : (evs.foldl World.step { cfg := cfg }).bad = false := by
      rw [List.foldl_append] at hb; exact bad_false_of_steps more _ hb
    rw [flog_fed _ _ hb, flog_fed _ _ hb0]
    unfold scriptFed
    rw [List.foldl_append, foldl_fedStep_noSetup more hns]

/-- the script events that make the transport report end-of-stream: `feedEof`, `feedErr`, and a `feed` with an empty
    chunk (a zero-length read) -/
def feedsEnd : Ev → Prop
  | .feedEof => True
  | .feedErr => True
  | .feed chunks => [] ∈ chunks
  | _ => False

theorem hasEnd_chunks (chunks : List Bytes) (h : hasEnd (chunks.map ReadEv.data) = true) : [] ∈ chunks := by
  induction chunks with
  | nil => simp [hasEnd] at h
  | cons c t ih =>
    simp only [List.map_cons, hasEnd, ReadEv.isEnd, Bool.or_eq_true, decide_eq_true_eq] at h
    rcases h with h | h
    · have : c = [] := List.eq_nil_of_length_eq_zero h
      simp [this]
    · exact List.mem_cons_of_mem _ (ih h)

theorem hasEnd_evReads (e : Ev) (h : hasEnd (evReads e) = true) : feedsEnd e := by
  cases e with
  | feed chunks => exact hasEnd_chunks chunks h
  | feedEof => trivial
  | feedErr => trivial
  | _ => simp [evReads, hasEnd] at h

theorem hasEnd_flatMap_evReads (post : List Ev) (h : hasEnd (post.flatMap evReads) = true) :
    ∃ e ∈ post, feedsEnd e := by
  induction post with
  | nil => simp [hasEnd] at h
  | cons e t ih =>
    rw [List.flatMap_cons, hasEnd_append, Bool.or_eq_true] at h
    rcases h with h | h
    · exact ⟨e, by simp, hasEnd_evReads e h⟩
    · obtain ⟨e', he', hf⟩ := ih h
      exact ⟨e', List.mem_cons_of_mem _ he', hf⟩

end W12
end World
end Poster

/-
  Lemmas/WorldWirePkt.lean — every packet the client can hand to the transport is exactly ONE frame of the reference
  framing (`Framing.frames`): fixed-header byte, a minimally encoded remaining length, and exactly that many bytes.
  `WirePkt` is the class of those packets (what `startOp` / `resumeOp` / `pollConnect` / the handlers build).
-/
import PosterModel.Properties.C01
import PosterModel.Lemmas.Framing
import PosterModel.Lemmas.CtxRetx
import PosterModel.World

namespace Poster
open Framing Spec

theorem oneFrame_hdr (x : UInt8) (body : Bytes) (hb : body.length < 268435456) :
    OneFrame (x :: (encVar body.length ++ body)) := by
  refine ⟨varLen body.length, ?_⟩
  rw [frameLen_cons, decVar_encVar _ hb]
  simp only [List.length_cons, List.length_append, ← varLen_eq]
  congr 1; omega

theorem oneFrame_setDup (p : Bytes) (h : OneFrame p) : OneFrame (setDup p) := by
  cases p with
  | nil => exact h
  | cons b t =>
    obtain ⟨k, hk⟩ := h
    refine ⟨k, ?_⟩
    simp only [setDup]
    rw [frameLen_cons] at hk ⊢
    simpa using hk

theorem noFrame_of_part (v p : Bytes) (hp : OneFrame p) (hpre : v <+: p) (hlt : v.length < p.length) : NoFrame v := by
  obtain ⟨t, rfl⟩ := hpre
  obtain ⟨k, hk⟩ := hp
  cases hfl : frameLen v with
  | need => exact Or.inl hfl
  | bad => rw [frameLen_bad_append v t hfl] at hk; cases hk
  | ok e k' =>
    rw [frameLen_ok_append v t e k' hfl] at hk
    simp only [VarRes.ok.injEq] at hk
    exact Or.inr ⟨e, k', hfl, by omega⟩

theorem oneFrame_length {p : Bytes} (h : OneFrame p) : 2 ≤ p.length := by
  obtain ⟨k, hk⟩ := h
  exact (frameLen_ok_ge p _ k hk).2

/-- the framing of a byte string cut out of a concatenation of whole frames: the whole frames in front, then a proper
    prefix of the next one (or nothing) -/
theorem frames_take_flatten (ps : List Bytes) (h : ∀ p ∈ ps, OneFrame p) (k : Nat) :
    ∃ j tail, frames (ps.flatten.take k) = some (ps.take j, tail) ∧
      (tail = [] ∨ ∃ p ∈ ps, tail <+: p ∧ tail.length < p.length) := by
  induction ps generalizing k with
  | nil => exact ⟨0, [], by simp [frames_nil], Or.inl rfl⟩
  | cons p ps ih =>
    have hp := h p (by simp)
    by_cases hk : p.length ≤ k
    · obtain ⟨j, tail, h1, h2⟩ := ih (fun q hq => h q (by simp [hq])) (k - p.length)
      refine ⟨j + 1, tail, ?_, ?_⟩
      · rw [List.flatten_cons, List.take_append, List.take_of_length_le hk, frames_cons p _ hp, h1]
        simp
      · rcases h2 with h2 | ⟨q, hq, h3, h4⟩
        · exact Or.inl h2
        · exact Or.inr ⟨q, by simp [hq], h3, h4⟩
    · have hlt : (p.take k).length < p.length := by rw [List.length_take]; omega
      refine ⟨0, p.take k, ?_, Or.inr ⟨p, List.mem_cons_self, List.take_prefix k p, hlt⟩⟩
      rw [List.flatten_cons, List.take_append, show k - p.length = 0 by omega]
      simp only [List.take_zero, List.append_nil]
      exact frames_of_noFrame _ (noFrame_of_part _ p hp (List.take_prefix k p) hlt)

theorem World.oneFrame_flatten_inj (a b : List Bytes) (ha : ∀ p ∈ a, OneFrame p) (hb : ∀ p ∈ b, OneFrame p)
    (h : a.flatten = b.flatten) : a = b := by
  have h1 := frames_flatten a ha
  have h2 := frames_flatten b hb
  rw [h] at h1
  rw [h1] at h2
  simpa using h2

/-- a packet laid out as first byte, length field, body (`Layout`, Lemmas/CodecTx.lean) is one frame as soon as its body
    fits the protocol's size limit: every packet constructor has a `K_layout` -/
theorem Layout.oneFrame {hdr remLen : Nat} {enc body : Bytes} (L : Layout hdr remLen enc body)
    (hs : remLen < 268435456) : OneFrame enc :=
  L.lengths ▸ oneFrame_hdr _ body (L.rem_eq ▸ hs)

/-- the acknowledgements the library writes by itself, for ANY header byte and packet identifier -/
theorem oneFrame_ackBytes (hdr pid : Nat) : OneFrame (ackBytes hdr pid) := by
  apply (ack_layout _).oneFrame
  simp [AckTx.remainingLen, AckTx.propertyLen, userLen, oLen]

theorem oneFrame_pingreq : OneFrame pingreqBytes := ⟨1, by decide⟩

/-- the packets the client builds: a request of the caller that was accepted (`valid`) and that MQTT 5 can represent
    (`XInDomain`), completed with the identifiers the library assigned; the ping request; the four acknowledgements in
    their shortest form for a real packet identifier. Retransmissions are of this class too (`wirePkt_setDup_publish`). -/
inductive WirePkt : Bytes → Prop
  | connect (t : ConnectTx) (hv : t.valid = true) (hd : ConnectInDomain t) : WirePkt t.encode
  | auth (t : AuthTx) (hv : t.valid = true) (hd : AuthInDomain t) : WirePkt t.encode
  | publish (t : PublishTx) (hv : t.valid = true) (hd : PublishInDomain t) : WirePkt t.encode
  | subscribe (t : SubscribeTx) (hv : t.valid = true) (hd : SubscribeInDomain t) : WirePkt t.encode
  | unsubscribe (t : UnsubscribeTx) (hv : t.valid = true) (hd : UnsubscribeInDomain t) : WirePkt t.encode
  | disconnect (t : DisconnectTx) (hd : DisconnectInDomain t) : WirePkt t.encode
  | pingreq : WirePkt pingreqBytes
  | ack (hdr pid : Nat) (hh : hdr = 0x40 ∨ hdr = 0x50 ∨ hdr = 0x62 ∨ hdr = 0x70) (hp : 1 ≤ pid ∧ pid ≤ 65535) :
      WirePkt (ackBytes hdr pid)

theorem WirePkt.oneFrame {p : Bytes} (h : WirePkt p) : OneFrame p := by
  cases h with
  | connect t hv hd => exact (connect_layout t).oneFrame hd.size
  | auth t hv hd => exact (auth_layout t).oneFrame hd.size
  | publish t hv hd => exact (publish_layout t).oneFrame hd.size
  | subscribe t hv hd => exact (subscribe_layout t).oneFrame hd.size
  | unsubscribe t hv hd => exact (unsubscribe_layout t).oneFrame hd.size
  | disconnect t hd => exact (disconnect_layout t).oneFrame hd.size
  | pingreq => exact oneFrame_pingreq
  | ack hdr pid hh hp => exact oneFrame_ackBytes hdr pid

theorem WirePkt.parses {p : Bytes} (h : WirePkt p) :
    ∃ pkt : ClientPacket, ∀ rest, parseClient (p ++ rest) = some (pkt, rest) := by
  cases h with
  | connect t hv hd => exact ⟨_, enc_connect_parses t hv hd⟩
  | auth t hv hd => exact ⟨_, enc_auth_parses t hv hd⟩
  | publish t hv hd => exact ⟨_, enc_publish_parses t hv hd⟩
  | subscribe t hv hd => exact ⟨_, enc_subscribe_parses t hv hd⟩
  | unsubscribe t hv hd => exact ⟨_, enc_unsubscribe_parses t hv hd⟩
  | disconnect t hd => exact ⟨_, enc_disconnect_parses t hd⟩
  | pingreq => exact ⟨_, enc_pingreq_parses⟩
  | ack hdr pid hh hp => exact ⟨_, enc_ackBytes_parses hdr pid hh hp⟩

theorem setDup_publish_encode (t : PublishTx) (hq : t.qos ≤ 2) :
    setDup t.encode = ({ t with dup := true } : PublishTx).encode := by
  rw [publish_encode_eq, publish_encode_eq]
  have e1 : ({ t with dup := true } : PublishTx).remainingLen = t.remainingLen := rfl
  have e2 : publishBody ({ t with dup := true } : PublishTx) = publishBody t := rfl
  rw [e1, e2]
  simp only [setDup, u8_toNat_ofNat]
  congr 2
  -- the header is 48 + 8·dup + 2·qos + retain: twelve bytes, and setting bit 3 of each turns the term 8·dup into 8
  have h : ∀ (d r : Bool) (q : Nat), q ≤ 2 →
      (3 * 16 + b2n d * 8 + q * 2 + b2n r) % 256 ||| 8 = 3 * 16 + b2n true * 8 + q * 2 + b2n r := by
    intro d r q hq
    obtain rfl | rfl | rfl : q = 0 ∨ q = 1 ∨ q = 2 := by omega
    all_goals cases d <;> cases r <;> rfl
  exact h t.dup t.retain t.qos hq

theorem PublishInDomain.withDup {t : PublishTx} (hd : PublishInDomain t) (hq : t.qos ≠ 0) :
    PublishInDomain { t with dup := true } :=
  ⟨hd.qos, hd.packetId, fun h => absurd h hq, hd.topic, hd.topicAlias, hd.mei, hd.correlationData, hd.responseTopic,
    hd.contentType, hd.userProps, hd.size⟩

theorem wirePkt_setDup_publish (t : PublishTx) (hv : t.valid = true) (hd : PublishInDomain t) (hq : t.qos ≠ 0) :
    WirePkt (setDup t.encode) := by
  rw [setDup_publish_encode t hd.qos]
  exact .publish _ hv (hd.withDup hq)

theorem setDup_publish_parses (t : PublishTx) (hv : t.valid = true) (hd : PublishInDomain t) (hq : t.qos ≠ 0)
    (rest : Bytes) : parseClient (setDup t.encode ++ rest) = some (ofPublish { t with dup := true }, rest) := by
  rw [setDup_publish_encode t hd.qos]
  exact enc_publish_parses { t with dup := true } hv (hd.withDup hq) rest

theorem pktType_unsubscribe (t : UnsubscribeTx) : pktType t.encode = 10 := by
  simp [UnsubscribeTx.encode, encU8, pktType]
theorem pktType_pingreq : pktType pingreqBytes = 12 := by decide
theorem pktType_pubrel (pid : Nat) : pktType (ackBytes 0x62 pid) = 6 := by
  simp [ackBytes, AckTx.encode, encU8, pktType]

/-- where the requests of an execution come from: the CONNECT requests, the AUTH requests and the handle requests the
    callers made (for a script: the ones its events carry) -/
structure Src where
  conn : ConnectTx → Prop
  auth : AuthTx → Prop
  req : Req → Prop

/-- `WirePkt` with provenance: the bytes are the encoding of a request of `S`, accepted and in the MQTT 5 domain, completed
    with a packet identifier in 1..65535 (QoS>0 PUBLISH, SUBSCRIBE, UNSUBSCRIBE) and a subscription identifier in
    1..268435455 (SUBSCRIBE); or the retransmission (`setDup`) of such a QoS>0 PUBLISH; or the PINGREQ of a ping request of
    `S`; or one of the four acknowledgements in the shortest form for an identifier in 1..65535. -/
inductive WireOf (S : Src) : Bytes → Prop
  | connect (t : ConnectTx) (hs : S.conn t) (hv : t.valid = true) (hd : ConnectInDomain t) : WireOf S t.encode
  | auth (t : AuthTx) (hs : S.auth t) (hv : t.valid = true) (hd : AuthInDomain t) : WireOf S t.encode
  | publish0 (t : PublishTx) (hs : S.req (.publish t)) (hq : t.qos = 0) (hv : t.valid = true)
      (hd : PublishInDomain t) : WireOf S t.encode
  | publish (t : PublishTx) (hs : S.req (.publish t)) (hq : t.qos ≠ 0) (pid : Nat) (hp : 1 ≤ pid ∧ pid ≤ 65535)
      (hv : ({ t with packetId := some pid } : PublishTx).valid = true)
      (hd : PublishInDomain { t with packetId := some pid }) :
      WireOf S ({ t with packetId := some pid } : PublishTx).encode
  | republish (t : PublishTx) (hs : S.req (.publish t)) (hq : t.qos ≠ 0) (pid : Nat) (hp : 1 ≤ pid ∧ pid ≤ 65535)
      (hv : ({ t with packetId := some pid } : PublishTx).valid = true)
      (hd : PublishInDomain { t with packetId := some pid }) :
      WireOf S (setDup ({ t with packetId := some pid } : PublishTx).encode)
  | subscribe (t : SubscribeTx) (hs : S.req (.subscribe t)) (pid sid : Nat) (hp : 1 ≤ pid ∧ pid ≤ 65535)
      (hsid : 1 ≤ sid ∧ sid ≤ 268435455)
      (hv : ({ t with packetId := pid, subId := some sid } : SubscribeTx).valid = true)
      (hd : SubscribeInDomain { t with packetId := pid, subId := some sid }) :
      WireOf S ({ t with packetId := pid, subId := some sid } : SubscribeTx).encode
  | unsubscribe (t : UnsubscribeTx) (hs : S.req (.unsubscribe t)) (pid : Nat) (hp : 1 ≤ pid ∧ pid ≤ 65535)
      (hv : ({ t with packetId := pid } : UnsubscribeTx).valid = true)
      (hd : UnsubscribeInDomain { t with packetId := pid }) :
      WireOf S ({ t with packetId := pid } : UnsubscribeTx).encode
  | disconnect (t : DisconnectTx) (hs : S.req (.disconnect t)) (hd : DisconnectInDomain t) : WireOf S t.encode
  | pingreq (hs : S.req .ping) : WireOf S pingreqBytes
  | ack (hdr pid : Nat) (hh : hdr = 0x40 ∨ hdr = 0x50 ∨ hdr = 0x62 ∨ hdr = 0x70) (hp : 1 ≤ pid ∧ pid ≤ 65535) :
      WireOf S (ackBytes hdr pid)

theorem WireOf.wirePkt {S : Src} {p : Bytes} (h : WireOf S p) : WirePkt p := by
  cases h with
  | connect t hs hv hd => exact .connect t hv hd
  | auth t hs hv hd => exact .auth t hv hd
  | publish0 t hs hq hv hd => exact .publish t hv hd
  | publish t hs hq pid hp hv hd => exact .publish _ hv hd
  | republish t hs hq pid hp hv hd => exact wirePkt_setDup_publish _ hv hd hq
  | subscribe t hs pid sid hp hsid hv hd => exact .subscribe _ hv hd
  | unsubscribe t hs pid hp hv hd => exact .unsubscribe _ hv hd
  | disconnect t hs hd => exact .disconnect t hd
  | pingreq hs => exact .pingreq
  | ack hdr pid hh hp => exact .ack hdr pid hh hp

theorem WireOf.ackOf {S : Src} {hdr pid : Nat} (hh : hdr = 0x40 ∨ hdr = 0x50 ∨ hdr = 0x62 ∨ hdr = 0x70)
    (hp : 0 < pid ∧ pid < 65536) : WireOf S (ackBytes hdr pid) :=
  .ack hdr pid hh ⟨hp.1, Nat.le_of_lt_succ hp.2⟩

theorem WireOf.oneFrame {S : Src} {p : Bytes} (h : WireOf S p) : OneFrame p := h.wirePkt.oneFrame

/-- what a standard decoder sees, and where it comes from: a caller's CONNECT / AUTH; a caller's PUBLISH (QoS 0 as stated;
    QoS>0 with the assigned packet identifier, possibly as a re-delivery with DUP set); a caller's SUBSCRIBE / UNSUBSCRIBE
    with the assigned identifiers; a caller's DISCONNECT; the PINGREQ of a caller's ping; an acknowledgement (success, no
    properties) for a packet identifier in 1..65535 -/
inductive FromCaller (S : Src) : ClientPacket → Prop
  | connect (t : ConnectTx) (hs : S.conn t) : FromCaller S (ofConnect t)
  | auth (t : AuthTx) (hs : S.auth t) : FromCaller S (ofAuth t)
  | publish0 (t : PublishTx) (hs : S.req (.publish t)) (hq : t.qos = 0) : FromCaller S (ofPublish t)
  | publish (t : PublishTx) (hs : S.req (.publish t)) (hq : t.qos ≠ 0) (pid : Nat) (hp : 1 ≤ pid ∧ pid ≤ 65535) :
      FromCaller S (ofPublish { t with packetId := some pid })
  | republish (t : PublishTx) (hs : S.req (.publish t)) (hq : t.qos ≠ 0) (pid : Nat) (hp : 1 ≤ pid ∧ pid ≤ 65535) :
      FromCaller S (ofPublish { t with packetId := some pid, dup := true })
  | subscribe (t : SubscribeTx) (hs : S.req (.subscribe t)) (pid sid : Nat) (hp : 1 ≤ pid ∧ pid ≤ 65535)
      (hsid : 1 ≤ sid ∧ sid ≤ 268435455) : FromCaller S (ofSubscribe { t with packetId := pid, subId := some sid })
  | unsubscribe (t : UnsubscribeTx) (hs : S.req (.unsubscribe t)) (pid : Nat) (hp : 1 ≤ pid ∧ pid ≤ 65535) :
      FromCaller S (ofUnsubscribe { t with packetId := pid })
  | disconnect (t : DisconnectTx) (hs : S.req (.disconnect t)) : FromCaller S (ofDisconnect t)
  | pingreq (hs : S.req .ping) : FromCaller S .pingreq
  | ack (hdr pid : Nat) (hh : hdr = 0x40 ∨ hdr = 0x50 ∨ hdr = 0x62 ∨ hdr = 0x70) (hp : 1 ≤ pid ∧ pid ≤ 65535) :
      FromCaller S (ofAck { hdr := hdr, packetId := pid })

theorem WireOf.decodes {S : Src} {p : Bytes} (h : WireOf S p) :
    ∃ pkt : ClientPacket, (∀ rest, parseClient (p ++ rest) = some (pkt, rest)) ∧ FromCaller S pkt := by
  cases h with
  | connect t hs hv hd => exact ⟨_, enc_connect_parses t hv hd, .connect t hs⟩
  | auth t hs hv hd => exact ⟨_, enc_auth_parses t hv hd, .auth t hs⟩
  | publish0 t hs hq hv hd => exact ⟨_, enc_publish_parses t hv hd, .publish0 t hs hq⟩
  | publish t hs hq pid hp hv hd => exact ⟨_, enc_publish_parses _ hv hd, .publish t hs hq pid hp⟩
  | republish t hs hq pid hp hv hd => exact ⟨_, setDup_publish_parses _ hv hd hq, .republish t hs hq pid hp⟩
  | subscribe t hs pid sid hp hsid hv hd => exact ⟨_, enc_subscribe_parses _ hv hd, .subscribe t hs pid sid hp hsid⟩
  | unsubscribe t hs pid hp hv hd => exact ⟨_, enc_unsubscribe_parses _ hv hd, .unsubscribe t hs pid hp⟩
  | disconnect t hs hd => exact ⟨_, enc_disconnect_parses t hd, .disconnect t hs⟩
  | pingreq hs => exact ⟨_, enc_pingreq_parses, .pingreq hs⟩
  | ack hdr pid hh hp => exact ⟨_, enc_ackBytes_parses hdr pid hh hp, .ack hdr pid hh hp⟩

theorem WireOf.decodes_nil {S : Src} {p : Bytes} (h : WireOf S p) :
    ∃ pkt : ClientPacket, parseClient p = some (pkt, []) ∧ FromCaller S pkt := by
  obtain ⟨pkt, hp, hf⟩ := h.decodes
  exact ⟨pkt, List.append_nil p ▸ hp [], hf⟩

end Poster

/-
  Lemmas/WorldOwnStream.lean — the subscription side of C14: a stream that exists has its channel, and is
  either flagged for the executor or asleep on an empty channel whose sender is alive, with its waker registered.
  `StrInv` holds along every script that never starts an operation under the identifier of a response or stream
  that is still alive (`GoodFrom`) — the model names the response channel of `subscribe` after the operation's
  identifier, so re-using such an identifier would replace a live stream's channel, which no real client can do.
  It is walked in two parts: `StrCore`, which only needs that no SUBSCRIBE is started under such an identifier and is
  what the registration invariant of WorldQuiet* reads, and `NoOp`.
-/
import PosterModel.Lemmas.WorldOwnDrop


namespace Poster
open Framing
namespace World

structure StrInv (w : World) : Prop where
  /-- a response handed to the caller belongs to a completed operation and is not yet a stream -/
  disjR : ∀ id, id ∈ w.rsps → w.opSt id = none ∧ id ∉ w.streams
  /-- a stream belongs to a completed operation -/
  disjS : ∀ id, id ∈ w.streams → w.opSt id = none
  /-- a response, and a `subscribe` waiting for its SUBACK, has its channel -/
  chanEx : ∀ id, (id ∈ w.rsps ∨ ∃ s, w.opSt id = some (.wait s .suback)) → w.chan id ≠ none
  /-- a stream has its channel, and is flagged or asleep (registered) on an empty channel with a live sender -/
  strOk : ∀ id, id ∈ w.streams → ∃ ch, w.chan id = some ch ∧
    (Task.st id ∈ w.woken ∨ (ch.buf = [] ∧ ch.reg = true ∧ ch.txAlive = true))

theorem strInv_init (cfg : Cfg) : StrInv { cfg := cfg } where
  disjR := by simp
  disjS := by simp
  chanEx := by simp [opSt, lookupFirst]
  strOk := by simp

/-- the operation identifier `id` (not an MQTT subscription identifier) names a SUBSCRIBE operation -/
def SubId (w : World) (id : Nat) : Prop :=
  (∃ h t, w.opSt id = some (.fresh h (.subscribe t))) ∨ (∃ s, w.opSt id = some (.wait s .suback))

theorem SubId.congr {w w' : World} {id : Nat} (h : w'.opSt id = w.opSt id) : SubId w' id ↔ SubId w id := by
  simp only [SubId, h]

theorem SubId.opSt_ne_none {w : World} {id : Nat} (h : SubId w id) : w.opSt id ≠ none := by
  rcases h with ⟨_, _, e⟩ | ⟨_, e⟩ <;> rw [e] <;> exact nofun

/-- what the subscription side says of one identifier whatever else runs under it: a SUBSCRIBE under `n` excludes a
    response or stream `n`, a response is not yet a stream, and the last two clauses of `StrInv` -/
structure CoreAt (w : World) (n : Nat) : Prop where
  subp : SubId w n → n ∉ w.streams ∧ n ∉ w.rsps
  disj : n ∈ w.rsps → n ∉ w.streams
  chanEx : (n ∈ w.rsps ∨ ∃ s, w.opSt n = some (.wait s .suback)) → w.chan n ≠ none
  strOk : n ∈ w.streams → ∃ ch, w.chan n = some ch ∧
    (Task.st n ∈ w.woken ∨ (ch.buf = [] ∧ ch.reg = true ∧ ch.txAlive = true))

def StrCore (w : World) : Prop := ∀ n, CoreAt w n

/-- no operation runs under the identifier of a response or stream -/
def NoOp (w : World) : Prop := ∀ n, n ∈ w.rsps ∨ n ∈ w.streams → w.opSt n = none

theorem StrInv.core {w : World} (h : StrInv w) : StrCore w := fun n =>
  ⟨fun x => ⟨fun m => x.opSt_ne_none (h.disjS n m), fun m => x.opSt_ne_none (h.disjR n m).1⟩,
    fun hi => (h.disjR n hi).2, h.chanEx n, h.strOk n⟩

theorem StrInv.noOp {w : World} (h : StrInv w) : NoOp w := fun n x => x.elim (fun y => (h.disjR n y).1) (h.disjS n)

theorem StrInv.of_core {w : World} (c : StrCore w) (o : NoOp w) : StrInv w :=
  ⟨fun n hi => ⟨o n (.inl hi), (c n).disj hi⟩, fun n hi => o n (.inr hi), fun n => (c n).chanEx, fun n => (c n).strOk⟩

/-- what is said of `n` reads its entry, whether it is a response or a stream, that its channel exists, and of a
    stream's channel and flag only this: a channel that changed has woken the stream registered on it -/
theorem CoreAt.mono {w w' : World} {n : Nat} (h : CoreAt w n) (ho : w'.opSt n = w.opSt n)
    (hr : n ∈ w'.rsps → n ∈ w.rsps) (hs : n ∈ w'.streams → n ∈ w.streams)
    (hc : ∀ c0, w.chan n = some c0 →
      ∃ c1, w'.chan n = some c1 ∧ (c1 = c0 ∨ (c0.reg = true → Task.st n ∈ w'.woken)))
    (hw : Task.st n ∈ w.woken → Task.st n ∈ w'.woken) : CoreAt w' n where
  subp := fun x => have y := h.subp ((SubId.congr ho).1 x); ⟨fun m => y.1 (hs m), fun m => y.2 (hr m)⟩
  disj := fun hi hm => h.disj (hr hi) (hs hm)
  chanEx := fun hi => by
    have hne := h.chanEx (hi.imp hr fun ⟨s, x⟩ => ⟨s, ho ▸ x⟩)
    cases hv : w.chan n with
    | none => exact absurd hv hne
    | some c0 => obtain ⟨c1, e, _⟩ := hc c0 hv; rw [e]; exact Option.some_ne_none _
  strOk := fun hi => by
    obtain ⟨c0, e0, b⟩ := h.strOk (hs hi)
    obtain ⟨c1, e1, k⟩ := hc c0 e0
    refine ⟨c1, e1, ?_⟩
    rcases b with b | ⟨b1, b2, b3⟩
    · exact Or.inl (hw b)
    · rcases k with k | k
      · subst k; exact Or.inr ⟨b1, b2, b3⟩
      · exact Or.inl (k b2)

theorem core_of_chanSome {w w' : World} (h : StrCore w) (hops : w'.ops = w.ops) (hr : w'.rsps = w.rsps)
    (hs : w'.streams = w.streams)
    (hch : ∀ c c0, w.chan c = some c0 →
      ∃ c1, w'.chan c = some c1 ∧ (c1 = c0 ∨ (c0.reg = true → Task.st c ∈ w'.woken)))
    (hwk : ∀ n, Task.st n ∈ w.woken → Task.st n ∈ w'.woken) : StrCore w' :=
  fun n => (h n).mono (by simp [opSt, hops]) (fun x => hr ▸ x) (fun x => hs ▸ x) (hch n) (hwk n)

theorem core_congr {w w' : World} (h : StrCore w) (h1 : w'.ops = w.ops) (h2 : w'.rsps = w.rsps)
    (h3 : w'.streams = w.streams) (h4 : w'.chans = w.chans)
    (h5 : ∀ n, Task.st n ∈ w.woken → Task.st n ∈ w'.woken) : StrCore w' :=
  core_of_chanSome h h1 h2 h3 (fun c c0 hc => ⟨c0, by simpa [chan, h4] using hc, Or.inl rfl⟩) h5

theorem core_of_act {w w' : World} (h : StrCore w) (a : ActInv w w') : StrCore w' :=
  core_of_chanSome h a.ops_eq a.rsps_eq a.streams_eq
    (fun c c0 hc => (a.chanSome c c0 hc).imp fun _ x => ⟨x.1, x.2.2⟩) (fun _ => a.wokenMono _)

theorem NoOp.of_eq {w w' : World} (h : NoOp w) (h1 : w'.ops = w.ops) (h2 : ∀ n, n ∈ w'.rsps ∨ n ∈ w'.streams →
    n ∈ w.rsps ∨ n ∈ w.streams) : NoOp w' := fun n x => (show w'.opSt n = w.opSt n by simp [opSt, h1]).trans (h n (h2 n x))

/-- what the step of operation `id` did to its own subscription bookkeeping: a `subscribe` still waiting has its
    channel; the identifier enters the responses only together with the operation's completion, channel in hand -/
structure SubOk (id : Nat) (w' : World) : Prop where
  waiting : ∀ s, w'.opSt id = some (.wait s .suback) → w'.chan id ≠ none
  response : id ∈ w'.rsps → w'.opSt id = none ∧ w'.chan id ≠ none

theorem subOk_of_none {id : Nat} {w' : World} (h1 : w'.opSt id = none) (h2 : id ∉ w'.rsps) : SubOk id w' :=
  { waiting := fun s hs => by rw [h1] at hs; cases hs
    response := fun hr => absurd hr h2 }

/-- `w'` is `w` after a step of the handle future `id`, seen from that future: what became of its entry, whether its
    identifier entered the responses, whether the channels changed -/
structure OpSelf (id : Nat) (w w' : World) : Prop where
  /-- a SUBSCRIBE entry was one before, or (a new future) its identifier names neither a stream nor a response -/
  sub : SubId w' id → SubId w id ∨ (id ∉ w.streams ∧ id ∉ w.rsps)
  rsps : ∀ n, n ∈ w'.rsps → n ∈ w.rsps ∨ (n = id ∧ SubId w id ∧ w'.opSt id = none)
  chans : w'.chans = w.chans ∨ SubId w id
  /-- where a SUBSCRIBE that waited for its SUBACK had its channel, the step keeps the subscription bookkeeping -/
  subOk : id ∉ w.rsps → (∀ s, w.opSt id = some (.wait s .suback) → w.chan id ≠ none) → SubOk id w'

theorem OpSelf.of_eq {id : Nat} {w w' : World} (h1 : w'.opSt id = w.opSt id) (h2 : w'.rsps = w.rsps)
    (h3 : w'.chans = w.chans) : OpSelf id w w' :=
  ⟨fun h => Or.inl ((SubId.congr h1).1 h), fun _ h => Or.inl (h2 ▸ h), Or.inl h3,
    fun hr hcx => ⟨fun s hs => by rw [chan, h3]; exact hcx s (h1 ▸ hs), fun hi => absurd (h2 ▸ hi) hr⟩⟩

theorem OpSelf.gone {id : Nat} {w w' : World} (h1 : w'.opSt id = none) (h2 : w'.rsps = w.rsps)
    (h3 : w'.chans = w.chans ∨ SubId w id) : OpSelf id w w' :=
  ⟨fun h => absurd h1 h.opSt_ne_none, fun _ h => Or.inl (h2 ▸ h), h3, fun hr _ => subOk_of_none h1 (h2 ▸ hr)⟩

theorem pollOp_opSelf (w : World) (id : Nat) (hn : (w.ops.map (·.1)).Nodup) : OpSelf id w (w.pollOp id) := by
  rcases pollOp_spec w id with ⟨_, e⟩ | ⟨s, k, _, _, e⟩ |
    ⟨st, w0, hop, hp, ⟨o, _, e, _, _⟩ | ⟨m, s, k, hw, hctx, e, hsent, _⟩⟩ <;> rw [e]
  · exact .of_eq rfl rfl rfl
  · exact .of_eq rfl rfl rfl
  · have h0 : (w0.endOp id o).opSt id = none := endOp_opSt_self (hp.ops ▸ hn) id o
    cases hp with
    | fresh hh req ch hch =>
      refine .gone h0 (endOp_rsps _ id o) ?_
      rw [endOp_chans]
      exact hch.imp_right fun ⟨t, ht, _⟩ => Or.inl ⟨hh, t, ht ▸ hop⟩
    | wait s0 k0 rs _ hrs =>
      rcases hrs with e1 | ⟨rfl, e1⟩
      · exact .gone h0 ((endOp_rsps _ id o).trans e1) (Or.inl (endOp_chans _ id o))
      · -- SUBACK: the response is handed over together with the channel
        have hs : SubId w id := Or.inr ⟨s0, hop⟩
        refine ⟨fun _ => Or.inl hs, fun n hi => ?_, Or.inl (endOp_chans _ id o), fun _ hcx => ⟨fun s hs' => ?_, fun _ => ⟨h0, ?_⟩⟩⟩
        · rw [endOp_rsps] at hi
          have hi' : n ∈ rs := hi
          rw [e1] at hi'
          exact (List.mem_append.mp hi').imp_right fun x => ⟨List.mem_singleton.mp x, hs, h0⟩
        · rw [h0] at hs'; cases hs'
        · rw [chan, endOp_chans]; exact hcx s0 hop
  · obtain ⟨wk, qr, e1⟩ := User.sendAwait_ctx w0 m id s k hctx
    rw [e1]
    have hself : lookupFirst id (setAssoc id (OpSt.wait s k) w0.ops) = some (.wait s k) := lookupFirst_setAssoc_self _ _ _
    -- only the first poll of a SUBSCRIBE waits for a SUBACK
    have hk : k = .suback → ∃ hh t, st = .fresh hh (.subscribe t) := fun hk => by
      rcases hw.shape with ⟨hh, req, rfl, _, rfl⟩ | ⟨_, _, _, rfl⟩
      · obtain ⟨t, rfl⟩ := Req.wait_suback hk; exact ⟨hh, t, rfl⟩
      · cases hk
    have hsub : ∀ s', lookupFirst id (setAssoc id (OpSt.wait s k) w0.ops) = some (.wait s' .suback) →
        ∃ hh t, st = .fresh hh (.subscribe t) := fun s' x => hk (by rw [hself] at x; cases x; rfl)
    have hrs : w0.rsps = w.rsps := by
      cases hp with
      | fresh => rfl
      | wait s0 k0 rs _ hrs =>
        rcases hrs with e2 | ⟨rfl, _⟩
        · exact e2
        · rcases hw with ⟨_, _, x, _⟩ | ⟨_, _, x, _⟩ <;> cases x
    have hch : w0.chans = w.chans ∨ SubId w id := by
      cases hp with
      | fresh hh req ch hch => exact hch.imp_right fun ⟨t, ht, _⟩ => Or.inl ⟨hh, t, ht ▸ hop⟩
      | wait => exact Or.inl rfl
    refine ⟨fun h => ?_, fun n hi => Or.inl (hrs ▸ hi), hch, fun hr _ => ⟨fun s' hs' => ?_, fun hi => absurd (hrs ▸ hi) hr⟩⟩
    · rcases h with ⟨_, _, x⟩ | ⟨s', x⟩
      · exact nomatch hself.symm.trans x
      · obtain ⟨hh, t, rfl⟩ := hsub s' x
        exact Or.inl (Or.inl ⟨hh, t, hop⟩)
    · obtain ⟨hh, t, e2⟩ := hsub s' hs'
      show lookupFirst id w0.chans ≠ none
      rw [hsent hh t e2, lookupFirst_setAssoc_self]; exact nofun

theorem pollTask_opSelf (w : World) (id : Nat) (hn : (w.ops.map (·.1)).Nodup) : OpSelf id w (w.pollTask (.op id)) :=
  have s := pollOp_opSelf (w.unwake (.op id)) id hn
  ⟨s.sub, s.rsps, s.chans, s.subOk⟩

theorem dropOp_opSelf (w : World) (id : Nat) (hn : (w.ops.map (·.1)).Nodup) : OpSelf id w (w.dropOp id) := by
  have er : ∀ w1 : World, w1.ops = w.ops → w1.rsps = w.rsps → (w1.chans = w.chans ∨ SubId w id) →
      OpSelf id w (w1.eraseOp id) := fun w1 h1 h2 h3 => by
    obtain ⟨wk, qr, e⟩ := eraseOp_shape w1 id
    exact .gone (eraseOp_opSt_self (h1 ▸ hn) id) (by rw [e]; exact h2) (by rw [e]; exact h3)
  rcases dropOp_cases w id with ⟨_, e⟩ | ⟨hd, req, _, e⟩ | ⟨s, k, _, _, e⟩ | ⟨s, hop, e⟩ <;> rw [e]
  · exact .of_eq rfl rfl rfl
  · exact er w rfl rfl (Or.inl rfl)
  · exact er _ rfl rfl (Or.inl rfl)
  · exact er _ rfl rfl (Or.inr (Or.inr ⟨s, hop⟩))

/-- a step of the handle future `id`, from its frame and what it says of itself; another operation may run under the
    identifier of a response or stream, a SUBSCRIBE may not -/
theorem core_of_opFrame {id : Nat} {w w' : World} (h : StrCore w) (f : OpFrame id w w') (s : OpSelf id w w') :
    StrCore w' := by
  intro n
  by_cases e : n = id
  · subst e
    have nsub : n ∈ w.rsps ∨ n ∈ w.streams → ¬ SubId w n := fun x y => x.elim ((h n).subp y).2 ((h n).subp y).1
    have hch : n ∈ w.rsps ∨ n ∈ w.streams → w'.chan n = w.chan n := fun x =>
      s.chans.elim (fun e => by simp [chan, e]) fun y => absurd y (nsub x)
    refine ⟨fun x => ?_, fun hi hm => ?_, fun hi => ?_, fun hi => ?_⟩
    · have z : n ∉ w.streams ∧ n ∉ w.rsps := (s.sub x).elim (h n).subp fun y => y
      exact ⟨f.streams_eq ▸ z.1, fun m => (s.rsps n m).elim z.2 fun q => x.opSt_ne_none q.2.2⟩
    · exact (s.rsps n hi).elim (fun y => (h n).disj y (f.streams_eq ▸ hm)) fun q => ((h n).subp q.2.1).1 (f.streams_eq ▸ hm)
    · by_cases hr : n ∈ w.rsps
      · rw [hch (.inl hr)]; exact (h n).chanEx (.inl hr)
      · have so := s.subOk hr fun s0 hs => (h n).chanEx (.inr ⟨s0, hs⟩)
        exact hi.elim (fun x => (so.response x).2) fun ⟨s0, x⟩ => so.waiting s0 x
    · have hi' : n ∈ w.streams := f.streams_eq ▸ hi
      obtain ⟨ch, a, b⟩ := (h n).strOk hi'
      exact ⟨ch, (hch (.inr hi')).trans a, b.imp_left fun x => f.woken _ x Task.noConfusion⟩
  · exact (h n).mono (f.ops n e) (fun x => (f.rspsSub n x).resolve_right e) (fun x => f.streams_eq ▸ x)
      (fun c0 hc => ⟨c0, (f.chan n e).trans hc, Or.inl rfl⟩) fun x => f.woken _ x Task.noConfusion

/-- an existing operation `id` runs under no response or stream, so its step makes `id` a response at most as it ends -/
theorem noOp_of_opFrame {id : Nat} {w w' : World} (h : NoOp w) (f : OpFrame id w w') (s : OpSelf id w w')
    (hex : w.opSt id ≠ none) : NoOp w' := by
  intro n x
  by_cases e : n = id
  · subst e
    rcases x with x | x
    · exact (s.rsps n x).elim (fun y => absurd (h n (.inl y)) hex) fun q => q.2.2
    · exact absurd (h n (.inr (f.streams_eq ▸ x))) hex
  · exact (f.ops n e).trans (h n (x.imp (fun y => (f.rspsSub n y).resolve_right e) fun y => f.streams_eq ▸ y))

theorem core_unwake_other (w : World) (t : Task) (h : StrCore w) (ht : ∀ n, t = .st n → n ∉ w.streams) :
    StrCore (w.unwake t) := fun n =>
  { h n with strOk := fun hn => ((h n).strOk hn).imp fun _ x => ⟨x.1, x.2.imp_left fun b =>
      (mem_unwake_iff w t _).2 ⟨b, fun e => ht n e.symm hn⟩⟩ }

/-- **only the entries of a response or stream `id` change**: its membership in the two tables, its channel, its flag.
    What is said of `id` afterwards is `hrsp`, `hstr`; for everybody else it is what it was. -/
theorem core_of_stream {w w' : World} (id : Nat) (h : StrCore w) (hid : id ∈ w.rsps ∨ id ∈ w.streams)
    (hops : w'.ops = w.ops) (hr : ∀ n, n ∈ w'.rsps → n ∈ w.rsps) (hs : ∀ n, n ≠ id → n ∈ w'.streams → n ∈ w.streams)
    (hch : ∀ n, n ≠ id → w'.chan n = w.chan n) (hwk : ∀ n, n ≠ id → Task.st n ∈ w.woken → Task.st n ∈ w'.woken)
    (hrsp : id ∈ w'.rsps → id ∉ w'.streams ∧ w'.chan id ≠ none)
    (hstr : id ∈ w'.streams → ∃ ch, w'.chan id = some ch ∧
      (Task.st id ∈ w'.woken ∨ (ch.buf = [] ∧ ch.reg = true ∧ ch.txAlive = true))) : StrCore w' := by
  have ho : ∀ i, w'.opSt i = w.opSt i := fun i => by simp [opSt, hops]
  -- no SUBSCRIBE runs under the identifier of a response or stream
  have nsub : ¬ SubId w' id := fun y =>
    have z := (h id).subp ((SubId.congr (ho id)).1 y); hid.elim z.2 z.1
  intro n
  by_cases e : n = id
  · subst e
    exact ⟨fun y => absurd y nsub, fun hi => (hrsp hi).1,
      fun hn => hn.elim (fun x => (hrsp x).2) fun ⟨s, x⟩ => absurd (Or.inr ⟨s, x⟩) nsub, hstr⟩
  · exact (h n).mono (ho n) (hr n) (hs n e) (fun c0 hc => ⟨c0, (hch n e).trans hc, Or.inl rfl⟩) (hwk n e)

theorem core_pollStream (w : World) (id : Nat) (h : StrCore w) : StrCore ((w.unwake (.st id)).pollStream id) := by
  have hu : ∀ n, n ≠ id → Task.st n ∈ w.woken → Task.st n ∈ (w.unwake (.st id)).woken :=
    fun n hne hm => (mem_unwake_iff w _ _).2 ⟨hm, fun e => hne (Task.st.inj e)⟩
  rcases pollStream_shape (w.unwake (.st id)) id with
    ⟨hn, e⟩ | ⟨ch, p, rest, hs, _, _, e⟩ | ⟨ch, hs, _, hb, ht, e⟩ | ⟨ch, hs, _, _, _, e⟩ <;> rw [e]
  · -- a stream always has its channel, so this stream does not exist
    refine core_unwake_other w _ h (fun n e hs => ?_)
    have e := Task.st.inj e
    subst e
    rcases hn with hn | hn
    · exact hn hs
    · obtain ⟨ch, a, _⟩ := (h id).strOk hs
      exact nomatch a.symm.trans hn
  -- otherwise the stream exists, so its identifier is no response
  all_goals have hnr : id ∉ w.rsps := fun hi => (h id).disj hi hs
  · exact core_of_stream id h (Or.inr hs) rfl (fun _ x => x) (fun _ _ x => x)
      (fun n hne => lookupFirst_setAssoc_of_ne hne _ _)
      (fun n hne hn => wake_woken _ (.st id) ▸ mem_wake_of_mem _ _ _ (hu n hne hn)) (fun hi => absurd hi hnr)
      (fun _ => ⟨_, lookupFirst_setAssoc_self _ _ _, Or.inl (wake_woken _ (.st id) ▸ mem_wake_self _ _)⟩)
  · exact core_of_stream id h (Or.inr hs) rfl (fun _ x => x) (fun _ _ x => x)
      (fun n hne => lookupFirst_setAssoc_of_ne hne _ _) hu (fun hi => absurd hi hnr)
      (fun _ => ⟨_, lookupFirst_setAssoc_self _ _ _, Or.inr ⟨hb, rfl, ht⟩⟩)
  · exact core_of_stream id h (Or.inr hs) rfl (fun _ x => x) (fun n _ hn => (List.mem_filter.mp hn).1)
      (fun n hne => lookupFirst_eraseFirst_of_ne hne _) hu (fun hi => absurd hi hnr)
      (fun hm => absurd (List.mem_filter.mp hm).2 (by simp))

theorem core_pollTask (w : World) (t : Task) (ho : OwnInv w) (h : StrCore w) : StrCore (w.pollTask t) := by
  cases t with
  | ctx => exact core_of_act (core_unwake_other w _ h (fun n e => by cases e)) (hand_pollCtx _).act
  | op id => exact core_of_opFrame h (own_pollOp_task w id ho).frame (pollTask_opSelf w id ho.nodup)
  | st id => exact core_pollStream w id h

theorem noOp_pollTask (w : World) (t : Task) (ho : OwnInv w) (h : NoOp w) : NoOp (w.pollTask t) := by
  cases t with
  | ctx =>
    have a := (hand_pollCtx (w.unwake .ctx)).act
    exact NoOp.of_eq (w := w) h a.ops_eq fun n x => x.imp (fun y => a.rsps_eq ▸ y) fun y => a.streams_eq ▸ y
  | op id =>
    by_cases hex : w.opSt id = none
    · show NoOp ((w.unwake (.op id)).pollOp id)
      rw [pollOp_of_none (w := w.unwake (.op id)) hex]; exact h
    · exact noOp_of_opFrame h (own_pollOp_task w id ho).frame (pollTask_opSelf w id ho.nodup) hex
  | st id =>
    obtain ⟨_, _, _, _, e, hs⟩ := pollStream_footprint (w.unwake (.st id)) id
    show NoOp ((w.unwake (.st id)).pollStream id)
    rw [e]; exact NoOp.of_eq (w := w) h rfl fun n x => x.imp_right (hs n)

structure Both (w : World) : Prop where
  own : OwnInv w
  str : StrInv w

theorem both_pollTask (w : World) (t : Task) (h : Both w) : Both (w.pollTask t) :=
  ⟨own_pollTask w t h.own, .of_core (core_pollTask w t h.own h.str.core) (noOp_pollTask w t h.own h.str.noOp)⟩

/-- the script does not start an operation under the identifier of a response or stream that is still alive -/
def opFresh (w : World) : Ev → Prop
  | .op id _ _ => id ∉ w.rsps ∧ id ∉ w.streams
  | _ => True

/-- … a SUBSCRIBE operation at least -/
def subFresh (w : World) : Ev → Prop
  | .op id _ (.subscribe _) => id ∉ w.rsps ∧ id ∉ w.streams
  | _ => True

theorem opFresh.sub {w : World} {e : Ev} (h : opFresh w e) : subFresh w e := by
  unfold subFresh; split
  · exact h
  · trivial

theorem core_applied {w w' : World} {e : Ev} (a : Applied w e w') (ho : OwnInv w) (h : StrCore w)
    (hf : subFresh w e) : StrCore w' := by
  cases a.norm with
  | same => exact h
  | bad | newCtx | newConn | dropFut | dropCtxNone | markDisc | snap | hold | release | clone =>
    exact fun n => { h n with }
  | poll t => exact core_pollTask w t ho h
  | start => exact core_congr h rfl rfl rfl rfl (fun _ hn => wake_woken w .ctx ▸ mem_wake_of_mem _ _ _ hn)
  | dropCtx _ _ _ _ he =>
    have h0 : StrCore (dropCtxStart w) := fun n => { h n with }
    exact fun n => { he ▸ core_of_act h0 (actInv_closes (closes_dropCtxClosed w)) n with }
  | feed => exact core_congr h rfl rfl rfl rfl (fun _ hn => mem_wakeIf hn)
  | op id hd req _ hop =>
    -- a new handle future: seen from the others, a step of it
    have hst := opSt_newOp_self (w := w) (OpSt.fresh hd req) hop
    refine core_of_opFrame h (opFrame_newOp w id hd req hop)
      ⟨fun hs => Or.inr ?_, fun n hn => Or.inl hn, Or.inl rfl,
        fun hr _ => ⟨fun s hs => (nomatch hst.symm.trans hs), fun hi => absurd hi hr⟩⟩
    rcases hs with ⟨_, t, e⟩ | ⟨_, e⟩ <;> rw [hst] at e <;> cases e
    exact ⟨hf.2, hf.1⟩
  | dropOp id _ _ _ _ _ _ he => exact he ▸ core_of_opFrame h (own_dropOp w id ho).frame (dropOp_opSelf w id ho.nodup)
  | dropStream id hid =>
    have hnr : id ∉ w.rsps := fun hi => (h id).disj hi hid
    exact core_of_stream id h (Or.inr hid) rfl (fun _ x => x) (fun n _ hn => (List.mem_filter.mp hn).1)
      (fun n hne => lookupFirst_eraseFirst_of_ne hne _) (fun _ _ x => x) (fun hi => absurd hi hnr)
      (fun hm => absurd (List.mem_filter.mp hm).2 (by simp))
  | dropRsp id hid =>
    have hns : id ∉ w.streams := (h id).disj hid
    exact core_of_stream id h (Or.inl hid) rfl (fun n hn => (List.mem_filter.mp hn).1) (fun _ _ x => x)
      (fun n hne => lookupFirst_eraseFirst_of_ne hne _) (fun _ _ x => x)
      (fun hi => absurd (List.mem_filter.mp hi).2 (by simp)) (fun hm => absurd hm hns)
  | stream id hid =>
    -- the stream is taken out of a response: flagged, on the channel the response had
    have hex := (h id).chanEx (Or.inl hid)
    refine core_of_stream id h (Or.inl hid) rfl (fun n hn => (List.mem_filter.mp hn).1)
      (fun n hne hn => (List.mem_append.mp hn).resolve_right fun x => hne (List.mem_singleton.mp x)) (fun _ _ => rfl)
      (fun n _ hn => wake_woken w (.st id) ▸ mem_wake_of_mem _ _ _ hn)
      (fun hi => absurd (List.mem_filter.mp hi).2 (by simp)) (fun _ => ?_)
    cases hv : w.chan id with
    | none => exact absurd hv hex
    | some ch => exact ⟨ch, hv, Or.inl (wake_woken w (.st id) ▸ mem_wake_self _ _)⟩
  | dropHandle hh _ _ _ he =>
    exact he ▸ core_congr h (by simp) (by simp) (by simp) (by simp) (fun n hn => senderGone_woken_mono _ _ hn)

theorem noOp_applied {w w' : World} {e : Ev} (a : Applied w e w') (ho : OwnInv w) (h : NoOp w)
    (hf : opFresh w e) : NoOp w' := by
  cases a.norm with
  | same => exact h
  | poll t => exact noOp_pollTask w t ho h
  | dropCtx _ _ _ _ he =>
    have a := actInv_closes (closes_dropCtxClosed w)
    have := NoOp.of_eq (w := dropCtxStart w) (fun n x => h n x) a.ops_eq fun n x =>
      x.imp (fun y => a.rsps_eq ▸ y) fun y => a.streams_eq ▸ y
    rw [he] at this; exact this
  | op id hd req _ hop =>
    intro n x
    have hne : n ≠ id := fun e => x.elim (e ▸ hf.1) (e ▸ hf.2)
    refine Eq.trans ?_ (h n x)
    simp only [opSt, lookupFirst_append]
    cases lookupFirst n w.ops with
    | none => simp [lookupFirst, Ne.symm hne]
    | some v => rfl
  | dropOp id _ _ _ _ _ _ he =>
    by_cases hex : w.opSt id = none
    · rw [← he, dropOp_of_none hex]; exact h
    · exact he ▸ noOp_of_opFrame h (own_dropOp w id ho).frame (dropOp_opSelf w id ho.nodup) hex
  | dropStream id => exact NoOp.of_eq h rfl fun n x => x.imp_right fun y => (List.mem_filter.mp y).1
  | dropRsp id => exact NoOp.of_eq h rfl fun n x => x.imp_left fun y => (List.mem_filter.mp y).1
  | stream id hid =>
    exact NoOp.of_eq h rfl fun n x => x.elim (fun y => .inl (List.mem_filter.mp y).1) fun y =>
      (List.mem_append.mp y).elim .inr fun z => .inl (List.mem_singleton.mp z ▸ hid)
  | dropHandle hh _ _ _ he => exact NoOp.of_eq h rfl fun _ x => x
  | _ => exact NoOp.of_eq h rfl fun _ x => x

theorem both_apply (w : World) (e : Ev) (h : Both w) (hf : opFresh w e) : Both (w.apply e) :=
  ⟨own_apply w e h.own, .of_core (core_applied (apply_spec w e) h.own h.str.core hf.sub)
    (noOp_applied (apply_spec w e) h.own h.str.noOp hf)⟩

theorem both_emit (w : World) (o : Obs) (h : Both w) : Both (w.emit o) :=
  ⟨own_emit w o h.own, { h.str with }⟩

theorem opFresh_emit (w : World) (o : Obs) (e : Ev) (h : opFresh w e) : opFresh (w.emit o) e := by
  cases e with
  | op id hd req => simpa [opFresh] using h
  | _ => trivial

/-- along the script, no operation is started under the identifier of a response or stream that is still alive; it gives
    `Along opFresh` (`goodFrom_along`), and asks `opFresh` also of the events behind a refused one -/
def GoodFrom (w : World) : List Ev → Prop
  | [] => True
  | e :: t => opFresh w e ∧ GoodFrom (w.step e) t

theorem goodFrom_along {w : World} {evs : List Ev} (h : GoodFrom w evs) : Along opFresh w evs := by
  induction evs generalizing w with
  | nil => trivial
  | cons e t ih => exact ⟨fun _ => h.1, ih h.2⟩

theorem both_steps (evs : List Ev) (w : World) (h : Both w) (hg : GoodFrom w evs) : Both (evs.foldl step w) :=
  steps_inv_along (fun w t _ _ => both_pollTask w t) both_emit both_apply opFresh_emit w evs h (goodFrom_along hg)

theorem strInv_script (cfg : Cfg) (evs : List Ev) (hg : GoodFrom { cfg := cfg } evs) :
    StrInv (evs.foldl step { cfg := cfg }) :=
  (both_steps evs _ ⟨ownInv_init cfg, strInv_init cfg⟩ hg).str

end World
end Poster

/-
  Lemmas/WorldCtl.lean — the life cycle of the context object (`CtlOk`): a call executes only on an existing context, and a
  dropped context stays gone. The two facts are inductive on their own, through every poll and every script event; the
  invariants that need them take `CtlOk` as a hypothesis or read their conjunct off it.
-/
import PosterModel.Lemmas.WorldWalk
import PosterModel.Lemmas.WorldDrop
import PosterModel.Lemmas.WorldApplied

namespace Poster
open Framing
namespace World

structure CtlOk (w : World) : Prop where
  task : w.task ≠ .none → w.hasCtx = true
  dropped : w.ctxDropped = true → w.hasCtx = false

theorem CtlOk.noTask {w : World} (h : CtlOk w) (hc : w.hasCtx = false) : w.task = .none :=
  Decidable.byContradiction fun ht => Bool.noConfusion (hc.symm.trans (h.task ht))

theorem CtlOk.not_dropped {w : World} (h : CtlOk w) (ht : w.task ≠ .none) : w.ctxDropped = false :=
  Bool.eq_false_iff.mpr fun hd => ht (h.noTask (h.dropped hd))

theorem CtlOk.init (cfg : Cfg) : CtlOk { cfg := cfg } := ⟨fun h => absurd rfl h, fun h => Bool.noConfusion h⟩

theorem CtlOk.of_eq {w w' : World} (h : CtlOk w) (h1 : w'.hasCtx = w.hasCtx) (h2 : w'.ctxDropped = w.ctxDropped)
    (h3 : w'.task ≠ .none → w.task ≠ .none) : CtlOk w' :=
  ⟨fun ht => h1 ▸ h.task (h3 ht), fun hd => h1 ▸ h.dropped (h2 ▸ hd)⟩

theorem CtlOk.userFrame {w w' : World} (h : CtlOk w) (f : UserFrame w w') : CtlOk w' :=
  h.of_eq f.hasCtx f.ctxDropped (fun ht => f.task ▸ ht)

theorem CtlOk.pollCtx {w : World} (h : CtlOk w) : CtlOk w.pollCtx := by
  cases hc : w.hasCtx with
  | false =>
    rw [pollCtx_none (h.noTask hc)]; exact h
  | true =>
    have a := pollCtx_ctxFrame w
    exact ⟨fun _ => a.hasCtx.trans hc, fun hd => absurd (h.dropped (a.ctxDropped ▸ hd)) (by simp [hc])⟩

theorem CtlOk.pollTask {w : World} (h : CtlOk w) (t : Task) : CtlOk (w.pollTask t) := by
  have hu : CtlOk (w.unwake t) := h.of_eq rfl rfl id
  cases t with
  | ctx => exact hu.pollCtx
  | op id => exact hu.userFrame (pollOp_userFrame _ id)
  | st id => exact hu.userFrame (pollStream_userFrame _ id)

theorem CtlOk.applied {w w' : World} {e : Ev} (a : Applied w e w') (h : CtlOk w) : CtlOk w' := by
  cases a.norm with
  | poll t => exact h.pollTask t
  | newCtx ht hd => exact ⟨fun _ => rfl, fun hd' => Bool.noConfusion (hd.symm.trans hd')⟩
  | newConn _ _ _ ht hd hc => exact ⟨fun _ => hc, fun hd' => Bool.noConfusion (hd.symm.trans hd')⟩
  | start _ tk _ hc => exact ⟨fun _ => hc, h.dropped⟩
  | dropFut | dropCtxNone => exact h.of_eq rfl rfl (fun ht => absurd rfl ht)
  | dropCtx => exact ⟨fun ht => absurd rfl ht, fun _ => rfl⟩
  | _ => exact h.of_eq rfl rfl id

theorem CtlOk.apply {w : World} (h : CtlOk w) (e : Ev) : CtlOk (w.apply e) := h.applied (apply_spec w e)

theorem CtlOk.emit {w : World} (h : CtlOk w) (o : Obs) : CtlOk (w.emit o) := h.of_eq rfl rfl id

end World
end Poster

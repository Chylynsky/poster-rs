/-
  Lemmas/WorldCancel.lean — what the script event `drop t` does to the world (nothing but the table of operations /
  streams, the dropped task's own oneshot and channel, and one sender of the message queue), and that it leaves an idle
  executor idle: so the script step `drop t`, from an idle world with a handle alive, keeps everything on the context's
  side and logs only its marker and the stall marker (`DropKeeps`, `step_drop_keeps`; `AllDrops`: scripts of such steps).
-/
import PosterModel.Lemmas.WorldRet
import PosterModel.Lemmas.WorldFuelScript
import PosterModel.Lemmas.WorldTweak
import PosterModel.Lemmas.WorldOwnDrop

namespace Poster
open Framing
namespace World
namespace W11

theorem dropOp_senders (w : World) (id : Nat) :
    (w.dropOp id).senders = if (w.opSt id).isSome then w.senders - 1 else w.senders := by
  unfold senders opSt
  rw [dropOp_ops_eq, (dropOp_userFrame w id).handles]
  cases h : lookupFirst id w.ops with
  | none => rw [eraseFirst_absent id w.ops h]; rfl
  | some v =>
    have := length_eraseFirst_of_lookup id v w.ops h
    simp only [Option.isSome_some, ↓reduceIte]
    omega

theorem apply_dropStream (w : World) (id : Nat) : w.apply (.drop (.st id)) =
    { w with streams := if id ∈ w.streams then w.streams.filter (· ≠ id) else w.streams,
             chans := if id ∈ w.streams then eraseFirst id w.chans else w.chans } := by
  show (if id ∈ w.streams then _ else w) = _
  by_cases h : id ∈ w.streams
  · rw [if_pos h, if_pos h, if_pos h]; rfl
  · rw [if_neg h, if_neg h, if_neg h]

theorem apply_drop_footprint (w : World) (t : Task) :
    ∃ o sl sr ch st wk qr, w.apply (.drop t) =
      { w with ops := o, slots := sl, slotReg := sr, chans := ch, streams := st, woken := wk, queueReg := qr } := by
  cases t with
  | ctx => exact ⟨_, _, _, _, _, _, _, rfl⟩
  | st id => exact ⟨_, _, _, _, _, _, _, apply_dropStream w id⟩
  | op id =>
    obtain ⟨o, sl, sr, ch, wk, qr, e⟩ := dropOp_footprint w id
    exact ⟨o, sl, sr, ch, w.streams, wk, qr, e⟩

theorem apply_drop_userFrame (w : World) (t : Task) : UserFrame w (w.apply (.drop t)) := by
  obtain ⟨o, sl, sr, ch, st, wk, qr, e⟩ := apply_drop_footprint w t
  rw [e]; exact .of_eq rfl

theorem apply_drop_queue (w : World) (t : Task) : (w.apply (.drop t)).queue = w.queue := by
  obtain ⟨o, sl, sr, ch, st, wk, qr, e⟩ := apply_drop_footprint w t
  rw [e]

theorem apply_drop_silent (w : World) (t : Task) (h : (w.apply (.drop t)).senders ≠ 0) :
    (w.apply (.drop t)).woken = w.woken ∧ (w.apply (.drop t)).queueReg = w.queueReg ∧
    (w.apply (.drop t)).readerReg = w.readerReg := by
  cases t with
  | ctx => exact ⟨rfl, rfl, rfl⟩
  | st id => rw [apply_dropStream]; exact ⟨rfl, rfl, rfl⟩
  | op id =>
    -- a sender is left, so erasing the entry wakes nobody
    have key : ∀ x : World, (x.eraseOp id).senders ≠ 0 → (x.eraseOp id).woken = x.woken ∧
        (x.eraseOp id).queueReg = x.queueReg ∧ (x.eraseOp id).readerReg = x.readerReg := fun x hx => by
      unfold eraseOp at hx ⊢
      rw [senderGone_of_pos _ (by simpa using hx)]
      exact ⟨rfl, rfl, rfl⟩
    rcases dropOp_cases w id with ⟨_, e⟩ | ⟨_, _, _, e⟩ | ⟨s, k, _, _, e⟩ | ⟨s, _, e⟩ <;>
      rw [show w.apply (.drop (.op id)) = w.dropOp id from rfl, e] at h ⊢
    · exact ⟨rfl, rfl, rfl⟩
    · exact key w h
    · exact key (w.clearSlot s) h
    · exact key ((w.clearSlot s).dropChanRx id) h

theorem apply_drop_live (w : World) (t u : Task) (h : (w.apply (.drop t)).taskLive u = true) :
    w.taskLive u = true := by
  cases u with
  | ctx =>
    simp only [taskLive] at h ⊢
    rw [(apply_drop_userFrame w t).task] at h; exact h
  | op j =>
    simp only [taskLive, opSt] at h ⊢
    cases t with
    | ctx => exact h
    | st id =>
      rw [apply_dropStream] at h; exact h
    | op id =>
      have e : (w.apply (.drop (.op id))).ops = eraseFirst id w.ops := dropOp_ops_eq w id
      rw [e] at h
      exact lookupFirst_isSome_of_eraseFirst j id w.ops h
  | st j =>
    simp only [taskLive, decide_eq_true_eq] at h ⊢
    cases t with
    | ctx => exact h
    | op id =>
      obtain ⟨o, sl, sr, ch, wk, qr, e⟩ := dropOp_footprint w id
      rw [show w.apply (.drop (.op id)) = w.dropOp id from rfl, e] at h; exact h
    | st id =>
      rw [apply_dropStream] at h
      by_cases hs : id ∈ w.streams
      · rw [show _ = w.streams.filter (· ≠ id) from if_pos hs] at h; exact (List.mem_filter.mp h).1
      · rw [show _ = w.streams from if_neg hs] at h; exact h

/-- nothing is flagged by the event while a sender of the message queue is left, so there is nothing to poll — in
    particular not the context task -/
theorem apply_drop_idle (w : World) (t : Task) (hq : w.pick = none) (h : (w.apply (.drop t)).senders ≠ 0) :
    (w.apply (.drop t)).pick = none := by
  cases hp : (w.apply (.drop t)).pick with
  | none => rfl
  | some u =>
    obtain ⟨h1, h2, h3⟩ := pick_some_spec _ u hp
    rw [(apply_drop_silent w t h).1] at h1
    rw [(apply_drop_userFrame w t).held] at h3
    exact absurd (pick_none_held w u hq h1 (apply_drop_live w t u h2)) h3

theorem settle_of_idle (w : World) (hb : w.bad = false) (hq : w.pick = none) (hs : w.cfg.sweep = false) :
    settle w = if w.task ≠ .none ∧ w.reader ≠ [] then w.emit .stall else w := by
  unfold settle
  simp only [hb, Bool.false_eq_true, ↓reduceIte, drain_none _ w hq, hs]

/-- an observation a `drop` step can log: its own event marker, or the executor's stall marker -/
def DropObs (o : Obs) : Prop := (∃ t, o = .ev (.drop t)) ∨ o = .stall

structure DropKeeps (w w' : World) : Prop where
  task : w'.task = w.task
  c : w'.c = w.c
  queue : w'.queue = w.queue
  handles : w'.handles = w.handles
  bad : w'.bad = w.bad
  cfg : w'.cfg = w.cfg
  written : w'.written = w.written
  wirePend : w'.wirePend = w.wirePend
  out : ∃ added, w'.out = w.out ++ added ∧ ∀ o ∈ added, DropObs o

theorem DropKeeps.refl (w : World) : DropKeeps w w :=
  ⟨rfl, rfl, rfl, rfl, rfl, rfl, rfl, rfl, outExtP_refl _ w⟩

theorem DropKeeps.trans {a b c : World} (h1 : DropKeeps a b) (h2 : DropKeeps b c) : DropKeeps a c :=
  ⟨h2.task.trans h1.task, h2.c.trans h1.c, h2.queue.trans h1.queue, h2.handles.trans h1.handles,
    h2.bad.trans h1.bad, h2.cfg.trans h1.cfg, h2.written.trans h1.written, h2.wirePend.trans h1.wirePend,
    outExtP_trans h1.out h2.out⟩

theorem step_drop_keeps (w : World) (t : Task) (hb : w.bad = false) (hq : w.pick = none) (hh : w.handles ≠ [])
    (hs : w.cfg.sweep = false) : DropKeeps w (w.step (.drop t)) ∧ (w.step (.drop t)).pick = none := by
  have hf := apply_drop_userFrame (w.emit (.ev (.drop t))) t
  have hsend : ((w.emit (.ev (.drop t))).apply (.drop t)).senders ≠ 0 :=
    senders_ne_zero_of_handles (by rw [hf.handles]; exact hh)
  have hidle := apply_drop_idle (w.emit (.ev (.drop t))) t (by rw [pick_emit]; exact hq) hsend
  -- the event flags nobody, so the step is the event and, at most, the stall marker
  rw [step_eq_settle, if_neg (by simp [hb]),
    settle_of_idle _ (by rw [hf.bad]; exact hb) hidle (by rw [hf.cfg]; exact hs)]
  obtain ⟨o, sl, sr, ch, st, wk, qr, e⟩ := apply_drop_footprint (w.emit (.ev (.drop t))) t
  rw [e] at hidle ⊢
  split
  · refine ⟨⟨rfl, rfl, rfl, rfl, rfl, rfl, rfl, rfl, [.ev (.drop t), .stall], by simp [emit], ?_⟩,
      by rw [pick_emit]; exact hidle⟩
    intro o ho
    simp only [List.mem_cons, List.not_mem_nil, or_false] at ho
    rcases ho with rfl | rfl
    · exact Or.inl ⟨t, rfl⟩
    · exact Or.inr rfl
  · refine ⟨⟨rfl, rfl, rfl, rfl, rfl, rfl, rfl, rfl, [.ev (.drop t)], rfl, ?_⟩, hidle⟩
    intro o ho
    simp only [List.mem_cons, List.not_mem_nil, or_false] at ho
    subst ho
    exact Or.inl ⟨t, rfl⟩

def AllDrops (ds : List Ev) : Prop := ∀ e ∈ ds, ∃ t, e = .drop t

theorem AllDrops.opIds_append {ds : List Ev} (hd : AllDrops ds) (evs : List Ev) : opIds (evs ++ ds) = opIds evs := by
  unfold opIds
  rw [List.filterMap_append]
  have : ds.filterMap evOpId = [] := by
    rw [List.filterMap_eq_nil_iff]
    intro e he
    obtain ⟨t, rfl⟩ := hd e he
    rfl
  rw [this, List.append_nil]

theorem DropKeeps.tweak {a b : World} (t : Bool) (h : DropKeeps a b) : DropKeeps (tweak t [] a) (tweak t [] b) := by
  obtain ⟨x, hx, px⟩ := h.out
  exact ⟨h.task, h.c, h.queue, h.handles, h.bad, by simp [World.tweak, h.cfg], h.written, h.wirePend, x,
    by simp [hx], px⟩

theorem applyEffs_complete_absent (w : World) (c : Ctx) (aid : Nat) (p : RxPacket)
    (h : ∀ s, lookupFirst aid c.awaiting = some s → w.slot s = none) :
    w.applyEffs (c.complete aid p).2 = w := by
  rw [Ctx.complete_effs]
  cases hl : lookupFirst aid c.awaiting with
  | none => rfl
  | some s =>
    simp only [applyEffs, List.foldl_cons, List.foldl_nil, applyEff]
    simp [sendSlot, h s hl]

end W11
end World
end Poster

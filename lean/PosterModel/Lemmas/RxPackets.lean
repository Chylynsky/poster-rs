/-
  Lemmas/RxPackets.lean — each `*Rx::try_decode` of the model on the specification encoding of its packet (C02).
-/
import PosterModel.Lemmas.RxFold

namespace Poster
open Spec Spec.Server

theorem frame_cons (hdr : Nat) (body : Bytes) : frame hdr body = UInt8.ofNat hdr :: (sVar body.length ++ body) := rfl

theorem dU8_frame (hdr : Nat) (body : Bytes) (hh : hdr < 256) :
    dU8 (frame hdr body) = .ok (hdr, sVar body.length ++ body) := by
  simp only [frame, List.append_assoc]; exact dU8_s hdr hh _

theorem dVar_body (body : Bytes) (hl : body.length ≤ 268435455) :
    dVar (sVar body.length ++ body) = .ok ((body.length, (sVar body.length).length), body) := dVar_s _ hl _

/-! The property block is read in two ways. PUBLISH, SUBACK and UNSUBACK, where something follows it, run the loop over
the first `pl` bytes (`pl` the property length just read) and then skip them: `dVar_propBlock`, `not_length_gt_append`,
`foldProps_take`, `advanceBy_append`. The others run it over the whole rest: `dVar_propBlock'`, `foldProps_whole`.
In both the loop ends with the closed form `c` that `foldO_eq` gives for the packet type. -/

theorem dVar_propBlock (ps : List Property) (h : (sProps ps).length ≤ 268435455) (r : Bytes) :
    dVar (propBlock ps ++ r) =
      .ok (((sProps ps).length, (sVar (sProps ps).length).length), sProps ps ++ r) := by
  simp only [propBlock, List.append_assoc]; exact dVar_s _ h _

theorem dVar_propBlock' (ps : List Property) (h : (sProps ps).length ≤ 268435455) :
    dVar (propBlock ps) = .ok (((sProps ps).length, (sVar (sProps ps).length).length), sProps ps) := by
  simpa using dVar_propBlock ps h []

theorem not_length_gt_append (l r : Bytes) : ¬ l.length > (l ++ r).length := by
  simp only [List.length_append, gt_iff_lt, Nat.not_lt, Nat.le_add_right]

theorem advanceBy_append (l r : Bytes) : advanceBy l.length (l ++ r) = .ok r := by
  simp [advanceBy]

theorem foldProps_whole {β} {step : β → Property → Option β} {legal multi : List Nat} {ps : List Property}
    (hps : propsOk legal multi ps = true) {b c : β} (hc : foldO step b ps = some c) :
    foldProps step (sProps ps).length (sProps ps) b = .ok c := by
  rw [foldProps_sProps step ps (propsOk_valOk hps) _ (Nat.le_refl _), hc]; rfl

theorem foldProps_take {β} {step : β → Property → Option β} {legal multi : List Nat} {ps : List Property}
    (hps : propsOk legal multi ps = true) {b c : β} (hc : foldO step b ps = some c) (r : Bytes) :
    foldProps step (sProps ps).length ((sProps ps ++ r).take (sProps ps).length) b = .ok c := by
  rw [List.take_left' rfl]; exact foldProps_whole hps hc

@[simp] theorem propBlock_length (ps : List Property) :
    (propBlock ps).length = (sVar (sProps ps).length).length + (sProps ps).length := by
  simp [propBlock]

theorem propBlock_length_pos (ps : List Property) : 0 < (propBlock ps).length := by
  have := sVar_length_pos (sProps ps).length
  rw [propBlock_length]; omega

theorem pidOk_range {pid : Nat} (h : pidOk pid = true) : 0 < pid ∧ pid < 65536 := by
  simp only [pidOk, Bool.and_eq_true, decide_eq_true_eq] at h; omega

theorem contains_lt_256 {l : List Nat} (hl : ∀ x ∈ l, x < 256) {r : Nat} (h : l.contains r = true) : r < 256 := by
  simp only [List.contains_iff_mem] at h
  exact hl r h

theorem table_ok {l : List Nat} {ok : Nat → Bool} (h : (l.all fun r => ok r && decide (r < 256)) = true) {r : Nat}
    (hr : l.contains r = true) : ok r = true ∧ r < 256 := by
  simp only [List.contains_iff_mem] at hr
  simp only [List.all_eq_true, Bool.and_eq_true, decide_eq_true_eq] at h
  exact h r hr

theorem dNzU16_s' (n : Nat) (h0 : 0 < n) (h : n < 65536) : dNzU16 (sU16 n) = .ok (n, []) := by
  simpa using dNzU16_s n h0 h []

theorem dReason_s' (ok : Nat → Bool) (n : Nat) (h : n < 256) (hok : ok n = true) :
    dReason ok (sU8 n) = .ok (n, []) := by
  simpa using dReason_s ok n h hok []

@[simp] theorem ackBody_full_length (pid reason : Nat) (ps : List Property) :
    (ackBody .full pid reason ps).length = 3 + (propBlock ps).length := by
  simp only [ackBody, List.length_append, sU16_length, sU8_length]

theorem decAck_spec (hdr : Nat) (ok : Nat → Bool) (reasons : List Nat) (form : AckForm) (pid reason : Nat)
    (ps : List Property) (hh : hdr < 256) (htab : (reasons.all fun r => ok r && decide (r < 256)) = true)
    (hwf : ackOk reasons form pid reason ps = true) (hlen : (ackBody form pid reason ps).length ≤ 268435455) :
    decAck hdr ok (frame hdr (ackBody form pid reason ps)) = .ok (expectedAck pid reason ps) := by
  simp only [ackOk, Bool.and_eq_true] at hwf
  obtain ⟨⟨hp, hr⟩, hf⟩ := hwf
  obtain ⟨hok, hr256⟩ := table_ok htab hr
  obtain ⟨hp0, hp1⟩ := pidOk_range hp
  unfold decAck
  simp only [dU8_frame _ _ hh, dVar_body _ hlen, Res.bind_ok, ne_eq, not_true_eq_false, gt_iff_lt, Nat.lt_irrefl,
    ↓reduceIte]
  cases form with
  | full =>
    have := propBlock_length_pos ps
    have hL : (sProps ps).length ≤ 268435455 := by
      simp only [ackBody_full_length, propBlock_length] at hlen; omega
    have h2 : ¬ 3 + (propBlock ps).length = 2 := by omega
    have h4 : ¬ 3 + (propBlock ps).length < 4 := by omega
    simp only [ackBody_full_length, h2, h4, ↓reduceIte]
    simp only [ackBody, List.append_assoc, dNzU16_s pid hp0 hp1, dReason_s ok reason hr256 hok, dVar_propBlock' ps hL,
      Res.bind_ok, Nat.lt_irrefl, ↓reduceIte, foldProps_whole hf (foldO_ack ps hf _)]
    simp [expectedAck, AckRx.withProps]
  | reasonOnly =>
    simp only [List.isEmpty_iff] at hf; subst hf
    simp only [ackBody, dNzU16_s pid hp0 hp1, dReason_s' ok reason hr256 hok, Res.bind_ok]
    simp [expectedAck]
  | idOnly =>
    simp only [Bool.and_eq_true, beq_iff_eq, List.isEmpty_iff] at hf
    obtain ⟨rfl, rfl⟩ := hf
    simp only [ackBody, dNzU16_s' pid hp0 hp1, Res.bind_ok]
    simp [expectedAck]

theorem find_none_of_legal {legal multi : List Nat} {ps : List Property} (h : propsOk legal multi ps = true)
    {i : Nat} (hi : legal.contains i = false) : find i ps = none := by
  apply find_none
  simp only [propsOk, Bool.and_eq_true, List.all_eq_true] at h
  simp only [List.all_eq_true, bne_iff_ne, ne_eq]
  intro q hq hc
  have := (h.1 q hq).1
  rw [hc, hi] at this
  exact absurd this (by simp)

theorem getBytes_isSome {i : Nat} (hk : propKind i = some .str) (ht : wireType i = some .utf8) {ps : List Property}
    (hv : ∀ p ∈ ps, valOk p.id p.val = true) (ha : (ps.any fun q => q.id == i) = true) :
    (getBytes i ps).isSome = true := by
  induction ps with
  | nil => simp at ha
  | cons p ps ih =>
    obtain ⟨j, v⟩ := p
    by_cases hj : j = i
    · subst hj
      cases valOk_kind' (hv ⟨j, v⟩ (by simp)) hk ht
      simp
    · have ha' : (ps.any fun q => q.id == i) = true := by
        simp only [List.any_cons, Bool.or_eq_true, beq_iff_eq] at ha
        rcases ha with ha | ha
        · exact absurd ha hj
        · exact ha
      rw [(get_cons_ne _ _ hj).2.2]
      exact ih (fun q hq => hv q (by simp [hq])) ha'

/-- all three forms; `hf` is the condition `Spec.wf` puts on the form -/
theorem decDisconnect_spec (form : DiscForm) (reason : Nat) (ps : List Property) (hr : reason < 256)
    (hok : disconnectReasonOk reason = true)
    (hf : (match form with
      | .full => propsOk disconnectPropIds [38] ps
      | .reasonOnly => ps.isEmpty
      | .empty => reason == 0 && ps.isEmpty) = true)
    (hlen : (body (.disconnect form reason ps)).length ≤ 268435455) :
    (decDisconnect (frame 224 (body (.disconnect form reason ps)))).map .disconnect =
      .ok (expected (.disconnect form reason ps)) := by
  unfold decDisconnect
  simp only [dU8_frame _ _ (by decide : 224 < 256), dVar_body _ hlen, Res.bind_ok, ne_eq, not_true_eq_false,
    gt_iff_lt, Nat.lt_irrefl, ↓reduceIte]
  cases form with
  | full =>
    simp only at hf
    have := propBlock_length_pos ps
    have hL : (sProps ps).length ≤ 268435455 := by
      simp only [body, List.length_append, propBlock_length] at hlen; omega
    have h0 : ¬ 1 + (propBlock ps).length = 0 := by omega
    have h1 : ¬ (propBlock ps).length = 0 := by omega
    simp only [body, List.length_append, sU8_length, h0, ↓reduceIte, dReason_s _ reason hr hok, Res.bind_ok, h1,
      dVar_propBlock' ps hL, Nat.lt_irrefl, foldProps_whole hf (foldO_disconnect ps hf _)]
    simp [expected, DisconnectRx.withProps, getNum, find_none_of_legal hf (i := 17) (by decide)]
  | reasonOnly =>
    simp only [List.isEmpty_iff] at hf; subst hf
    simp only [body, sU8_length, Nat.succ_ne_self, ↓reduceIte, dReason_s' _ reason hr hok, Res.bind_ok]
    simp [expected]
  | empty =>
    simp only [Bool.and_eq_true, beq_iff_eq, List.isEmpty_iff] at hf
    obtain ⟨rfl, rfl⟩ := hf
    simp [body, expected]

/-- both forms; `hf` is the condition `Spec.wf` puts on the form -/
theorem decAuth_spec (form : AuthForm) (reason : Nat) (ps : List Property) (hr : reason < 256)
    (hok : authReasonOk reason = true)
    (hf : (match form with
      | .full => propsOk authPropIds [38] ps && ps.any fun q => q.id == 21
      | .empty => reason == 0 && ps.isEmpty) = true)
    (hlen : (body (.auth form reason ps)).length ≤ 268435455) :
    (decAuth (frame 240 (body (.auth form reason ps)))).map .auth = .ok (expected (.auth form reason ps)) := by
  unfold decAuth
  simp only [dU8_frame _ _ (by decide : 240 < 256), dVar_body _ hlen, Res.bind_ok, ne_eq, not_true_eq_false,
    ↓reduceIte]
  cases form with
  | full =>
    simp only [Bool.and_eq_true] at hf
    obtain ⟨hps, hm⟩ := hf
    have := propBlock_length_pos ps
    have hL : (sProps ps).length ≤ 268435455 := by
      simp only [body, List.length_append, propBlock_length] at hlen; omega
    have h0 : ¬ 1 + (propBlock ps).length = 0 := by omega
    have h1 : ¬ 1 + (propBlock ps).length > (frame 240 (sU8 reason ++ propBlock ps)).length := by
      simp only [frame_cons, List.length_cons, List.length_append, sU8_length]; omega
    have hsome : (getBytes 21 ps).isSome = true := by
      exact getBytes_isSome rfl rfl (propsOk_valOk hps) hm
    simp only [body, List.length_append, sU8_length, h0, h1, ↓reduceIte, dReason_s _ reason hr hok, Res.bind_ok,
      dVar_propBlock' ps hL, gt_iff_lt, Nat.lt_irrefl, foldProps_whole hps (foldO_auth ps hps _)]
    simp [expected, AuthRx.valid, hsome, AuthRx.withProps]
  | empty =>
    simp only [Bool.and_eq_true, beq_iff_eq, List.isEmpty_iff] at hf
    obtain ⟨rfl, rfl⟩ := hf
    simp [body, expected]

theorem decReasons_map (ok : Nat → Bool) (rs : List Nat) (h : ∀ r ∈ rs, ok r = true ∧ r < 256) :
    decReasons ok (rs.map UInt8.ofNat) = .ok rs := by
  induction rs with
  | nil => rfl
  | cons r rs ih =>
    obtain ⟨h1, h2⟩ := h r (by simp)
    have e : r % 256 = r := by omega
    simp [decReasons, e, h1, ih (fun q hq => h q (by simp [hq]))]

theorem decSubackLike_spec (hdr : Nat) (ok : Nat → Bool) (pid : Nat) (ps : List Property) (rs : List Nat)
    (hh : hdr < 256) (hp : pidOk pid = true) (hps : propsOk subackPropIds [38] ps = true)
    (hrs : ∀ r ∈ rs, ok r = true ∧ r < 256)
    (hlen : (sU16 pid ++ propBlock ps ++ rs.map UInt8.ofNat).length ≤ 268435455) :
    decSubackLike hdr ok (frame hdr (sU16 pid ++ propBlock ps ++ rs.map UInt8.ofNat)) =
      .ok (expectedSuback pid ps rs) := by
  obtain ⟨hp0, hp1⟩ := pidOk_range hp
  have hL : (sProps ps).length ≤ 268435455 := by
    simp only [List.length_append, propBlock_length, sU16_length] at hlen; omega
  unfold decSubackLike
  simp only [dU8_frame _ _ hh, dVar_body _ hlen, Res.bind_ok, ne_eq, not_true_eq_false, gt_iff_lt, Nat.lt_irrefl,
    ↓reduceIte]
  simp only [List.append_assoc, dNzU16_s pid hp0 hp1, dVar_propBlock ps hL, Res.bind_ok, not_length_gt_append,
    ↓reduceIte, foldProps_take hps (foldO_suback ps hps _), advanceBy_append, decReasons_map ok rs hrs]
  simp [expectedSuback, SubackRx.withProps]

theorem pubHdr_facts (dup : Bool) (qos : Nat) (retain : Bool) (hq : qos ≤ 2) :
    let H := 0x30 + (if dup then 8 else 0) + 2 * qos + (if retain then 1 else 0)
    H < 256 ∧ H / 16 = 3 ∧ H / 2 % 4 = qos ∧ decide (H / 8 % 2 = 1) = dup ∧ decide (H % 2 = 1) = retain := by
  intro H
  have hd := b2n_le dup; have hr := b2n_le retain
  have e : H = 48 + b2n dup * 8 + 2 * qos + b2n retain * 1 := by simp only [H, ite_eq_b2n_mul]
  have hlt : H < 256 := by omega
  have hH : H = ((3 * 2 + b2n dup) * 4 + qos) * 2 + b2n retain := by omega
  clear_value H
  obtain ⟨d2, m2⟩ : H / 2 = _ ∧ H % 2 = b2n retain := hH ▸ div_mod_field (Nat.lt_succ_of_le hr)
  obtain ⟨d8, m8⟩ := field_step (m := 2) d2 (Nat.lt_succ_of_le (Nat.le_succ_of_le hq))
  obtain ⟨d16, m16⟩ := field_step (m := 8) d8 (Nat.lt_succ_of_le hd)
  exact ⟨hlt, d16, m8, decide_eq_one_of_eq_b2n m16, decide_eq_one_of_eq_b2n m2⟩

theorem body_publish (dup : Bool) (qos : Nat) (retain : Bool) (topic : Bytes) (pid : Option Nat) (ps : List Property)
    (payload : Bytes) :
    body (.publish dup qos retain topic pid ps payload) =
      sStr topic ++ ((pid.map sU16).getD [] ++ (propBlock ps ++ payload)) := by
  cases pid <;> simp [body]

/-- the packet identifier: present exactly when QoS > 0 (`f` is the decoder's repacking of identifier and rest) -/
theorem dPid_s (qos : Nat) (pid : Option Nat) (hnone : pid = none → qos = 0)
    (hsome : ∀ i, pid = some i → qos > 0 ∧ pidOk i = true) (r : Bytes) (f : Nat × Bytes → Option Nat × Bytes)
    (hf : ∀ i d, f (i, d) = (some i, d)) :
    (if qos = 0 then Res.ok (none, (pid.map sU16).getD [] ++ r) else (dNzU16 ((pid.map sU16).getD [] ++ r)).map f) =
      .ok (pid, r) := by
  cases pid with
  | none => simp [hnone rfl]
  | some i =>
    obtain ⟨hq0, hi⟩ := hsome i rfl
    obtain ⟨hi0, hi1⟩ := pidOk_range hi
    simp [Nat.ne_of_gt hq0, dNzU16_s i hi0 hi1, hf]

theorem decPublish_spec (H : Nat) (dup : Bool) (qos : Nat) (retain : Bool) (topic : Bytes) (pid : Option Nat)
    (ps : List Property) (payload : Bytes)
    (hH : H < 256) (h16 : H / 16 = 3) (hq : H / 2 % 4 = qos) (hd : decide (H / 8 % 2 = 1) = dup)
    (hr : decide (H % 2 = 1) = retain) (hq2 : qos ≤ 2) (ht : strOk topic = true)
    (hnone : pid = none → qos = 0) (hsome : ∀ i, pid = some i → qos > 0 ∧ pidOk i = true)
    (hps : propsOk publishPropIds [38, 11] ps = true)
    (hlen : (body (.publish dup qos retain topic pid ps payload)).length ≤ 268435455) :
    (decPublish (frame H (body (.publish dup qos retain topic pid ps payload)))).map .publish =
      .ok (expected (.publish dup qos retain topic pid ps payload)) := by
  have hL : (sProps ps).length ≤ 268435455 := by
    simp only [body_publish, List.length_append, propBlock_length] at hlen; omega
  have hq3 : ¬ qos = 3 := by omega
  unfold decPublish
  simp only [dU8_frame _ _ hH, dVar_body _ hlen, Res.bind_ok, h16, hq, hq3, hd, hr, ne_eq, not_true_eq_false,
    ↓reduceIte, gt_iff_lt, Nat.lt_irrefl]
  simp only [body_publish, dStr_s topic ht, dPid_s qos pid hnone hsome, implies_true, dVar_propBlock ps hL, Res.bind_ok,
    not_length_gt_append, ↓reduceIte, foldProps_take hps (foldO_publish ps hps _), advanceBy_append]
  simp [expected, PublishRx.withProps]

theorem dBool_flags (flags : Nat) (h : flags ≤ 1) (r : Bytes) : dBool (sU8 flags ++ r) = .ok (flags == 1, r) := by
  have : flags = 0 ∨ flags = 1 := by omega
  rcases this with rfl | rfl
  · exact dBool_s false r
  · exact dBool_s true r

theorem decConnack_spec (flags reason : Nat) (ps : List Property) (hf : flags ≤ 1) (hr : reason < 256)
    (hok : connectReasonOk reason = true) (hps : propsOk connackPropIds [38] ps = true)
    (hlen : (body (.connack flags reason ps)).length ≤ 268435455) :
    (decConnack (frame 32 (body (.connack flags reason ps)))).map .connack =
      .ok (expected (.connack flags reason ps)) := by
  have hL : (sProps ps).length ≤ 268435455 := by
    simp only [body, List.length_append, propBlock_length] at hlen; omega
  have hfl : ¬ 1 + (sVar (body (.connack flags reason ps)).length).length + (body (.connack flags reason ps)).length >
      (frame 32 (body (.connack flags reason ps))).length := by
    simp only [frame_cons, List.length_cons, List.length_append]; omega
  unfold decConnack
  simp only [dU8_frame _ _ (by decide : 32 < 256), dVar_body _ hlen, Res.bind_ok, hfl, ne_eq, Nat.reduceDiv,
    not_true_eq_false, ↓reduceIte]
  simp only [body, List.append_assoc, dBool_flags flags hf, dReason_s _ reason hr hok, dVar_propBlock' ps hL,
    Res.bind_ok, ↓reduceIte, gt_iff_lt, Nat.lt_irrefl, foldProps_whole hps (foldO_connack ps hps _)]
  simp [expected, ConnackRx.withProps]

theorem decodeRx_frame (hdr : Nat) (body : Bytes) (hh : hdr < 256) :
    decodeRx (frame hdr body) =
      match hdr / 16 with
      | 2 => (decConnack (frame hdr body)).map .connack
      | 3 => (decPublish (frame hdr body)).map .publish
      | 4 => (decAck 0x40 pubackReasonOk (frame hdr body)).map .puback
      | 5 => (decAck 0x50 pubrecReasonOk (frame hdr body)).map .pubrec
      | 6 => (decAck 0x62 pubrelReasonOk (frame hdr body)).map .pubrel
      | 7 => (decAck 0x70 pubcompReasonOk (frame hdr body)).map .pubcomp
      | 9 => (decSubackLike 0x90 subackReasonOk (frame hdr body)).map .suback
      | 11 => (decSubackLike 0xb0 unsubackReasonOk (frame hdr body)).map .unsuback
      | 13 => (dU8 (frame hdr body)).bind fun (h, _) => if h ≠ 0xd0 then .err else .ok .pingresp
      | 14 => (decDisconnect (frame hdr body)).map .disconnect
      | 15 => (decAuth (frame hdr body)).map .auth
      | _ => .err := by
  have e : (UInt8.ofNat hdr).toNat = hdr := by rw [u8_toNat_ofNat, Nat.mod_eq_of_lt hh]
  rw [frame_cons]
  unfold decodeRx
  simp only [e]
  rfl

/-! The four acknowledgement types, and SUBACK / UNSUBACK, differ among themselves only in the first byte, the reason
table and the constructors; what a proof needs to know about one of them are the `rfl` facts `hhdr` … `hexp`. -/

theorem decodeRx_ackLike {p : ServerPacket} {hdr : Nat} {ok : Nat → Bool} {codes : List Nat} {form : AckForm}
    {pid reason : Nat} {props : List Property} {mk : AckRx → RxPacket}
    (hh : hdr < 256) (htab : (codes.all fun r => ok r && decide (r < 256)) = true)
    (hhdr : header p = hdr) (hbody : body p = ackBody form pid reason props)
    (hdisp : ∀ bs, decodeRx (UInt8.ofNat hdr :: bs) = (decAck hdr ok (UInt8.ofNat hdr :: bs)).map mk)
    (hexp : expected p = mk (expectedAck pid reason props))
    (hlen : (body p).length ≤ varIntMax) (hok : ackOk codes form pid reason props = true) :
    decodeRx (encodeServer p) = .ok (expected p) := by
  rw [hbody] at hlen
  rw [encodeServer, hhdr, hbody, hexp, frame_cons, hdisp, ← frame_cons,
    decAck_spec hdr ok codes form pid reason props hh htab hok hlen]
  rfl

theorem decodeRx_subackLike {p : ServerPacket} {hdr : Nat} {ok : Nat → Bool} {codes : List Nat} {pid : Nat}
    {props : List Property} {reasons : List Nat} {mk : SubackRx → RxPacket}
    (hh : hdr < 256) (htab : (codes.all fun r => ok r && decide (r < 256)) = true)
    (hhdr : header p = hdr) (hbody : body p = sU16 pid ++ propBlock props ++ reasons.map UInt8.ofNat)
    (hdisp : ∀ bs, decodeRx (UInt8.ofNat hdr :: bs) = (decSubackLike hdr ok (UInt8.ofNat hdr :: bs)).map mk)
    (hexp : expected p = mk (expectedSuback pid props reasons))
    (hlen : (body p).length ≤ varIntMax) (hp : pidOk pid = true) (hps : propsOk subackPropIds [38] props = true)
    (hrs : ∀ r ∈ reasons, codes.contains r = true) :
    decodeRx (encodeServer p) = .ok (expected p) := by
  rw [hbody] at hlen
  rw [encodeServer, hhdr, hbody, hexp, frame_cons, hdisp, ← frame_cons,
    decSubackLike_spec hdr ok pid props reasons hh hp hps (fun r hr => table_ok htab (hrs r hr)) hlen]
  rfl

/-- `Spec.WF p` (and `¬ Spec.WF p`) for a concrete packet `p` is a closed Boolean computation. The elaborator's `decide`
    gives up on it because `utf8Valid` is defined by well-founded recursion, which it does not unfold; the kernel
    evaluates it, so the evaluation is left to the kernel. -/
macro "wf_concrete" : tactic => `(tactic| decide +kernel)

end Poster

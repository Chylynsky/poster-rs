/-
  Lemmas/WorldCancelEx.lean — concrete scripts, evaluated stage by stage (after `stage1`, `stage2` of
  Lemmas/WorldOpsEx.lean), for the non-vacuity examples of Properties/C15World.lean: a QoS 1 publish whose future is
  dropped before its PUBACK arrives (the late acknowledgement frees the slot), a QoS 2 publish whose future is dropped
  between its two phases (known finding K1). The `subscribe()` scripts (`q3`, `q4`, `q5`) are in Lemmas/WorldOpsEx.lean.
-/
import PosterModel.Lemmas.WorldCancelK1
import PosterModel.Lemmas.WorldCancelBothScript
import PosterModel.Lemmas.WorldOpsEx

namespace Poster
open Framing
namespace World
namespace W11

/-- PUBACK / PUBREC for packet identifier 1, short form (reason 0) -/
def pubackFr : Bytes := [0x40, 2, 0, 1]
def pubrecFr : Bytes := [0x50, 2, 0, 1]

theorem dec_pubackFr : decodeRx pubackFr = .ok (.puback { packetId := 1 }) := Ex.dec_pubackBytes
theorem dec_pubrecFr : decodeRx pubrecFr = .ok (.pubrec { packetId := 1 }) := by decide
theorem pn_pubackFr : pollNext {} [.data pubackFr] = ({}, [], .item pubackFr) := Ex.pn_pubackBytes
theorem pn_pubrecFr : pollNext {} [.data pubrecFr] = ({}, [], .item pubrecFr) :=
  Ex.pollNext_whole _ (by decide) (by decide) (by decide)

/-- `setup, run, publish(QoS 1)`: the PUBLISH (packet identifier 1) is on the wire, one flow-control slot is taken, the
    future of operation 1 waits for its PUBACK on oneshot 2 -/
def l3 : World :=
  { s2 with c := { awaiting := [(actionId 4 1, 2)], retx := [(actionId 4 1, [58, 6, 0, 1, 97, 0, 1, 0])],
                   quota := 65534 },
            ops := [(1, .wait 2 .puback)], slots := [(2, .empty)], slotReg := [2], pidCtr := 2, written := 8,
            out := s2.out ++ [.ev (.op 1 0 pubReq), .wire [50, 6, 0, 1, 97, 0, 1, 0]] }

/-- the future is dropped: its oneshot is gone, the context still has the waiter and the slot -/
def l4 : World := { l3 with ops := [], slots := [], slotReg := [], out := l3.out ++ [.ev (.drop (.op 1))] }

/-- the PUBACK arrives: bookkeeping done, slot free again, nothing logged but the event -/
def l5 : World := { l4 with c := {}, out := l4.out ++ [.ev (.feed [pubackFr])] }

/-- `setup, run, publish(QoS 1), drop the future, PUBACK`: the script whose last three stages are `l3`, `l4`, `l5` -/
def evsLate : List Ev := [.setup, .run, .op 1 0 pubReq, .drop (.op 1), .feed [pubackFr]]

theorem late3 : s2.step (.op 1 0 pubReq) = l3 := by
  refine step_eq s2 _ l3 (by decide) (by decide) ?_ (by decide) (by decide)
  rw [drain_pick _ _ (.op 1) (by decide) (by decide), drain_pick _ _ .ctx (by decide) (by decide),
    pollTask_ctx_msg _ (.awaitAck (actionId 4 1) [50, 6, 0, 1, 97, 0, 1, 0] 2)
      (by decide) (by decide) (by decide) (by decide) (by decide) (by decide)]
  rw [drain_none _ _ (by decide)]
  decide

theorem late4 : l3.step (.drop (.op 1)) = l4 := by decide

theorem late5 : l4.step (.feed [pubackFr]) = l5 := by
  refine step_eq l4 _ l5 (by decide) (by decide) ?_ (by decide) (by decide)
  rw [drain_pick _ _ .ctx (by decide) (by decide),
    pollTask_ctx_frame _ pubackFr (.puback { packetId := 1 }) (by decide) (by decide) (by decide) pn_pubackFr dec_pubackFr (by decide)]
  rw [drain_none _ _ (by decide)]
  decide

theorem evsLate_foldl3 : [Ev.setup, .run, .op 1 0 pubReq].foldl World.step {} = l3 := by
  simp only [List.foldl_cons, List.foldl_nil]
  rw [stage1, stage2, late3]

theorem evsLate_foldl : evsLate.foldl World.step {} = l5 := by
  simp only [evsLate, List.foldl_cons, List.foldl_nil]
  rw [stage1, stage2, late3, late4, late5]

def pubReq2 : Req := .publish { qos := 2, topic := some [0x61] }

def k3 : World :=
  { s2 with c := { awaiting := [(actionId 5 1, 2)], retx := [(actionId 5 1, [60, 6, 0, 1, 97, 0, 1, 0])],
                   quota := 65534 },
            ops := [(1, .wait 2 .pubrec)], slots := [(2, .empty)], slotReg := [2], pidCtr := 2, written := 8,
            out := s2.out ++ [.ev (.op 1 0 pubReq2), .wire [52, 6, 0, 1, 97, 0, 1, 0]] }

def k4 : World := { k3 with held := [.op 1], out := k3.out ++ [.ev (.hold (.op 1))] }

/-- the PUBREC (reason 0) is in the oneshot of the held future: the first phase is over, the retransmission entry of
    the PUBLISH is gone, the slot stays taken -/
def k5 : World :=
  { k4 with c := { quota := 65534 }, slots := [(2, .full (.pkt (.pubrec { packetId := 1 })))], slotReg := [],
            woken := [.op 1], out := k4.out ++ [.ev (.feed [pubrecFr])] }

/-- the future is dropped before it was polled again: nobody is left to send the PUBREL -/
def k6 : World := { k5 with ops := [], slots := [], out := k5.out ++ [.ev (.drop (.op 1))] }

def evsK1 : List Ev := [.setup, .run, .op 1 0 pubReq2, .hold (.op 1), .feed [pubrecFr], .drop (.op 1)]

theorem k1_3 : s2.step (.op 1 0 pubReq2) = k3 := by
  refine step_eq s2 _ k3 (by decide) (by decide) ?_ (by decide) (by decide)
  rw [drain_pick _ _ (.op 1) (by decide) (by decide), drain_pick _ _ .ctx (by decide) (by decide),
    pollTask_ctx_msg _ (.awaitAck (actionId 5 1) [52, 6, 0, 1, 97, 0, 1, 0] 2)
      (by decide) (by decide) (by decide) (by decide) (by decide) (by decide)]
  rw [drain_none _ _ (by decide)]
  decide

theorem k1_4 : k3.step (.hold (.op 1)) = k4 := by decide

theorem k1_5 : k4.step (.feed [pubrecFr]) = k5 := by
  refine step_eq k4 _ k5 (by decide) (by decide) ?_ (by decide) (by decide)
  rw [drain_pick _ _ .ctx (by decide) (by decide),
    pollTask_ctx_frame _ pubrecFr (.pubrec { packetId := 1 }) (by decide) (by decide) (by decide) pn_pubrecFr dec_pubrecFr (by decide)]
  rw [drain_none _ _ (by decide)]
  decide

theorem k1_6 : k5.step (.drop (.op 1)) = k6 := by decide

theorem evsK1_foldl : evsK1.foldl World.step {} = k6 := by
  simp only [evsK1, List.foldl_cons, List.foldl_nil]
  rw [stage1, stage2, k1_3, k1_4, k1_5, k1_6]

end W11
end World
end Poster

/-
  Lemmas/WorldReach.lean — along every script the framing state stays reachable (`Framing.Reach`) and no
  `PANIC ctx other` is ever logged: the two facts are carried together (`Safe`) through `pollTask`, `apply` and,
  by `StepsAny.rel`, whole scripts under every resolution.
-/
import PosterModel.Lemmas.WorldPanic
import PosterModel.Lemmas.WorldDrop
import PosterModel.Lemmas.WorldAny

namespace Poster
open Framing
namespace World

def NotOther (o : Obs) : Prop := o ≠ .panic .ctx "other"

/-- the framing state of `w'` is reachable and `w'` extends the log of `w` without a decoder panic -/
def Safe (w w' : World) : Prop := Reach w'.rx ∧ OutExtP NotOther w w'

theorem safe_refl (w : World) (h : Reach w.rx) : Safe w w := ⟨h, outExtP_refl _ _⟩
theorem safe_trans {a b c : World} (h1 : Safe a b) (h2 : Safe b c) : Safe a c :=
  ⟨h2.1, outExtP_trans h1.2 h2.2⟩
theorem safe_of_eq {w w' : World} (hr : Reach w.rx) (h1 : w'.rx = w.rx) (h2 : w'.out = w.out) : Safe w w' :=
  ⟨h1 ▸ hr, outExtP_of_eq h2⟩
theorem safe_emit (w : World) (o : Obs) (hr : Reach w.rx) (ho : NotOther o) : Safe w (w.emit o) :=
  ⟨hr, outExtP_one o rfl ho⟩

theorem pollCtxS_reach (sched : Nat → Bool) (w : World) (hr : Reach w.rx) : Reach (w.pollCtxS sched).rx :=
  pollCtxS_via (R := fun w w' => Reach w.rx → Reach w'.rx) (fun f g h => g (f h)) (fun i => i.reach) (fun _ h => h)
    (fun w m q _ h => by simpa using h) (fun w rx' rd' fr p hp _ h => by simpa using pollNext_reach hp h)
    (fun w h => by simpa [resumed] using h) sched w hr

theorem pollCtxS_safe (sched : Nat → Bool) (w : World) (hr : Reach w.rx) : Safe w (w.pollCtxS sched) := by
  refine ⟨pollCtxS_reach sched w hr, outExtP_mono (pollCtxS_panics sched w) fun o ho => ?_⟩
  rcases ho with hc | ⟨he, _⟩ | ⟨he, rx, rd, rx', rd', fr, h1, h2, h3⟩
  · exact hc _ _
  · subst he; intro h; simp at h
  · exact absurd h3 (no_decoder_panic (h1 hr) h2)

theorem pollTaskAny_safe {w : World} {t : Task} {w' : World} (hp : PollTaskAny w t w') (hr : Reach w.rx) :
    Safe w w' := by
  rcases pollTaskAny_cases hp with ⟨rfl, sched, rfl⟩ | ⟨ht, rfl⟩
  · exact pollCtxS_safe sched (w.unwake .ctx) hr
  · have m := pollTask_userMove w t ht
    refine ⟨m.frame.rx ▸ hr, outExtP_mono (outExtP_of_out m.out) fun o ho => ?_⟩
    exact ho.user (P := NotOther) ht (fun _ _ => nofun) (fun _ => nofun) (fun _ _ => nofun) (fun _ => nofun)

theorem pollTask_safe (w : World) (t : Task) (hr : Reach w.rx) : Safe w (w.pollTask t) :=
  pollTaskAny_safe (pollTaskAny_pollTask w t) hr

theorem dropOp_rx_out (w : World) (id : Nat) : (w.dropOp id).rx = w.rx ∧ (w.dropOp id).out = w.out :=
  ⟨(dropOp_userFrame w id).rx, dropOp_out w id⟩

theorem flushRaw_safe (w : World) (hr : Reach w.rx) : Safe w w.flushRaw :=
  ⟨by obtain ⟨ou, wp, e⟩ := flushRaw_frame w; rw [e]; exact hr, flushRaw_outExtP w (by intro h; cases h)⟩

theorem applied_safe {w w' : World} {e : Ev} (h : Applied w e w') (hr : Reach w.rx) : Safe w w' := by
  cases h.norm with
  | bad => exact ⟨hr, outExtP_one .badscript rfl (by intro h; cases h)⟩
  | poll t _ => exact pollTask_safe w t hr
  | newCtx => exact ⟨Reach.init, outExtP_of_eq rfl⟩
  | newConn ou wp e =>
    have h := (flushRaw_safe w hr).2
    rw [e] at h; exact ⟨Reach.init, h⟩
  | snap => exact safe_emit w _ hr (by intro h; cases h)
  | _ => exact safe_of_eq hr rfl rfl
theorem apply_safe (w : World) (e : Ev) (hr : Reach w.rx) : Safe w (w.apply e) := applied_safe (apply_spec w e) hr

theorem stepsAny_safe {w : World} {evs : List Ev} {w' : World} (h : StepsAny w evs w') (hr : Reach w.rx) :
    Safe w w' :=
  StepsAny.rel (R := fun a b => Reach a.rx → Safe a b) safe_refl (fun h1 h2 hr => safe_trans (h1 hr) (h2 (h1 hr).1))
    (fun _ hp hr => pollTaskAny_safe hp hr) (fun e _ w => apply_safe w e)
    (fun x o ho hr => safe_emit x o hr (by rcases ho with ⟨e, _, rfl⟩ | rfl <;> (intro h; cases h))) h hr

theorem RunAny.no_other {cfg : Cfg} {evs : List Ev} {out : List Obs} (h : RunAny cfg evs out) :
    Obs.panic .ctx "other" ∉ out := fun hm =>
  h.of_outExtP (fun hw => (stepsAny_safe hw Reach.init).2) (fun _ h => nomatch h) _ hm rfl

theorem steps_safe (evs : List Ev) (w : World) (hr : Reach w.rx) : Safe w (evs.foldl step w) :=
  stepsAny_safe (stepsAny_foldl evs w) hr

theorem step_safe (w : World) (e : Ev) (hr : Reach w.rx) : Safe w (w.step e) := steps_safe [e] w hr

end World
end Poster

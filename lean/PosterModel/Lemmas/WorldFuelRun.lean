/-
  No poll of the context task adds a registration or touches the table of operations, and none increases the
  potential `W5.phi` where `RegE` holds (`CtxPot`: one walk of the poll for both). Every iteration of the `select!` loop consumes a queued message or
  a frame whose bytes pay for the deliveries it causes; the poll ends by finishing the future, or pending — and
  if it re-flags itself it has consumed a `pending` event of the reader.
-/
import PosterModel.Lemmas.WorldFuelCtx

namespace Poster
open Framing
namespace World
namespace W5

set_option linter.unusedVariables false in
theorem phi_le_of_rewake {w w' : World} (ht : w'.task ≠ .none → w.task ≠ .none)
    (hs : w'.senders ≠ 0 → w.senders ≠ 0) (hc : Task.ctx ∉ w.woken ∨ w.task = .none)
    (hm : mu w'.rx w'.reader + 1 ≤ mu w.rx w.reader) (hu : phiU w' ≤ phiU w) : phi w' ≤ phi w + 0 := by
  have h2 := ctxZ_le ht hs
  have h1 := ctxFlag_le_one w'
  unfold phi; omega

/-- registrations only shrink, the table of operations stays, and — the registration invariant given — the potential
    does not grow -/
def CtxPot (w w' : World) : Prop := RegSub w w' ∧ (RegE w → phi w' ≤ phi w)

theorem CtxPot.refl (w : World) : CtxPot w w := ⟨RegSub.refl w, fun _ => Nat.le_refl _⟩

theorem CtxPot.trans {a b c : World} (h1 : CtxPot a b) (h2 : CtxPot b c) : CtxPot a c :=
  ⟨RegSub.trans h1.1 h2.1, fun hr => Nat.le_trans (h2.2 (regE_of_regSub h1.1 hr)) (h1.2 hr)⟩

theorem CtxPot.of_le {w w' : World} (h : phi w' ≤ phi w) (h1 : w'.ops = w.ops) (h2 : w'.slotReg = w.slotReg) :
    CtxPot w w' := ⟨RegSub.of_eq h1 h2, fun _ => h⟩

/-- effects applied to `w0` (= `w` with queue / framing / session state replaced), paid for by the framing measure -/
theorem CtxPot.of_effStep {w w0 w' : World} {d : Nat} (h : EffStep d w0 w') (f : PhiFrame w w0)
    (e1 : w0.task ≠ .none → w.task ≠ .none) (e5 : w0.slotReg = w.slotReg)
    (hmu : mu w0.rx w0.reader + d ≤ mu w.rx w.reader) : CtxPot w w' := by
  obtain ⟨u, hu⟩ := h
  have r0 : RegSub w w0 := RegSub.of_eq f.ops e5
  refine ⟨RegSub.trans r0 u.reg, fun hr => ?_⟩
  exact phi_le_of (a := d) (by rw [u.task_eq]; exact e1)
    (fun _ hc => by rw [← f.woken]; exact u.ctxW.mp hc) (by rw [u.senders, f.senders]; exact id)
    (by rw [u.rx_eq, u.reader_eq]; exact hmu) (by rw [← f.phiU_eq]; exact hu (regE_of_regSub r0 hr))

theorem ctxPot_msg (w : World) (m : Msg) (q : List Msg) :
    CtxPot w (World.runHandler { w with queue := q } (fun wok => w.c.handleMsg m wok)).1 :=
  .of_effStep
    (runHandler_effStep { w with queue := q } (fun wok => w.c.handleMsg m wok) 0 (fun b => by simp [handleMsg_nDeliver]))
    rfl (fun h => h) rfl (Nat.le_refl _)

/-- handling a packet delivers at most one message per subscription identifier, and the frame it came in is that long -/
theorem ctxPot_pkt (w : World) {rx' : Rx} {rd' : List ReadEv} {fr : Bytes} {p : RxPacket}
    (hp : pollNext w.rx w.reader = (rx', rd', .item fr)) (hd : decodeRx fr = .ok p) :
    CtxPot w (World.runHandler { w with rx := rx', reader := rd' } (fun wok => w.c.handlePkt w.chanRxAlive p wok)).1 := by
  have hs := runHandler_effStep { w with rx := rx', reader := rd' }
    (fun wok => w.c.handlePkt w.chanRxAlive p wok) (2 * subIdCount p)
    (fun b => by have := handlePkt_nDeliver w.c w.chanRxAlive p b; omega)
  have hm := pollNext_mu hp
  have hl := decodeRx_subIdCount fr p hd
  simp only [Out.len] at hm
  exact .of_effStep hs rfl (fun h => h) rfl (by show mu rx' rd' + _ ≤ _; omega)

theorem phi_dead_le {w w' : World} (ht : w'.task = .none) (hm : mu w'.rx w'.reader ≤ mu w.rx w.reader)
    (hu : phiU w' ≤ phiU w) : phi w' ≤ phi w := by
  unfold phi
  rw [ctxFlag_of_none ht, ctxZ_of_none ht]
  omega

theorem phi_dead_of_poll {w w' : World} {rx' : Rx} {rd' : List ReadEv} {o : Out}
    (hp : pollNext w.rx w.reader = (rx', rd', o)) (ht : w'.task = .none) (h1 : w'.rx = rx') (h2 : w'.reader = rd')
    (hu : phiU w' = phiU w) : phi w' ≤ phi w := by
  have hm := pollNext_mu hp
  exact phi_dead_le ht (by rw [h1, h2]; omega) (Nat.le_of_eq hu)

theorem phi_wake_ctx_le {w w0 : World} (f : PhiFrame w w0) (ht : w0.task ≠ .none → w.task ≠ .none)
    (hm : mu w0.rx w0.reader + 1 ≤ mu w.rx w.reader) : phi (w0.wake .ctx) ≤ phi w := by
  have h1 := ctxFlag_le_one (w0.wake .ctx)
  have h2 : ctxZ (w0.wake .ctx) ≤ ctxZ w := ctxZ_le (by rw [wake_task]; exact ht) (by
    show (w0.wake .ctx).handles.length + (w0.wake .ctx).ops.length ≠ 0 → _
    rw [wake_handles, wake_ops, f.handles, f.ops]; exact id)
  have a : opsPot (w0.wake .ctx) ≤ opsPot w :=
    opsPot_le_of_woken ((wake_ops _ _).trans f.ops) ((wake_held _ _).trans f.held) ((wake_slots _ _).trans f.slots)
      (fun id h => ((mem_wake_iff _ _ _).mp h).elim nofun fun h => f.woken ▸ h)
  have b : stPot (w0.wake .ctx) = stPot w :=
    stPot_congr ((wake_streams _ _).trans f.streams) ((wake_held _ _).trans f.held)
      (fun n => by rw [mem_wake_iff, f.woken]; exact or_iff_right Task.noConfusion) ((wake_chans _ _).trans f.chans)
  unfold phi phiU
  rw [wake_rx, wake_reader]
  omega

theorem phiU_finish (w : World) (call : Call) (r : RetRes) : phiU (w.finish call r) = phiU w := rfl

theorem finish_phi (w : World) (call : Call) (r : RetRes) : phi (w.finish call r) ≤ phi w :=
  phi_dead_le rfl (Nat.le_refl _) (Nat.le_refl _)

theorem resetSession_nDeliver (c : Ctx) : nDeliver c.resetSession.2 = 0 := by
  show nDeliver (_ ++ _) = 0
  rw [nDeliver_append]
  have h1 : ∀ l : List (Nat × Nat), nDeliver (l.map fun (_, s) => Eff.dropSlot s) = 0 := by
    intro l
    induction l with
    | nil => rfl
    | cons a t ih => exact ih
  have h2 : ∀ l : List (Nat × Nat), nDeliver (l.map fun (_, ch) => Eff.dropChan ch) = 0 := by
    intro l
    induction l with
    | nil => rfl
    | cons a t ih => exact ih
  rw [h1, h2]

theorem resume_nDeliver (c : Ctx) : nDeliver c.resume.2.1 = 0 := by
  rcases c.resume_cases with h | h | h <;> rw [h]
  · rfl
  · rfl
  · exact resetSession_nDeliver c

theorem ctxPot_request (w : World) (call : Call) (t : ConnectTx) (a : AuthTx) :
    CtxPot w ((W7.seiSet w call t).writeBytes (W7.reqBytes call t a)) := by
  obtain ⟨c', e⟩ : ∃ c', W7.seiSet w call t = { w with c := c' } := by cases call <;> exact ⟨_, rfl⟩
  obtain ⟨wr, ou, p, ew⟩ := writeBytes_shape ({ w with c := c' } : World) (W7.reqBytes call t a)
  rw [e, ew]
  exact .of_le (phi_le_of_frame rfl id (Nat.le_refl _)) rfl rfl

/-- `pck_fut` returned `Pending`, in the loop or in the wait of `connect()` / `authorize()` (`task`, `qr`: what the caller
    sets): the potential does not grow — if the task flags itself again, a `pending` read event was consumed -/
theorem ctxPot_arm (w : World) (rx' : Rx) (rd' : List ReadEv) (task : CtxTask) (qr : Bool)
    (htk : task ≠ .none → w.task ≠ .none) (hp : pollNext w.rx w.reader = (rx', rd', .pending)) :
    CtxPot w (armReader { w with rx := rx', reader := rd', task := task, queueReg := qr }) := by
  have hm := pollNext_mu hp
  simp only [Out.len] at hm
  unfold armReader
  by_cases hrd : rd' = []
  · rw [if_pos hrd]
    exact .of_le (phi_le_of_frame rfl htk (by show mu rx' rd' ≤ _; omega)) rfl rfl
  · rw [if_neg hrd]
    exact .of_le (phi_wake_ctx_le (w0 := { w with rx := rx', reader := rd', task := task, queueReg := qr })
      rfl htk (pollNext_mu_pending hp hrd)) (wake_ops _ _) (wake_slotReg _ _)

theorem ctxPot_adv (w : World) {rx' : Rx} {rd' : List ReadEv} {o : Out} (c : Ctx)
    (hp : pollNext w.rx w.reader = (rx', rd', o)) : CtxPot w { w with rx := rx', reader := rd', c := c } :=
  .of_le (phi_le_of_frame rfl id (Nat.le_of_add_right_le (pollNext_mu hp))) rfl rfl

theorem ctxPot_conn : ConnAcc () (fun _ _ => ()) (fun _ _ _ _ => ()) (fun _ _ => ()) (fun w w' _ => CtxPot w w') where
  refl := CtxPot.refl
  trans := CtxPot.trans
  mul_one := fun _ => rfl
  one_mul := fun _ => rfl
  request := fun w call t a _ _ => ctxPot_request w call t a
  connack := fun w _ _ _ _ _ _ _ k _ hp _ => ctxPot_adv w _ hp
  arm := fun w call t a _ rx' rd' ht hp =>
    ctxPot_arm w rx' rd' (.connecting call t a true) w.queueReg (fun _ => by rw [ht]; nofun) hp
  fin := fun w call _ _ _ r _ => .of_le (finish_phi w call r) rfl rfl
  adv := fun w _ _ _ hp => ctxPot_adv w w.c hp
  panic := fun _ _ _ _ _ _ _ => .of_le (phi_dead_le rfl (Nat.le_refl _) (Nat.le_refl _)) rfl rfl

theorem pollCtxS_pot (sched : Nat → Bool) (w : World) : CtxPot w (w.pollCtxS sched) := by
  have wr : ∀ (w : World) bs, CtxPot w (w.writeBytes bs) := fun w bs =>
    .of_effStep (w := w) (writeBytes_effStep w bs) rfl (fun h => h) rfl (Nat.le_refl _)
  have res : ∀ w : World, w.task ≠ .none → CtxPot w w.resumed := fun w hl => by
    have hA := applyEffs_effStep ({ w with c := w.c.resume.1, task := .running true } : World) w.c.resume.2.1
    rw [resume_nDeliver] at hA
    exact .of_effStep (w := w) hA rfl (fun _ => hl) rfl (Nat.le_refl _)
  exact LoopAcc.pollCtxS (L := Unit) (fi := fun _ _ => ()) (fr := fun _ => ()) (R := fun w w' _ => CtxPot w w')
    ⟨⟨CtxPot.refl, CtxPot.trans, fun _ => rfl, fun _ => rfl⟩, fun w m q _ => ctxPot_msg w m q,
      fun w rx' rd' fr p _ hp hd => ctxPot_pkt w hp hd, fun w rx' rd' qr hp => ctxPot_arm w rx' rd' w.task qr id hp,
      fun w res => .of_le (finish_phi _ _ _) rfl rfl, fun w rx' rd' o hp => ctxPot_adv w w.c hp,
      fun w rx' rd' fr hp hd => .of_le (phi_dead_of_poll hp rfl rfl rfl rfl) rfl rfl⟩
    ctxPot_conn
    (fun w hl => CtxPot.trans (res w hl) (foldl_lift CtxPot.refl CtxPot.trans (fun x p _ => wr x p) w.resumed))
    (fun w hl _ => CtxPot.trans (res w hl) (wr _ _)) w

end W5
end World
end Poster

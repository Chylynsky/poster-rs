/-
  Every poll of a flagged handle future that is not held strictly decreases the potential `W5.phi` where `OwnInv`
  holds (`pollOp_phi`; C04, quiescence of the drain). A poll either removes the operation from the table (it completes, fails or
  panics), or moves it one phase on (first poll → waiting; PUBREC received → waiting for PUBCOMP) queueing one
  message — the phases are priced so that the flag the context may get is paid for —, or it only registers the
  waker, which happens only when the operation was flagged although its oneshot had no value.
-/
import PosterModel.Lemmas.WorldFuelPot
import PosterModel.Lemmas.WorldOwn
import PosterModel.Lemmas.CtxBasic

namespace Poster
open Framing
namespace World
namespace W5

/-- what a poll of operation `id` knows about the table (in the world after `unwake`) -/
structure OpCtx (w : World) (id : Nat) (st : OpSt) : Prop where
  hst : w.opSt id = some st
  nodup : (w.ops.map (·.1)).Nodup
  others : ∀ id' s' k', (id', OpSt.wait s' k') ∈ w.ops → id' ≠ id → s' / 2 ≠ id
  unflag : Task.op id ∉ w.woken
  nh : Task.op id ∉ w.held

/-- the response channel of the operation is replaced or removed: at most 2 for the stream of the same name -/
theorem stPot_chan_le {w X : World} (id : Nat) (h9 : X.streams = w.streams) (h5 : X.held = w.held)
    (h7 : X.woken = w.woken) (hc : ∀ n, n ≠ id → lookupFirst n X.chans = lookupFirst n w.chans)
    (hb : bufSum X ≤ bufSum w) : stPot X ≤ stPot w + 2 := by
  have hsum : stSum X ≤ stSum w + 2 := by
    refine stSum_le_at id 2 h9 h5 (fun n hn => ?_) ?_ <;> rw [h7]
    · unfold stCost
      rw [hc n hn]
      exact Nat.le_refl _
    · by_cases hh : Task.st id ∈ w.held
      · unfold stCost
        simp [hh]
      · have b : 1 ≤ stCost w.held w.woken w.chans id := by
          unfold stCost
          simp only [hh, ↓reduceIte]
          split
          · split <;> omega
          · split <;> split <;> omega
        exact Nat.le_trans (stCost_le w.held w.woken X.chans id) (Nat.add_le_add_right b 2)
  unfold stPot
  rw [Nat.add_right_comm]
  exact Nat.add_le_add hsum hb

theorem opCost_ge_base (held woken : List Task) (slots : List (Nat × Slot)) (id : Nat) (st : OpSt)
    (h : Task.op id ∉ held) : opBase st ≤ opCost held woken slots (id, st) := by
  unfold opCost; simp only [h, ↓reduceIte]; omega

theorem opCost_unflagged (held woken : List Task) (slots : List (Nat × Slot)) (id : Nat) (st : OpSt)
    (h : Task.op id ∉ held) (hw : Task.op id ∉ woken) : opCost held woken slots (id, st) = opBase st := by
  unfold opCost
  simp only [h, ↓reduceIte]
  cases st with
  | fresh hd r => simp [opSpur]
  | wait s k => simp [opSpur, hw]

theorem opCost_other {w : World} {id : Nat} {st : OpSt} (hc : OpCtx w id st) (woken' : List Task)
    (slots' : List (Nat × Slot)) (hw : ∀ n, Task.op n ∈ woken' → Task.op n ∈ w.woken)
    (hs : ∀ s, s / 2 ≠ id → lookupFirst s slots' = lookupFirst s w.slots) (e : Nat × OpSt) (he : e ∈ w.ops)
    (hne : e.1 ≠ id) : opCost w.held woken' slots' e ≤ opCost w.held w.woken w.slots e :=
  opCost_mono _ e.1 e.2 fun s' k' hk _ hf hi =>
    ⟨hw _ hf, by rwa [idle, ← hs s' (hc.others e.1 s' k' (hk ▸ he) hne)]⟩

theorem ops_pos_of_lookup {w : World} {id : Nat} {st : OpSt} (h : w.opSt id = some st) : w.senders ≠ 0 := by
  have := length_eraseFirst_of_lookup id st w.ops h
  show w.handles.length + w.ops.length ≠ 0
  omega

theorem senderGone_woken_cases (Y : World) (t : Task) (h : t ∈ Y.senderGone.woken) :
    (t = .ctx ∧ Y.senderGone.senders = 0) ∨ t ∈ Y.woken := by
  rw [senderGone_eq] at h
  exact ((mem_wakeIf_iff Y .ctx t).1 h).imp_left fun ⟨hc, e⟩ => ⟨e, by rw [senderGone_senders]; exact hc.1⟩

/-- **what a poll of the operation `id` does to the potential**, whichever way it goes. The poll found the operation in
    state `st` and, from the prepared world `X`, ends in a world `W` where the entry of `id` is gone (`new = none`) or
    replaced (`new = some st'`); of the oneshots only those of `id` changed, and no flag but the context's was added.
    The potential falls by what `st` cost, and grows by what the preparation cost (`e`), by what `st'` costs, and by `d`
    for a flag the context gets while a sender is left (the last sender gone, the context's own summand pays for it). -/
theorem opMove_phi {w X W : World} {id : Nat} {st : OpSt} {e : Nat} (hc : OpCtx w id st) (hp : OpPrep w id st X)
    (hso : ∀ s k, st = .wait s k → SlotOf id s k) (hx : stPot X ≤ stPot w + e) (new : Option OpSt) (d : Nat)
    (hops : W.ops = new.elim (eraseFirst id w.ops) (fun st' => setAssoc id st' w.ops))
    (htask : W.task = X.task) (hrx : W.rx = X.rx) (hrd : W.reader = X.reader) (hheld : W.held = X.held)
    (hstr : W.streams = X.streams) (hch : W.chans = X.chans)
    (hsl : ∀ s, s / 2 ≠ id → lookupFirst s W.slots = lookupFirst s X.slots)
    (hwk : ∀ t, t ∈ W.woken → t = .ctx ∨ t ∈ w.woken) (hwk2 : ∀ t, t ∈ w.woken → t ∈ W.woken)
    (hctx : Task.ctx ∈ W.woken → Task.ctx ∈ w.woken ∨ W.senders = 0 ∨ 1 ≤ d) :
    phi W + opBase st ≤ phi w + e + new.elim 0 opBase + d := by
  have hop : ∀ n, Task.op n ∈ W.woken → Task.op n ∈ w.woken := fun n h => (hwk _ h).resolve_left nofun
  have hnf : Task.op id ∉ W.woken := fun h => hc.unflag (hop id h)
  have hheld' : W.held = w.held := hheld.trans hp.userFrame.held
  -- operations: at the new flags and oneshots no entry of the old table costs more, and the polled one its base …
  have own : ∀ x, opCost w.held W.woken W.slots (id, x) = opBase x := fun x => opCost_unflagged _ _ _ _ _ hc.nh hnf
  have b : (w.ops.map (opCost w.held W.woken W.slots)).sum ≤ opsPot w := by
    refine sum_map_le _ _ _ (fun x hxm => ?_)
    by_cases hne : x.1 = id
    · obtain ⟨id', st'⟩ := x
      obtain rfl : id' = id := hne
      obtain rfl : st' = st :=
        Option.some.inj ((lookupFirst_of_mem_nodup id' st' w.ops hc.nodup hxm).symm.trans hc.hst)
      rw [own]
      exact opCost_ge_base _ _ _ _ _ hc.nh
    · exact opCost_other hc _ _ hop (fun s hs => (hsl s hs).trans (hp.slot_of_ne fun k e => hs (hso s k e).half)) x hxm hne
  -- … which the move takes out of the sum, putting the new entry's in
  have h1 : opsPot W + opBase st ≤ opsPot w + new.elim 0 opBase := by
    unfold opsPot at b ⊢
    rw [hheld']
    cases new with
    | none =>
      have a := sum_map_eraseFirst (opCost w.held W.woken W.slots) id st w.ops hc.hst
      rw [own] at a
      rw [show W.ops = eraseFirst id w.ops from hops]
      show _ ≤ _ + 0
      omega
    | some st' =>
      have a := sum_map_setAssoc (opCost w.held W.woken W.slots) id st st' w.ops hc.hst
      rw [own, own] at a
      rw [show W.ops = setAssoc id st' w.ops from hops]
      show _ ≤ _ + opBase st'
      omega
  have h2 : stPot W = stPot X :=
    stPot_congr hstr hheld (fun n => ⟨fun h => hp.woken ▸ (hwk _ h).resolve_left nofun,
      fun h => hwk2 _ (hp.woken ▸ h)⟩) hch
  have htask' : W.task = w.task := htask.trans hp.userFrame.task
  have hz : ctxZ W ≤ ctxZ w := ctxZ_le (by rw [htask']; exact fun h => h) (fun _ => ops_pos_of_lookup hc.hst)
  have h3 : ctxFlag W + ctxZ W ≤ ctxFlag w + ctxZ w + d := by
    by_cases hl : w.task = .none
    · rw [ctxFlag_of_none (htask'.trans hl), ctxZ_of_none (htask'.trans hl)]; exact Nat.zero_le _
    · have z : ctxZ w = 1 := by simp [ctxZ, hl, ops_pos_of_lookup hc.hst]
      have f1 := ctxFlag_le_one W
      by_cases hin : Task.ctx ∈ W.woken
      · rcases hctx hin with h | h | h
        · have : ctxFlag w = 1 := by simp [ctxFlag, hl, h]
          omega
        · have : ctxZ W = 0 := by simp [ctxZ, h]
          omega
        · omega
      · have : ctxFlag W = 0 := by simp [ctxFlag, hin]
        omega
  have h4 : mu W.rx W.reader = mu w.rx w.reader := by rw [hrx, hrd, hp.userFrame.rx, hp.userFrame.reader]
  unfold phi phiU
  rw [h4]
  omega

theorem endOp_phi {w X : World} {id : Nat} {st : OpSt} {e : Nat} (hc : OpCtx w id st) (hp : OpPrep w id st X)
    (hso : ∀ s k, st = .wait s k → SlotOf id s k) (hx : stPot X ≤ stPot w + e) (o : Obs) : phi (X.endOp id o) + opBase st ≤ phi w + e := by
  obtain ⟨wk, qr, es⟩ := endOp_shape X id o
  have hwk : ∀ t, t ∈ (X.endOp id o).woken → (t = .ctx ∧ (X.endOp id o).senders = 0) ∨ t ∈ w.woken := fun t ht =>
    (senderGone_woken_cases _ t ht).imp_right fun h => hp.woken ▸ h
  exact opMove_phi hc hp hso hx none 0 (by rw [es, ← hp.ops]; rfl) (by rw [es]) (by rw [es]) (by rw [es]) (by rw [es])
    (by rw [es]) (by rw [es]) (fun _ _ => by rw [es]) (fun t ht => (hwk t ht).imp_left And.left)
    (fun t ht => senderGone_woken_mono _ t (hp.woken ▸ ht))
    (fun h => (hwk _ h).elim (fun h0 => Or.inr (Or.inl h0.2)) Or.inl)

theorem sendAwait_phi {w X : World} {id : Nat} {st : OpSt} {e : Nat} (hc : OpCtx w id st) (hp : OpPrep w id st X)
    (hso : ∀ s k, st = .wait s k → SlotOf id s k) (hx : stPot X ≤ stPot w + e) (m : Msg) (s : Nat) (k : Wait) (hs : s / 2 = id) (hctx : X.hasCtx = true) :
    phi (X.sendAwait m id s k) + opBase st ≤ phi w + e + opBase (.wait s k) + 1 := by
  rw [sendAwait_eq, if_pos hctx]
  exact opMove_phi hc hp hso hx (some (.wait s k)) 1 (by rw [← hp.ops]; rfl) rfl rfl rfl rfl rfl rfl
    (fun s' hs' => lookupFirst_setAssoc_of_ne (by intro e; subst e; exact hs' hs) _ _)
    (fun t ht => ((mem_wakeIf_iff X .ctx t).1 ht).imp And.right fun h => hp.woken ▸ h)
    (fun t ht => mem_wakeIf (hp.woken ▸ ht))
    (fun _ => Or.inr (Or.inr (Nat.le_refl 1)))

theorem opBase_wait_le (s : Nat) (k : Wait) : opBase (.wait s k) ≤ 3 := by cases k <;> simp [opBase]

/-- **the world in which the polled future ends or sends** (`OpPrep`) differs from the one polled by less than what
    the operation still has to pay: nothing when it took back its oneshot; at most 2 at the first poll (SUBSCRIBE: the
    stream of the same name, for its response channel created — and dropped again without a context), and then it waits
    in a phase that costs 1. Whatever phase it enters next, that and the flag the context may get are paid for too. -/
theorem prep_stPot {w w0 : World} {id : Nat} {st : OpSt} (hp : OpPrep w id st w0)
    (hso : ∀ s k, st = .wait s k → SlotOf id s k) :
    ∃ e, stPot w0 ≤ stPot w + e ∧ e < opBase st ∧
      ∀ s k, SendShape id st s k → s / 2 = id ∧ e + opBase (.wait s k) + 1 < opBase st := by
  cases hp with
  | fresh h req ch hch =>
    have sh : ∀ s k, SendShape id (.fresh h req) s k → s = 2 * id ∧ k = req.wait := by
      rintro s k (⟨_, _, e, hs, hk⟩ | ⟨_, e, _⟩)
      · cases e; exact ⟨hs, hk⟩
      · cases e
    rcases hch with rfl | ⟨t, rfl, hch⟩
    · refine ⟨0, Nat.le_refl _, by show 0 < 6; omega, fun s k hs => ?_⟩
      obtain ⟨rfl, rfl⟩ := sh s k hs
      have := opBase_wait_le (2 * id) req.wait
      exact ⟨by omega, by show _ < 6; omega⟩
    · refine ⟨2, stPot_chan_le id rfl rfl rfl (fun n hn => ?_) ?_, by show 2 < 6; omega, fun s k hs => ?_⟩
      · rcases hch with rfl | rfl
        · exact lookupFirst_setAssoc_of_ne hn _ _
        · exact (lookupFirst_eraseFirst_of_ne hn _).trans (lookupFirst_setAssoc_of_ne hn _ _)
      · rcases hch with rfl | rfl
        · exact bufSum_setChan_le w id {} rfl
        · exact Nat.le_trans (sum_map_eraseFirst_le _ id (w.setChan id {}).chans) (bufSum_setChan_le w id {} rfl)
      · obtain ⟨rfl, rfl⟩ := sh s k hs
        exact ⟨by omega, by show 2 + 1 + 1 < 6; omega⟩
  | wait s k rs hv hrs =>
    refine ⟨0, Nat.le_refl _, opBase_pos _, ?_⟩
    rintro s1 k1 (⟨_, _, e, _⟩ | ⟨s0, e, rfl, rfl⟩)
    · cases e
    · -- the PUBREC came on the first oneshot, `2 * id`
      have e1 : s = s0 := by cases e; rfl
      obtain rfl : k = .pubrec := by cases e; rfl
      rcases hso s .pubrec rfl with h | ⟨_, hk⟩
      · exact ⟨by omega, by show 0 + 1 + 1 < 3; omega⟩
      · cases hk

theorem unwake_op_phi (w : World) (id : Nat) : phi (w.unwake (.op id)) ≤ phi w := by
  obtain ⟨h1, h2⟩ := unwake_pots w (.op id) nofun
  exact phi_le_of (a := 0) (fun h => h) (fun _ h => ((mem_unwake_iff w _ _).mp h).1) (fun h => h) (Nat.le_refl _)
    (by unfold phiU; omega)

theorem unwake_op_phi_gap (w : World) (id s : Nat) (k : Wait) (hst : w.opSt id = some (.wait s k))
    (hw : Task.op id ∈ w.woken) (hh : Task.op id ∉ w.held) (hi : idle w.slots s) :
    phi (w.unwake (.op id)) + 1 ≤ phi w := by
  have hu : ∀ t, t ∈ (w.unwake (.op id)).woken → t ∈ w.woken := fun t ht => ((mem_unwake_iff w _ t).mp ht).1
  have hnf : Task.op id ∉ (w.unwake (.op id)).woken := fun h => ((mem_unwake_iff w _ _).mp h).2 rfl
  have h1 : opsPot (w.unwake (.op id)) + 1 ≤ opsPot w := by
    unfold opsPot
    refine sum_map_le_gap _ _ _ (fun e he => ?_) (id, .wait s k) (mem_of_lookupFirst id _ w.ops (show lookupFirst id w.ops = some (.wait s k) from hst)) 1 ?_
    · exact opCost_mono _ e.1 e.2 fun _ _ _ _ hf hi => ⟨hu _ hf, hi⟩
    · show opCost w.held (w.unwake (.op id)).woken w.slots (id, .wait s k) + 1 ≤
        opCost w.held w.woken w.slots (id, .wait s k)
      unfold opCost
      simp only [hh, ↓reduceIte, opSpur, hnf, false_and, hw, hi, and_self]
      omega
  have h3 : ctxFlag (w.unwake (.op id)) ≤ ctxFlag w := ctxFlag_le (fun h => h) (fun _ h => hu _ h)
  have h4 : ctxZ (w.unwake (.op id)) ≤ ctxZ w := ctxZ_le (fun h => h) (fun h => h)
  exact phi_add_le (w := w) (w' := w.unwake (.op id)) (e := 0) rfl (Nat.add_le_add h3 h4) h1
    (Nat.le_of_eq (unwake_pots w (.op id) nofun).2)

theorem pollOp_phi (w : World) (id : Nat) (ho : OwnInv w) (hw : Task.op id ∈ w.woken) (hh : Task.op id ∉ w.held)
    (st : OpSt) (hst : w.opSt id = some st) : phi ((w.unwake (.op id)).pollOp id) < phi w := by
  have hst0 : (w.unwake (.op id)).opSt id = some st := hst
  have hc : OpCtx (w.unwake (.op id)) id st := by
    refine ⟨hst0, ho.nodup, fun id' s' k' hm hne => ?_, ?_, hh⟩
    · have h1 : w.opSt id' = some (.wait s' k') := lookupFirst_of_mem_nodup id' _ w.ops ho.nodup hm
      have := (ho.slotOf id' s' k' h1).half
      omega
    · exact fun h => ((mem_unwake_iff w _ _).mp h).2 rfl
  have hle := unwake_op_phi w id
  rcases pollOp_spec (w.unwake (.op id)) id with ⟨h0, _⟩ | ⟨s, k, h0, hi, e⟩ | ⟨st', w0, h0, hp, hend⟩
  · rw [hst0] at h0; cases h0
  · -- nothing there yet: only the waker is registered, and the flag that caused this poll was spurious
    obtain rfl : st = .wait s k := Option.some.inj (hst0.symm.trans h0)
    rw [e]
    refine Nat.lt_of_le_of_lt
      (phi_le_of_frame (w := w.unwake (.op id)) rfl (fun h => h) (Nat.le_refl _)) ?_
    exact unwake_op_phi_gap w id s k hst hw hh hi.symm
  · obtain rfl : st = st' := Option.some.inj (hst0.symm.trans h0)
    have hso : ∀ s k, st = .wait s k → SlotOf id s k := fun s k e => ho.slotOf id s k (e ▸ hst)
    obtain ⟨e, hx, he, hsend⟩ := prep_stPot hp hso
    rcases hend with ⟨o, _, eq, _⟩ | ⟨m, s, k, hwy, hctx, eq, _⟩ <;> rw [eq]
    · have := endOp_phi hc hp hso hx o
      omega
    · obtain ⟨hs, hlt⟩ := hsend s k hwy.shape
      have := sendAwait_phi hc hp hso hx m s k hs hctx
      omega

end W5
end World
end Poster

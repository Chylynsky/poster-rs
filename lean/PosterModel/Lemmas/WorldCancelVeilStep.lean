/-
  Lemmas/WorldCancelVeilStep.lean — `veil id` commutes with every script event that addresses neither stream `id` nor an
  operation named `id`.
-/
import PosterModel.Lemmas.WorldCancelVeilInv
import PosterModel.Lemmas.WorldCancelScript

namespace Poster
open Framing
namespace World
namespace W11

theorem flushRaw_veil (id) (w : World) : (veil id w).flushRaw = veil id w.flushRaw := by
  rw [veil_eq]; exact Era.flushRaw_app (veilE_wf id) w

/-- the veiled context drops the same senders but those of channel `id`, and a drop on `id` does nothing in a veiled world -/
theorem dropCtxClosed_veil (id) (w : World) : dropCtxClosed (veil id w) = veil id (dropCtxClosed w) := by
  have hw := veilE_wf id
  have hf : (closeEffs w.queue (cOff id w.c)).filter (veilE id).kEff = (closeEffs w.queue w.c).filter (veilE id).kEff := by
    have hk : ∀ e, ((veilE id).kEff e && offCh id e) = (veilE id).kEff e := fun e => by
      cases e <;> simp [Era.kEff, veilE_kChan, offCh, keepK]
    show ((_ ++ _) ++ (subsOff id w.c.subs).map _).filter _ = ((_ ++ _) ++ w.c.subs.map _).filter _
    rw [List.filter_append, List.filter_append (l₂ := w.c.subs.map _), map_dropChan_subsOff, List.filter_filter]
    simp only [hk]
    rfl
  rw [dropCtxClosed_eq, dropCtxClosed_eq, veil_eq]
  show ((veilE id).app (dropCtxStart w)).applyEffs (closeEffs w.queue (cOff id w.c)) = _
  rw [← Era.applyEffs_app_filter hw, hf, Era.applyEffs_app_filter hw, Era.applyEffs_app hw]

theorem mineStEv_task {id : Nat} {e : Ev} {t : Task} (h : mineStEv id e = false) (ht : e.task? = some t) :
    t ≠ .st id := by
  rintro rfl
  cases e <;> cases ht <;> simp [mineStEv] at h

theorem veilE_evWf (id : Nat) : (veilE id).EvWf :=
  ⟨fun _ => rfl, fun _ => rfl, rfl, rfl, fun _ _ => rfl, fun w => by rw [← veil_eq]; exact dropCtxClosed_veil id w⟩

theorem veilE_seesEv {id : Nat} {e : Ev} (hm : mineEv id e = false) (hms : mineStEv id e = false) :
    (veilE id).SeesEv e :=
  ⟨fun t ht => (keepV_true id t).mpr (mineStEv_task hms ht),
    fun j he => veilE_seesOp (by subst he; simpa [mineEv] using hm), fun he => by subst he; cases hms⟩

theorem apply_veil (id) (w : World) (e : Ev) (hm : mineEv id e = false) (hms : mineStEv id e = false)
    (h : SideV id w) : (veil id w).apply e = veil id (w.apply e) := by
  rw [veil_eq]
  exact Era.apply_app (veilE_wf id) (veilE_evWf id) w e (veilE_seesEv hm hms) (veilE_snd id _) (veilE_snd id _)
    (fun t ht => by
      subst ht; rw [← veil_eq]; exact pollTask_veil id w t (mineStEv_task hms rfl) (mineEv_task hm rfl) h.ctxOK)
    (Era.keepsSlots_of_all (fun _ => rfl) _)

end W11
end World
end Poster

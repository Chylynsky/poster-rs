/-
  Lemmas/WorldCtxTrans.lean — along every script, `World.c` only moves by the documented transitions `CtxTrans` (one served
  input, a CONNACK, the expiry interval of a CONNECT, the disconnection time, session resumption, a fresh context), so every
  inductive invariant of those transitions holds in every reachable world (`ctx_invariant_lifts`).
-/
import PosterModel.Lemmas.WorldCtx
import PosterModel.Properties.C08
import PosterModel.Properties.C09
import PosterModel.Properties.C10
import PosterModel.Properties.C12
import PosterModel.Properties.C17

namespace Poster
open Framing

/-- the transitions of `World.c`: one well-formed input of the serving loop (`run()`), a CONNACK (`connect()` /
    `authorize()`), the session expiry interval of the CONNECT being sent (`connect()`), the disconnection timestamp
    (the caller's `set_disconnected`, script event `markDisc`), session resumption (prelude of `run()`), and a fresh
    context (`setup`, `dropCtx`); closed under reflexivity and transitivity -/
inductive CtxTrans : Ctx → Ctx → Prop
  | refl (c : Ctx) : CtxTrans c c
  | serve (c : Ctx) (i : CIn) : i.wf → CtxTrans c (c.stepIn i).1
  | connack (c : Ctx) (k : ConnackRx) : CtxTrans c (c.handleConnack k)
  | sei (c : Ctx) (n : Nat) : CtxTrans c { c with sei := n }
  | disc (c : Ctx) (n : Nat) : CtxTrans c { c with disc := some n }
  | resume (c : Ctx) : CtxTrans c c.resume.1
  | fresh (c : Ctx) : CtxTrans c {}
  | trans {a b c : Ctx} : CtxTrans a b → CtxTrans b c → CtxTrans a c

theorem CtxTrans.of_eq {a b : Ctx} (h : b = a) : CtxTrans a b := h ▸ .refl a

theorem CtxTrans.inv (P : Ctx → Prop) (h0 : P {}) (hserve : ∀ c i, i.wf → P c → P (c.stepIn i).1)
    (hconnack : ∀ c k, P c → P (c.handleConnack k)) (hsei : ∀ c n, P c → P { c with sei := n })
    (hdisc : ∀ c n, P c → P { c with disc := some n }) (hresume : ∀ c, P c → P c.resume.1)
    {a b : Ctx} (h : CtxTrans a b) : P a → P b := by
  induction h with
  | refl c => exact id
  | serve c i hi => exact hserve c i hi
  | connack c k => exact hconnack c k
  | sei c n => exact hsei c n
  | disc c n => exact hdisc c n
  | resume c => exact hresume c
  | fresh c => exact fun _ => h0
  | trans _ _ ih1 ih2 => exact fun h => ih2 (ih1 h)

theorem CtxTrans.quota_le {a b : Ctx} (h : CtxTrans a b) : a.quota ≤ a.recvMax → b.quota ≤ b.recvMax :=
  CtxTrans.inv (fun c => c.quota ≤ c.recvMax) (by decide) (fun c i _ h => quota_bounded c i h)
    (fun c k _ => by rw [Ctx.handleConnack_eq]; exact Nat.le_refl _) (fun _ _ h => h) (fun _ _ h => h)
    (fun c h => by rcases c.resume_fst_cases with e | e | e <;> rw [e] <;> exact h) h

theorem CtxTrans.inQos2_inv (P : List Nat → Prop) (h0 : P []) (hs : ∀ (c : Ctx) (i : CIn), i.wf → P c.inQos2 → P (c.stepIn i).1.inQos2)
    {a b : Ctx} (h : CtxTrans a b) : P a.inQos2 → P b.inQos2 :=
  CtxTrans.inv (fun c => P c.inQos2) h0 hs (fun c k h => by rw [(Ctx.handleConnack_frame c k).1]; exact h)
    (fun _ _ h => h) (fun _ _ h => h)
    (fun c h => by rcases c.resume_fst_cases with e | e | e <;> rw [e] <;> first | exact h | exact h0) h

theorem CtxTrans.inQos2_nodup {a b : Ctx} (h : CtxTrans a b) : a.inQos2.Nodup → b.inQos2.Nodup :=
  h.inQos2_inv List.Nodup List.nodup_nil fun c i _ => step_inQos2_nodup c i

theorem CtxTrans.inQos2_range {a b : Ctx} (h : CtxTrans a b) :
    (∀ x ∈ a.inQos2, 0 < x ∧ x < 65536) → ∀ x ∈ b.inQos2, 0 < x ∧ x < 65536 :=
  h.inQos2_inv (fun l => ∀ x ∈ l, 0 < x ∧ x < 65536) (fun _ h => absurd h List.not_mem_nil) step_inQos2_range

namespace World

/-! Every move a poll of the context task is made of is a transition of `CtxTrans`. -/

theorem CtxTrans.inert {w w' : World} (i : CtxInert w w') : CtxTrans w.c w'.c := by
  rcases i.c with e | ⟨n, e⟩ | ⟨k, e⟩ <;> rw [e]
  · exact .refl _
  · exact .sei _ n
  · exact .connack _ k

theorem pollCtxS_ctxTrans (sched : Nat → Bool) (w : World) : CtxTrans w.c (w.pollCtxS sched).c :=
  pollCtxS_via (R := fun w w' => CtxTrans w.c w'.c) .trans CtxTrans.inert (fun _ => .refl _)
    (fun w m q _ => by rw [runHandler_eq_stepIn_msg, applyEffs_c]; exact .serve _ (w.inMsg m) trivial)
    (fun w rx' rd' fr p _ hd => by
      rw [runHandler_eq_stepIn_pkt, applyEffs_c]; exact .serve _ (w.inPkt p) (decodeRx_wf_aux fr p hd))
    (fun w => by rw [resumed, applyEffs_c]; exact .resume _) sched w

theorem pollTaskAny_ctxTrans {w : World} {t : Task} {w' : World} (hp : PollTaskAny w t w') : CtxTrans w.c w'.c := by
  by_cases ht : t = .ctx
  · obtain ⟨sched, rfl⟩ := hp; subst ht; exact pollCtxS_ctxTrans sched (w.unwake .ctx)
  · exact .of_eq (pollTaskAny_userMove hp ht).frame.c

theorem applied_ctxTrans {w w' : World} {e : Ev} (h : Applied w e w') : CtxTrans w.c w'.c := by
  cases h.norm with
  | poll t _ => exact pollTaskAny_ctxTrans (pollTaskAny_pollTask w t)
  | newCtx | dropCtx => exact .fresh _
  | markDisc secs => exact .disc _ _
  | _ => exact .refl _

theorem stepsAny_ctxTrans {w : World} {evs : List Ev} {w' : World} (h : StepsAny w evs w') : CtxTrans w.c w'.c :=
  StepsAny.rel (R := fun a b => CtxTrans a.c b.c) (fun _ => .refl _) .trans (fun _ hp => pollTaskAny_ctxTrans hp)
    (fun e _ w => applied_ctxTrans (apply_spec w e)) (fun _ _ _ => .refl _) h

theorem run_ctxTrans (cfg : Cfg) (evs : List Ev) : CtxTrans {} (evs.foldl World.step { cfg := cfg }).c :=
  stepsAny_ctxTrans (stepsAny_foldl evs { cfg := cfg })

theorem ctx_invariant_lifts (P : Ctx → Prop) (h0 : P {}) (hserve : ∀ c i, i.wf → P c → P (c.stepIn i).1)
    (hconnack : ∀ c k, P c → P (c.handleConnack k)) (hsei : ∀ c n, P c → P { c with sei := n })
    (hdisc : ∀ c n, P c → P { c with disc := some n }) (hresume : ∀ c, P c → P c.resume.1) :
    ∀ (cfg : Cfg) (evs : List Ev), P (evs.foldl World.step { cfg := cfg }).c :=
  fun cfg evs => CtxTrans.inv P h0 hserve hconnack hsei hdisc hresume (run_ctxTrans cfg evs) h0

namespace PollServe
variable {w r : World} {is : List CIn}

theorem acks (h : PollServe w r is) : P_C08 (w.c.serve is).2 = true := acks_exact _ _ h.wf

theorem wire (h : PollServe w r is) (hs : w.cfg.wlimit = none ∨ ∀ i ∈ is, i.wok = true) :
    r.sent = w.sent ++ ((w.c.serve is).2.flatMap obsWire).flatten := by
  rw [← histWrites_of_acks _ h.acks]
  exact hs.elim h.sent_eq h.sent_eq_wok

theorem inQos2 (h : PollServe w r is) : r.c.inQos2 = (w.c.serve is).2.foldl q2Step w.c.inQos2 :=
  h.c_eq ▸ (inQos2_is_pending w.c is).1

theorem retx (h : PollServe w r is) : r.c.retx = unfinishedFrom w.c.retx (w.c.serve is).2 :=
  h.c_eq ▸ (retx_is_unfinished w.c is).1

theorem maxPkt (h : PollServe w r is) : r.c.maxPkt = w.c.maxPkt := h.c_eq ▸ maxPkt_constant w.c is

end PollServe

end World

end Poster

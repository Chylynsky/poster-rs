/-
  Lemmas/WorldSelectFuel.lean — the client never stalls, UNDER ANY RESOLUTION of the `select!` of `run()`: every poll by
  the executor strictly decreases the potential `W5.phi` whatever the scheduler, so both drains of every step end with
  nothing left to poll (`W5.execAny_quiet`, Lemmas/WorldFuelScript.lean), and a script that never holds the context task
  never logs a stall (`no_stall_any`; `W5.no_stall` is this at the executor's own run).
-/
import PosterModel.Lemmas.WorldFuelStall
import PosterModel.Lemmas.WorldFuelPanic
import PosterModel.Lemmas.WorldReachable
import PosterModel.Properties.C16World


namespace Poster
open Framing
namespace World
open W5

theorem own_applyAny {w : World} {e : Ev} {w' : World} (h : ApplyAny w e w') (ho : OwnInv w) : OwnInv w' :=
  ownInv_anyInv.applyAny h ho

structure SelInv (w : World) : Prop where
  tinv : TInv w
  reach : W11.Reachable w
  nheld : Task.ctx ∉ w.held

theorem stepAny_selInv {w : World} {e : Ev} {w' : World} (h : StepAny w e w') (hi : SelInv w) (he : e ≠ .hold .ctx) :
    SelInv w' ∧ OutExtP NotStall w w' := by
  have r' : W11.Reachable w' := hi.reach.stepAny h
  have t' : TInv w' := tinv_anyInv.stepAny h hi.tinv
  rcases h.cases with ⟨_, rfl⟩ | ⟨hb0, w1, ha, h⟩
  · exact ⟨hi, outExtP_refl _ _⟩
  have hp : w.pick = none := hi.reach.quiet.resolve_left (by rw [hb0]; nofun)
  obtain ⟨ho1, hr1, hn1⟩ := applyAny_ready ha hi.reach.own hi.reach.reg hp
  have at1 : ATrk e (w.emit (.ev e)) w1 := ApplyAny.lift (R := ATrk e)
    (fun _ hp => ATrk.of_strk (pollTaskAny_strk hp)) (ATrk.applied (apply_spec _ _)) ha
  have hh1 : Task.ctx ∉ w1.held := at1.2 he (by simpa using hi.nheld)
  have x1 : OutExtP NotStall w w1 := outExtP_trans (STrk.emit w (.ev e) (by intro h; cases h)).1 at1.1
  rcases h with ⟨hb1, rfl⟩ | ⟨_, w3, hx, h⟩
  · exact ⟨⟨t', r', hh1⟩, x1⟩
  have q3 : w3.pick = none := execAny_quiet hx ho1 hr1 hn1
  have s3 : STrk w1 w3 := ExecAny.lift STrk.refl STrk.trans (fun _ _ hp => pollTaskAny_strk hp) hx
  have hh3 : Task.ctx ∉ w3.held := by rw [s3.2]; exact hh1
  -- the stall check cannot fire: the executor is idle, the context task not held, so an alive context future is
  -- not flagged, and then it has nothing to read
  rcases h with rfl | ⟨ht, hrd, rfl⟩
  · exact ⟨⟨t', r', hh3⟩, outExtP_trans x1 s3.1⟩
  · have hl : w3.taskLive .ctx = true := by simpa [taskLive] using ht
    exact absurd (t'.st ht (not_woken_of_idle w3 .ctx q3 hl hh3)).1 hrd

theorem stepsAny_selInv {w : World} {evs : List Ev} {w' : World} (h : StepsAny w evs w') (hi : SelInv w)
    (hh : ∀ e ∈ evs, e ≠ .hold .ctx) : SelInv w' ∧ OutExtP NotStall w w' :=
  StepsAny.ind (I := fun x => SelInv x ∧ OutExtP NotStall w x)
    (fun he hs hx => ⟨(stepAny_selInv hs hx.1 (hh _ he)).1, outExtP_trans hx.2 (stepAny_selInv hs hx.1 (hh _ he)).2⟩) h
    ⟨hi, outExtP_refl _ _⟩

theorem no_stall_any (cfg : Cfg) (evs : List Ev) (hh : ∀ e ∈ evs, e ≠ .hold .ctx) (out : List Obs)
    (h : RunAny cfg evs out) : Obs.stall ∉ out := fun hmem =>
  h.of_outExtP (fun hs => (stepsAny_selInv hs ⟨TInv.init cfg, W11.reachable_init cfg, List.not_mem_nil⟩ hh).2)
    (fun _ h => nomatch h) _ hmem rfl

namespace W5

theorem no_stall (cfg : Cfg) (evs : List Ev) (hh : ∀ e ∈ evs, e ≠ .hold .ctx) :
    Obs.stall ∉ World.run cfg evs :=
  no_stall_any cfg evs hh _ (runAny_run cfg evs)

set_option linter.unusedVariables false in
theorem no_stall_of_distinct_ids (cfg : Cfg) (evs : List Ev) (hd : (World.opIds evs).Nodup)
    (hh : ∀ e ∈ evs, e ≠ .hold .ctx) : Obs.stall ∉ World.run cfg evs := no_stall cfg evs hh

set_option linter.unusedVariables false in
theorem no_stall_of_evsOk (cfg : Cfg) (evs : List Ev) (hok : evsOk { cfg := cfg } evs = true)
    (hh : ∀ e ∈ evs, e ≠ .hold .ctx) : Obs.stall ∉ World.run cfg evs := no_stall cfg evs hh

/-- the hypothesis `hh` cannot be dropped: a held context future with unread input is reported as stalled -/
example : Obs.stall ∈ World.run {} [.setup, .hold .ctx, .connect {}, .feed [[0x20]]] := by decide

/-- a script with pairwise distinct operation identifiers and no `hold ctx` (it holds an operation), to which
    `no_stall_of_distinct_ids` applies -/
example : Obs.stall ∉ World.run {}
    [.setup, .op 1 0 .ping, .op 2 0 (.subscribe Poster.sub1), .hold (.op 3), .op 3 0 .ping] :=
  no_stall_of_distinct_ids {} _ (by decide) (by decide)

/-- in the world the first script above reaches the stall check fires with an idle executor: the context future is
    alive with unread input, and the script holds it -/
example : (([.setup, .hold .ctx, .connect {}, .feed [[0x20]]] : List Ev).foldl World.step {}).pick = none ∧
    (([.setup, .hold .ctx, .connect {}, .feed [[0x20]]] : List Ev).foldl World.step {}).task ≠ .none ∧
    (([.setup, .hold .ctx, .connect {}, .feed [[0x20]]] : List Ev).foldl World.step {}).reader ≠ [] ∧
    Task.ctx ∈ (([.setup, .hold .ctx, .connect {}, .feed [[0x20]]] : List Ev).foldl World.step {}).held := by
  decide

/-- `no_stall` needs nothing about identifiers: here operation identifier 1 is used twice (`opIds` has a duplicate) -/
example : ¬ (World.opIds [.setup, .connect {}, .op 1 0 .ping, .feed [[0x20]], .op 1 0 .ping, .feedEof]).Nodup ∧
    Obs.stall ∉ World.run { sweep := true }
      [.setup, .connect {}, .op 1 0 .ping, .feed [[0x20]], .op 1 0 .ping, .feedEof] :=
  ⟨by decide, no_stall _ _ (by decide)⟩

end W5

end World
end Poster

#print axioms Poster.World.W5.no_stall_of_distinct_ids
#print axioms Poster.World.W5.no_stall_of_evsOk
#print axioms Poster.World.W5.no_stall

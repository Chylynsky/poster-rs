/-
  Lemmas/WorldIter.lean — the `select!` loop of `run()` under every order in which its two branches can be polled
  (`futures::select!` shuffles them; `runLoopS sched`, `pollCtxS sched` of Lemmas/WorldSched.lean let `sched i` choose in the
  iteration with `i` iterations of fuel left; `runLoop`, `pollCtx` are the scheduler `fun _ => false`: messages first), and the
  session-resumption prelude of `run()` (`resent_shape`, `resent_prelude`). One iteration is
  taken apart once (`runIterS_spec`); from it the steps of a poll, what they leave alone and the decomposition of a poll into
  steps (`runLoopS_decomp`).
  An iteration is described more than once: `runIterS_spec` (`Handled` / `SIdle` / `ArmOpt`) is the one that ties what the
  iteration does to its input `iterInS` — build on it; `SCont` / `SEnd` / `SServe` and, for the model's own order, `RunCont` /
  `RunEnd` / `Serve` of Lemmas/WorldRun.lean are its coarser readings, which statements of Properties/ name.
-/
import PosterModel.Lemmas.WorldRun
import PosterModel.Lemmas.WorldSched

namespace Poster
open Framing
namespace World

theorem runLoopS_succ (sched : Nat → Bool) (f : Nat) (w : World) :
    runLoopS sched (f + 1) w = match runIterS (sched f) w with
      | .inl w1 => runLoopS sched f w1
      | .inr r => r := rfl

theorem runIterS_false (w : World) : runIterS false w = runIter w := rfl

/-- **`runLoop` is one resolution of the choice**: the scheduler that always polls the message branch first -/
theorem runLoop_is_a_resolution (f : Nat) (w : World) : runLoopS (fun _ => false) f w = runLoop f w := by
  induction f generalizing w with
  | zero => rfl
  | succ f ih =>
    rw [runLoopS_succ, runLoop_succ, runIterS_false]
    cases runIter w with
    | inl w1 => exact ih w1
    | inr r => rfl

theorem pollRun_first_eq (w : World) :
    w.pollRun false =
      if w.resumed.canWrite ((w.c.resume.2.2.map List.length).sum) then runLoop w.resent.loopFuel w.resent
      else (w.resumed.writeBytes w.c.resume.2.2.flatten).finish .run (.err .socketClosed) := rfl

theorem resent_shape (w : World) : ∃ wr pre p, Quiet pre ∧
    w.resent = { w.resumed with written := wr, out := w.resumed.out ++ pre, wirePend := p } :=
  foldl_writeBytes_shape w.c.resume.2.2 w.resumed

theorem resent_prelude (w : World) : w.resent.rx = w.rx ∧ w.resent.task = .running true ∧ OutExt w w.resent := by
  obtain ⟨wr, pre, p, q, e⟩ := resent_shape w
  have hx : OutExt w w.resumed := outExt_trans (outExt_of_eq rfl) (applyEffs_outExt _ _)
  rw [e]
  exact ⟨by simp [resumed], by simp [resumed], outExt_trans hx ⟨pre, q, rfl⟩⟩

theorem resent_frame (w : World) :
    w.resent.queue = w.queue ∧ w.resent.c = w.c.resume.1 ∧ w.resent.handles = w.handles := by
  obtain ⟨_, _, _, _, e⟩ := resent_shape w
  rw [e, World.resumed]
  exact ⟨by simp, by simp, by simp⟩

theorem foldl_writeBytes_eq_applyEffs (pkts : List Bytes) (w : World) :
    pkts.foldl (fun w p => w.writeBytes p) w = w.applyEffs (pkts.map Eff.write) := by
  unfold applyEffs
  rw [List.foldl_map]
  rfl

theorem pollRunS_started (sched : Nat → Bool) (w : World) : w.pollRunS sched true = runLoopS sched w.loopFuel w := rfl

theorem pollRunS_first (sched : Nat → Bool) (w : World) :
    w.pollRunS sched false =
      if w.resumed.canWrite ((w.c.resume.2.2.map List.length).sum) then runLoopS sched w.resent.loopFuel w.resent
      else (w.resumed.writeBytes w.c.resume.2.2.flatten).finish .run (.err .socketClosed) := rfl

theorem pollRunS_false (w : World) (started : Bool) : w.pollRunS (fun _ => false) started = w.pollRun started := by
  cases started with
  | true => rw [pollRunS_started]; exact runLoop_is_a_resolution _ _
  | false => rw [pollRun_first_eq, pollRunS_first, runLoop_is_a_resolution]

theorem pollCtxS_false (w : World) : w.pollCtxS (fun _ => false) = w.pollCtx := by
  unfold pollCtxS pollCtx
  cases w.task with
  | none => rfl
  | connecting call t a started => rfl
  | running started => exact pollRunS_false _ _

theorem pollTaskS_false (w : World) (t : Task) : w.pollTaskS (fun _ => false) t = w.pollTask t := by
  cases t with
  | ctx => exact pollCtxS_false _
  | op n => rfl
  | st n => rfl

theorem pollTaskAny_pollTask (w : World) (t : Task) : PollTaskAny w t (w.pollTask t) :=
  ⟨fun _ => false, (pollTaskS_false w t).symm⟩

theorem pollTaskAny_userMove {w : World} {t : Task} {w' : World} (hp : PollTaskAny w t w') (ht : t ≠ .ctx) :
    UserMove (TaskLine t) (w.unwake t) w' := by
  obtain ⟨sched, rfl⟩ := hp
  cases t with
  | ctx => exact absurd rfl ht
  | op id => exact pollTask_userMove w (.op id) ht
  | st id => exact pollTask_userMove w (.st id) ht

theorem pollCtx_none {w : World} (h : w.task = .none) : w.pollCtx = w := by
  simp only [pollCtx, h]

theorem pollCtx_connecting {w : World} {call : Call} {t : ConnectTx} {a : AuthTx} {started : Bool}
    (h : w.task = .connecting call t a started) : w.pollCtx = w.pollConnect call t a started := by
  simp only [pollCtx, h]

theorem pollCtx_running {w : World} {started : Bool} (h : w.task = .running started) : w.pollCtx = w.pollRun started := by
  simp only [pollCtx, h]

theorem pollCtxS_none (sched : Nat → Bool) {w : World} (h : w.task = .none) : w.pollCtxS sched = w := by
  simp only [pollCtxS, h]

theorem armReader_park (w : World) :
    ({ armReader w with queueReg := true } : World) = armReader { w with queueReg := true } := by
  unfold armReader
  by_cases h : w.reader = []
  · rw [if_pos h, if_pos (show ({ w with queueReg := true } : World).reader = [] from h)]
  · rw [if_neg h, if_neg (show ¬ ({ w with queueReg := true } : World).reader = [] from h)]
    unfold wake
    by_cases hm : Task.ctx ∈ w.woken
    · rw [if_pos hm, if_pos (show Task.ctx ∈ ({ w with queueReg := true } : World).woken from hm)]
    · rw [if_neg hm, if_neg (show Task.ctx ∉ ({ w with queueReg := true } : World).woken from hm)]

theorem armReader_eq (w : World) (rx' : Rx) (rd' : List ReadEv) :
    armReader { w with rx := rx', reader := rd', queueReg := true } =
      (if rd' = [] then { w with rx := rx', reader := rd', queueReg := true, readerReg := true }
       else ({ w with rx := rx', reader := rd', queueReg := true } : World).wake .ctx) := rfl

theorem armReader_spec (w : World) :
    ∃ rr wk, armReader w = { w with readerReg := rr, woken := wk } ∧
      (∀ t, t ∈ w.woken → t ∈ wk) ∧ (∀ t, t ∈ wk → t = .ctx ∨ t ∈ w.woken) ∧
      ((w.reader = [] ∧ rr = true) ∨ Task.ctx ∈ wk) := by
  unfold armReader
  split
  · rename_i h; exact ⟨true, w.woken, rfl, fun _ h => h, fun _ h => Or.inr h, Or.inl ⟨h, rfl⟩⟩
  · refine ⟨w.readerReg, (w.wake .ctx).woken, ?_, mem_wake_of_mem w .ctx, fun t => (mem_wake_iff w .ctx t).mp,
      Or.inr (mem_wake_self w .ctx)⟩
    unfold wake; split <;> rfl

@[simp] theorem armReader_senders (w : World) : (armReader w).senders = w.senders := by
  obtain ⟨_, _, e, _⟩ := armReader_spec w; rw [e]; rfl

@[simp] theorem armReader_subCtr (w : World) : (armReader w).subCtr = w.subCtr := by
  obtain ⟨_, _, e, _⟩ := armReader_spec w; rw [e]

theorem armReader_woken (w : World) (t : Task) : t ∈ (armReader w).woken → t = .ctx ∨ t ∈ w.woken := by
  obtain ⟨_, _, e, _, h, _⟩ := armReader_spec w; rw [e]; exact h t

theorem armReader_in (w : World) : (armReader w).c = w.c ∧ (∀ m, (armReader w).inMsg m = w.inMsg m) ∧
    (armReader w).queue = w.queue ∧ (armReader w).senders = w.senders := by
  obtain ⟨_, _, e, _⟩ := armReader_spec w; rw [e]; exact ⟨rfl, fun _ => rfl, rfl, rfl⟩

theorem runIterS_false_eq {w : World} {rx' : Rx} {rd' : List ReadEv} {o : Out} {qu : List Msg} :
    pollNext w.rx w.reader = (rx', rd', o) → w.queue = qu →
    runIterS false w = match qu with
      | m :: q => msgBranch w m q
      | [] =>
        if w.senders = 0 then .inr (w.finish .run (.err .handleClosed)) else
        match o with
        | .item fr => pktBranch w rx' rd' fr
        | .none => .inr (({ w with rx := rx', reader := rd' }).finish .run (.err .socketClosed))
        | .pending => .inr (armReader { w with rx := rx', reader := rd', queueReg := true }) := by
  intro hp hq
  subst hq
  simp only [runIterS, Bool.false_eq_true, ↓reduceIte, hp]
  cases o <;> rfl

/-- packets first: if `pck_fut` is `Pending` the reader is armed and the message branch is polled in the same round -/
theorem runIterS_true_eq {w : World} {rx' : Rx} {rd' : List ReadEv} {o : Out} {qu : List Msg} :
    pollNext w.rx w.reader = (rx', rd', o) → w.queue = qu →
    runIterS true w = match o with
      | .item fr => pktBranch w rx' rd' fr
      | .none => .inr (({ w with rx := rx', reader := rd' }).finish .run (.err .socketClosed))
      | .pending =>
        match qu with
        | m :: q => msgBranch (armReader { w with rx := rx', reader := rd' }) m q
        | [] =>
          if w.senders = 0 then .inr ((armReader { w with rx := rx', reader := rd' }).finish .run (.err .handleClosed))
          else .inr (armReader { w with rx := rx', reader := rd', queueReg := true }) := by
  intro hp hq
  subst hq
  cases o with
  | item fr => simp only [runIterS, ↓reduceIte, hp]
  | none => simp only [runIterS, ↓reduceIte, hp]
  | pending =>
    obtain ⟨_, _, hq, hs⟩ := armReader_in { w with rx := rx', reader := rd' }
    have e := armReader_park { w with rx := rx', reader := rd' }
    simp only [runIterS, ↓reduceIte, hp]
    generalize armReader { w with rx := rx', reader := rd' } = wa at hq hs e ⊢
    rw [e, hq, hs]
    rfl

theorem iterInS_false_eq {w : World} {rx' : Rx} {rd' : List ReadEv} {o : Out} {qu : List Msg} :
    pollNext w.rx w.reader = (rx', rd', o) → w.queue = qu →
    iterInS false w = match qu with
      | m :: _ => some (w.inMsg m)
      | [] =>
        if w.senders = 0 then none else
        match o with
        | .item fr => (match decodeRx fr with | .ok p => some (w.inPkt p) | _ => none)
        | _ => none := by
  intro hp hq
  subst hq
  simp only [iterInS, iterIn, Bool.false_eq_true, ↓reduceIte, hp]
  cases o <;> rfl

theorem iterInS_true_eq {w : World} {rx' : Rx} {rd' : List ReadEv} {o : Out} {qu : List Msg} :
    pollNext w.rx w.reader = (rx', rd', o) → w.queue = qu →
    iterInS true w = match o with
      | .item fr => (match decodeRx fr with | .ok p => some (w.inPkt p) | _ => none)
      | .none => none
      | .pending => (match qu with | m :: _ => some (w.inMsg m) | [] => none) := by
  intro hp hq
  subst hq
  simp only [iterInS, ↓reduceIte, hp]
  cases o <;> rfl

/-! ## one iteration, taken apart once

What an iteration does, whichever branch is polled first: the handler of its input runs (`Handled`) and the loop goes on
or `run()` returns, according to the flow (`afterHandler`), or the poll ends without a handler (`SIdle`) — possibly after
the packet branch, polled first, has returned `Pending` and armed the reader (`ArmOpt`). The labelled walk
(`LoopAcc.runIterS`, Lemmas/WorldWalk.lean) forgets how the iteration ended; the histories (Lemmas/WorldCtx.lean) and the
decomposition of a poll into steps (below) need it. -/

/-- what the loop does with the world a handler left and the flow it returned -/
def afterHandler (w1 : World) : Flow → World ⊕ World
  | .cont => .inl w1
  | fl => .inr (w1.finish .run (flowRet fl))

theorem afterHandler_exit {w1 : World} {fl : Flow} (h : fl ≠ .cont) :
    afterHandler w1 fl = .inr (w1.finish .run (flowRet fl)) := by
  cases fl with
  | cont => exact absurd rfl h
  | _ => rfl

theorem msgBranch_eq (w : World) (m : Msg) (q : List Msg) :
    msgBranch w m q = afterHandler (({ w with queue := q }).runHandler (fun wok => w.c.handleMsg m wok)).1
      (({ w with queue := q }).runHandler (fun wok => w.c.handleMsg m wok)).2 := by
  unfold msgBranch
  generalize ({ w with queue := q } : World).runHandler _ = r
  obtain ⟨w1, fl⟩ := r
  cases fl <;> rfl

theorem pktBranch_eq (w : World) (rx' : Rx) (rd' : List ReadEv) (fr : Bytes) :
    pktBranch w rx' rd' fr = match decodeRx fr with
      | .ok p =>
        afterHandler (({ w with rx := rx', reader := rd' }).runHandler (fun wok => w.c.handlePkt w.chanRxAlive p wok)).1
          (({ w with rx := rx', reader := rd' }).runHandler (fun wok => w.c.handlePkt w.chanRxAlive p wok)).2
      | .err => .inr (({ w with rx := rx', reader := rd' }).finish .run (.err .codecError))
      | .panic => .inr (({ w with rx := rx', reader := rd', task := .none }).emit (.panic .ctx "other")) := by
  unfold pktBranch
  cases decodeRx fr with
  | ok p =>
    simp only
    generalize ({ w with rx := rx', reader := rd' } : World).runHandler _ = r
    obtain ⟨w1, fl⟩ := r
    cases fl <;> rfl
  | err => rfl
  | panic => rfl

/-- a handler ran on the input `i` — the head of the queue, or the next frame, decoded —, left `w1` and returned `fl` -/
inductive Handled (w : World) : CIn → World → Flow → Prop
  | msg (m : Msg) (q : List Msg) : w.queue = m :: q →
      Handled w (w.inMsg m) (({ w with queue := q }).runHandler (fun wok => w.c.handleMsg m wok)).1
        (({ w with queue := q }).runHandler (fun wok => w.c.handleMsg m wok)).2
  | pkt (rx' : Rx) (rd' : List ReadEv) (fr : Bytes) (p : RxPacket) :
      pollNext w.rx w.reader = (rx', rd', .item fr) → decodeRx fr = .ok p →
      Handled w (w.inPkt p)
        (({ w with rx := rx', reader := rd' }).runHandler (fun wok => w.c.handlePkt w.chanRxAlive p wok)).1
        (({ w with rx := rx', reader := rd' }).runHandler (fun wok => w.c.handlePkt w.chanRxAlive p wok)).2

/-- the final steps that call no handler -/
inductive SIdle (w : World) : World → Prop
  | closed : w.queue = [] → w.senders = 0 → SIdle w (w.finish .run (.err .handleClosed))
  | codec (rx' : Rx) (rd' : List ReadEv) (fr : Bytes) :
      pollNext w.rx w.reader = (rx', rd', .item fr) → decodeRx fr = .err →
      SIdle w (({ w with rx := rx', reader := rd' }).finish .run (.err .codecError))
  | panic (rx' : Rx) (rd' : List ReadEv) (fr : Bytes) :
      pollNext w.rx w.reader = (rx', rd', .item fr) → decodeRx fr = .panic →
      SIdle w (({ w with rx := rx', reader := rd', task := .none }).emit (.panic .ctx "other"))
  | sock (rx' : Rx) (rd' : List ReadEv) : pollNext w.rx w.reader = (rx', rd', .none) →
      SIdle w (({ w with rx := rx', reader := rd' }).finish .run (.err .socketClosed))
  | park (rx' : Rx) (rd' : List ReadEv) : w.queue = [] → w.senders ≠ 0 →
      pollNext w.rx w.reader = (rx', rd', .pending) →
      SIdle w (armReader { w with rx := rx', reader := rd', queueReg := true })

/-- nothing, or the packet branch polled first returned `Pending` -/
def ArmOpt (w wa : World) : Prop :=
  wa = w ∨ ∃ rx' rd', pollNext w.rx w.reader = (rx', rd', .pending) ∧ wa = armReader { w with rx := rx', reader := rd' }

/-- what an iteration does from `w`: the handler of its input `i? = some i` runs, or — `i? = none` — the poll ends
    without one -/
def IterOut (w : World) (i? : Option CIn) (x : World ⊕ World) : Prop :=
  (∃ i w1 fl, Handled w i w1 fl ∧ i? = some i ∧ x = afterHandler w1 fl) ∨ (∃ r, SIdle w r ∧ i? = none ∧ x = .inr r)

theorem msgBranch_out {w : World} {m : Msg} {q : List Msg} (hq : w.queue = m :: q) :
    IterOut w (some (w.inMsg m)) (msgBranch w m q) :=
  Or.inl ⟨_, _, _, .msg m q hq, rfl, msgBranch_eq w m q⟩

theorem pktBranch_out {w : World} {rx' : Rx} {rd' : List ReadEv} {fr : Bytes}
    (hp : pollNext w.rx w.reader = (rx', rd', .item fr)) :
    IterOut w (match decodeRx fr with | .ok p => some (w.inPkt p) | _ => none) (pktBranch w rx' rd' fr) := by
  rw [pktBranch_eq]
  cases hd : decodeRx fr with
  | ok p => exact Or.inl ⟨_, _, _, .pkt rx' rd' fr p hp hd, rfl, rfl⟩
  | err => exact Or.inr ⟨_, .codec rx' rd' fr hp hd, rfl, rfl⟩
  | panic => exact Or.inr ⟨_, .panic rx' rd' fr hp hd, rfl, rfl⟩

theorem runIter_out (w : World) : IterOut w w.iterIn (runIter w) := by
  rcases hp : pollNext w.rx w.reader with ⟨rx', rd', o⟩
  obtain ⟨qu, hq⟩ : ∃ qu, w.queue = qu := ⟨_, rfl⟩
  rw [show w.iterIn = iterInS false w from rfl, ← runIterS_false, iterInS_false_eq hp hq, runIterS_false_eq hp hq]
  cases qu with
  | cons m q => exact msgBranch_out hq
  | nil =>
    by_cases hs : w.senders = 0
    · rw [if_pos hs, if_pos hs]; exact Or.inr ⟨_, .closed hq hs, rfl, rfl⟩
    · rw [if_neg hs, if_neg hs]
      cases o with
      | item fr => exact pktBranch_out hp
      | none => exact Or.inr ⟨_, .sock rx' rd' hp, rfl, rfl⟩
      | pending => exact Or.inr ⟨_, .park rx' rd' hq hs hp, rfl, rfl⟩

/-- **one iteration under any scheduler**: possibly the packet branch returns `Pending` first (`ArmOpt`) — then only
    the message branch is polled —; then the input `iterInS pf w` is handled, or there is none and the poll ends. With
    the message branch first a packet is handled only when nothing is queued -/
theorem runIterS_spec (pf : Bool) (w : World) :
    ∃ wa, ArmOpt w wa ∧ IterOut wa (iterInS pf w) (runIterS pf w) ∧
      (wa = w ∨ ∀ p d k, iterInS pf w ≠ some (.pkt p d k)) ∧
      (pf = false → ∀ p d k, iterInS pf w = some (.pkt p d k) → w.queue = []) := by
  rcases hp : pollNext w.rx w.reader with ⟨rx', rd', o⟩
  obtain ⟨qu, hq⟩ : ∃ qu, w.queue = qu := ⟨_, rfl⟩
  cases pf with
  | false =>
    refine ⟨w, Or.inl rfl, runIter_out w, Or.inl rfl, fun _ => ?_⟩
    rw [iterInS_false_eq hp hq]
    cases qu with
    | cons m q => intro _ _ _ h; cases h
    | nil => exact fun _ _ _ _ => hq
  | true =>
    rw [iterInS_true_eq hp hq, runIterS_true_eq hp hq]
    cases o with
    | item fr => exact ⟨w, Or.inl rfl, pktBranch_out hp, Or.inl rfl, nofun⟩
    | none => exact ⟨w, Or.inl rfl, Or.inr ⟨_, .sock rx' rd' hp, rfl, rfl⟩, Or.inl rfl, nofun⟩
    | pending =>
      have harm : ArmOpt w (armReader { w with rx := rx', reader := rd' }) := Or.inr ⟨rx', rd', hp, rfl⟩
      obtain ⟨_, hin, hqa, hsa⟩ := armReader_in { w with rx := rx', reader := rd' }
      have hq' : (armReader { w with rx := rx', reader := rd' }).queue = qu := hqa.trans hq
      cases qu with
      | cons m q =>
        have h := msgBranch_out hq'
        rw [show (armReader { w with rx := rx', reader := rd' }).inMsg m = w.inMsg m from hin m] at h
        exact ⟨_, harm, h, Or.inr (fun _ _ _ h => by cases h), nofun⟩
      | nil =>
        by_cases hs : w.senders = 0
        · rw [if_pos hs]
          exact ⟨_, harm, Or.inr ⟨_, .closed hq' (hsa.trans hs), rfl, rfl⟩, Or.inr (fun _ _ _ h => by cases h), nofun⟩
        · rw [if_neg hs]
          exact ⟨w, Or.inl rfl, Or.inr ⟨_, .park rx' rd' hq hs hp, rfl, rfl⟩, Or.inl rfl, nofun⟩

/-- a step after which the loop goes on: a queued message handled, an inbound packet handled — whatever the
    other branch holds, unlike `RunCont.pkt` — or the packet branch returned `Pending` and armed the reader -/
inductive SCont (w : World) : World → Prop
  | msg (m : Msg) (q : List Msg) (w1 : World) : w.queue = m :: q →
      ({ w with queue := q }).runHandler (fun wok => w.c.handleMsg m wok) = (w1, .cont) → SCont w w1
  | pkt (rx' : Rx) (rd' : List ReadEv) (fr : Bytes) (p : RxPacket) (w1 : World) :
      pollNext w.rx w.reader = (rx', rd', .item fr) → decodeRx fr = .ok p →
      ({ w with rx := rx', reader := rd' }).runHandler (fun wok => w.c.handlePkt w.chanRxAlive p wok) = (w1, .cont) →
      SCont w w1
  | arm (rx' : Rx) (rd' : List ReadEv) : pollNext w.rx w.reader = (rx', rd', .pending) →
      SCont w (armReader { w with rx := rx', reader := rd' })

/-- the ways one poll of the loop ends, under any scheduler -/
inductive SEnd (w : World) : World → Prop
  | msgExit (m : Msg) (q : List Msg) (w1 : World) (fl : Flow) : w.queue = m :: q →
      ({ w with queue := q }).runHandler (fun wok => w.c.handleMsg m wok) = (w1, fl) → fl ≠ .cont →
      SEnd w (w1.finish .run (flowRet fl))
  | closed : w.queue = [] → w.senders = 0 → SEnd w (w.finish .run (.err .handleClosed))
  | pktExit (rx' : Rx) (rd' : List ReadEv) (fr : Bytes) (p : RxPacket) (w1 : World) (fl : Flow) :
      pollNext w.rx w.reader = (rx', rd', .item fr) → decodeRx fr = .ok p →
      ({ w with rx := rx', reader := rd' }).runHandler (fun wok => w.c.handlePkt w.chanRxAlive p wok) = (w1, fl) →
      fl ≠ .cont → SEnd w (w1.finish .run (flowRet fl))
  | codec (rx' : Rx) (rd' : List ReadEv) (fr : Bytes) :
      pollNext w.rx w.reader = (rx', rd', .item fr) → decodeRx fr = .err →
      SEnd w (({ w with rx := rx', reader := rd' }).finish .run (.err .codecError))
  | panic (rx' : Rx) (rd' : List ReadEv) (fr : Bytes) :
      pollNext w.rx w.reader = (rx', rd', .item fr) → decodeRx fr = .panic →
      SEnd w (({ w with rx := rx', reader := rd', task := .none }).emit (.panic .ctx "other"))
  | sock (rx' : Rx) (rd' : List ReadEv) : pollNext w.rx w.reader = (rx', rd', .none) →
      SEnd w (({ w with rx := rx', reader := rd' }).finish .run (.err .socketClosed))
  | park (rx' : Rx) (rd' : List ReadEv) : w.queue = [] → w.senders ≠ 0 →
      pollNext w.rx w.reader = (rx', rd', .pending) →
      SEnd w (armReader { w with rx := rx', reader := rd', queueReg := true })

theorem SCont.of_runCont {w w1 : World} (h : RunCont w w1) : SCont w w1 := by
  cases h with
  | msg m q w1 hq hr => exact .msg m q w1 hq hr
  | pkt rx' rd' fr p w1 hq hs hp hd hr => exact .pkt rx' rd' fr p w1 hp hd hr

theorem SEnd.of_runEnd {w r : World} (h : RunEnd w r) : SEnd w r := by
  cases h with
  | msgExit m q w1 fl hq hr hne => exact .msgExit m q w1 fl hq hr hne
  | closed hq hs => exact .closed hq hs
  | pktExit rx' rd' fr p w1 fl hq hs hp hd hr hne => exact .pktExit rx' rd' fr p w1 fl hp hd hr hne
  | codec rx' rd' fr hq hs hp hd => exact .codec rx' rd' fr hp hd
  | panic rx' rd' fr hq hs hp hd => exact .panic rx' rd' fr hp hd
  | sock rx' rd' hq hs hp => exact .sock rx' rd' hp
  | pending rx' rd' hq hs hp => exact .park rx' rd' hq hs hp

/-- zero or more steps after which the loop goes on -/
inductive SServe : World → World → Prop
  | refl (w : World) : SServe w w
  | step {w w1 w2 : World} : SCont w w1 → SServe w1 w2 → SServe w w2

theorem SServe.one {w w1 : World} (h : SCont w w1) : SServe w w1 := .step h (.refl _)

theorem SServe.trans {a b c : World} (h1 : SServe a b) (h2 : SServe b c) : SServe a c := by
  induction h1 with
  | refl => exact h2
  | step hc _ ih => exact .step hc (ih h2)

theorem SServe.of_serve {w wm : World} (h : Serve w wm) : SServe w wm := by
  induction h with
  | refl w => exact .refl w
  | step hc _ ih => exact .step (.of_runCont hc) ih

theorem Handled.sCont {w w1 : World} {i : CIn} {fl : Flow} (h : Handled w i w1 fl) (hfl : fl = .cont) : SCont w w1 := by
  cases h with
  | msg m q hq => exact .msg m q _ hq (Prod.ext rfl hfl)
  | pkt rx' rd' fr p hp hd => exact .pkt rx' rd' fr p _ hp hd (Prod.ext rfl hfl)

theorem Handled.sEnd {w w1 : World} {i : CIn} {fl : Flow} (h : Handled w i w1 fl) (hne : fl ≠ .cont) :
    SEnd w (w1.finish .run (flowRet fl)) := by
  cases h with
  | msg m q hq => exact .msgExit m q _ _ hq rfl hne
  | pkt rx' rd' fr p hp hd => exact .pktExit rx' rd' fr p _ _ hp hd rfl hne

theorem afterHandler_spec {w w1 : World} {i : CIn} {fl : Flow} (h : Handled w i w1 fl) :
    (∃ w1', afterHandler w1 fl = .inl w1' ∧ SCont w w1') ∨ (∃ r, afterHandler w1 fl = .inr r ∧ SEnd w r) := by
  by_cases hfl : fl = .cont
  · exact Or.inl ⟨w1, by rw [hfl]; rfl, h.sCont hfl⟩
  · exact Or.inr ⟨_, afterHandler_exit hfl, h.sEnd hfl⟩

theorem msgBranch_spec (w : World) (m : Msg) (q : List Msg) (hq : w.queue = m :: q) :
    (∃ w1, msgBranch w m q = .inl w1 ∧ SCont w w1) ∨ (∃ r, msgBranch w m q = .inr r ∧ SEnd w r) := by
  rw [msgBranch_eq]; exact afterHandler_spec (.msg m q hq)

theorem pktBranch_spec (w : World) (rx' : Rx) (rd' : List ReadEv) (fr : Bytes)
    (hp : pollNext w.rx w.reader = (rx', rd', .item fr)) :
    (∃ w1, pktBranch w rx' rd' fr = .inl w1 ∧ SCont w w1) ∨ (∃ r, pktBranch w rx' rd' fr = .inr r ∧ SEnd w r) := by
  rw [pktBranch_eq]
  cases hd : decodeRx fr with
  | ok p => exact afterHandler_spec (.pkt rx' rd' fr p hp hd)
  | err => exact Or.inr ⟨_, rfl, .codec rx' rd' fr hp hd⟩
  | panic => exact Or.inr ⟨_, rfl, .panic rx' rd' fr hp hd⟩

theorem SIdle.sEnd {w r : World} (h : SIdle w r) : SEnd w r := by
  cases h with
  | closed hq hs => exact .closed hq hs
  | codec rx' rd' fr hp hd => exact .codec rx' rd' fr hp hd
  | panic rx' rd' fr hp hd => exact .panic rx' rd' fr hp hd
  | sock rx' rd' hp => exact .sock rx' rd' hp
  | park rx' rd' hq hs hp => exact .park rx' rd' hq hs hp

theorem ArmOpt.sServe {w wa : World} (h : ArmOpt w wa) : SServe w wa := by
  rcases h with rfl | ⟨rx', rd', hp, rfl⟩
  · exact .refl _
  · exact .one (.arm rx' rd' hp)

theorem handled_frame {w w1 : World} {i : CIn} {fl : Flow} (h : Handled w i w1 fl) :
    LoopFrame w w1 ∧ (w.rx.Ok → loopMu w1 < loopMu w) := by
  cases h with
  | msg m q hq => exact ⟨(msgStep_frame hq _).1, fun _ => (msgStep_frame hq _).2⟩
  | pkt rx' rd' fr p hp hd => exact pktStep_frame hp _

theorem sCont_frame {w w1 : World} (h : SCont w w1) : LoopFrame w w1 := by
  cases h with
  | msg m q w1 hq hr => have h := (handled_frame (.msg m q hq)).1; rw [hr] at h; exact h
  | pkt rx' rd' fr p w1 hp hd hr => have h := (handled_frame (.pkt rx' rd' fr p hp hd)).1; rw [hr] at h; exact h
  | arm rx' rd' hp =>
    obtain ⟨_, _, e, _⟩ := armReader_spec { w with rx := rx', reader := rd' }
    rw [e]
    refine ⟨rfl, ⟨⟨rfl, rfl, rfl, rfl, rfl, rfl⟩, rfl, rfl, rfl, rfl, rfl⟩, outExt_of_eq rfl, fun hok => ?_, pollNext_reach hp⟩
    have hm := And.intro (pollNext_polled hp).pends (pollNext_polled hp).measure
    simp only [Out.len] at hm
    exact ⟨((pollNext_polled hp).ok hok).1, by simp only [loopMu]; omega⟩

theorem sServe_frame {w wm : World} (h : SServe w wm) : LoopFrame w wm := by
  induction h with
  | refl w => exact .refl w
  | step h1 _ ih => exact (sCont_frame h1).trans ih

theorem sServe_senders {w wm : World} (h : SServe w wm) : wm.senders = w.senders := by
  exact (sServe_frame h).ctx.senders

theorem sEnd_senders {w r : World} (h : SEnd w r) : r.senders = w.senders := by
  cases h with
  | msgExit m q w1 fl hq hr =>
    have e : w1.senders = w.senders := by rw [show w1 = _ from (congrArg Prod.fst hr).symm, runHandler_senders]; rfl
    simpa [senders, finish, emit] using e
  | pktExit rx' rd' fr p w1 fl hp hd hr =>
    have e : w1.senders = w.senders := by rw [show w1 = _ from (congrArg Prod.fst hr).symm, runHandler_senders]; rfl
    simpa [senders, finish, emit] using e
  | park => exact (armReader_senders _).trans rfl
  | _ => simp [senders, finish, emit]

/-- **a poll of the loop under any scheduler**: steps that go on, then a final step — or the fuel is used up, which a
    framing state satisfying the invariant rules out when the fuel exceeds the measure -/
theorem runLoopS_decomp (sched : Nat → Bool) (f : Nat) (w : World) :
    ∃ wm, SServe w wm ∧ (SEnd wm (runLoopS sched f w) ∨
      (runLoopS sched f w = wm ∧ (w.rx.Ok → loopMu wm + f ≤ loopMu w))) := by
  induction f generalizing w with
  | zero => exact ⟨w, .refl w, Or.inr ⟨rfl, fun _ => Nat.le_refl _⟩⟩
  | succ f ih =>
    rw [runLoopS_succ]
    obtain ⟨wa, ha, ⟨i, w1, fl, hh, _, e⟩ | ⟨r, hi, _, e⟩, _⟩ := runIterS_spec (sched f) w
    · rw [e]
      have fa := sServe_frame ha.sServe
      by_cases hfl : fl = .cont
      · obtain ⟨hfr, hmu⟩ := handled_frame hh
        obtain ⟨wm, hs, he⟩ := ih w1
        subst hfl
        refine ⟨wm, ha.sServe.trans (.step (hh.sCont rfl) hs), he.imp id fun ⟨e1, h1⟩ => ⟨e1, fun hok => ?_⟩⟩
        obtain ⟨a1, a2⟩ := fa.mu hok
        have := hmu a1
        have := h1 (hfr.mu a1).1
        omega
      · rw [afterHandler_exit hfl]
        exact ⟨wa, ha.sServe, Or.inl (hh.sEnd hfl)⟩
    · rw [e]
      exact ⟨wa, ha.sServe, Or.inl hi.sEnd⟩

theorem runLoopS_full (sched : Nat → Bool) (w : World) (hok : w.rx.Ok) :
    ∃ wm, SServe w wm ∧ SEnd wm (runLoopS sched w.loopFuel w) := by
  obtain ⟨wm, hs, he | ⟨_, h⟩⟩ := runLoopS_decomp sched w.loopFuel w
  · exact ⟨wm, hs, he⟩
  · have := h hok
    have := loopMu_lt_loopFuel w
    omega

/-! ## the model's own order

`RunCont`, `RunEnd`, `Serve` (Lemmas/WorldRun.lean) are steps of the loop: what holds of every step holds of them. -/

theorem runCont_frame {w w1 : World} (h : RunCont w w1) : LoopFrame w w1 := sCont_frame (.of_runCont h)

theorem serve_frame {w wm : World} (h : Serve w wm) : LoopFrame w wm := sServe_frame (.of_serve h)

theorem runCont_mu {w w1 : World} (h : RunCont w w1) (hok : w.rx.Ok) : loopMu w1 < loopMu w := by
  cases h with
  | msg m q w1 hq hr =>
    have := (msgStep_frame hq (fun wok => w.c.handleMsg m wok)).2
    rw [hr] at this; exact this
  | pkt rx' rd' fr p w1 hq hs hp hd hr =>
    have := (pktStep_frame hp (fun wok => w.c.handlePkt w.chanRxAlive p wok)).2 hok
    rw [hr] at this; exact this

theorem runLoop_decomp (f : Nat) (w : World) :
    ∃ wm, Serve w wm ∧ (RunEnd wm (runLoop f w) ∨ (runLoop f w = wm ∧ (w.rx.Ok → loopMu wm + f ≤ loopMu w))) := by
  induction f generalizing w with
  | zero => exact ⟨w, .refl w, Or.inr ⟨rfl, fun _ => Nat.le_refl _⟩⟩
  | succ f ih =>
    rw [runLoop_succ]
    cases h : runIter w with
    | inl w1 =>
      have hc := runIter_inl h
      obtain ⟨wm, hs, he⟩ := ih w1
      refine ⟨wm, .step hc hs, he.imp id fun ⟨e, h1⟩ => ⟨e, fun hok => ?_⟩⟩
      have := runCont_mu hc hok
      have := h1 ((runCont_frame hc).mu hok).1
      omega
    | inr r => exact ⟨w, .refl w, Or.inl (runIter_inr h)⟩

theorem runLoop_full (w : World) (hok : w.rx.Ok) : ∃ wm, Serve w wm ∧ RunEnd wm (runLoop w.loopFuel w) := by
  obtain ⟨wm, hs, he | ⟨_, h⟩⟩ := runLoop_decomp w.loopFuel w
  · exact ⟨wm, hs, he⟩
  · have := h hok
    have := loopMu_lt_loopFuel w
    omega

end World
end Poster

/-
  Lemmas/WorldReachable.lean — what holds in every world a script reaches, in one bundle: the ownership invariant, the
  registration invariant, the structure of the operation table, and an idle executor (or a refused script); it is
  assembled from the per-invariant lemmas (`ownReg_anyInv`, `OpsInv.moveInv`, `W5.stepAny_quiet`) and carried along every
  resolution of the `select!`.
-/
import PosterModel.Lemmas.WorldFuelScript
import PosterModel.Lemmas.WorldOps

namespace Poster
open Framing
namespace World
namespace W11

/-- the invariants every reachable world satisfies (`OwnInv`, `RegInv`, `OpsInv`, and after every step the executor is
    idle or the script was refused) -/
structure Reachable (w : World) : Prop where
  own : OwnInv w
  reg : RegInv w
  ops : OpsInv w
  quiet : W5.Quiet w

theorem Reachable.stepAny {w : World} {e : Ev} {w' : World} (h : Reachable w) (hs : StepAny w e w') : Reachable w' :=
  have or := ownReg_anyInv.stepAny hs ⟨h.own, h.reg⟩
  ⟨or.1, or.2, OpsInv.moveInv.stepAny h.ops hs, W5.stepAny_quiet hs h.own h.reg h.quiet⟩

theorem Reachable.stepsAny {w : World} {evs : List Ev} {w' : World} (h : Reachable w) (hs : StepsAny w evs w') :
    Reachable w' :=
  StepsAny.ind (fun _ hs h => h.stepAny hs) hs h

theorem Reachable.step {w : World} (h : Reachable w) (e : Ev) : Reachable (w.step e) := h.stepAny (stepAny_step w e)

theorem Reachable.steps {w : World} (h : Reachable w) (evs : List Ev) : Reachable (evs.foldl World.step w) :=
  h.stepsAny (stepsAny_foldl evs w)

theorem reachable_init (cfg : Cfg) : Reachable { cfg := cfg } :=
  ⟨ownInv_init cfg, regInv_init cfg, OpsInv.init cfg, W5.quiet_init cfg⟩

theorem reachable_script (cfg : Cfg) (evs : List Ev) : Reachable (evs.foldl World.step { cfg := cfg }) :=
  (reachable_init cfg).steps evs

end W11
end World
end Poster

/-
  Lemmas/WorldCancelBothScript.lean — lockstep for the combined erasure `shade id`: dropping the future of operation
  `id` in ANY phase (including a `subscribe()` waiting for its SUBACK, whose drop also removes the receiving end of its
  subscription channel) versus holding it for ever.
-/
import PosterModel.Lemmas.WorldCancelBoth

namespace Poster
open Framing
namespace World
namespace W11

theorem shade_dropOp (id : Nat) (w : World) (hi : OpsInv w) (hh : w.handles ≠ []) :
    shade id (w.dropOp id) = shade id w := by
  have plain : (∀ s, w.opSt id ≠ some (.wait s .suback)) → shade id (w.dropOp id) = shade id w := fun hns => by
    unfold shade; rw [hide_dropOp id w hi hh hns]
  rcases dropOp_cases w id with ⟨ho, _⟩ | ⟨_, _, ho, _⟩ | ⟨s, k, ho, hk, _⟩ | ⟨s, hst, e⟩
  · exact plain fun s' e' => by rw [ho] at e'; cases e'
  · exact plain fun s' e' => by rw [ho] at e'; cases e'
  · exact plain fun s' e' => hk (by rw [ho] at e'; cases e'; rfl)
  · rw [e]
    unfold shade
    rw [hide_eraseOp_mine id ((w.clearSlot s).dropChanRx id) hh, ← dropChanRx_hide,
      clearSlot_hide_mine id w s (hi.owner (mem_of_opSt hst))]
    exact dropChanRx_veil_mine id _

/-- `StartV` for a future that may still own channel `id`: a handle is alive, `id` is not yet a stream, no OTHER
    `subscribe()` future awaits its first poll -/
structure StartB (id : Nat) (w : World) : Prop where
  handles : w.handles ≠ []
  noStream : id ∉ w.streams
  noMsg : NoMsgFor id w
  nodup : (psids w).Nodup
  noSub : NoFreshSub (hide id w)

theorem noFreshSub_hide_of_ops {id : Nat} {w w' : World}
    (h : ∀ x ∈ w'.ops, x.1 ≠ id → x ∈ w.ops) (hn : NoFreshSub (hide id w)) : NoFreshSub (hide id w') := by
  intro j hd t hm
  simp only [hide_ops, List.mem_filter, keepK_true] at hm
  exact hn j hd t (by simp only [hide_ops, List.mem_filter, keepK_true]; exact ⟨h _ hm.1 hm.2, hm.2⟩)

theorem sideV_hide_start {id : Nat} {w w1 : World} (hs : StartB id w) (hq : w1.queue = w.queue)
    (hc : w1.c = w.c) (hst : w1.streams = w.streams) (hops : ∀ x ∈ w1.ops, x.1 ≠ id → x ∈ w.ops) :
    SideV id (hide id w1) := by
  refine ⟨⟨lookupFirst_filter_not (keepK id) id w1.ops (by simp), Or.inl (by rw [hide_streams, hst]; exact hs.noStream)⟩, ?_, ?_,
    noFreshSub_hide_of_ops hops hs.noSub⟩
  · intro m hm; rw [hide_queue, hq] at hm; exact hs.noMsg m hm
  · have : psids (hide id w1) = psids w := psids_congr (by rw [hide_queue, hq]) (by rw [hide_c, hc])
    rw [this]; exact hs.nodup

theorem lockB_start (id : Nat) (w : World) (r : Reachable w) (hs : StartB id w) :
    Lock (shade id) (SideB id) (w.step (.drop (.op id))) (w.step (.hold (.op id))) := by
  have hh := hs.handles
  refine Lock.start (erasure_shade id) r _ _ fun _ => ⟨?_, ?_, ?_⟩
  · have ea : shade id ((w.emit (.ev (.drop (.op id)))).dropOp id) = shade id w := by
      rw [shade_dropOp id _ (r.ops.emit _) hh]
      unfold shade; rw [emit_hide_mine id w _ (by simp [mine, mineEv])]
    exact ea.trans (congrArg (veil id) (hide_hold_ev id w)).symm
  · have fa := apply_drop_userFrame (w.emit (.ev (.drop (.op id)))) (.op id)
    refine ⟨side_drop id r.ops hh, ?_⟩
    refine sideV_hide_start hs (apply_drop_queue _ _) fa.c ?_ ?_
    · obtain ⟨o, sl, sr, ch, wk, qr, e⟩ := dropOp_footprint (w.emit (.ev (.drop (.op id)))) id
      show ((w.emit (.ev (.drop (.op id)))).dropOp id).streams = w.streams
      rw [e]; rfl
    · intro x hx _
      rw [show ((w.emit (.ev (.drop (.op id)))).apply (.drop (.op id))).ops = eraseFirst id w.ops from
        dropOp_ops_eq (w.emit (.ev (.drop (.op id)))) id] at hx
      exact (eraseFirst_sublist id w.ops).subset hx
  · have e := apply_hold_eq (w.emit (.ev (.hold (.op id)))) (.op id)
    exact ⟨side_hold id r.ops hh,
      sideV_hide_start hs (by rw [e]; rfl) (by rw [e]; rfl) (by rw [e]; rfl) (fun x hx _ => by rw [e] at hx; exact hx)⟩

end W11
end World
end Poster

/-
  Lemmas/WorldEra.lean — erasures. An `Era` keeps part of a world: the tasks that pass a test and, with the task of a
  future or a stream, its operation, oneshots and channel; the transcript lines that pass a test (behind a fixed
  prefix); the configuration and the session through a map. `E.app` commutes with what it sees. A particular erasure
  supplies `Wf`, `CtxSide S` (with `Snd`), `SeesOp j` for the futures it lets poll, `KeepsSlots`; for the executor and
  the events `Sees`, `Polls`, `EvWf`, `SeesEv` (Lemmas/WorldEraScript.lean); for scripts `Erasure`, `Events`
  (Lemmas/WorldCancelLock.lean).
-/
import PosterModel.Lemmas.WorldWalk
import PosterModel.Lemmas.WorldDrop
import PosterModel.Lemmas.UserWorld
import PosterModel.Lemmas.WorldIn

namespace Poster
open Framing
namespace World

structure Era where
  /-- the configuration and the session go through a map -/
  cfg : Cfg → Cfg
  c : Ctx → Ctx
  /-- the tasks kept -/
  kTask : Task → Bool
  /-- the transcript is `pre` followed by the lines that pass `kObs` -/
  pre : List Obs
  kObs : Obs → Bool

namespace Era
variable (E : Era)

-- an operation and its oneshots go with the task of its future, a channel with the task of its stream
def kOp : Nat → Bool := fun n => E.kTask (.op n)
def kSlot : Nat → Bool := fun s => E.kTask (.op (s / 2))
def kChan : Nat → Bool := fun c => E.kTask (.st c)

theorem kOp_eq : E.kOp = fun n => E.kTask (.op n) := rfl
theorem kSlot_eq : E.kSlot = fun s => E.kTask (.op (s / 2)) := rfl
theorem kChan_eq : E.kChan = fun c => E.kTask (.st c) := rfl

def app (w : World) : World :=
  { w with cfg := E.cfg w.cfg, c := E.c w.c,
           ops := w.ops.filter (fun x => E.kOp x.1),
           slots := w.slots.filter (fun x => E.kSlot x.1),
           slotReg := w.slotReg.filter E.kSlot,
           chans := w.chans.filter (fun x => E.kChan x.1),
           streams := w.streams.filter E.kChan,
           woken := w.woken.filter E.kTask,
           held := w.held.filter E.kTask,
           out := E.pre ++ w.out.filter E.kObs }

/-- the effects that do something in the erased world -/
def kEff : Eff → Bool
  | .deliver c _ => E.kChan c
  | .dropChan c => E.kChan c
  | _ => true

/-- what makes the erasure invisible to the transport and the context task: the write limit is untouched, the context
    task and the lines it logs are kept -/
structure Wf : Prop where
  wlimit : ∀ c, (E.cfg c).wlimit = c.wlimit
  ctx : E.kTask .ctx = true
  line : ∀ o, CtxLine o → E.kObs o = true

theorem app_fields (w : World) :
    (E.app w).cfg = E.cfg w.cfg ∧ (E.app w).hasCtx = w.hasCtx ∧ (E.app w).ctxDropped = w.ctxDropped ∧
    (E.app w).task = w.task ∧ (E.app w).c = E.c w.c ∧ (E.app w).rx = w.rx ∧ (E.app w).reader = w.reader ∧
    (E.app w).readerReg = w.readerReg ∧ (E.app w).queue = w.queue ∧ (E.app w).queueReg = w.queueReg ∧
    (E.app w).handles = w.handles ∧ (E.app w).ops = w.ops.filter (fun x => E.kOp x.1) ∧
    (E.app w).slots = w.slots.filter (fun x => E.kSlot x.1) ∧ (E.app w).slotReg = w.slotReg.filter E.kSlot ∧
    (E.app w).chans = w.chans.filter (fun x => E.kChan x.1) ∧ (E.app w).rsps = w.rsps ∧
    (E.app w).streams = w.streams.filter E.kChan ∧ (E.app w).pidCtr = w.pidCtr ∧ (E.app w).subCtr = w.subCtr ∧
    (E.app w).woken = w.woken.filter E.kTask ∧ (E.app w).held = w.held.filter E.kTask ∧
    (E.app w).written = w.written ∧ (E.app w).wirePend = w.wirePend ∧
    (E.app w).out = E.pre ++ w.out.filter E.kObs ∧ (E.app w).bad = w.bad ∧ (E.app w).loopFuel = w.loopFuel :=
  ⟨rfl, rfl, rfl, rfl, rfl, rfl, rfl, rfl, rfl, rfl, rfl, rfl, rfl, rfl, rfl, rfl, rfl, rfl, rfl, rfl, rfl, rfl, rfl, rfl,
    rfl, rfl⟩

theorem mk_app (cfg hasCtx ctxDropped task c rx reader readerReg queue queueReg handles)
    (ops : List (Nat × OpSt)) (slots : List (Nat × Slot)) (slotReg : List Nat) (chans : List (Nat × Chan)) (rsps)
    (streams : List Nat) (pidCtr subCtr) (woken held : List Task) (written wirePend) (out : List Obs) (bad) :
    (⟨E.cfg cfg, hasCtx, ctxDropped, task, E.c c, rx, reader, readerReg, queue, queueReg, handles,
      ops.filter (fun x => E.kOp x.1), slots.filter (fun x => E.kSlot x.1), slotReg.filter E.kSlot,
      chans.filter (fun x => E.kChan x.1), rsps, streams.filter E.kChan, pidCtr, subCtr,
      woken.filter E.kTask, held.filter E.kTask, written, wirePend, E.pre ++ out.filter E.kObs, bad⟩ : World) =
    E.app ⟨cfg, hasCtx, ctxDropped, task, c, rx, reader, readerReg, queue, queueReg, handles, ops, slots,
      slotReg, chans, rsps, streams, pidCtr, subCtr, woken, held, written, wirePend, out, bad⟩ := rfl

variable {E}

theorem canWrite_app (hw : E.Wf) (w : World) (n : Nat) : (E.app w).canWrite n = w.canWrite n := by
  show (match (E.cfg w.cfg).wlimit with | none => true | some l => decide (w.written + n ≤ l)) = _
  rw [hw.wlimit]; rfl

theorem slot_app (w : World) (s : Nat) (h : E.kSlot s = true) : (E.app w).slot s = w.slot s :=
  lookupFirst_filter E.kSlot s w.slots h

theorem chan_app (w : World) (c : Nat) (h : E.kChan c = true) : (E.app w).chan c = w.chan c :=
  lookupFirst_filter E.kChan c w.chans h

theorem chan_app_drop (w : World) (c : Nat) (h : E.kChan c = false) : (E.app w).chan c = none :=
  lookupFirst_filter_not E.kChan c w.chans h

theorem opSt_app (w : World) (j : Nat) (h : E.kOp j = true) : (E.app w).opSt j = w.opSt j :=
  lookupFirst_filter E.kOp j w.ops h

theorem mem_woken_app (w : World) {t : Task} (h : E.kTask t = true) : t ∈ (E.app w).woken ↔ t ∈ w.woken := by
  simp [app, h]

theorem mem_held_app (w : World) {t : Task} (h : E.kTask t = true) : t ∈ (E.app w).held ↔ t ∈ w.held := by
  simp [app, h]

theorem mem_slotReg_app (w : World) {s : Nat} (h : E.kSlot s = true) : s ∈ (E.app w).slotReg ↔ s ∈ w.slotReg := by
  simp [app, h]

theorem mem_streams_app (w : World) {j : Nat} (h : E.kChan j = true) : j ∈ (E.app w).streams ↔ j ∈ w.streams := by
  simp [app, h]

theorem emit_app (w : World) (o : Obs) (h : E.kObs o = true) : (E.app w).emit o = E.app (w.emit o) := by
  have e : (E.pre ++ w.out.filter E.kObs) ++ [o] = E.pre ++ (w.out ++ [o]).filter E.kObs := by
    rw [filter_snoc_keep _ _ _ h, List.append_assoc]
  exact congrArg (fun l => ({ E.app w with out := l } : World)) e

theorem emit_app_drop (w : World) (o : Obs) (h : E.kObs o = false) : E.app (w.emit o) = E.app w := by
  have e : E.pre ++ (w.out ++ [o]).filter E.kObs = E.pre ++ w.out.filter E.kObs := by
    simp [List.filter_append, h]
  exact congrArg (fun l => ({ E.app w with out := l } : World)) e

theorem wake_app (w : World) (t : Task) (h : E.kTask t = true) : (E.app w).wake t = E.app (w.wake t) := by
  rw [wake_eq, wake_eq]
  exact congrArg (fun l => ({ E.app w with woken := l } : World)) (filter_addNew E.kTask w.woken t h)

theorem unwake_app (w : World) (t : Task) : (E.app w).unwake t = E.app (w.unwake t) :=
  congrArg (fun l => ({ E.app w with woken := l } : World)) (filter_filter_comm _ _ _)

theorem setChan_app (w : World) (c : Nat) (v : Chan) (h : E.kChan c = true) :
    (E.app w).setChan c v = E.app (w.setChan c v) :=
  congrArg (fun l => ({ E.app w with chans := l } : World)) (setAssoc_filter E.kChan c v w.chans h)

theorem flushWire_app (hw : E.Wf) (w : World) : (E.app w).flushWire = E.app w.flushWire := by
  unfold flushWire
  show (match frames w.wirePend with
    | some (ps, tl) => ({ E.app w with out := (E.app w).out ++ ps.map Obs.wire, wirePend := tl } : World)
    | none => { E.app w with out := (E.app w).out ++ [Obs.wraw w.wirePend], wirePend := [] }) = _
  cases frames w.wirePend with
  | none =>
    exact congrArg (fun x : World => ({ x with wirePend := [] } : World)) (emit_app w _ (hw.line _ (.wraw _)))
  | some r =>
    obtain ⟨ps, tl⟩ := r
    have e : (E.pre ++ w.out.filter E.kObs) ++ ps.map Obs.wire = E.pre ++ (w.out ++ ps.map Obs.wire).filter E.kObs := by
      have k : (ps.map Obs.wire).filter E.kObs = ps.map Obs.wire :=
        List.filter_eq_self.mpr fun o ho => by obtain ⟨b, _, rfl⟩ := List.mem_map.mp ho; exact hw.line _ (.wire b)
      rw [List.filter_append, List.append_assoc, k]
    exact congrArg (fun l => ({ E.app w with out := l, wirePend := tl } : World)) e

theorem writeBytes_app (hw : E.Wf) (w : World) (bs : Bytes) : (E.app w).writeBytes bs = E.app (w.writeBytes bs) := by
  have hk : (E.app w).cfg.wlimit = w.cfg.wlimit := hw.wlimit _
  cases h : w.canWrite bs.length
  · simp only [writeBytes, canWrite_app hw, h, Bool.false_eq_true, ↓reduceIte, hk]
    exact flushWire_app hw
      { w with written := w.written + (w.cfg.wlimit.getD 0 - w.written),
               wirePend := w.wirePend ++ bs.take (w.cfg.wlimit.getD 0 - w.written) }
  · simp only [writeBytes, canWrite_app hw, h, ↓reduceIte]
    exact flushWire_app hw { w with written := w.written + bs.length, wirePend := w.wirePend ++ bs }

/-! ## channel effects: they commute whoever owns the oneshot or the channel -/

theorem fillSlot_app (w : World) (s : Nat) (x : Slot) (h : E.kSlot s = true) :
    fillSlot (E.app w) s x = E.app (fillSlot w s x) := by
  have hmem := mem_slotReg_app w h
  have e1 := setAssoc_filter E.kSlot s x w.slots h
  have e2 : (if s ∈ (E.app w).slotReg then (E.app w).slotReg.filter (fun y => decide (y ≠ s))
      else (E.app w).slotReg) =
      (if s ∈ w.slotReg then w.slotReg.filter (fun y => decide (y ≠ s)) else w.slotReg).filter E.kSlot := by
    simp only [hmem]; split
    · exact filter_filter_comm _ _ _
    · rfl
  have e3 : (if s ∈ (E.app w).slotReg then ((E.app w).wake (.op (s / 2))).woken else (E.app w).woken) =
      (if s ∈ w.slotReg then (w.wake (.op (s / 2))).woken else w.woken).filter E.kTask := by
    rw [wake_app w _ h]; simp only [hmem]; split <;> rfl
  exact congr (congr (congrArg
    (fun a b c => ({ E.app w with slots := a, slotReg := b, woken := c } : World)) e1) e2) e3

theorem fillSlot_app_drop (w : World) (s : Nat) (x : Slot) (h : E.kSlot s = false) :
    E.app (fillSlot w s x) = E.app w := by
  have e1 := setAssoc_filter_not E.kSlot s x w.slots h
  have e2 : (if s ∈ w.slotReg then w.slotReg.filter (fun y => decide (y ≠ s)) else w.slotReg).filter E.kSlot =
      w.slotReg.filter E.kSlot := by
    split
    · exact filter_ne_drop E.kSlot s _ h
    · rfl
  have e3 : (if s ∈ w.slotReg then (w.wake (.op (s / 2))).woken else w.woken).filter E.kTask =
      w.woken.filter E.kTask := by
    rw [wake_woken]
    split
    · exact filter_addNew_drop E.kTask w.woken _ h
    · rfl
  have key := congr (congr (congrArg
    (fun a b c => ({ E.app w with slots := a, slotReg := b, woken := c } : World)) e1) e2) e3
  exact key

theorem fillEmpty_app (w : World) (s : Nat) (x : Slot) :
    (if (E.app w).slot s = some .empty then fillSlot (E.app w) s x else E.app w) =
      E.app (if w.slot s = some .empty then fillSlot w s x else w) := by
  cases hs : E.kSlot s
  · rw [show (E.app w).slot s = none from lookupFirst_filter_not E.kSlot s w.slots hs, if_neg nofun]
    split
    · exact (fillSlot_app_drop w s _ hs).symm
    · rfl
  · rw [slot_app w s hs]
    split
    · exact fillSlot_app w s _ hs
    · rfl

theorem putChan_app (w : World) (c : Nat) (ch c1 : Chan) (h : E.kChan c = true) :
    (E.app w).putChan c ch c1 = E.app (w.putChan c ch c1) := by
  have e1 := setAssoc_filter E.kChan c c1 w.chans h
  have e2 : (if ch.reg then ((E.app w).wake (.st c)).woken else (E.app w).woken) =
      (if ch.reg then (w.wake (.st c)).woken else w.woken).filter E.kTask := by
    rw [wake_app w _ h]; split <;> rfl
  exact congr (congrArg (fun a b => ({ E.app w with chans := a, woken := b } : World)) e1) e2

theorem putChan_app_drop (w : World) (c : Nat) (ch c1 : Chan) (h : E.kChan c = false) :
    E.app (w.putChan c ch c1) = E.app w := by
  have e1 := setAssoc_filter_not E.kChan c c1 w.chans h
  have e2 : (if ch.reg then (w.wake (.st c)).woken else w.woken).filter E.kTask = w.woken.filter E.kTask := by
    rw [wake_woken]
    split
    · exact filter_addNew_drop E.kTask w.woken _ h
    · rfl
  have key := congr (congrArg (fun a b => ({ E.app w with chans := a, woken := b } : World)) e1) e2
  exact key

theorem onChan_app (w : World) (c : Nat) (f : Chan → Chan) :
    (E.app w).onChan c f = E.app (w.onChan c f) := by
  unfold onChan
  cases hc : E.kChan c
  · rw [chan_app_drop w c hc]
    cases w.chan c with
    | none => rfl
    | some ch => exact (putChan_app_drop w c ch _ hc).symm
  · rw [chan_app w c hc]
    cases w.chan c with
    | none => rfl
    | some ch => exact putChan_app w c ch _ hc

theorem applyEff_app (hw : E.Wf) (w : World) (e : Eff) : (E.app w).applyEff e = E.app (w.applyEff e) := by
  cases e with
  | write bs => exact writeBytes_app hw w bs
  | send s v => show (E.app w).sendSlot s v = E.app (w.sendSlot s v); rw [sendSlot_eq, sendSlot_eq]; exact fillEmpty_app w s _
  | dropSlot s => show (E.app w).dropSlotTx s = E.app (w.dropSlotTx s); rw [dropSlotTx_eq, dropSlotTx_eq]; exact fillEmpty_app w s _
  | deliver c x =>
    show (E.app w).deliver c x = E.app (w.deliver c x); rw [deliver_eq, deliver_eq]; exact onChan_app w c _
  | dropChan c => show (E.app w).dropChanTx c = E.app (w.dropChanTx c); rw [dropChanTx_eq, dropChanTx_eq]; exact onChan_app w c _

theorem applyEffs_app (hw : E.Wf) (w : World) (es : List Eff) : (E.app w).applyEffs es = E.app (w.applyEffs es) :=
  List.foldl_hom E.app (H := fun w e => applyEff_app hw w e)

theorem applyEffs_app_filter (hw : E.Wf) (w : World) (es : List Eff) :
    (E.app w).applyEffs (es.filter E.kEff) = (E.app w).applyEffs es := by
  -- both folds stay inside the erased worlds, where a dropped effect does nothing
  refine Eq.trans ?_ (applyEffs_app hw w es).symm
  unfold applyEffs
  rw [List.foldl_filter]
  refine List.foldl_hom E.app (H := fun w e => ?_)
  cases he : E.kEff e
  · rw [if_neg (by simp), ← applyEff_app hw]
    cases e with
    | write bs => cases he
    | send s v => cases he
    | dropSlot s => cases he
    | deliver c x => exact (User.deliver_none _ c x (chan_app_drop w c he)).symm
    | dropChan c => exact (User.dropChanTx_none _ c (chan_app_drop w c he)).symm
  · rw [if_pos rfl]; exact applyEff_app hw w e

theorem writeNeed_filter_kEff (E : Era) (es : List Eff) : writeNeed (es.filter E.kEff) = writeNeed es := by
  induction es with
  | nil => rfl
  | cons e t ih =>
    cases he : E.kEff e
    · rw [List.filter_cons_of_neg (by simp [he]), ih]
      cases e with
      | deliver c p => simp [writeNeed]
      | dropChan c => simp [writeNeed]
      | _ => cases he
    · rw [List.filter_cons_of_pos he]
      simp only [writeNeed, List.map_cons, List.sum_cons] at ih ⊢
      rw [ih]

/-- what a handler of the erased session returns, against what the handler of the full session returns: the same flow,
    the erased session, the same effects up to those on erased channels -/
def Agree (E : Era) (r' r : Ctx × List Eff × Flow) : Prop :=
  r'.2.2 = r.2.2 ∧ r'.1 = E.c r.1 ∧ r'.2.1.filter E.kEff = r.2.1.filter E.kEff

theorem runHandler_app (hw : E.Wf) (x : World) (h h' : Bool → Ctx × List Eff × Flow)
    (key : ∀ wok, E.Agree (h' wok) (h wok)) :
    (E.app x).runHandler h' = (E.app (x.runHandler h).1, (x.runHandler h).2) := by
  rw [runHandler_eq, runHandler_eq]
  have hneed : writeNeed (h' true).2.1 = writeNeed (h true).2.1 := by
    rw [← writeNeed_filter_kEff E, ← writeNeed_filter_kEff E (h true).2.1]
    exact congrArg writeNeed (key true).2.2
  simp only [canWrite_app hw, hneed]
  generalize x.canWrite _ = b
  obtain ⟨k1, k2, k3⟩ := key b
  rw [k1, k2]
  refine congrArg (fun y => (y, (h b).2.2)) ?_
  have e0 : ({ E.app x with c := E.c (h b).1 } : World) = E.app { x with c := (h b).1 } := rfl
  rw [e0, ← applyEffs_app_filter hw, k3, applyEffs_app_filter hw, applyEffs_app hw]

theorem finish_app (hw : E.Wf) (w : World) (call : Call) (r : RetRes) :
    (E.app w).finish call r = E.app (w.finish call r) := by
  unfold finish
  exact emit_app { w with task := .none } _ (hw.line _ (.ret _ _))

/-- the senders of the message queue are all gone in both worlds or in none: a handle is alive, or no operation is
    erased -/
def Snd (E : Era) (w : World) : Prop := w.handles ≠ [] ∨ ∀ k, E.kOp k = true

theorem Snd.senders {w : World} (h : E.Snd w) : (E.app w).senders = 0 ↔ w.senders = 0 := by
  rcases h with h | h
  · exact iff_of_false (senders_ne_zero_of_handles (w := E.app w) h) (senders_ne_zero_of_handles h)
  · have : (E.app w).ops = w.ops := List.filter_eq_self.mpr fun x _ => h x.1
    simp only [World.senders, this]; rfl

/-- what a poll of the context task needs beyond `Wf`: under the side condition `S`, which the loop keeps, the handlers
    of the erased session agree with those of the full one, and the senders are all gone in both worlds or in none -/
structure CtxSide (E : Era) (S : World → Prop) : Prop where
  senders : ∀ w, S w → E.Snd w
  msg : ∀ w m q wok, S w → w.queue = m :: q → E.Agree ((E.c w.c).handleMsg m wok) (w.c.handleMsg m wok)
  pkt : ∀ w p wok, S w →
    E.Agree ((E.c w.c).handlePkt (E.app w).chanRxAlive p wok) (w.c.handlePkt w.chanRxAlive p wok)
  connack : ∀ c k, (E.c c).handleConnack k = E.c (c.handleConnack k)
  sei : ∀ c n, ({ E.c c with sei := n } : Ctx) = E.c { c with sei := n }
  resume : ∀ c, (E.c c).resume.1 = E.c c.resume.1 ∧
    (E.c c).resume.2.1.filter E.kEff = c.resume.2.1.filter E.kEff ∧ (E.c c).resume.2.2 = c.resume.2.2
  cont : ∀ w w1, S w → RunCont w w1 → S w1
  resent : ∀ w, S w → S w.resent

variable {S : World → Prop}

theorem runIter_app (hw : E.Wf) (hs : E.CtxSide S) (w : World) (s : S w) :
    runIter (E.app w) =
      match runIter w with
      | .inl x => .inl (E.app x)
      | .inr x => .inr (E.app x) := by
  unfold runIter
  simp only [(hs.senders w s).senders]
  simp only [E.app_fields]
  cases hq : w.queue with
  | cons m q =>
    simp only [E.mk_app, runHandler_app hw _ _ _ (fun wok => hs.msg w m q wok s hq)]
    generalize ({ w with queue := q } : World).runHandler (fun wok => w.c.handleMsg m wok) = r
    obtain ⟨w1, fl⟩ := r
    cases fl <;> simp only [finish_app hw]
  | nil =>
    simp only
    by_cases h0 : w.senders = 0
    · simp only [h0, ↓reduceIte, finish_app hw]
    · simp only [h0, ↓reduceIte]
      generalize pollNext w.rx w.reader = r
      obtain ⟨rx', rd', res⟩ := r
      cases res with
      | none => simp only [E.mk_app, finish_app hw]
      | pending =>
        by_cases hr : rd' = []
        · simp only [hr, ↓reduceIte, E.mk_app]
        · simp only [hr, ↓reduceIte, E.mk_app]
          exact congrArg Sum.inr (wake_app _ _ hw.ctx)
      | item fr =>
        simp only [E.mk_app]
        cases hd : decodeRx fr with
        | err => simp only [finish_app hw]
        | panic => exact congrArg Sum.inr (emit_app _ _ (hw.line _ (.panic _)))
        | ok pk =>
          have e := runHandler_app hw { w with rx := rx', reader := rd' } _ _ (fun wok => hs.pkt w pk wok s)
          rw [hq] at e
          have ec : (E.app ({ w with queue := [], rx := rx', reader := rd' } : World)).chanRxAlive =
              (E.app w).chanRxAlive := rfl
          have ec' : ({ w with queue := [], rx := rx', reader := rd' } : World).chanRxAlive = w.chanRxAlive := rfl
          simp only
          rw [ec, ec', e]
          generalize World.runHandler _ _ = r
          obtain ⟨w1, fl⟩ := r
          cases fl <;> simp only [finish_app hw]

theorem runLoop_app (hw : E.Wf) (hs : E.CtxSide S) (f : Nat) (w : World) (s : S w) :
    runLoop f (E.app w) = E.app (runLoop f w) := by
  induction f generalizing w with
  | zero => rfl
  | succ f ih =>
    rw [runLoop_succ, runLoop_succ, runIter_app hw hs w s]
    cases hr : runIter w with
    | inl x => exact ih x (hs.cont w x s (runIter_inl hr))
    | inr x => rfl

theorem pollRun_app (hw : E.Wf) (hs : E.CtxSide S) (w : World) (started : Bool) (s : S w) :
    (E.app w).pollRun started = E.app (w.pollRun started) := by
  cases started with
  | true => simp only [pollRun, ↓reduceIte, E.app_fields, runLoop_app hw hs _ w s]
  | false =>
    obtain ⟨r1, r2, r3⟩ := hs.resume w.c
    have key : (({ E.app w with c := (E.c w.c).resume.1, task := .running true } : World).applyEffs
          (E.c w.c).resume.2.1) =
        E.app (({ w with c := w.c.resume.1, task := .running true } : World).applyEffs w.c.resume.2.1) := by
      have e0 : ({ E.app w with c := E.c w.c.resume.1, task := .running true } : World) =
          E.app { w with c := w.c.resume.1, task := .running true } := rfl
      rw [r1, e0, ← applyEffs_app_filter hw, r2, applyEffs_app_filter hw, applyEffs_app hw]
    simp only [pollRun, Bool.false_eq_true, ↓reduceIte]
    simp only [show (E.app w).c = E.c w.c from rfl, key, r3, canWrite_app hw]
    split
    · simp only [List.foldl_hom E.app (H := fun w p => writeBytes_app hw w p), E.app_fields]
      exact runLoop_app hw hs _ _ (hs.resent w s)
    · simp only [writeBytes_app hw, finish_app hw]

theorem awaitFirst_app (hw : E.Wf) (hs : E.CtxSide S) (w : World) (call : Call) (t : ConnectTx) (a : AuthTx) :
    (E.app w).awaitFirst call t a = E.app (w.awaitFirst call t a) := by
  unfold awaitFirst
  simp only [E.app_fields]
  generalize pollNext w.rx w.reader = r
  obtain ⟨rx', rd', res⟩ := r
  cases res with
  | none => simp only [E.mk_app, finish_app hw]
  | pending =>
    by_cases hr : rd' = []
    · simp only [hr, ↓reduceIte, E.mk_app]
    · simp only [hr, ↓reduceIte, E.mk_app]
      exact wake_app _ _ hw.ctx
  | item fr =>
    simp only [E.mk_app]
    cases hd : decodeRx fr with
    | err => simp only [finish_app hw]
    | panic => exact emit_app _ _ (hw.line _ (.panic _))
    | ok pk =>
      cases pk <;> simp only [finish_app hw]
      case connack k =>
        simp only [hs.connack, E.mk_app]
        by_cases h1 : k.reason ≥ 128
        · simp only [h1, ↓reduceIte, finish_app hw]
        · by_cases h2 : (!k.subIdAvail) = true
          · simp only [h1, h2, ↓reduceIte]
            exact emit_app _ _ (hw.line _ (.panic _))
          · simp only [h1, h2, Bool.false_eq_true, ↓reduceIte, finish_app hw]

theorem pollConnect_app (hw : E.Wf) (hs : E.CtxSide S) (w : World) (call : Call) (t : ConnectTx) (a : AuthTx)
    (started : Bool) : (E.app w).pollConnect call t a started = E.app (w.pollConnect call t a started) := by
  cases started with
  | true => simp only [pollConnect, ↓reduceIte, awaitFirst_app hw hs]
  | false =>
    cases call <;>
    · simp only [pollConnect, Bool.false_eq_true, ↓reduceIte]
      simp only [E.app_fields, hs.sei, E.mk_app, canWrite_app hw, writeBytes_app hw, awaitFirst_app hw hs,
        finish_app hw, apply_ite E.app]

theorem pollCtx_app (hw : E.Wf) (hs : E.CtxSide S) (w : World) (s : S w) : (E.app w).pollCtx = E.app w.pollCtx := by
  unfold pollCtx
  simp only [E.app_fields]
  cases w.task with
  | none => rfl
  | connecting call t a started => exact pollConnect_app hw hs w call t a started
  | running started => exact pollRun_app hw hs w started s

theorem ctxSide_plain {E : Era} {S : World → Prop} (hc : ∀ c, E.c c = c) (hk : ∀ c, E.kChan c = true)
    (senders : ∀ w, S w → E.Snd w)
    (cont : ∀ w w1, S w → RunCont w w1 → S w1) (res : ∀ w, S w → S w.resent) : E.CtxSide S where
  senders := senders
  msg := fun w m q wok _ _ => by rw [hc]; exact ⟨rfl, (hc _).symm, rfl⟩
  pkt := fun w p wok _ => by
    have ha : (E.app w).chanRxAlive = w.chanRxAlive := funext fun c => by simp only [chanRxAlive, chan_app w c (hk c)]
    rw [hc, ha]; exact ⟨rfl, (hc _).symm, rfl⟩
  connack := fun c k => by rw [hc, hc]
  sei := fun c n => by rw [hc, hc]
  resume := fun c => by rw [hc, hc]; exact ⟨rfl, rfl, rfl⟩
  cont := cont
  resent := res

theorem senderGone_app (hw : E.Wf) (w : World) (h : E.Snd w) : (E.app w).senderGone = E.app w.senderGone := by
  unfold senderGone
  simp only [h.senders, show (E.app w).hasCtx = w.hasCtx from rfl, show (E.app w).queueReg = w.queueReg from rfl]
  by_cases hc : w.senders = 0 ∧ w.hasCtx = true ∧ w.queueReg = true
  · rw [if_pos hc, if_pos hc, wake_app w .ctx hw.ctx]; rfl
  · rw [if_neg hc, if_neg hc]

theorem eraseOps_app (w : World) (j : Nat) (h : E.kOp j = true) :
    ({ E.app w with ops := eraseFirst j (E.app w).ops } : World) = E.app { w with ops := eraseFirst j w.ops } :=
  congrArg (fun o => ({ E.app w with ops := o } : World)) (eraseFirst_filter E.kOp j w.ops h)

theorem eraseOp_app (hw : E.Wf) (w : World) (j : Nat) (h : E.kOp j = true) (hs : E.Snd w) :
    (E.app w).eraseOp j = E.app (w.eraseOp j) := by
  unfold eraseOp
  rw [eraseOps_app w j h]
  exact senderGone_app hw _ hs

theorem endOp_app (hw : E.Wf) (w : World) (j : Nat) (o : Obs) (h : E.kOp j = true) (ho : E.kObs o = true)
    (hs : E.Snd w) : (E.app w).endOp j o = E.app (w.endOp j o) := by
  unfold endOp
  rw [eraseOps_app w j h, emit_app _ o ho]
  exact senderGone_app hw _ hs

theorem sendMsg_app (hw : E.Wf) (w : World) (m : Msg) : (E.app w).sendMsg m = (w.sendMsg m).map E.app := by
  rw [sendMsg_eq, sendMsg_eq]
  by_cases h : w.hasCtx = true
  · rw [if_pos h, if_pos (show (E.app w).hasCtx = true from h), Option.map_some, wake_app w .ctx hw.ctx,
      show (E.app w).queueReg = w.queueReg from rfl]
    refine congrArg some ?_
    cases w.queueReg <;> rfl
  · rw [if_neg h, if_neg (show ¬ (E.app w).hasCtx = true from h)]; rfl

theorem awaitSlot_app (w : World) (j s : Nat) (k : Wait) (h : E.kOp j = true) (hs : E.kSlot s = true) :
    (E.app w).awaitSlot j s k = E.app (w.awaitSlot j s k) := by
  have e1 := setAssoc_filter E.kOp j (OpSt.wait s k) w.ops h
  have e2 := setAssoc_filter E.kSlot s Slot.empty w.slots hs
  have e3 : (if s ∈ (E.app w).slotReg then (E.app w).slotReg else (E.app w).slotReg ++ [s]) =
      (if s ∈ w.slotReg then w.slotReg else w.slotReg ++ [s]).filter E.kSlot :=
    filter_addNew E.kSlot w.slotReg s hs
  have key := congr (congr (congrArg
    (fun a b c => ({ E.app w with ops := a, slots := b, slotReg := c } : World)) e1) e2) e3
  exact key

/-- task `op j`, what it logs and channel `j` (the one a `subscribe()` of that number opens, so stream `st j`) survive the
    erasure -/
structure SeesOp (E : Era) (j : Nat) : Prop where
  op : E.kOp j = true
  chan : E.kChan j = true
  obs : ∀ o, TaskLine (.op j) o → E.kObs o = true

theorem finishOp_app (hw : E.Wf) (w : World) (j : Nat) (r : DoneRes) (h : E.SeesOp j) (hs : E.Snd w) :
    (E.app w).finishOp j r = E.app (w.finishOp j r) :=
  endOp_app hw w j _ h.op (h.obs _ (Or.inr ⟨r, rfl⟩)) hs

theorem sendAwait_app (hw : E.Wf) (w : World) (m : Msg) (j s : Nat) (k : Wait) (h : E.SeesOp j)
    (hk : E.kSlot s = true) (hs : E.Snd w) : (E.app w).sendAwait m j s k = E.app (w.sendAwait m j s k) := by
  unfold sendAwait
  rw [sendMsg_app hw]
  cases hm : w.sendMsg m with
  | none => exact finishOp_app hw w j _ h hs
  | some w1 => exact awaitSlot_app w1 j s k h.op hk

theorem allocFor_app (w : World) (req : Req) : (E.app w).allocFor req = E.app (w.allocFor req) := by
  cases req with
  | publish t => simp only [allocFor]; split <;> rfl
  | _ => rfl

theorem openFor_app (w : World) (j : Nat) (req : Req) (h : E.kChan j = true) :
    (E.app w).openFor j req = E.app (w.openFor j req) := by
  cases req with
  | subscribe t =>
    exact (congrArg (fun x => x.setChan j {}) (allocFor_app w (.subscribe t))).trans (setChan_app _ j {} h)
  | publish t => exact allocFor_app w (.publish t)
  | unsubscribe t => exact allocFor_app w (.unsubscribe t)
  | ping => rfl
  | disconnect t => rfl

theorem dropChanRx_app (w : World) (c : Nat) (h : E.kChan c = true) :
    (E.app w).dropChanRx c = E.app (w.dropChanRx c) :=
  congrArg (fun l => ({ E.app w with chans := l } : World)) (eraseFirst_filter E.kChan c w.chans h)

theorem dropStream_app (w : World) (j : Nat) (h : E.kChan j = true) :
    (({ E.app w with streams := (E.app w).streams.filter (· ≠ j) } : World).dropChanRx j) =
      E.app (({ w with streams := w.streams.filter (· ≠ j) } : World).dropChanRx j) :=
  (congrArg (fun l => ({ E.app w with streams := l } : World).dropChanRx j) (filter_filter_comm _ _ _)).trans
    (dropChanRx_app { w with streams := w.streams.filter (· ≠ j) } j h)

theorem clearSlot_app (w : World) (s : Nat) (h : E.kSlot s = true) :
    (E.app w).clearSlot s = E.app (w.clearSlot s) :=
  congr (congrArg (fun a b => ({ E.app w with slots := a, slotReg := b } : World))
    (eraseFirst_filter E.kSlot s w.slots h)) (filter_filter_comm _ _ _)

theorem startOp_app (hw : E.Wf) (w : World) (j : Nat) (req : Req) (h : E.SeesOp j)
    (hs : E.Snd w) : (E.app w).startOp j req = E.app (w.startOp j req) := by
  -- the first oneshot of a kept operation is kept
  have hk : E.kSlot (2 * j) = true := by
    show E.kTask (.op (2 * j / 2)) = true
    rw [Nat.mul_div_cancel_left j (by decide : 0 < 2)]; exact h.op
  have ha : E.Snd (w.allocFor req) := by rw [allocFor_prep]; exact hs
  have ho : E.Snd (w.openFor j req) := by obtain ⟨c, e, _⟩ := openFor_prep w j req; rw [e]; exact hs
  rcases startOp_shape w j req with ⟨a, e⟩ | ⟨a, c, e⟩ | ⟨a, c, e⟩
  · rw [e, startOp_refused (E.app w) j req a, allocFor_app]
    exact finishOp_app hw _ j _ h ha
  · rw [e, startOp_queued (E.app w) j req a c, openFor_app w j req h.chan]
    exact sendAwait_app hw _ _ j _ _ h hk ho
  · rw [e, startOp_noCtx (E.app w) j req a c, openFor_app w j _ h.chan]
    cases req with
    | subscribe t => rw [abandonFor, abandonFor, dropChanRx_app _ j h.chan]; exact finishOp_app hw _ j _ h ho
    | _ => exact finishOp_app hw _ j _ h ho

theorem resumeOp_app (hw : E.Wf) (w : World) (j s : Nat) (k : Wait) (v : SlotVal) (h : E.SeesOp j)
    (hk : E.kSlot s = true) (hk1 : k = .pubrec → E.kSlot (s + 1) = true) (hs : E.Snd w) :
    (E.app w).resumeOp j s k v = E.app (w.resumeOp j s k v) := by
  have hc : E.Snd (w.clearSlot s) := hs
  rcases resumeOp_cases j s k v with ⟨r, _, e⟩ | ⟨a, _, _, e⟩ | ⟨a, hp, _, _, e⟩ | ⟨p, _, _, e⟩ <;>
    rw [e, e, clearSlot_app w s hk]
  · exact finishOp_app hw _ j r h hc
  · exact finishOp_app hw { w.clearSlot s with rsps := w.rsps ++ [j] } j _ h hc
  · exact sendAwait_app hw _ _ j _ _ h (hk1 hp) hc
  · exact endOp_app hw _ j _ h.op (h.obs _ (Or.inl rfl)) hc

/-- the oneshots a kept future waits on are kept, and the next one too while it waits for a PUBREC -/
def KeepsSlots (E : Era) (w : World) : Prop :=
  ∀ j s k, w.opSt j = some (.wait s k) → E.kOp j = true → E.kSlot s = true ∧ (k = .pubrec → E.kSlot (s + 1) = true)

theorem keepsSlots_of_all (h : ∀ s, E.kSlot s = true) (w : World) : E.KeepsSlots w := fun _ s _ _ _ => ⟨h s, fun _ => h _⟩

theorem keepsSlots_of_slotOf {w : World}
    (own : ∀ j s k, w.opSt j = some (.wait s k) → s / 2 = j ∧ (k = .pubrec → (s + 1) / 2 = j)) : E.KeepsSlots w := by
  intro j s k hst hk
  obtain ⟨h1, h2⟩ := own j s k hst
  exact ⟨by show E.kTask (.op (s / 2)) = true; rw [h1]; exact hk,
    fun e => by show E.kTask (.op ((s + 1) / 2)) = true; rw [h2 e]; exact hk⟩

theorem pollOp_app (hw : E.Wf) (w : World) (j : Nat) (h : E.SeesOp j) (hs : E.Snd w)
    (ho : E.KeepsSlots w) : (E.app w).pollOp j = E.app (w.pollOp j) := by
  have ho' := opSt_app w j h.op
  cases hst : w.opSt j with
  | none => rw [pollOp_of_none hst, pollOp_of_none (ho'.trans hst)]
  | some st =>
    cases st with
    | fresh hd req =>
      rw [pollOp_of_fresh hst, pollOp_of_fresh (ho'.trans hst)]; exact startOp_app hw w j req h hs
    | wait s k =>
      obtain ⟨hs0, hs1⟩ := ho j s k hst h.op
      have hst' := ho'.trans hst
      have hsl' := slot_app w s hs0
      -- nothing in the oneshot yet: both polls register the waker
      have reg : ∀ he : w.slot s = none ∨ w.slot s = some .empty, (E.app w).pollOp j = E.app (w.pollOp j) := fun he => by
        rw [pollOp_of_empty hst he, pollOp_of_empty hst' (he.imp hsl'.trans hsl'.trans)]
        exact congrArg (fun l => ({ E.app w with slotReg := l } : World)) (filter_addNew E.kSlot w.slotReg s hs0)
      cases hsl : w.slot s with
      | none => exact reg (Or.inl hsl)
      | some sl =>
        cases sl with
        | empty => exact reg (Or.inr hsl)
        | full v =>
          rw [pollOp_of_full hst hsl, pollOp_of_full hst' (hsl'.trans hsl)]
          exact resumeOp_app hw w j s k v h hs0 hs1 hs
        | closed =>
          rw [pollOp_of_closed hst hsl, pollOp_of_closed hst' (hsl'.trans hsl), clearSlot_app w s hs0]
          exact finishOp_app hw _ j _ h hs

theorem pollStream_app (w : World) (j : Nat) (h : E.kChan j = true)
    (hl : ∀ o, TaskLine (.st j) o → E.kObs o = true) :
    (E.app w).pollStream j = E.app (w.pollStream j) := by
  unfold pollStream
  have hs := mem_streams_app w h
  by_cases hj : j ∈ w.streams
  · have hj' : j ∈ (E.app w).streams := hs.mpr hj
    simp only [hj, hj', not_true_eq_false, ↓reduceIte, chan_app w j h]
    cases w.chan j with
    | none => rfl
    | some ch =>
      obtain ⟨buf, tx, rxa, reg⟩ := ch
      cases buf with
      | cons x rest =>
        simp only [setChan_app w j _ h]
        rw [emit_app _ (.item j x) (hl _ (Or.inl ⟨x, rfl⟩)), wake_app _ _ h]
      | nil =>
        cases tx with
        | true => exact setChan_app w j _ h
        | false =>
          simp only [Bool.false_eq_true, ↓reduceIte]
          rw [dropStream_app w j h]
          exact emit_app _ (.endStream j) (hl _ (Or.inr rfl))
  · have hj' : j ∉ (E.app w).streams := fun x => hj (hs.mp x)
    simp only [hj, hj', not_false_eq_true, ↓reduceIte]

end Era

end World
end Poster

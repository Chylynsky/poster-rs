/-
  Properties/C06World.lean — C06 at the level of whole scripts: where a PUBREL comes from, and what the `DONE` line of
  a publish reports.

  C06: "Every publish() that is not refused locally (size limit, send quota) puts exactly one PUBLISH on the connection,
  with DUP=0, the requested QoS/retain/topic/payload and (for QoS>0) a packet identifier; QoS 0 completes once written,
  QoS 1 completes on its PUBACK, and QoS 2 sends exactly one PUBREL with the same identifier only after a PUBREC with
  reason < 0x80 and completes on the PUBCOMP. A PUBACK, PUBREC or PUBCOMP reason >= 0x80 makes publish() fail with the
  matching error carrying that reason, every smaller reason is success, and after a failing PUBREC no PUBREL is ever
  sent."
-/
import PosterModel.Lemmas.WorldRet
import PosterModel.Lemmas.WorldEx


namespace Poster
open Framing World World.W7

/-- **Every PUBREL the context holds stems from a successful PUBREC — at every moment of every execution.** At any
    moment `w` of an execution whose logged publish requests have a QoS of the `QoS` enum: every queued message of
    packet type 6 is the PUBREL message `publish()` builds (`pubrelMsg pid s`), every entry of the retransmit queue of
    packet type 6 is that PUBREL stored under its PUBCOMP action identifier, and in both cases, at an earlier moment
    of the same execution (one from which `w` is reached), the future of a QoS 2 publish that was waiting for its PUBREC
    found in its oneshot a PUBREC with reason < 0x80 carrying that packet identifier `pid` (`PubrecSeen`). -/
theorem pubrel_held_only_after_successful_pubrec (cfg : Cfg) (w : World) (hd : During cfg w) (hq : PubQos w.out) :
    (∀ m ∈ w.queue, pktType m.pkt = 6 → ∃ pid s, m = pubrelMsg pid s ∧ PubrecSeen cfg w pid) ∧
    (∀ x ∈ w.c.retx, pktType x.2 = 6 → ∃ pid, x = (actionId 7 pid, ackBytes 0x62 pid) ∧ PubrecSeen cfg w pid) :=
  ⟨(during_pubrelSeen hd hq).queue, (during_pubrelSeen hd hq).retx⟩

/-- the same for the world a script ends in, the hypothesis being on the script: its publish requests have QoS ≤ 2 -/
theorem pubrel_held_only_after_successful_pubrec_script (cfg : Cfg) (evs : List Ev)
    (hq : ∀ id h t, Ev.op id h (.publish t) ∈ evs → t.qos ≤ 2) :
    let w := evs.foldl World.step { cfg := cfg }
    (∀ m ∈ w.queue, pktType m.pkt = 6 → ∃ pid s, m = pubrelMsg pid s ∧ PubrecSeen cfg w pid) ∧
    (∀ x ∈ w.c.retx, pktType x.2 = 6 → ∃ pid, x = (actionId 7 pid, ackBytes 0x62 pid) ∧ PubrecSeen cfg w pid) :=
  pubrel_held_only_after_successful_pubrec cfg _ (during_run cfg evs) (pubQos_of_script cfg evs hq).2

/-- **A PUBREL enters the message queue only through a QoS 2 publish future that received a successful PUBREC.** At
    any moment `w` of such an execution, for every elementary transition `w → w'`: a message of packet type 6 queued in
    `w'` was already queued in `w`, or the transition is the poll of the future of an operation `id` that was waiting
    for its PUBREC on the oneshot `s`, that oneshot held a PUBREC `a` with reason < 0x80, and the message is exactly
    the PUBREL with `a`'s packet identifier, to be acknowledged (PUBCOMP) on the oneshot `s + 1`. -/
theorem pubrel_enters_queue_only_after_successful_pubrec (cfg : Cfg) (w w' : World) (hd : During cfg w)
    (hq : PubQos w.out) (hm : Micro w w') :
    ∀ m ∈ w'.queue, pktType m.pkt = 6 → m ∈ w.queue ∨
      ∃ id s a, w' = w.pollTask (.op id) ∧ w.opSt id = some (.wait s .pubrec) ∧
        w.slot s = some (.full (.pkt (.pubrec a))) ∧ a.reason < 128 ∧ m = pubrelMsg a.packetId (s + 1) :=
  pubrel_queue_origin hm (qosOk_of_logged (during_freshLogged hd) hq)

/-- **The retransmit queue gets its PUBREL entries from queued PUBREL messages only.** In any world, after a poll of
    the context task: the queued messages are among those queued before, and an entry of the retransmit queue of
    packet type 6 was there before the poll or is the action identifier and the bytes, unchanged, of a message that
    was queued when the poll started. -/
theorem pubrel_reaches_retransmit_queue_only_from_queue (w : World) :
    (∀ m ∈ w.pollCtx.queue, m ∈ w.queue) ∧
    ∀ x ∈ w.pollCtx.c.retx, pktType x.2 = 6 → x ∈ w.c.retx ∨ ∃ s, Msg.awaitAck x.1 x.2 s ∈ w.queue := by
  have h := held_pollCtx (Q := fun m => m ∈ w.queue)
    (R := fun x => x ∈ w.c.retx ∨ ∃ s, Msg.awaitAck x.1 x.2 s ∈ w.queue)
    (fun aid pkt s hm _ => Or.inr ⟨s, hm⟩) w ⟨fun m hm => hm, fun x hx _ => Or.inl hx⟩
  exact ⟨h.queue, h.retx⟩

/-- **The context never originates a PUBREL.** In every history the serving loop goes through (`Ctx.serve`; by
    `world_poll_is_serve` every poll of `run()` is one, its requests being the messages popped from the queue): a
    written packet of type 6 is the packet, as given, of the request handled at that point — never something
    `handle_packet` produced. -/
theorem loop_writes_pubrel_only_for_a_queued_pubrel (c : Ctx) (is : List CIn) :
    ∀ o ∈ (c.serve is).2, ∀ b ∈ writesOf o.effs, pktType b = 6 → ∃ m effs fl, o = .msg m effs fl ∧ b = m.pkt := by
  intro o ho b hb h6
  obtain ⟨c', i, _, rfl⟩ := Ctx.serve_obs c is o ho
  cases i with
  | msg m wok =>
    refine ⟨m, _, _, rfl, ?_⟩
    have hb' : b ∈ writesOf (c'.handleMsg m wok).2.1 := hb
    rcases handleMsg_writes c' m wok with e | e <;> rw [e] at hb' <;> simp at hb'
    exact hb'
  | pkt p dead wok =>
    have hb' : b ∈ writesOf (c'.handlePkt (fun ch => ch ∉ dead) p wok).2.1 := hb
    exact absurd h6 (handlePkt_never_writes_pubrel c' _ p wok b hb')

/-- **What `run()` re-sends when a session is resumed is the retransmit queue**: every packet re-sent by the prelude
    of `run()` is the bytes of an entry of the retransmit queue (so, by `pubrel_held_only_after_successful_pubrec`, a
    re-sent PUBREL is one built after a successful PUBREC). -/
theorem resend_only_from_retransmit_queue (c : Ctx) : ∀ b ∈ c.resume.2.2, ∃ x ∈ c.retx, b = x.2 :=
  c.resume_pkts_sub

/-- **After a failing PUBREC no PUBREL is sent.** In any world: if a poll of the future of `id` logs
    `DONE id (PubrecError reason …)`, then that future was waiting for its PUBREC (it had not sent a PUBREL: that is
    done by the transition from "waiting for PUBREC" to "waiting for PUBCOMP" only), its oneshot held a PUBREC `a`
    with `a.reason ≥ 0x80` whose reason, reason string and user properties are the ones reported, the poll queues
    nothing, and the operation leaves the table — so it is never polled into sending anything later. -/
theorem failing_pubrec_queues_no_pubrel (w : World) (id reason : Nat) (rs : Option Bytes) (up : List (Bytes × Bytes))
    (h : (w.pollOp id).out = w.out ++ [.done id (.errAck .pubrecError reason rs up)]) :
    ∃ s a, w.opSt id = some (.wait s .pubrec) ∧ w.slot s = some (.full (.pkt (.pubrec a))) ∧ a.reason ≥ 128 ∧
      reason = a.reason ∧ rs = a.reasonString ∧ up = a.userProps ∧
      (w.pollOp id).queue = w.queue ∧ (w.pollOp id).ops = eraseFirst id w.ops := by
  obtain ⟨s, k, v, hop, hs, he, b0, -, hr⟩ := pollOp_done_resumed h nofun nofun
  cases hr with
  | pubrecErr a b ha =>
    refine ⟨s, a, hop, hs, ha, rfl, rfl, rfl, ?_, ?_⟩
    · rw [he]; exact ((pubrec_outcome w id s a).1 ha).2
    · rw [he]; exact (resumeOp_removes_op w id s).2.2.1 a ha

/-- **…for every script.** If the transcript of a script contains `DONE id (PubrecError reason …)`, that line was
    logged at a moment `w0` of the execution (transcript so far: `pre`) by a poll of the future of `id`, which was
    waiting for its PUBREC and found a PUBREC `a` with `a.reason = reason ≥ 0x80` in its oneshot; that poll queued
    nothing — no PUBREL — and removed the operation from the table. -/
theorem failing_pubrec_in_transcript (cfg : Cfg) (evs : List Ev) (pre post : List Obs) (id reason : Nat)
    (rs : Option Bytes) (up : List (Bytes × Bytes))
    (h : World.run cfg evs = pre ++ .done id (.errAck .pubrecError reason rs up) :: post) :
    ∃ w0 s a, During cfg w0 ∧ w0.out = pre ∧ w0.opSt id = some (.wait s .pubrec) ∧
      w0.slot s = some (.full (.pkt (.pubrec a))) ∧ a.reason ≥ 128 ∧ reason = a.reason ∧ rs = a.reasonString ∧
      up = a.userProps ∧ (w0.pollOp id).queue = w0.queue ∧ (w0.pollOp id).ops = eraseFirst id w0.ops ∧
      Reaches (w0.pollOp id) (evs.foldl World.step { cfg := cfg }).finishScript := by
  obtain ⟨w0, hd, ho, hp, hr⟩ := during_done_origin (during_script cfg evs).1 h
  obtain ⟨s, a, h1, h2, h3, h4, h5, h6, h7, h8⟩ :=
    failing_pubrec_queues_no_pubrel w0 id reason rs up (by rw [ho, hp])
  exact ⟨w0, s, a, hd, hp, h1, h2, h3, h4, h5, h6, h7, h8, hr⟩

/-- **Every `DONE` line of a transcript has a documented cause.** If the transcript of a script is
    `pre ++ DONE id r :: post`, there was a moment `w0` of the execution with transcript `pre` at which the future of
    `id` was polled, that poll logged exactly this line, the end of the script is reached from there, and: the future had not been polled before and its request
    cannot be encoded (codec error) or the context is gone (`ContextExited`); or it was waiting on the oneshot `s` for
    `k` and the oneshot was closed (`ContextExited`) or held a value `v` and `r` is what `ResumeRes` says for `k` and
    `v` (see `publish_result_mapping`). -/
theorem done_has_a_documented_cause (cfg : Cfg) (evs : List Ev) (pre post : List Obs) (id : Nat) (r : DoneRes)
    (h : World.run cfg evs = pre ++ .done id r :: post) :
    ∃ w0, During cfg w0 ∧ w0.out = pre ∧ (w0.pollOp id).out = pre ++ [.done id r] ∧
      Reaches (w0.pollOp id) (evs.foldl World.step { cfg := cfg }).finishScript ∧
      ((∃ hd req, w0.opSt id = some (.fresh hd req) ∧
          (r = .err .codecError ∨ (r = .err .contextExited ∧ w0.hasCtx = false))) ∨
       (∃ s k, w0.opSt id = some (.wait s k) ∧
          ((w0.slot s = some .closed ∧ r = .err .contextExited) ∨
           ∃ v, w0.slot s = some (.full v) ∧ w0.pollOp id = w0.resumeOp id s k v ∧ ResumeRes k v w0.hasCtx r))) := by
  obtain ⟨w0, hd, ho, hp, hr⟩ := during_done_origin (during_script cfg evs).1 h
  exact ⟨w0, hd, hp, ho, hr, pollOp_done_cases w0 id r (by rw [ho, hp])⟩

/-- **The outcome of a publish.** A publish future waits for "written" (`ff`, QoS 0), its PUBACK (QoS 1), or its
    PUBREC and then its PUBCOMP (QoS 2). Whatever it reports when resumed with the value `v` of its oneshot is one of:
    * success — and then `v` is "written" (QoS 0), or a PUBACK resp. PUBCOMP with reason < 0x80: a QoS 2 publish
      never succeeds on its PUBREC, only on its PUBCOMP;
    * `PubackError` / `PubrecError` / `PubcompError` carrying the reason (≥ 0x80), reason string and user properties of
      the PUBACK / PUBREC / PUBCOMP in its oneshot — the error kind matching the acknowledgement;
    * a local refusal: `QuotaExceeded`, `MaximumPacketSizeExceeded`; or `ContextExited` (QoS 2, PUBREC fine, but the
      context is gone so the PUBREL cannot be sent);
    * `InternalError`, only if a oneshot of a QoS > 0 publish received "written" — which never happens when operation
      ids are not reused (`no_internal_error`). -/
theorem publish_result_mapping {k : Wait} {v : SlotVal} {b : Bool} {r : DoneRes} (h : ResumeRes k v b r)
    (hk : k = .ff ∨ k = .puback ∨ k = .pubrec ∨ k = .pubcomp) :
    (r = .ok ∧ ((k = .ff ∧ v = .unit) ∨ ∃ a : AckRx, a.reason < 128 ∧
        ((k = .puback ∧ v = .pkt (.puback a)) ∨ (k = .pubcomp ∧ v = .pkt (.pubcomp a))))) ∨
    (∃ a : AckRx, a.reason ≥ 128 ∧
      ((k = .puback ∧ v = .pkt (.puback a) ∧ r = .errAck .pubackError a.reason a.reasonString a.userProps) ∨
       (k = .pubrec ∧ v = .pkt (.pubrec a) ∧ r = .errAck .pubrecError a.reason a.reasonString a.userProps) ∨
       (k = .pubcomp ∧ v = .pkt (.pubcomp a) ∧ r = .errAck .pubcompError a.reason a.reasonString a.userProps))) ∨
    (r = .err .quotaExceeded ∧ v = .errQuota) ∨ (r = .err .maximumPacketSizeExceeded ∧ v = .errSize) ∨
    (r = .err .contextExited ∧ b = false ∧ ∃ a : AckRx, a.reason < 128 ∧ k = .pubrec ∧ v = .pkt (.pubrec a)) ∨
    (r = .err .internalError ∧ k ≠ .ff ∧ v = .unit) := by
  cases h with
  | tooLarge k b => exact Or.inr (Or.inr (Or.inr (Or.inl ⟨rfl, rfl⟩)))
  | quota k b => exact Or.inr (Or.inr (Or.inl ⟨rfl, rfl⟩))
  | written b => exact Or.inl ⟨rfl, Or.inl ⟨rfl, rfl⟩⟩
  | internal k b hne => exact Or.inr (Or.inr (Or.inr (Or.inr (Or.inr ⟨rfl, hne, rfl⟩))))
  | pubackOk a b ha => exact Or.inl ⟨rfl, Or.inr ⟨a, ha, Or.inl ⟨rfl, rfl⟩⟩⟩
  | pubackErr a b ha => exact Or.inr (Or.inl ⟨a, ha, Or.inl ⟨rfl, rfl, rfl⟩⟩)
  | pubrecErr a b ha => exact Or.inr (Or.inl ⟨a, ha, Or.inr (Or.inl ⟨rfl, rfl, rfl⟩)⟩)
  | pubrecNoCtx a ha => exact Or.inr (Or.inr (Or.inr (Or.inr (Or.inl ⟨rfl, rfl, a, ha, rfl, rfl⟩))))
  | pubcompOk a b ha => exact Or.inl ⟨rfl, Or.inr ⟨a, ha, Or.inr ⟨rfl, rfl⟩⟩⟩
  | pubcompErr a b ha => exact Or.inr (Or.inl ⟨a, ha, Or.inr (Or.inr ⟨rfl, rfl, rfl⟩)⟩)
  | suback a b => rcases hk with h | h | h | h <;> cases h
  | unsuback a b => rcases hk with h | h | h | h <;> cases h
  | pingresp b => rcases hk with h | h | h | h <;> cases h

/-- **`InternalError` is never reported when operation ids are not reused.** For every script that issues every
    operation id at most once, no `DONE id InternalError` line appears in the transcript: "written" only ever reaches
    the oneshot of a fire-and-forget operation (`during_unitOk`), so the outcomes of a publish are exactly success, the
    acknowledgement errors, `QuotaExceeded`, `MaximumPacketSizeExceeded`, `ContextExited` and a codec error
    (`done_has_a_documented_cause`, `publish_result_mapping`). -/
theorem no_internal_error (cfg : Cfg) (evs : List Ev) (hn : (opIds evs).Nodup) (id : Nat) :
    Obs.done id (.err .internalError) ∉ World.run cfg evs := by
  intro hmem
  obtain ⟨pre, post, h⟩ := List.append_of_mem hmem
  obtain ⟨w0, hd, ho, hp, _⟩ := during_done_origin (during_script cfg evs).1 h
  have hn0 : (loggedIds w0.out).Nodup := by
    have := loggedIds_nodup_of_script cfg evs hn
    rw [h, ← hp, loggedIds_append] at this
    exact (List.nodup_append.mp this).1
  have hu := during_unitOk hd hn0
  obtain ⟨s, k, v, hop, hs, _, b0, -, hr⟩ := pollOp_done_resumed (w := w0) (r := .err .internalError) (by rw [ho, hp]) nofun nofun
  cases hr with
  | internal k b hne => exact hne (hu id s k (mem_of_opSt hop) hs)

/-- the kinds a publish future waits for: a valid QoS 0 publish waits for "written", QoS 1 for its PUBACK, QoS 2 for
    its PUBREC — and after a successful PUBREC for its PUBCOMP (`pubrec_outcome`) -/
theorem publish_future_kinds (w : World) (id : Nat) (t : PublishTx) (hc : w.hasCtx = true) :
    (t.valid = true → t.qos = 0 → (w.startOp id (.publish t)).opSt id = some (.wait (2 * id) .ff)) ∧
    (({ t with packetId := some w.pidCtr } : PublishTx).valid = true → t.qos = 1 →
      (w.startOp id (.publish t)).opSt id = some (.wait (2 * id) .puback)) ∧
    (({ t with packetId := some w.pidCtr } : PublishTx).valid = true → t.qos = 2 →
      (w.startOp id (.publish t)).opSt id = some (.wait (2 * id) .pubrec)) := by
  refine ⟨fun hv hq => (startOp_publish_qos0 w id t hv hq hc).2.2.1, fun hv hq => ?_, fun hv hq => ?_⟩
  · have := (startOp_publish_qos12 w id t (Or.inl hq) hv hc).2.1
    simpa [hq] using this
  · have := (startOp_publish_qos12 w id t (Or.inr hq) hv hc).2.1
    simpa [hq] using this

/-- **A valid publish queues exactly one message: its PUBLISH, first transmission.** First poll of the future of a
    publish whose request has the DUP flag clear (`publish()` never sets it) and a QoS of the enum, the context being
    alive: exactly one message is appended to the queue; its packet is the encoded request — for QoS > 0 with the
    packet identifier just taken from the counter — of packet type 3 with DUP = 0; QoS 0 is fire-and-forget, QoS 1 / 2
    registers for `PUBACK pid` / `PUBREC pid`. -/
theorem publish_queues_exactly_one_first_transmission (w : World) (id : Nat) (t : PublishTx) (hc : w.hasCtx = true)
    (hd : t.dup = false) (hq : t.qos ≤ 2) :
    (t.qos = 0 → t.valid = true →
      (w.startOp id (.publish t)).queue = w.queue ++ [.ff t.encode (2 * id)] ∧
      DupClear t.encode ∧ pktType t.encode = 3) ∧
    (t.qos ≠ 0 → ({ t with packetId := some w.pidCtr } : PublishTx).valid = true →
      (w.startOp id (.publish t)).queue = w.queue ++
        [.awaitAck (actionId (if t.qos = 1 then 4 else 5) w.pidCtr)
          ({ t with packetId := some w.pidCtr } : PublishTx).encode (2 * id)] ∧
      DupClear ({ t with packetId := some w.pidCtr } : PublishTx).encode ∧
      pktType ({ t with packetId := some w.pidCtr } : PublishTx).encode = 3) := by
  refine ⟨fun h0 hv => ⟨(startOp_publish_qos0 w id t hv h0 hc).1, dupClear_encode t hd hq⟩, fun h0 hv => ?_⟩
  exact ⟨(startOp_publish_qos12 w id t (by omega) hv hc).1,
    dupClear_encode ({ t with packetId := some w.pidCtr } : PublishTx) hd hq⟩

/-- **One PUBLISH per publish: a PUBLISH enters the message queue only at the first poll of a publish future, and it
    is that publish's own packet.** For every elementary transition `w → w'` (any world): a message of packet type 3
    queued in `w'` was already queued in `w`, or the transition is the first poll of the future of a publish operation
    `id` with request `t`, the message is `publishMsg t id w.pidCtr` — the encoded request (requested QoS, retain, topic,
    payload, properties), for QoS > 0 with the packet identifier just taken from the counter and registered for the
    PUBACK / PUBREC with that identifier — and afterwards the future waits on its oneshot: it is never "first polled"
    again, so it never queues a second PUBLISH (a resumed future queues nothing but a PUBREL,
    `pubrel_enters_queue_only_after_successful_pubrec`). -/
theorem publish_enters_queue_only_at_first_poll {w w' : World} (hm : Micro w w') :
    ∀ m ∈ w'.queue, pktType m.pkt = 3 → m ∈ w.queue ∨
      ∃ id h t, w' = w.pollTask (.op id) ∧ w.opSt id = some (.fresh h (.publish t)) ∧
        m = publishMsg t id w.pidCtr ∧ ∃ k, w'.opSt id = some (.wait (2 * id) k) := by
  intro m hmem h3
  rcases hm.queue_cases with old | ⟨id, rfl, ⟨h, req, ho, e, o⟩ | ⟨s, a, _, _, _, e⟩⟩
  · exact Or.inl (old m hmem)
  · rw [e] at hmem
    rcases List.mem_append.mp hmem with hmem | hmem
    · exact Or.inl hmem
    · rw [List.mem_singleton] at hmem
      obtain ⟨t, rfl⟩ := reqMsg_publish_of_type (hmem ▸ h3)
      exact Or.inr ⟨id, h, t, rfl, ho, hmem, _, o⟩
  · rw [e] at hmem
    rcases List.mem_append.mp hmem with hmem | hmem
    · exact Or.inl hmem
    · rw [List.mem_singleton.mp hmem, pubrelMsg_type] at h3; omega

/-- **Every queued PUBLISH has DUP = 0, at every moment of every execution** whose logged publish requests have a QoS
    of the enum and the DUP flag clear. Since the context writes a queued packet exactly as given
    (`handleMsg_writes`), what `run()` writes for a publish request is a first transmission. -/
theorem queued_publish_has_dup0 (cfg : Cfg) (w : World) (hd : During cfg w) (hq : PubPlain w.out) :
    ∀ m ∈ w.queue, pktType m.pkt = 3 → DupClear m.pkt :=
  during_firstTx hd hq

/-- the same for the world a script ends in, the hypothesis being on the script -/
theorem queued_publish_has_dup0_script (cfg : Cfg) (evs : List Ev)
    (hq : ∀ id h t, Ev.op id h (.publish t) ∈ evs → t.qos ≤ 2 ∧ t.dup = false) :
    ∀ m ∈ (evs.foldl World.step { cfg := cfg }).queue, pktType m.pkt = 3 → DupClear m.pkt :=
  during_firstTx (during_run cfg evs) (pubPlain_of_script cfg evs hq)

/-- **A queued message is handled at most once, and written at most once, as given — by one iteration and one handler
    call** (nothing is stated over several iterations). An iteration of the loop that goes on either pops the head of the
    queue — the message it handles — or leaves the queue alone; and whatever the message and the outcome, the handler
    writes nothing or exactly the message's packet. -/
theorem message_handled_at_most_once {w w1 : World} (h : RunCont w w1) :
    ((∃ m, w.queue = m :: w1.queue) ∨ w1.queue = w.queue) ∧
    ∀ m wok, writesOf (w.c.handleMsg m wok).2.1 = [] ∨ writesOf (w.c.handleMsg m wok).2.1 = [m.pkt] :=
  ⟨runCont_queue h, fun m wok => handleMsg_writes w.c m wok⟩

/-- **DUP is set on the retransmission copy only.** When an accepted PUBLISH is written, the bytes written are the
    packet as queued, and the copy kept in the retransmit queue is that packet with the DUP flag set. -/
theorem retransmission_copy_has_dup_set (c : Ctx) (aid : Nat) (pkt : Bytes) (slot : Nat)
    (hs : c.sizeOk pkt = true) (hq : c.quota ≠ 0) (ht : pktType pkt = 3) :
    writesOf (c.handleMsg (.awaitAck aid pkt slot) true).2.1 = [pkt] ∧
    (c.handleMsg (.awaitAck aid pkt slot) true).1.retx = c.retx ++ [(aid, setDup pkt)] ∧ DupSet (setDup pkt) := by
  obtain ⟨h1, h2⟩ := publish_written_once_dup0 c aid pkt slot hs hq ht
  refine ⟨h2, by rw [h1], dupSet_setDup pkt ?_⟩
  intro e; rw [e] at ht; simp [pktType] at ht

section NonVacuity

/-- a script with a QoS 2 publish: its hypotheses hold, and the world it ends in (the PUBLISH is queued, the context has
    not been started) is a moment of an execution -/
example :
    let evs : List Ev := [.setup, .op 3 0 (.publish { qos := 2, topic := some [97] })]
    (∀ id h t, Ev.op id h (.publish t) ∈ evs → t.qos ≤ 2) ∧
    (evs.foldl World.step {}).queue =
      [.awaitAck (actionId 5 1) ({ qos := 2, topic := some [97], packetId := some 1 } : PublishTx).encode 6] := by
  refine ⟨?_, by decide⟩
  intro id h t hm
  simp only [List.mem_cons, List.not_mem_nil, or_false, reduceCtorEq, false_or, Ev.op.injEq, Req.publish.injEq] at hm
  rw [hm.2.2]; decide

/-- the transition of `pubrel_enters_queue_only_after_successful_pubrec` exists: a QoS 2 publish future waiting for
    its PUBREC on oneshot 6 finds PUBREC(packet identifier 1, reason 0) there; polled, it queues exactly
    `pubrelMsg 1 7` -/
example :
    let w : World := { hasCtx := true, ops := [(3, .wait 6 .pubrec)],
                       slots := [(6, .full (.pkt (.pubrec { packetId := 1 })))] }
    Micro w (w.pollTask (.op 3)) ∧ (w.pollTask (.op 3)).queue = [pubrelMsg 1 7] ∧
    pktType (pubrelMsg 1 7).pkt = 6 := by
  exact ⟨.user _ _ (by decide), by decide, by decide⟩

/-- with reason 0x80 the same future queues nothing and reports `PubrecError 0x80` -/
example :
    let w : World := { hasCtx := true, ops := [(3, .wait 6 .pubrec)],
                       slots := [(6, .full (.pkt (.pubrec { packetId := 1, reason := 0x80 })))] }
    (w.pollOp 3).out = w.out ++ [.done 3 (.errAck .pubrecError 0x80 none [])] ∧ (w.pollOp 3).queue = [] := by decide

/-- a transcript with a `DONE` line, as required by `done_has_a_documented_cause` (the context was dropped: the
    publish fails with `ContextExited`) -/
example :
    World.run {} [.setup, .dropCtx, .op 1 0 (.publish { qos := 1, topic := some [97] })] =
      [.ev .setup, .ev .dropCtx, .ev (.op 1 0 (.publish { qos := 1, topic := some [97] }))] ++
        .done 1 (.err .contextExited) :: [] := by decide

/-- `ResumeRes` is inhabited for a publish: a PUBACK with reason 0x97 makes the QoS 1 publish fail with that reason -/
example : ResumeRes .puback (.pkt (.puback { packetId := 1, reason := 0x97 })) true
    (.errAck .pubackError 0x97 none []) := .pubackErr { packetId := 1, reason := 0x97 } true (by decide)

/-- the history theorem applies to a non-trivial history: a queued PUBREL handled by the loop is written as given -/
example :
    let c : Ctx := {}
    (c.serve [.msg (pubrelMsg 1 7) true]).2.flatMap (fun o => writesOf o.effs) = [ackBytes 0x62 1] := by decide

/-- the first poll of a QoS 1 publish: one message, DUP = 0 -/
example :
    let t : PublishTx := { qos := 1, topic := some [97], retain := true }
    let w : World := { hasCtx := true }
    t.dup = false ∧ t.qos ≤ 2 ∧ ({ t with packetId := some w.pidCtr } : PublishTx).valid = true ∧
    (w.startOp 3 (.publish t)).queue.length = 1 := by decide

/-- a script satisfying the hypothesis of `queued_publish_has_dup0_script`, with a PUBLISH queued at the end -/
example :
    let evs : List Ev := [.setup, .op 3 0 (.publish { qos := 1, topic := some [97] })]
    (∀ id h t, Ev.op id h (.publish t) ∈ evs → t.qos ≤ 2 ∧ t.dup = false) ∧
    ((evs.foldl World.step {}).queue.map fun m => pktType m.pkt) = [3] := by
  refine ⟨?_, by decide⟩
  intro id h t hm
  simp only [List.mem_cons, List.not_mem_nil, or_false, reduceCtorEq, false_or, Ev.op.injEq, Req.publish.injEq] at hm
  rw [hm.2.2]; decide

/-- the transition of `publish_enters_queue_only_at_first_poll` exists: the first poll of a QoS 2 publish future queues
    exactly `publishMsg` of its request -/
example :
    let t : PublishTx := { qos := 2, topic := some [97] }
    let w : World := { hasCtx := true, ops := [(3, .fresh 0 (.publish t))] }
    Micro w (w.pollTask (.op 3)) ∧ (w.pollTask (.op 3)).queue = [publishMsg t 3 w.pidCtr] ∧
    pktType (publishMsg t 3 w.pidCtr).pkt = 3 := by
  exact ⟨.user _ _ (by decide), by decide, by decide⟩

/-- a script satisfying the hypothesis of `no_internal_error` -/
example : (opIds [Ev.setup, .dropCtx, .op 1 0 (.publish { qos := 1, topic := some [97] })]).Nodup := by decide

end NonVacuity

#print axioms pubrel_held_only_after_successful_pubrec
#print axioms pubrel_held_only_after_successful_pubrec_script
#print axioms pubrel_enters_queue_only_after_successful_pubrec
#print axioms pubrel_reaches_retransmit_queue_only_from_queue
#print axioms loop_writes_pubrel_only_for_a_queued_pubrel
#print axioms resend_only_from_retransmit_queue
#print axioms failing_pubrec_queues_no_pubrel
#print axioms failing_pubrec_in_transcript
#print axioms done_has_a_documented_cause
#print axioms publish_result_mapping
#print axioms no_internal_error
#print axioms publish_future_kinds
#print axioms publish_queues_exactly_one_first_transmission
#print axioms publish_enters_queue_only_at_first_poll
#print axioms queued_publish_has_dup0
#print axioms queued_publish_has_dup0_script
#print axioms message_handled_at_most_once
#print axioms retransmission_copy_has_dup_set

end Poster

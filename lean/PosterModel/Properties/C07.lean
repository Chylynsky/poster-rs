/-
  Properties/C07.lean — C07: inbound messages reach exactly their subscription's stream(s), in order, intact.

  The context keeps `subs : List (subscription identifier × channel)`. A SUBSCRIBE registers its channel when it is
  written (`handleMsg`); an inbound PUBLISH is pushed, unchanged, into the channel registered under each
  subscription identifier it carries (`Ctx.dispatch`); the user's stream pops its channel in FIFO order
  (`World.deliver` / `World.pollStream`).
-/
import PosterModel.Lemmas.UserCtx
import PosterModel.Lemmas.CtxPkt

namespace Poster
open World User

/-- The dispatch loop, one subscription identifier at a time: an identifier nobody is registered under is skipped;
    if the first entry registered under it has a live receiver the message `p` itself is delivered there and the
    table is unchanged; if its receiver is gone that entry (only) is removed and its sender dropped. The rest of
    the identifiers are then dispatched against the *current* table. -/
theorem dispatch_step (alive : Nat → Bool) (p : PublishRx) (subs : List (Nat × Nat)) :
    Ctx.dispatch alive p [] subs = (subs, []) ∧
    (∀ sid rest, lookupFirst sid subs = none →
      Ctx.dispatch alive p (sid :: rest) subs = Ctx.dispatch alive p rest subs) ∧
    (∀ sid rest ch, lookupFirst sid subs = some ch → alive ch = true →
      Ctx.dispatch alive p (sid :: rest) subs =
        ((Ctx.dispatch alive p rest subs).1, .deliver ch p :: (Ctx.dispatch alive p rest subs).2)) ∧
    (∀ sid rest ch, lookupFirst sid subs = some ch → alive ch = false →
      Ctx.dispatch alive p (sid :: rest) subs =
        ((Ctx.dispatch alive p rest (eraseFirst sid subs)).1,
         .dropChan ch :: (Ctx.dispatch alive p rest (eraseFirst sid subs)).2)) :=
  ⟨rfl, fun sid rest h => Ctx.dispatch_cons_absent alive p sid rest subs h,
   fun sid rest ch h ha => Ctx.dispatch_cons_alive alive p sid ch rest subs h ha,
   fun sid rest ch h ha => Ctx.dispatch_cons_dead alive p sid ch rest subs h ha⟩

/-- Every delivery made by the dispatch loop is the message `p` itself, unchanged, into a channel whose receiver
    is alive and which is registered under one of the subscription identifiers the message carries. No other
    stream gets anything. -/
theorem dispatch_delivers_sound (alive : Nat → Bool) (p : PublishRx) (sids : List Nat) (subs : List (Nat × Nat)) :
    ∀ ch q, (ch, q) ∈ deliversOf (Ctx.dispatch alive p sids subs).2 →
      q = p ∧ alive ch = true ∧ ∃ sid ∈ sids, (sid, ch) ∈ subs := by
  refine Ctx.dispatch_induct (motive := fun sids subs r => ∀ ch q, (ch, q) ∈ deliversOf r.2 →
    q = p ∧ alive ch = true ∧ ∃ sid ∈ sids, (sid, ch) ∈ subs) ?_ ?_ ?_ ?_ sids subs
  · exact fun _ _ _ h => nomatch h
  · intro sid rest subs r _ ih ch q h
    obtain ⟨h1, h2, s, hs, hm⟩ := ih ch q h
    exact ⟨h1, h2, s, List.mem_cons_of_mem _ hs, hm⟩
  · intro sid c0 rest subs r hl ha ih ch q h
    simp only [deliversOf_cons_deliver, List.mem_cons, Prod.mk.injEq] at h
    rcases h with ⟨rfl, rfl⟩ | h
    · exact ⟨rfl, ha, sid, List.mem_cons_self, mem_of_lookupFirst _ _ _ hl⟩
    · obtain ⟨h1, h2, s, hs, hm⟩ := ih ch q h
      exact ⟨h1, h2, s, List.mem_cons_of_mem _ hs, hm⟩
  · intro sid c0 rest subs r _ _ ih ch q h
    simp only [deliversOf_cons_dropChan] at h
    obtain ⟨h1, h2, s, hs, hm⟩ := ih ch q h
    exact ⟨h1, h2, s, List.mem_cons_of_mem _ hs, (eraseFirst_sublist sid subs).subset hm⟩

/-- The dispatch loop only ever removes entries, and only entries whose receiver is gone: the new table is a
    sublist of the old one and the entries with a live receiver are all still there, in order. -/
theorem dispatch_subs (alive : Nat → Bool) (p : PublishRx) (sids : List Nat) (subs : List (Nat × Nat)) :
    (Ctx.dispatch alive p sids subs).1.Sublist subs ∧
    (Ctx.dispatch alive p sids subs).1.filter (fun e => alive e.2) = subs.filter (fun e => alive e.2) := by
  refine ⟨Ctx.dispatch_sublist alive p sids subs, ?_⟩
  exact Ctx.dispatch_induct (motive := fun _ subs r => r.1.filter (fun e => alive e.2) = subs.filter (fun e => alive e.2))
    (fun _ => rfl) (fun _ _ _ _ _ ih => ih) (fun _ _ _ _ _ _ _ ih => ih)
    (fun sid c0 _ subs _ hl ha ih => ih.trans (eraseFirst_filter_alive alive sid c0 subs hl ha)) sids subs

/-- With every registered receiver alive the table is unchanged and the deliveries are, in the order of the
    identifiers the message carries, one `(channel, p)` for each identifier somebody is registered under. -/
theorem dispatch_all_alive (alive : Nat → Bool) (p : PublishRx) (sids : List Nat) (subs : List (Nat × Nat))
    (hall : ∀ e ∈ subs, alive e.2 = true) :
    (Ctx.dispatch alive p sids subs).1 = subs ∧
    deliversOf (Ctx.dispatch alive p sids subs).2 =
      sids.filterMap (fun sid => (lookupFirst sid subs).map (·, p)) ∧
    (Ctx.dispatch alive p sids subs).2 = (deliversOf (Ctx.dispatch alive p sids subs).2).map
      (fun d => Eff.deliver d.1 d.2) := by
  refine Ctx.dispatch_induct (motive := fun sids subs r => (∀ e ∈ subs, alive e.2 = true) → r.1 = subs ∧
    deliversOf r.2 = sids.filterMap (fun sid => (lookupFirst sid subs).map (·, p)) ∧
    r.2 = (deliversOf r.2).map (fun d => Eff.deliver d.1 d.2)) ?_ ?_ ?_ ?_ sids subs hall
  · exact fun _ _ => ⟨rfl, rfl, rfl⟩
  · intro sid rest subs r hl ih hall
    simpa [List.filterMap_cons, hl] using ih hall
  · intro sid c0 rest subs r hl _ ih hall
    obtain ⟨h1, h2, h3⟩ := ih hall
    refine ⟨h1, by simp [hl, h2], ?_⟩
    simp only [deliversOf_cons_deliver, List.map_cons]
    rw [← h3]
  · intro sid c0 rest subs r hl ha _ hall
    rw [hall _ (mem_of_lookupFirst _ _ _ hl)] at ha; cases ha

/-- **Exact characterisation when subscription identifiers are unique** (hypothesis `hn`: the keys of `subs` are pairwise
    distinct — in reachable worlds by `SidInv`, Lemmas/WorldStreamSid.lean, from C11's fresh identifiers): the deliveries
    are, in the order of the identifiers carried, `(ch, p)` for each identifier registered to a channel `ch` with a live
    receiver — exactly once per carried identifier, and nothing else. -/
theorem dispatch_spec_nodup (alive : Nat → Bool) (p : PublishRx) (sids : List Nat) (subs : List (Nat × Nat))
    (hn : (subs.map (·.1)).Nodup) :
    deliversOf (Ctx.dispatch alive p sids subs).2 =
      sids.filterMap (fun sid => (lookupFirst sid subs).bind fun ch => if alive ch then some (ch, p) else none) := by
  refine Ctx.dispatch_induct (motive := fun sids subs r => (subs.map (·.1)).Nodup → deliversOf r.2 =
    sids.filterMap (fun sid => (lookupFirst sid subs).bind fun ch => if alive ch then some (ch, p) else none))
    ?_ ?_ ?_ ?_ sids subs hn
  · exact fun _ _ => rfl
  · intro sid rest subs r hl ih hn
    rw [ih hn]; simp [hl]
  · intro sid c0 rest subs r hl ha ih hn
    simp [hl, ha, ih hn]
  · intro sid c0 rest subs r hl ha ih hn
    simp only [deliversOf_cons_dropChan, ih (eraseFirst_keys_nodup sid subs hn), List.filterMap_cons, hl,
      Option.bind_some, ha, Bool.false_eq_true, if_false]
    apply filterMap_congr'
    intro s _
    by_cases hs : s = sid
    · subst hs; rw [lookupFirst_eraseFirst_self s subs hn, hl]; simp [ha]
    · rw [lookupFirst_eraseFirst_of_ne hs]

/-- **dispatch_spec.** Summary of the dispatch loop for a message `p` carrying the identifiers `sids`:
    every delivery is `p` itself into a live channel registered under a carried identifier; entries are removed
    only when their channel is dead; and if all registered channels are alive, `subs` is unchanged and the
    deliveries are exactly `sids.filterMap (fun sid => (lookupFirst sid subs).map (·, p))`, in that order. -/
theorem dispatch_spec (alive : Nat → Bool) (p : PublishRx) (sids : List Nat) (subs : List (Nat × Nat)) :
    (∀ ch q, (ch, q) ∈ deliversOf (Ctx.dispatch alive p sids subs).2 →
      q = p ∧ alive ch = true ∧ ∃ sid ∈ sids, (sid, ch) ∈ subs) ∧
    ((Ctx.dispatch alive p sids subs).1.Sublist subs ∧
      (Ctx.dispatch alive p sids subs).1.filter (fun e => alive e.2) = subs.filter (fun e => alive e.2)) ∧
    ((∀ e ∈ subs, alive e.2 = true) →
      (Ctx.dispatch alive p sids subs).1 = subs ∧
      deliversOf (Ctx.dispatch alive p sids subs).2 = sids.filterMap (fun sid => (lookupFirst sid subs).map (·, p))) :=
  ⟨dispatch_delivers_sound alive p sids subs, dispatch_subs alive p sids subs,
   fun h => ⟨(dispatch_all_alive alive p sids subs h).1, (dispatch_all_alive alive p sids subs h).2.1⟩⟩

/-- A message that carries no subscription identifier, or only identifiers nobody is registered under, is
    delivered to no stream and leaves the table alone. -/
theorem unknown_or_absent_identifier_no_delivery (alive : Nat → Bool) (p : PublishRx) (sids : List Nat)
    (subs : List (Nat × Nat)) (h : sids = [] ∨ ∀ sid ∈ sids, lookupFirst sid subs = none) :
    Ctx.dispatch alive p sids subs = (subs, []) := by
  have h' : ∀ sid ∈ sids, lookupFirst sid subs = none := by
    rcases h with rfl | h
    · simp
    · exact h
  clear h
  induction sids with
  | nil => rfl
  | cons sid rest ih =>
    rw [Ctx.dispatch_cons_absent _ _ _ _ _ (h' sid List.mem_cons_self)]
    exact ih fun s hs => h' s (List.mem_cons_of_mem _ hs)

/-- How the PUBLISH arm of `handle_packet` uses the loop: a QoS 2 PUBLISH whose identifier is already being
    handled (a re-delivery) is not dispatched again; any other PUBLISH is dispatched once, against the current
    table, with its own subscription identifiers. -/
theorem handlePkt_publish_dispatch (c : Ctx) (alive : Nat → Bool) (pb : PublishRx) (wok : Bool) :
    (pb.qos = 2 ∧ pb.packetId.getD 0 ∈ c.inQos2 →
      (c.handlePkt alive (.publish pb) wok).1.subs = c.subs ∧
      deliversOf (c.handlePkt alive (.publish pb) wok).2.1 = []) ∧
    (¬ (pb.qos = 2 ∧ pb.packetId.getD 0 ∈ c.inQos2) →
      (c.handlePkt alive (.publish pb) wok).1.subs = (Ctx.dispatch alive pb pb.subIds c.subs).1 ∧
      deliversOf (c.handlePkt alive (.publish pb) wok).2.1 =
        deliversOf (Ctx.dispatch alive pb pb.subIds c.subs).2) := by
  rw [Ctx.handlePkt_publish_eq]
  constructor
  · intro h; simp only [h]; cases pb.packetId <;> simp
  · intro h; simp only [h, if_false]; cases pb.packetId <;> simp

/-- **Registered when the SUBSCRIBE is sent.** Handling an accepted SUBSCRIBE message makes `(sid, ch)` the last
    entry of `subs` — at the moment the packet is written, before any SUBACK and before `stream()` is called. -/
theorem registered_when_subscribe_is_sent (c : Ctx) (aid sid : Nat) (pkt : Bytes) (slot ch : Nat) (wok : Bool)
    (hs : c.sizeOk pkt = true) :
    (c.handleMsg (.subscribe aid sid pkt slot ch) wok).1.subs = c.subs ++ [(sid, ch)] ∧
    writesOf (c.handleMsg (.subscribe aid sid pkt slot ch) wok).2.1 = [pkt] := by
  simp [Ctx.handleMsg_subscribe_eq, hs]

/-- A fresh subscription identifier (C11) then resolves to that channel. -/
theorem lookup_after_subscribe (subs : List (Nat × Nat)) (sid ch : Nat) (hfresh : sid ∉ subs.map (·.1)) :
    lookupFirst sid (subs ++ [(sid, ch)]) = some ch :=
  (lookupFirst_some_iff _ _ _).2 ⟨subs, [], rfl, hfresh⟩

/-- **Messages arriving before the SUBACK are delivered.** In any later state of the context in which `sid` still
    resolves to the channel `ch` (nothing but a dead receiver removes it — see
    `subs_changed_only_by_subscribe_and_dead_receivers`) and the receiver is alive, a PUBLISH carrying `sid`
    (that is not a QoS 2 re-delivery) is delivered into `ch`, unchanged — whether or not the SUBACK has arrived
    or `stream()` has been called: neither appears in the hypotheses. -/
theorem publish_delivered_to_registered (c : Ctx) (alive : Nat → Bool) (pb : PublishRx) (wok : Bool) (sid ch : Nat)
    (hreg : lookupFirst sid c.subs = some ch) (ha : alive ch = true) (hsid : pb.subIds = [sid])
    (hnew : ¬ (pb.qos = 2 ∧ pb.packetId.getD 0 ∈ c.inQos2)) :
    deliversOf (c.handlePkt alive (.publish pb) wok).2.1 = [(ch, pb)] ∧
    (c.handlePkt alive (.publish pb) wok).1.subs = c.subs := by
  obtain ⟨h1, h2⟩ := (handlePkt_publish_dispatch c alive pb wok).2 hnew
  rw [h1, h2, hsid, Ctx.dispatch_cons_alive _ _ _ _ _ _ hreg ha]
  exact ⟨rfl, rfl⟩

/-- **The table changes only by a SUBSCRIBE and by dead receivers.** A message other than a SUBSCRIBE — in
    particular an UNSUBSCRIBE — leaves `subs` unchanged; so does every inbound packet other than a PUBLISH
    (SUBACK and UNSUBACK included: their timing is irrelevant to delivery); and a PUBLISH removes only entries
    whose receiver is gone. -/
theorem subs_changed_only_by_subscribe_and_dead_receivers (c : Ctx) :
    (∀ m wok, (∀ aid sid pkt slot ch, m ≠ .subscribe aid sid pkt slot ch) → (c.handleMsg m wok).1.subs = c.subs) ∧
    (∀ alive p wok, (∀ pb, p ≠ .publish pb) → (c.handlePkt alive p wok).1.subs = c.subs) ∧
    (∀ alive pb wok,
      (c.handlePkt alive (.publish pb) wok).1.subs.Sublist c.subs ∧
      (c.handlePkt alive (.publish pb) wok).1.subs.filter (fun e => alive e.2) = c.subs.filter (fun e => alive e.2)) := by
  refine ⟨?_, ?_, ?_⟩
  · intro m wok hm
    rw [Ctx.handleMsg_subs]
    cases m with
    | subscribe aid sid pkt s ch => exact absurd rfl (hm aid sid pkt s ch)
    | ff | awaitAck => exact List.append_nil _
  · exact fun alive p wok hp => Ctx.handlePkt_subs_other c alive p wok hp
  · intro alive pb wok
    simp only [Ctx.handlePkt_subs]
    split
    · exact ⟨List.Sublist.refl _, rfl⟩
    · exact dispatch_subs alive pb pb.subIds c.subs

/-- `unsubscribe()` on the user side touches no channel and no part of the context's state either. -/
theorem unsubscribe_leaves_streams_alone (w : World) (id : Nat) (t : UnsubscribeTx) (s : Nat) (a : SubackRx) :
    (w.startOp id (.unsubscribe t)).chans = w.chans ∧ (w.startOp id (.unsubscribe t)).c = w.c ∧
    (w.resumeOp id s .unsuback (.pkt (.unsuback a))).chans = w.chans := by
  refine ⟨?_, ?_, World.resumeOp_chans w id s _ _⟩
  · rw [startOp_unsubscribe]; split <;> simp [allocPid]
  · rw [startOp_unsubscribe]; split <;> simp [allocPid]

/-- **The channel is a FIFO.** `deliver` appends the message at the end of the channel's buffer; polling the
    stream emits the head of the buffer as `ITEM`, unchanged, and removes exactly it. -/
theorem channel_fifo (w : World) (ch : Nat) (p : PublishRx) (c0 : Chan) (hc : w.chan ch = some c0) :
    (w.deliver ch p).chan ch = some { c0 with buf := c0.buf ++ [p], reg := false } ∧
    (w.deliver ch p).out = w.out ∧
    (∀ q rest, ch ∈ w.streams → c0.buf = q :: rest →
      (w.pollStream ch).out = w.out ++ [.item ch q] ∧
      (w.pollStream ch).chan ch = some { c0 with buf := rest } ∧
      (w.pollStream ch).streams = w.streams) := by
  obtain ⟨wk, e⟩ := deliver_of_some w ch p c0 hc
  refine ⟨by rw [e]; exact lookupFirst_setAssoc_self _ _ _, by rw [e], ?_⟩
  intro q rest hs hb
  have e' := pollStream_item w ch c0 q rest hs hc hb
  rw [e']
  exact ⟨rfl, lookupFirst_setAssoc_self _ _ _, rfl⟩

/-- **Items come out in arrival order.** Polling a stream as many times as its channel holds messages emits
    exactly those messages, in the order they were delivered, each once and unchanged, and empties the buffer. -/
theorem stream_yields_in_arrival_order (w : World) (id : Nat) (c0 : Chan) (hs : id ∈ w.streams)
    (hc : w.chan id = some c0) :
    (pollStreamN w id c0.buf.length).out = w.out ++ c0.buf.map (Obs.item id) ∧
    (pollStreamN w id c0.buf.length).chan id = some { c0 with buf := [] } := by
  obtain ⟨_, h1, h2⟩ := pollStreamN_take w id c0 hs hc c0.buf.length (Nat.le_refl _)
  exact ⟨by rw [h1, List.take_length], by rw [h2, List.drop_length]⟩

/-- **Other streams are untouched.** Polling stream `id`, dropping it, or delivering into it does not change the
    channel of any other stream `id'` — a lagging or dropped stream cannot affect the others. -/
theorem pollStream_other_streams_untouched (w : World) (id id' : Nat) (h : id' ≠ id) :
    (w.pollStream id).chan id' = w.chan id' ∧ (w.dropChanRx id).chan id' = w.chan id' ∧
    (∀ p, (w.deliver id p).chan id' = w.chan id') := by
  refine ⟨?_, lookupFirst_eraseFirst_of_ne h w.chans, ?_⟩
  · rcases World.pollStream_shape w id with ⟨-, e⟩ | ⟨ch, p, rest, -, -, -, e⟩ | ⟨ch, -, -, -, -, e⟩ | ⟨ch, -, -, -, -, e⟩ <;>
      rw [e]
    · exact lookupFirst_setAssoc_of_ne h _ w.chans
    · exact lookupFirst_setAssoc_of_ne h _ w.chans
    · exact lookupFirst_eraseFirst_of_ne h w.chans
  · intro p
    cases hc : w.chan id with
    | none => rw [deliver_none w id p hc]
    | some c0 =>
      obtain ⟨wk, e⟩ := deliver_of_some w id p c0 hc
      rw [e]; exact lookupFirst_setAssoc_of_ne h _ w.chans

/-- **A stream ends only without a sender.** One poll of a stream emits nothing, or one `ITEM`, or `END`; it emits
    `END` only if the channel's sending half is gone (`txAlive = false`) and every buffered message has been
    yielded (empty buffer). -/
theorem stream_ends_only_without_sender (w : World) (id : Nat) :
    (w.pollStream id).out = w.out ∨
    (∃ p, (w.pollStream id).out = w.out ++ [.item id p]) ∨
    ((w.pollStream id).out = w.out ++ [.endStream id] ∧
      ∃ ch, w.chan id = some ch ∧ ch.txAlive = false ∧ ch.buf = []) := by
  rcases World.pollStream_shape w id with ⟨-, e⟩ | ⟨ch, p, rest, -, -, -, e⟩ | ⟨ch, -, -, -, -, e⟩ | ⟨ch, -, hc, hb, ht, e⟩ <;>
    rw [e]
  · exact Or.inl rfl
  · exact Or.inr (Or.inl ⟨p, rfl⟩)
  · exact Or.inl rfl
  · exact Or.inr (Or.inr ⟨rfl, ch, hc, ht, hb⟩)

/-- **The sending half disappears only through `dropChanTx`.** None of the other steps of the model that touch
    channels or that the context task and the user tasks perform — delivering a message, completing or dropping a
    oneshot, writing to the transport, polling or dropping a stream, polling or dropping a handle future
    (including the creation of a new channel by `subscribe()`) — produces a channel entry without sender that was
    not already there; `dropChanTx c` produces one only for `c`.
    `World` applies `dropChanTx` (the effect `Eff.dropChan`) exactly where the context drops a subscription
    sender: the context is dropped (`Ev.dropCtx`: queued SUBSCRIBE messages and the whole `subs` table),
    an expired session is reset on reconnection (`Ctx.resetSession`), the receiver itself is already gone
    (`Ctx.dispatch`, dead branch), and a SUBSCRIBE refused for its size (`Ctx.handleMsg`). -/
theorem txAlive_cleared_only_by_dropChanTx (w : World) (ch : Nat) :
    (∀ c p, noSender (w.deliver c p) ch → noSender w ch) ∧
    (∀ s v, noSender (w.sendSlot s v) ch → noSender w ch) ∧
    (∀ s, noSender (w.dropSlotTx s) ch → noSender w ch) ∧
    (∀ bs, noSender (w.writeBytes bs) ch → noSender w ch) ∧
    (∀ id, noSender (w.pollStream id) ch → noSender w ch) ∧
    (∀ id, noSender (w.dropChanRx id) ch → noSender w ch) ∧
    (∀ id, noSender (w.pollOp id) ch → noSender w ch) ∧
    (∀ id, noSender (w.dropOp id) ch → noSender w ch) ∧
    (∀ c, noSender (w.dropChanTx c) ch → noSender w ch ∨ ch = c) := by
  have heq : ∀ {w' : World}, w'.chans = w.chans → noSender w' ch → noSender w ch :=
    fun hw => noSender_of_sublist (hw ▸ List.Sublist.refl _)
  have hnew : ∀ {k : Nat} {w' : World}, w'.chans = setAssoc k {} w.chans → noSender w' ch → noSender w ch :=
    fun hw => noSender_of_setAssoc hw (fun h => by cases h)
  refine ⟨?_, ?_, ?_, ?_, ?_, ?_, ?_, ?_, ?_⟩
  · intro c p
    cases hc : w.chan c with
    | none => rw [deliver_none w c p hc]; exact id
    | some c0 =>
      obtain ⟨wk, e⟩ := deliver_of_some w c p c0 hc
      rw [e]
      exact noSender_of_setAssoc rfl fun ht => ⟨c0, mem_of_lookupFirst _ _ _ hc, ht⟩
  · intro s v; exact heq (World.sendSlot_chans w s v)
  · intro s; exact heq (World.dropSlotTx_chans w s)
  · intro bs; exact heq (World.writeBytes_chans w bs)
  · intro id
    rcases World.pollStream_shape w id with ⟨-, e⟩ | ⟨c0, p, rest, -, hc, -, e⟩ | ⟨c0, -, hc, -, -, e⟩ | ⟨c0, -, -, -, -, e⟩ <;>
      rw [e]
    · exact fun h => h
    · exact noSender_of_setAssoc rfl fun ht => ⟨c0, mem_of_lookupFirst _ _ _ hc, ht⟩
    · exact noSender_of_setAssoc rfl fun ht => ⟨c0, mem_of_lookupFirst _ _ _ hc, ht⟩
    · exact noSender_of_sublist (eraseFirst_sublist _ _)
  · intro id; exact noSender_of_sublist (eraseFirst_sublist _ _)
  · intro id
    rcases World.pollOp_chans w id with h | h | h
    · exact heq h
    · exact hnew h
    · -- `subscribe()` without a context: the channel it created is dropped again
      intro hn
      exact hnew (w' := { w with chans := setAssoc id {} w.chans }) rfl
        (noSender_of_sublist (h ▸ eraseFirst_sublist _ _) hn)
  · intro id
    rcases World.dropOp_chans w id with h | h
    · exact heq h
    · exact noSender_of_sublist (h ▸ eraseFirst_sublist _ _)
  · intro c
    cases hc : w.chan c with
    | none => rw [dropChanTx_none w c hc]; exact Or.inl
    | some c0 =>
      obtain ⟨wk, e⟩ := dropChanTx_of_some w c c0 hc
      rw [e]
      intro ⟨c1, hm, ht⟩
      rcases mem_setAssoc hm with h | h
      · right; simp only [Prod.mk.injEq] at h; exact h.1
      · left; exact ⟨c1, h, ht⟩

/-! ## non-vacuity -/

/-- a message carrying identifiers 7 and 9 with both receivers alive goes to channels 1 and 2, nowhere else -/
example :
    deliversOf (Ctx.dispatch (fun _ => true) { topic := [97] } [7, 9] [(7, 1), (8, 5), (9, 2)]).2 =
      [(1, { topic := [97] }), (2, { topic := [97] })] := by
  decide

/-- a dead receiver is removed, the live one still gets the message -/
example :
    Ctx.dispatch (fun ch => ch != 1) { topic := [97] } [7, 9] [(7, 1), (9, 2)] =
      ([(9, 2)], [.dropChan 1, .deliver 2 { topic := [97] }]) := by
  decide

/-- a subscribe followed by a publish before any SUBACK: delivered -/
example :
    let c := (({} : Ctx).handleMsg (.subscribe (actionId 9 1) 1 [130, 0] 0 0) true).1
    deliversOf (c.handlePkt (fun _ => true) (.publish { topic := [97], subIds := [1] }) true).2.1 =
      [(0, { topic := [97], subIds := [1] })] := by
  decide

#print axioms dispatch_step
#print axioms dispatch_delivers_sound
#print axioms dispatch_subs
#print axioms dispatch_all_alive
#print axioms dispatch_spec_nodup
#print axioms dispatch_spec
#print axioms unknown_or_absent_identifier_no_delivery
#print axioms handlePkt_publish_dispatch
#print axioms registered_when_subscribe_is_sent
#print axioms lookup_after_subscribe
#print axioms publish_delivered_to_registered
#print axioms subs_changed_only_by_subscribe_and_dead_receivers
#print axioms unsubscribe_leaves_streams_alone
#print axioms channel_fifo
#print axioms stream_yields_in_arrival_order
#print axioms pollStream_other_streams_untouched
#print axioms stream_ends_only_without_sender
#print axioms txAlive_cleared_only_by_dropChanTx

end Poster

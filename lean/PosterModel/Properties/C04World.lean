/-
  Properties/C04World.lean — C04 at the level of whole executions.

  C04: "For every byte sequence and every sequence of well- or ill-formed, expected or unexpected packets the
  transport delivers during connect, authorize or run, and for every transport fault, the client never panics
  and never stalls with unread input … The only exemption is the documented assertion on brokers that announce
  no subscription-identifier support."

  Properties/C04.lean enumerates the panics of ONE poll and excludes the decoder panic along every script;
  Properties/C05World.lean excludes the `unreachable!()` of the handle futures for scripts with pairwise distinct operation
  ids: composed, the only `PANIC` line a transcript can contain is the documented assertion. The executor always reaches
  quiescence — every poll strictly decreases a potential that the fuel `drainFuel` dominates — so the stall check can only
  fire for a context future the script itself holds back.
-/
import PosterModel.Lemmas.WorldFuelPanic
import PosterModel.Lemmas.WorldFuelScript
import PosterModel.Lemmas.WorldFuelStall
import PosterModel.Lemmas.WorldSelectFuel
import PosterModel.Lemmas.WorldReachable
import PosterModel.Lemmas.ScriptIds
import PosterModel.Properties.C04
import PosterModel.Properties.C05World

namespace Poster
open Framing

/-- **Every panic line of every transcript is one of the three the model can log at all.** Whatever the
    configuration and the script, an observation of the transcript that is a `PANIC` is `PANIC ctx assert-subid`,
    `PANIC ctx other` or `PANIC op<id> unreachable`. (The next theorems remove the last two.) -/
theorem every_panic_is_a_known_one (cfg : Cfg) (evs : List Ev) : ∀ o ∈ World.run cfg evs, World.PanicDoc o :=
  (World.runAny_run cfg evs).panicDoc

/-- **Headline: the only panic a client can log is the documented assertion.** For every configuration
    (executor mode, read chunking, write limit) and every script whose operations carry pairwise distinct ids —
    any bytes fed in any chunks, end of stream, read errors, any operations, polls, drops in any order — every
    `PANIC` line of the transcript is `PANIC ctx assert-subid`: the assertion `connect()` / `authorize()` make when
    the broker's CONNACK announces no subscription-identifier support. No decoder panic, no `unreachable!()`, no
    other panic exists. -/
theorem only_documented_panic (cfg : Cfg) (evs : List Ev) (hn : (World.opIds evs).Nodup) :
    ∀ o ∈ World.run cfg evs, (∃ t cls, o = .panic t cls) → o = .panic .ctx "assert-subid" :=
  (World.runAny_run cfg evs).documented hn

/-- **The panics of every script whatsoever.** Without any hypothesis on the script: a `PANIC` line of the
    transcript is the documented assertion, or `PANIC op<id> unreachable` — which by
    `no_unreachable_panic_of_distinct_ids` needs a script that issues an operation id twice (an artefact of the
    model naming oneshots after script ids, see `reused_id_reaches_unreachable`). In particular the decoder panic
    `PANIC ctx other` never occurs. -/
theorem panics_enumerated_every_script (cfg : Cfg) (evs : List Ev) :
    ∀ o ∈ World.run cfg evs, (∃ t cls, o = .panic t cls) →
      o = .panic .ctx "assert-subid" ∨ ∃ id, o = .panic (.op id) "unreachable" :=
  (World.runAny_run cfg evs).enumerated

/-- **One poll: where the documented assertion comes from.** The assertion is logged only by a poll of the
    context task while it is the `connect()` / `authorize()` future and the first response decodes to a CONNACK
    with reason < 0x80 and "subscription identifiers available" = false. -/
theorem assert_subid_only_from_connack (w : World) (t : Task) :
    ∃ added, (w.pollTask t).out = w.out ++ added ∧
      (Obs.panic .ctx "assert-subid" ∈ added →
        t = .ctx ∧ ∃ call tx a st rx' rd' fr k, w.task = .connecting call tx a st ∧
          Framing.pollNext w.rx w.reader = (rx', rd', .item fr) ∧ decodeRx fr = .ok (.connack k) ∧
          k.reason < 128 ∧ k.subIdAvail = false) := by
  obtain ⟨added, e, h⟩ := world_panics_enumerated w t
  refine ⟨added, e, fun hmem => ?_⟩
  rcases h _ _ hmem with ⟨h1, _, _, hx⟩ | ⟨_, _, h3, _⟩ | ⟨_, _, _, _, _, h2, _⟩
  · exact ⟨h1, hx⟩
  · simp at h3
  · cases h2

/-- **…and it does come.** If the context task is a `connect()` / `authorize()` future that has already sent its
    request, and the next packet the transport delivers is a CONNACK with reason < 0x80 announcing no
    subscription-identifier support, then polling the context logs exactly `PANIC ctx assert-subid`. -/
theorem assert_subid_logged_on_connack (w : World) (call : Call) (tx : ConnectTx) (a : AuthTx) (rx' : Rx)
    (rd' : List ReadEv) (fr : Bytes) (k : ConnackRx) (ht : w.task = .connecting call tx a true)
    (hp : Framing.pollNext w.rx w.reader = (rx', rd', .item fr)) (hd : decodeRx fr = .ok (.connack k))
    (hk : k.reason < 128) (hs : k.subIdAvail = false) :
    (w.pollTask .ctx).out = w.out ++ [.panic .ctx "assert-subid"] := by
  have hu : (w.unwake .ctx).task = .connecting call tx a true := by simpa using ht
  have e1 : w.pollTask .ctx = (w.unwake .ctx).awaitFirst call tx a :=
    World.pollCtx_connecting hu
  rw [e1]
  have := (awaitFirst_panics (w.unwake .ctx) call tx a).1.mpr ⟨rx', rd', fr, k, by simpa using hp, hd, hk, hs⟩
  simpa using this

/-- **…also on the very first poll.** If the future has not been polled yet, its request can be encoded, the
    transport has no write limit, and that CONNACK is already readable, the first poll writes the request (some
    `W` lines `pre`) and then logs the assertion. -/
theorem assert_subid_logged_on_first_poll (w : World) (call : Call) (tx : ConnectTx) (a : AuthTx) (rx' : Rx)
    (rd' : List ReadEv) (fr : Bytes) (k : ConnackRx) (ht : w.task = .connecting call tx a false)
    (hv : World.reqValid call tx a = true) (hw : w.cfg.wlimit = none)
    (hp : Framing.pollNext w.rx w.reader = (rx', rd', .item fr)) (hd : decodeRx fr = .ok (.connack k))
    (hk : k.reason < 128) (hs : k.subIdAvail = false) :
    ∃ pre, (w.pollTask .ctx).out = w.out ++ pre ++ [.panic .ctx "assert-subid"] := by
  have hu : (w.unwake .ctx).task = .connecting call tx a false := by simpa using ht
  have e1 : w.pollTask .ctx = (w.unwake .ctx).pollConnect call tx a false := World.pollCtx_connecting hu
  rw [e1]
  obtain ⟨pre, e⟩ := World.W5.pollConnect_first_assert (w.unwake .ctx) call tx a rx' rd' fr k hv (by simpa using hw)
    (by simpa using hp) hd hk hs
  exact ⟨pre, by simpa using e⟩

/-- **No `connect()` / `authorize()`, no assertion.** If the transcript of a script contains the documented
    assertion, the script contains a `connect` or an `authorize` event: a client that only ever calls `run()` (and
    any handle methods) cannot hit it, whatever the broker sends. -/
theorem assert_subid_needs_connect (cfg : Cfg) (evs : List Ev)
    (h : Obs.panic .ctx "assert-subid" ∈ World.run cfg evs) :
    ∃ e ∈ evs, (∃ t, e = .connect t) ∨ (∃ a, e = .authorize a) :=
  World.run_assert_needs_connEv cfg evs h

/-- **A script that never connects never panics.** No `connect` / `authorize` event and pairwise distinct
    operation ids: the transcript contains no `PANIC` line at all. -/
theorem no_panic_without_connect (cfg : Cfg) (evs : List Ev) (hn : (World.opIds evs).Nodup)
    (hc : ∀ e ∈ evs, (∀ t, e ≠ .connect t) ∧ (∀ a, e ≠ .authorize a)) :
    ∀ o ∈ World.run cfg evs, ∀ t cls, o ≠ .panic t cls := by
  intro o ho t cls e
  have h1 := only_documented_panic cfg evs hn o ho ⟨t, cls, e⟩
  obtain ⟨ev, hev, h2 | h2⟩ := assert_subid_needs_connect cfg evs (h1 ▸ ho)
  · obtain ⟨tx, rfl⟩ := h2; exact (hc _ hev).1 tx rfl
  · obtain ⟨a, rfl⟩ := h2; exact (hc _ hev).2 a rfl


/-! ## The executor always reaches quiescence

  The potential `World.W5.phi w` (Lemmas/WorldFuelPot.lean) is the sum of
  * 1 if the context future is alive and flagged, 1 if it is alive and a sender of the message queue exists;
  * the framing measure `mu`: bytes and events still to be read from the transport plus bytes buffered;
  * for every handle future the script does not hold: 6 if it was never polled, 3 if it waits for its PUBREC,
    1 otherwise, plus 1 if it is flagged although its oneshot has no value;
  * for every (distinct) live stream the script does not hold: 2 if flagged (or registered on a channel whose
    sender is gone), 1 otherwise, plus 1 while the sender of its channel is alive; plus 1 per buffered message.
  A queued message costs nothing: handling it wakes only tasks whose wake-up is already paid for. A frame pays
  for the messages it delivers with its bytes (two bytes per subscription identifier, `decodeRx_publish_subIds_len`).
-/

/-- **The invariants the argument needs hold in every reachable world**: the sender-ownership invariant `OwnInv`
    (Lemmas/WorldOwn.lean; the invariant of Properties/C14World.lean) and `RegInv`: every registered oneshot waker belongs to an operation that waits on
    exactly that oneshot. No hypothesis on the script. -/
theorem drain_invariants_reachable (cfg : Cfg) (evs : List Ev) :
    World.OwnInv (evs.foldl World.step { cfg := cfg }) ∧ World.RegInv (evs.foldl World.step { cfg := cfg }) :=
  ⟨(World.W11.reachable_script cfg evs).own, (World.W11.reachable_script cfg evs).reg⟩

/-- **Every poll the executor makes strictly decreases the potential.** In a world satisfying the two invariants,
    if the executor picks task `t` (flagged, alive, not held), then after `pollTask t` the potential is smaller:
    the context consumed its flag and re-flags itself only after consuming a `pending` event of the reader, and
    whatever it hands to operations and streams was paid for by the bytes it consumed; an operation completed,
    moved one phase on, or used up a spurious flag; a stream took an item, registered, or ended. -/
theorem every_poll_decreases_the_potential (w : World) (t : Task) (ho : World.OwnInv w) (hr : World.RegInv w)
    (hp : w.pick = some t) : World.W5.phi (w.pollTask t) < World.W5.phi w :=
  World.W5.pollTaskAny_phi (World.pollTaskAny_pollTask w t) ho hr hp

/-- **The fuel dominates the potential.** `drainFuel` — 4 units per operation, stream, queued message, unread byte,
    reader event, buffered byte and buffered subscription message, plus 64 — exceeds the potential of any world in
    which at most 30 never-polled operations are ready to be polled (such an operation needs up to five polls —
    its own three and two of the context — and is the only thing that costs more than 4). -/
theorem potential_below_drain_fuel (w : World) (h : World.W5.nFresh w ≤ 30) : World.W5.phi w < w.drainFuel :=
  World.W5.phi_lt_drainFuel w h

/-- **The drain reaches quiescence** from every world satisfying the invariants with at most 30 ready never-polled
    operations: `drain drainFuel` stops because nothing flagged, alive and not held is left — not because the
    fuel ran out. -/
theorem drain_reaches_quiescence (w : World) (ho : World.OwnInv w) (hr : World.RegInv w)
    (h : World.W5.nFresh w ≤ 30) : (World.drain w.drainFuel w).pick = none :=
  World.W5.drainAny_quiet (World.drainAny_drain _ w) ho hr (World.W5.phi_lt_drainFuel w h)

/-- **A script event makes at most one never-polled operation ready.** In a reachable world whose executor is
    idle every never-polled operation is held by the script (it is flagged from birth); an event creates at most
    one operation or releases at most one task. So when a drain starts, at most ONE never-polled operation is
    ready — far below the 30 the fuel's constant allows. -/
theorem at_most_one_fresh_operation_ready (w : World) (e : Ev) (ho : World.OwnInv w) (hq : w.pick = none) :
    World.W5.nFresh ((w.emit (.ev e)).apply e) ≤ 1 :=
  World.W5.nFresh_applyAny_le_one (World.applyAny_apply _ e) ho hq

/-- **Both drains of every step of every script reach quiescence.** Take any configuration, any script `evs` and
    any next event `e`. Unless the script was refused as malformed, the drain that follows `e` ends with nothing
    left to poll, and so does the drain that follows the sweep (`exec=sweep`). No hypothesis on the script: any
    bytes, chunking, faults, operations, holds, releases, drops, id reuse. -/
theorem both_drains_of_every_step_reach_quiescence (cfg : Cfg) (evs : List Ev) (e : Ev)
    (hb : (evs.foldl World.step { cfg := cfg }).bad = false) :
    let w1 := ((evs.foldl World.step { cfg := cfg }).emit (.ev e)).apply e
    (World.drain w1.drainFuel w1).pick = none ∧
    (World.drain (World.drain w1.drainFuel w1).sweep.drainFuel (World.drain w1.drainFuel w1).sweep).pick = none := by
  have r := World.W11.reachable_script cfg evs
  exact World.W5.step_drains_quiet _ e r.own r.reg (r.quiet.resolve_left (by rw [hb]; nofun))

/-- **After every step of every script the executor is idle**: no task that is flagged, alive and not held by the
    script is left unpolled (or the script was refused as malformed). -/
theorem executor_idle_after_every_step (cfg : Cfg) (evs : List Ev) :
    (evs.foldl World.step { cfg := cfg }).bad = true ∨ (evs.foldl World.step { cfg := cfg }).pick = none :=
  (World.W11.reachable_script cfg evs).quiet

/-- **The fuel side condition of the C16 theorems always holds**: `stepsFuelOk` (Lemmas/WorldQuietFuel.lean) — after
    the drain of every step no flagged live task that is not held is left — is true of every script from the
    initial world. (Properties/C16Fuel.lean restates the C16 theorems without it.) -/
theorem drain_fuel_always_suffices (cfg : Cfg) (evs : List Ev) : World.stepsFuelOk { cfg := cfg } evs = true :=
  World.W5.stepsFuelOk_script cfg evs

/-! ## The client never stalls with unread input

  `World.step` appends `Obs.stall` after the drains exactly when the context future is alive and the transport
  still has unread events. With the section before (the executor is idle at that point) a stall would mean: the context
  future went to sleep — returned `Pending` without being flagged — on unread input. -/

/-- **The context future sleeps only when everything was read.** In every world any script can reach: if the
    `connect()` / `authorize()` / `run()` future is alive and not flagged for the executor, the transport's event
    queue is empty and the transport holds the task's waker (so the next `feed` flags it). No hypothesis on the
    script. -/
theorem context_asleep_only_with_everything_read (cfg : Cfg) (evs : List Ev) :
    (evs.foldl World.step { cfg := cfg }).task ≠ .none → Task.ctx ∉ (evs.foldl World.step { cfg := cfg }).woken →
      (evs.foldl World.step { cfg := cfg }).reader = [] ∧ (evs.foldl World.step { cfg := cfg }).readerReg = true :=
  World.W5.stallInv_script cfg evs

/-- **A stalled context future is one the script holds back.** In every reachable world with an idle executor: if
    the context future is alive with unread transport events (the condition of the stall check), the script has
    put the context task on hold — the library itself never leaves unread input behind. -/
theorem stall_only_when_context_held (cfg : Cfg) (evs : List Ev)
    (hq : (evs.foldl World.step { cfg := cfg }).pick = none)
    (ht : (evs.foldl World.step { cfg := cfg }).task ≠ .none)
    (hrd : (evs.foldl World.step { cfg := cfg }).reader ≠ []) :
    Task.ctx ∈ (evs.foldl World.step { cfg := cfg }).held := by
  apply Classical.byContradiction
  intro hh
  have hw := World.not_woken_of_idle _ .ctx hq (by simpa [World.taskLive] using ht) hh
  exact hrd (context_asleep_only_with_everything_read cfg evs ht hw).1

/-- **The client never stalls.** For every configuration (executor mode, read chunking with spurious `Pending`s,
    write limit) and every script that never puts the context task on hold — any bytes in any chunks, well- or
    ill-formed, expected or unexpected packets, end of stream and read errors at any offset, any operations, polls,
    drops, holds of other tasks, id reuse — the transcript contains no `STALL` line: after every event the call
    either keeps serving with everything read, or has returned. (A script that does hold the context task with
    unread input is reported as stalled: the hypothesis cannot be dropped, see the example below.) -/
theorem never_stalls (cfg : Cfg) (evs : List Ev) (hh : ∀ e ∈ evs, e ≠ .hold .ctx) :
    Obs.stall ∉ World.run cfg evs :=
  World.W5.no_stall cfg evs hh

section NonVacuity
open Ex World

/-- the script `setup, feed CONNACK(no sub-id support), connect` has pairwise distinct operation ids (none), its
    transcript DOES contain a panic — the documented one — and contains a `connect` event: the hypotheses of
    `only_documented_panic` and `assert_subid_needs_connect` are satisfiable and their conclusions are not trivial -/
example : (World.opIds evsAssert).Nodup ∧ Obs.panic .ctx "assert-subid" ∈ World.run {} evsAssert ∧
    ∃ e ∈ evsAssert, (∃ t, e = .connect t) ∨ (∃ a, e = .authorize a) :=
  ⟨by decide, evsAssert_panics, assert_subid_needs_connect {} evsAssert evsAssert_panics⟩
/-- a script with several operations whose ids are pairwise distinct, and without `connect` / `authorize`: the
    hypotheses of `no_panic_without_connect` -/
example : (World.opIds [.setup, .run, .op 1 0 .ping, .op 2 0 (.publish { qos := 1, topic := some [0x61] }),
      .feed [pingresp], .drop (.op 2)]).Nodup ∧
    ∀ e ∈ ([.setup, .run, .op 1 0 .ping, .op 2 0 (.publish { qos := 1, topic := some [0x61] }),
      .feed [pingresp], .drop (.op 2)] : List Ev), (∀ t, e ≠ .connect t) ∧ (∀ a, e ≠ .authorize a) := by
  refine ⟨by decide, ?_⟩
  intro e he
  simp only [List.mem_cons, List.not_mem_nil, or_false] at he
  rcases he with rfl | rfl | rfl | rfl | rfl | rfl <;> exact ⟨(fun t h => by cases h), (fun a h => by cases h)⟩
/-- the second alternative of `panics_enumerated_every_script` is real in the model when an id is reused -/
example : ¬ (World.opIds evsReuse).Nodup ∧ Obs.panic (.op 1) "unreachable" ∈ World.run {} evsReuse :=
  ⟨by decide, reused_id_reaches_unreachable.2⟩
/-- `assert_subid_logged_on_connack` applies to `connect()` awaiting its first response with that CONNACK readable,
    and then the premise of `assert_subid_only_from_connack` holds -/
example : ((wConn connackNoSubId).pollTask .ctx).out = [.panic .ctx "assert-subid"] :=
  assert_subid_logged_on_connack (wConn connackNoSubId) .connect {} {} {} [] connackNoSubId kNoSubId rfl
    pn_connackNoSubId dec_connackNoSubId (by decide) rfl
/-- the hypotheses of `assert_subid_logged_on_first_poll` are satisfiable (world `w5_a3` of the script above) -/
example : ∃ pre, (w5_a3.pollTask .ctx).out = w5_a3.out ++ pre ++ [.panic .ctx "assert-subid"] :=
  assert_subid_logged_on_first_poll w5_a3 .connect {} {} {} [] connackNoSubId kNoSubId rfl (by decide) (by decide)
    pn_connackNoSubId dec_connackNoSubId (by decide) rfl
/-- a CONNACK that does announce support is not a panic: the implication of `assert_subid_only_from_connack` is
    not an equivalence with "first response is a CONNACK" -/
example : ((wConn connackOk).awaitFirst .connect {} {}).out ≠ [.panic .ctx "assert-subid"] := by
  intro h
  obtain ⟨rx', rd', fr, k, hp, hd, _, hs⟩ := (awaitFirst_panics (wConn connackOk) .connect {} {}).1.mp h
  have hp' : Framing.pollNext {} [.data connackOk] = (rx', rd', .item fr) := hp
  rw [pn_connackOk] at hp'
  simp only [Prod.mk.injEq, Out.item.injEq] at hp'
  obtain ⟨_, _, rfl⟩ := hp'
  rw [dec_connackOk] at hd
  cases hd
  exact absurd hs (by decide)

/-- a world in which a drain starts with work to do: after `setup`, a PINGREQ future polled once and a second one held
    before its first poll, a QoS 2 publish is issued. The potential is 7 (6 + 1 for the waiting ping; the held future costs
    nothing); one poll brings it to 4 (3 for "waits for PUBREC" + 1) -/
def wDrain : World :=
  (([Ev.setup, .op 1 0 .ping, .hold (.op 3), .op 3 0 .ping].foldl World.step {}).emit
    (.ev (.op 2 0 (.publish { qos := 2, topic := some [0x61] })))).apply
      (.op 2 0 (.publish { qos := 2, topic := some [0x61] }))
example : World.OwnInv wDrain ∧ World.RegInv wDrain :=
  ⟨World.own_apply _ _ (World.own_emit _ _ (World.ownInv_script {} _)),
   World.regInv_apply _ _ (World.own_emit _ _ (World.ownInv_script {} _))
     (World.regInv_emit _ _ (World.regInv_script {} _))⟩
example : wDrain.pick = some (.op 2) ∧ World.W5.nFresh wDrain = 1 ∧ World.W5.phi wDrain = 7 ∧
    wDrain.drainFuel = 80 ∧ World.W5.phi (wDrain.pollTask (.op 2)) = 4 ∧
    (World.drain wDrain.drainFuel wDrain).pick = none := by decide
/-- the potential is not a trivial bound: with too little fuel the same drain does NOT reach quiescence -/
example : (World.drain 0 wDrain).pick ≠ none := by decide

/-- the hypothesis of `never_stalls` cannot be dropped — a held `connect()` future with unread input is reported as
    stalled — and the world that script reaches satisfies the hypotheses and the conclusion of
    `stall_only_when_context_held` -/
example : Obs.stall ∈ World.run {} [.setup, .hold .ctx, .connect {}, .feed [[0x20]]] := by decide
example : (([.setup, .hold .ctx, .connect {}, .feed [[0x20]]] : List Ev).foldl World.step {}).pick = none ∧
    (([.setup, .hold .ctx, .connect {}, .feed [[0x20]]] : List Ev).foldl World.step {}).task ≠ .none ∧
    (([.setup, .hold .ctx, .connect {}, .feed [[0x20]]] : List Ev).foldl World.step {}).reader ≠ [] ∧
    Task.ctx ∈ (([.setup, .hold .ctx, .connect {}, .feed [[0x20]]] : List Ev).foldl World.step {}).held := by
  decide
/-- `never_stalls` applied: a script with a fault (end of stream in the middle of a packet), a re-used operation
    id, a held operation and the sweeping executor -/
example : Obs.stall ∉ World.run { sweep := true }
    [.setup, .connect {}, .op 1 0 .ping, .feed [[0x20]], .hold (.op 1), .op 1 0 .ping, .feedEof] :=
  never_stalls _ _ (by decide)

end NonVacuity

#print axioms every_panic_is_a_known_one
#print axioms only_documented_panic
#print axioms panics_enumerated_every_script
#print axioms assert_subid_only_from_connack
#print axioms assert_subid_logged_on_connack
#print axioms assert_subid_logged_on_first_poll
#print axioms assert_subid_needs_connect
#print axioms no_panic_without_connect
#print axioms drain_invariants_reachable
#print axioms every_poll_decreases_the_potential
#print axioms potential_below_drain_fuel
#print axioms drain_reaches_quiescence
#print axioms at_most_one_fresh_operation_ready
#print axioms both_drains_of_every_step_reach_quiescence
#print axioms executor_idle_after_every_step
#print axioms drain_fuel_always_suffices
#print axioms context_asleep_only_with_everything_read
#print axioms stall_only_when_context_held
#print axioms never_stalls

end Poster

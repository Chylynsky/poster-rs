/-
  The ORDER in which `handle_message` / `handle_packet` act, and what a write fault leaves behind.

  `Ctx.handleMsg` / `Ctx.handlePkt` return their effects as a list in the order of the code's statements (`tx.write(..).await?`
  is the `.write`; `response_channel.send(..)` the `.send`; the fan-out to the streams the `.deliver`s), and `wok = false` is the
  transport refusing the write. Several of the seeded changes (DESIGN.md section 12) move statements across that write
  (C14-i: reply before the write; C07-j: acknowledgement before the fan-out; C09-j: identifier recorded after the
  acknowledgement; C15-j: a refusal that ends `run()`; C10-b/C12-j: checks reordered). These theorems fix the order for EVERY
  context state and every request / packet.
-/
import PosterModel.Lemmas.TxHandler
namespace Poster

/-- **One request, at most one write — the request's own packet, unchanged.** -/
theorem request_writes_only_its_own_packet (c : Ctx) (m : Msg) (wok : Bool) :
    ∀ e ∈ (c.handleMsg m wok).2.1, e.isWrite = true → e = .write m.pkt := by
  intro e he hw
  have hf := List.mem_filter.mpr ⟨he, hw⟩
  rcases handleMsg_isWrite c m wok with h | h <;> rw [h] at hf
  · cases hf
  · exact List.mem_singleton.mp hf

theorem request_writes_at_most_once (c : Ctx) (m : Msg) (wok : Bool) :
    ((c.handleMsg m wok).2.1.filter Eff.isWrite).length ≤ 1 := by
  rcases handleMsg_isWrite c m wok with h | h <;> rw [h]
  · exact Nat.zero_le _
  · exact Nat.le_refl _

/-- **The reply "written" follows the write**: a success reply to the caller of a fire-and-forget request (`Ok(())`) occurs
    in exactly one shape of `handle_message`'s actions — first the write of the request's packet, then the reply, nothing
    else, and only when the transport took the write. It never precedes the write (seeded change C14-i moved it in front)
    and is never sent for a refused write. -/
theorem success_reply_follows_the_write (c : Ctx) (m : Msg) (wok : Bool) (s : Nat)
    (h : Eff.send s .unit ∈ (c.handleMsg m wok).2.1) :
    (c.handleMsg m wok).2.1 = [.write m.pkt, .send s .unit] ∧ wok = true := by
  have ha := handleMsg_acts c m wok
  generalize c.handleMsg m wok = r at ha h ⊢
  cases ha with
  | refused slot v tail hv ht => rcases hv with rfl | rfl <;> rcases ht with rfl | ⟨ch, rfl⟩ <;> simp at h
  | replied slot fl hw => simp at h; exact ⟨by rw [h], hw⟩
  | wrote | dropped => simp at h

/-- **A local refusal writes nothing and changes nothing**: when the reply is `MaximumPacketSizeExceeded` or
    `QuotaExceeded`, no byte goes to the transport and the context is as before. -/
theorem refusal_writes_nothing (c : Ctx) (m : Msg) (wok : Bool) (s : Nat) (v : SlotVal)
    (hv : v = .errSize ∨ v = .errQuota) (h : Eff.send s v ∈ (c.handleMsg m wok).2.1) :
    (∀ e ∈ (c.handleMsg m wok).2.1, e.isWrite = false) ∧ (c.handleMsg m wok).1 = c ∧ (c.handleMsg m wok).2.2 = .cont := by
  have ha := handleMsg_acts c m wok
  generalize c.handleMsg m wok = r at ha h ⊢
  cases ha with
  | refused slot w tail _ ht => rcases ht with rfl | ⟨ch, rfl⟩ <;> simp [Eff.isWrite]
  | replied | wrote | dropped => rcases hv with rfl | rfl <;> simp at h

/-- **A refused write never reports success**, and (for everything but SUBSCRIBE, which registers before it writes —
    noted in DESIGN.md) registers nothing: the caller's oneshot is dropped, the call ends with SocketClosed. -/
theorem failed_write_reports_no_success (c : Ctx) (m : Msg) :
    (∀ s, Eff.send s .unit ∉ (c.handleMsg m false).2.1) ∧
    ((∃ b, Eff.write b ∈ (c.handleMsg m false).2.1) → (c.handleMsg m false).2.2 = .exitSocket) := by
  have ha := handleMsg_acts c m false
  generalize c.handleMsg m false = r at ha ⊢
  cases ha with
  | refused slot v tail hv ht => rcases hv with rfl | rfl <;> rcases ht with rfl | ⟨ch, rfl⟩ <;> simp
  | replied slot fl hw => cases hw
  | wrote c' fl hf => simp [hf rfl]
  | dropped => simp

/-- **A write fault at an acknowledgement changes nothing but the outcome of the call**: the bookkeeping (inbound QoS 2
    identifiers, subscriptions, quota, waiters) and everything handed to streams and callers are exactly what they are when
    the write succeeds — for every inbound packet. So a QoS 2 message whose PUBREC could not be written HAS been delivered
    and its identifier IS recorded: the broker's re-delivery on the next connection is neither lost (seeded change C07-j) nor
    yielded twice (C09-j). -/
theorem ack_write_fault_changes_only_the_outcome (c : Ctx) (alive : Nat → Bool) (p : RxPacket) :
    (c.handlePkt alive p false).1 = (c.handlePkt alive p true).1 ∧
    (c.handlePkt alive p false).2.1 = (c.handlePkt alive p true).2.1 := by
  cases p with
  | publish pb => rw [Ctx.handlePkt, Ctx.handlePkt]; cases pb.packetId <;> exact ⟨rfl, rfl⟩
  | _ => exact ⟨rfl, rfl⟩

theorem dispatch_writes_nothing (alive : Nat → Bool) (pb : PublishRx) (ids : List Nat) :
    ∀ subs, ∀ e ∈ (Ctx.dispatch alive pb ids subs).2, e.isWrite = false := by
  intro subs e he
  rcases Ctx.dispatch_effs alive pb ids subs e he with ⟨ch, rfl, _⟩ | ⟨ch, rfl, _⟩ <;> rfl

/-- **The acknowledgement is the last thing `handle_packet` does for a PUBLISH**: every delivery to a stream precedes the
    write of the PUBACK / PUBREC. -/
theorem publish_ack_is_written_last (c : Ctx) (alive : Nat → Bool) (pb : PublishRx) (wok : Bool) (pid : Nat)
    (h : pb.packetId = some pid) :
    ∃ deliveries, (c.handlePkt alive (.publish pb) wok).2.1 =
        deliveries ++ [.write (ackBytes (if pb.qos = 1 then 0x40 else 0x50) pid)] ∧
      ∀ e ∈ deliveries, e.isWrite = false := by
  simp only [Ctx.handlePkt, h]
  split
  · exact ⟨[], by simp, by simp⟩
  · exact ⟨_, rfl, dispatch_writes_nothing alive pb _ _⟩

/-- **A PUBREL releases its identifier and is answered with PUBCOMP whatever its reason code** (0x92 included: seeded
    changes C07-k and C08-j). -/
theorem pubrel_releases_and_is_answered_whatever_its_reason (c : Ctx) (alive : Nat → Bool) (a : AckRx) (wok : Bool) :
    (c.handlePkt alive (.pubrel a) wok).1.inQos2 = c.inQos2.filter (· ≠ a.packetId) ∧
    (c.handlePkt alive (.pubrel a) wok).2.1 = [.write (ackBytes 0x70 a.packetId)] :=
  ⟨rfl, rfl⟩

end Poster

/-! ## non-vacuity -/
namespace Poster
example : (({} : Ctx).handleMsg (.ff [0xc0, 0x00] 4) true).2.1 = [.write [0xc0, 0x00], .send 4 .unit] := by decide
example : (({ maxPkt := some 1 } : Ctx).handleMsg (.ff [0xc0, 0x00] 4) true).2.1 = [.send 4 .errSize] := by decide
example : (({ quota := 0 } : Ctx).handleMsg (.awaitAck 7 [0x32, 0x00] 4) true).2.1 = [.send 4 .errQuota] := by decide
end Poster
#print axioms Poster.request_writes_only_its_own_packet
#print axioms Poster.request_writes_at_most_once
#print axioms Poster.success_reply_follows_the_write
#print axioms Poster.refusal_writes_nothing
#print axioms Poster.failed_write_reports_no_success
#print axioms Poster.ack_write_fault_changes_only_the_outcome
#print axioms Poster.dispatch_writes_nothing
#print axioms Poster.publish_ack_is_written_last
#print axioms Poster.pubrel_releases_and_is_answered_whatever_its_reason

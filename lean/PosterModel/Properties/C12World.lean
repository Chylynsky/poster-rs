/-
  Properties/C12World.lean — C12 for whole executions of the client: the server's Maximum Packet Size is honoured exactly.

  C12: "For every Maximum Packet Size M announced in CONNACK and every publish, subscribe, unsubscribe, ping or disconnect
  request whose encoded packet is L bytes long: if L > M the operation fails with MaximumPacketSizeExceeded, not one byte
  of it is written, and no quota slot, stream registration or pending acknowledgement is left behind; if L <= M, or no M
  was announced, the packet is written in full (QoS>0 publishes remaining subject to the send quota)."

  Properties/C12.lean proves the facts about `handle_message` / `handle_connack` alone. This file states them for the
  whole-client machine `World` (PosterModel/World.lean) and for whole scripts.

  Vocabulary (namespace `Poster.World.W10`)
    `TooBig c pkt`       a Maximum Packet Size `M` is in force in the context state `c` and `pkt` is longer than `M`
    `QuotaRefused c m`   `m` is a QoS>0 PUBLISH and the send quota is exhausted (property C10)
    `headStep w m q`     the world and the flow after the loop of `run()` has popped the message `m` from the head of the
                         queue (rest `q`) and `handle_message` has run on it: this IS the message branch of one iteration
                         of the loop (`W10.runIter_msg`)
    `World.W7.InPoll w started wm`   `wm` is the world at the start of an iteration of the poll of `run()` that starts
                         in `w`
    `refusalEffs`, `announcedMax`, `subidPanic`: explained at their definitions (Lemmas/CtxSize.lean, Lemmas/WorldIdsMax.lean)
-/
import PosterModel.Lemmas.WorldIdsMax
import PosterModel.Lemmas.WorldIdsErr
import PosterModel.Lemmas.WorldIdsEx
import PosterModel.Lemmas.WorldStreamStep
import PosterModel.Lemmas.WorldWire
import PosterModel.Properties.C01
import PosterModel.Properties.C06World


namespace Poster
open Framing World World.W7 World.W10

/-- **A request is refused with `MaximumPacketSizeExceeded` iff a limit `M` is in force and its packet is longer than
    `M`.** For every context state, every request message and whatever the transport would do with a write: the handler
    tells somebody `MaximumPacketSizeExceeded` iff `c.maxPkt = some M` with `M < pkt.length`; and then it returns the
    context unchanged (send quota, pending acknowledgements, subscription table, retransmit queue, inbound QoS 2 state:
    all as before), its effects are exactly `refusalEffs m` — the error on the caller's oneshot, plus, for a SUBSCRIBE, the
    drop of the stream sender the message carried — and `run()` goes on. A packet of exactly `M` bytes is not refused. -/
theorem refused_iff_too_big (c : Ctx) (m : Msg) (wok : Bool) :
    ((∃ s, (s, SlotVal.errSize) ∈ sendsOf (c.handleMsg m wok).2.1) ↔ ∃ M, c.maxPkt = some M ∧ M < m.pkt.length) ∧
    ((∃ M, c.maxPkt = some M ∧ M < m.pkt.length) → c.handleMsg m wok = (c, refusalEffs m, .cont)) ∧
    (∀ M, c.maxPkt = some M → m.pkt.length = M → ∀ s, (s, SlotVal.errSize) ∉ sendsOf (c.handleMsg m wok).2.1) :=
  ⟨handleMsg_errSize_iff c m wok, handleMsg_tooBig c m wok,
    fun M hM hL => handleMsg_fits_no_errSize c m wok (by rintro ⟨M', e, h⟩; rw [hM] at e; cases e; omega)⟩

/-- the effects of a refusal, spelled out -/
theorem refusal_effects (pkt : Bytes) (aid sid s ch : Nat) :
    refusalEffs (.ff pkt s) = [.send s .errSize] ∧ refusalEffs (.awaitAck aid pkt s) = [.send s .errSize] ∧
    refusalEffs (.subscribe aid sid pkt s ch) = [.send s .errSize, .dropChan ch] := ⟨rfl, rfl, rfl⟩

/-- the message branch of an iteration of the loop is `headStep`: the loop goes on with `(headStep w m q).1` if the
    handler says so, and otherwise `run()` returns from that world -/
theorem loop_iteration_on_a_request (w : World) (m : Msg) (q : List Msg) (hq : w.queue = m :: q) :
    ((headStep w m q).2 = .cont → RunCont w (headStep w m q).1) ∧
    ((headStep w m q).2 ≠ .cont → RunEnd w ((headStep w m q).1.finish .run (flowRet (headStep w m q).2))) :=
  ⟨headStep_runCont w m q hq, headStep_runEnd w m q hq⟩

/-- **Too big: refused without a trace, in any world.** When the loop of `run()` takes a request whose packet exceeds the
    limit in force from the queue — in any world, whatever the transport limit —: the loop goes on; the context afterwards
    is the context before (no quota slot taken, no pending acknowledgement, no stream registration, nothing kept for
    retransmission); NOT ONE BYTE is handed to the transport (`sent` and the transport's byte counter are unchanged) and
    nothing is logged; the message is gone from the queue; the operation table is untouched; the oneshot of the request,
    if its receiver is still waiting, now holds `MaximumPacketSizeExceeded`, and no other oneshot changes. -/
theorem too_big_request_in_world (w : World) (m : Msg) (q : List Msg) (M : Nat) (hM : w.c.maxPkt = some M)
    (hL : M < m.pkt.length) :
    (headStep w m q).2 = .cont ∧ (headStep w m q).1.c = w.c ∧ (headStep w m q).1.sent = w.sent ∧
    (headStep w m q).1.written = w.written ∧ (headStep w m q).1.out = w.out ∧ (headStep w m q).1.queue = q ∧
    (headStep w m q).1.ops = w.ops ∧
    (w.slot m.slot = some .empty → (headStep w m q).1.slot m.slot = some (.full .errSize)) ∧
    (∀ s, s ≠ m.slot → (headStep w m q).1.slot s = w.slot s) := by
  obtain ⟨e, a1, a2, a3, a4, a5, a6, a7, a8⟩ := headStep_tooBig w m q ⟨M, hM, hL⟩
  exact ⟨by rw [e], a1, a2, a4, a3, a5, a6, a7, a8⟩

/-- … and the stream of a refused SUBSCRIBE ends: the sender the message carried is dropped (the channel, if it still
    exists, has no sender afterwards) -/
theorem too_big_subscribe_drops_stream_sender (w : World) (aid sid : Nat) (pkt : Bytes) (s ch : Nat) (q : List Msg)
    (h : TooBig w.c pkt) :
    (headStep w (.subscribe aid sid pkt s ch) q).1 =
      ((({ w with queue := q } : World).sendSlot s .errSize).dropChanTx ch) := by
  rw [(headStep_tooBig w (.subscribe aid sid pkt s ch) q h).1]
  rfl

/-- **Fits: handed to the transport whole, in any world.** When the loop of `run()` takes from the queue a request whose
    packet passes the size check (no limit in force, or `pkt.length ≤ M`): either it is a QoS>0 PUBLISH that finds the
    send quota exhausted — then it is refused with `QuotaExceeded`, context and transport untouched (C10) —, or its
    packet is handed to the transport: if the transport can take `pkt.length` more bytes, exactly the bytes of the packet
    are appended to what the transport was handed before, and `run()` does not end with a socket error; if the transport's
    write limit is hit, a proper prefix of the packet is handed over and `run()` ends with `SocketClosed`. -/
theorem fitting_request_in_world (w : World) (m : Msg) (q : List Msg)
    (h : w.c.maxPkt = none ∨ ∃ M, w.c.maxPkt = some M ∧ m.pkt.length ≤ M) :
    (QuotaRefused w.c m ∧ (headStep w m q).1.c = w.c ∧ (headStep w m q).1.sent = w.sent ∧
      (headStep w m q).2 = .cont) ∨
    (¬ QuotaRefused w.c m ∧
      (w.canWrite m.pkt.length = true →
        (headStep w m q).1.sent = w.sent ++ m.pkt ∧ (headStep w m q).2 ≠ .exitSocket) ∧
      (w.canWrite m.pkt.length = false →
        (∃ k, (m.pkt ≠ [] → k < m.pkt.length) ∧ (headStep w m q).1.sent = w.sent ++ m.pkt.take k) ∧
        (headStep w m q).2 = .exitSocket)) := by
  apply headStep_fits
  rintro ⟨M, e, hl⟩
  rcases h with h | ⟨M', h, hle⟩
  · rw [h] at e; cases e
  · rw [h] at e; cases e; omega

/-- on a transport without a write limit every fitting request other than a quota-refused PUBLISH is written in full -/
theorem fitting_request_written_whole (w : World) (m : Msg) (q : List Msg) (hl : w.cfg.wlimit = none)
    (h : ¬ TooBig w.c m.pkt) (hq : ¬ QuotaRefused w.c m) : (headStep w m q).1.sent = w.sent ++ m.pkt := by
  rcases headStep_fits w m q h with ⟨h1, _⟩ | ⟨_, h2, _⟩
  · exact absurd h1 hq
  · exact (h2 (canWrite_unlimited w hl _)).1

/-- **The future of a refused request.** In a world with a well-formed operation table (every reachable world,
    `opsInv_reachable`): a handle future that waits on the oneshot `s` — for whatever acknowledgement — and finds
    `MaximumPacketSizeExceeded` in it, when polled, logs exactly `DONE id MaximumPacketSizeExceeded`, leaves the operation
    table, queues nothing, allocates no identifier, and touches neither the context nor the transport. -/
theorem refused_request_future (w : World) (hi : OpsInv w) (id s : Nat) (k : Wait)
    (hop : w.opSt id = some (.wait s k)) (hs : w.slot s = some (.full .errSize)) :
    (w.pollOp id).out = w.out ++ [.done id (.err .maximumPacketSizeExceeded)] ∧
    (w.pollOp id).opSt id = none ∧ (w.pollOp id).queue = w.queue ∧ (w.pollOp id).c = w.c ∧
    (w.pollOp id).sent = w.sent ∧ (w.pollOp id).pidCtr = w.pidCtr := by
  obtain ⟨e, a1, a2, a3, a4, a5, a6⟩ := pollOp_errSize w id s k hop hs
  refine ⟨a1, ?_, a3, a4, a5, a6⟩
  show lookupFirst id (w.pollOp id).ops = none
  rw [a2]
  exact lookupFirst_eraseFirst_self id w.ops hi.nodup

/-- `packet_len()` is the number of bytes of the encoding, for every request (C01 `*_packetLen`) -/
theorem reqBytes_length (r : Req) : r.bytes.length = reqPacketLen r := by
  cases r with
  | publish t => exact (publish_packetLen t).symm
  | subscribe t => exact (subscribe_packetLen t).symm
  | unsubscribe t => exact (unsubscribe_packetLen t).symm
  | ping => rfl
  | disconnect t => exact (disconnect_packetLen t).symm

/-- **From the caller's request to the refusal.** When a handle future is first polled in a world `w` whose context is
    alive and the request — completed with the identifiers the library assigns (`w.completeReq req`) — has its mandatory
    parts: exactly one message is queued, carrying the oneshot `2 * id` and the encoding of the completed request, whose
    length is `L = reqPacketLen (w.completeReq req)` (the library's `packet_len()`); and whenever `run()` later handles that
    message in a context state `c`, it is refused with `MaximumPacketSizeExceeded` iff `c.maxPkt = some M` with `M < L`
    — then with exactly the refusal effects and the context unchanged — and otherwise nobody is told
    `MaximumPacketSizeExceeded`. -/
theorem request_refused_iff_longer_than_limit (w : World) (id : Nat) (req : Req) (hc : w.hasCtx = true)
    (hv : (w.completeReq req).accepted = true) :
    ∃ m : Msg, (w.startOp id req).queue = w.queue ++ [m] ∧ m.slot = 2 * id ∧ m.pkt = (w.completeReq req).bytes ∧
      m.pkt.length = reqPacketLen (w.completeReq req) ∧
      ∀ (c : Ctx) (wok : Bool),
        ((∃ s, (s, SlotVal.errSize) ∈ sendsOf (c.handleMsg m wok).2.1) ↔
          ∃ M, c.maxPkt = some M ∧ M < reqPacketLen (w.completeReq req)) ∧
        ((∃ M, c.maxPkt = some M ∧ M < reqPacketLen (w.completeReq req)) →
          c.handleMsg m wok = (c, refusalEffs m, .cont)) := by
  have h2 := reqMsg_pkt w id req
  have hl : (w.reqMsg id req).pkt.length = reqPacketLen (w.completeReq req) := by rw [h2]; exact reqBytes_length _
  refine ⟨_, (startOp_accepted w id req hc hv).1, reqMsg_slot w id req, h2, hl, fun c wok => ?_⟩
  rw [← hl]
  exact ⟨handleMsg_errSize_iff c _ wok, handleMsg_tooBig c _ wok⟩

/-- **Every handler call of every script refuses exactly the requests that are too big.** For every configuration and
    every script, the execution is a sequence of moves (`STrace`, Lemmas/WorldStream.lean) whose `ctx (handler c i)` labels
    are calls of `handle_message` / `handle_packet` with the context state `c` they were made in (that every call has its
    label is not part of the statement, and what follows holds of every `c`, `m`, `wok`); for every such
    call on a request message `m`: `MaximumPacketSizeExceeded` is among the values it sends iff `TooBig c m.pkt`; in that
    case the context state after the call is `c` and the effects are exactly `refusalEffs m` (nothing written); otherwise
    the call writes nothing (quota refusal) or exactly `m.pkt`. -/
theorem every_handler_call_refuses_exactly_the_too_big (cfg : Cfg) (evs : List Ev) :
    ∃ tr, STrace { cfg := cfg } tr (evs.foldl World.step { cfg := cfg }) ∧
      ∀ c m wok, SLab.ctx (.handler c (.msg m wok)) ∈ tr →
        ((∃ s, (s, SlotVal.errSize) ∈ sendsOf (CtxSrc.handler c (.msg m wok)).effs) ↔ TooBig c m.pkt) ∧
        (TooBig c m.pkt → (CtxSrc.handler c (.msg m wok)).after = c ∧
          (CtxSrc.handler c (.msg m wok)).effs = refusalEffs m) ∧
        (¬ TooBig c m.pkt → writesOf (CtxSrc.handler c (.msg m wok)).effs = [] ∨
          writesOf (CtxSrc.handler c (.msg m wok)).effs = [m.pkt]) := by
  obtain ⟨tr, st, _⟩ := steps_dec evs { cfg := cfg } (OpsInv.init cfg)
  refine ⟨tr, st, fun c m wok _ => ⟨handleMsg_errSize_iff c m wok, fun h => ?_, fun _ => handleMsg_writes c m wok⟩⟩
  have := handleMsg_tooBig c m wok h
  exact ⟨by simp [CtxSrc.after, Ctx.stepIn, this], by simp [CtxSrc.effs, Ctx.stepIn, CObs.effs, this]⟩

/-- **Where `M` comes from: the most recent CONNACK.** At every moment `w` of every
    execution whose transcript so far has no `assert-subid` panic: the limit in force, `w.c.maxPkt`
    (`remote_max_packet_size`), is `announcedMax w.out` — the Maximum Packet Size of the last CONNACK logged (as the
    result of `connect()` / `authorize()`, accepted or refused with a reason ≥ 0x80); `none` if that CONNACK carried none,
    if there was no CONNACK since the context was created, or the context was dropped. A CONNACK WITHOUT the property
    means NO limit for that connection, whatever an earlier connection of the same context announced (`handle_connack`
    assigns the CONNACK's value unconditionally). Nothing else enters: `announcedMax` does not look at the client's own CONNECT
    options (the `connect` event), at any request, or at any other inbound packet. Also: a call is executing only on an
    existing context, and without a context no limit is in force. -/
theorem limit_in_force_is_last_announced (cfg : Cfg) (w : World) (hd : During cfg w) :
    (subidPanic ∉ w.out → w.c.maxPkt = announcedMax w.out) ∧ (w.task ≠ .none → w.hasCtx = true) ∧
    (w.hasCtx = false → w.c.maxPkt = none) :=
  ⟨(during_maxInv hd).max, (during_ctlOk hd).task, (during_maxInv hd).noCtx⟩

/-- the same for the world a script ends in, in terms of the transcript `World.run cfg evs` -/
theorem limit_in_force_is_last_announced_script (cfg : Cfg) (evs : List Ev) (hp : subidPanic ∉ World.run cfg evs) :
    (evs.foldl World.step { cfg := cfg }).c.maxPkt = announcedMax (World.run cfg evs) := by
  have hd := (during_script cfg evs).1
  rw [(during_script cfg evs).2] at hp ⊢
  rw [← (during_maxInv hd).max hp]
  show _ = (evs.foldl World.step { cfg := cfg }).flushRaw.c.maxPkt
  rw [flushRaw_c]

/-- how the transcript's limit is computed, line by line -/
theorem announcedMax_snoc (out : List Obs) (o : Obs) : announcedMax (out ++ [o]) = maxStep (announcedMax out) o := by
  simp [announcedMax, List.foldl_append]

/-- a CONNACK sets the limit to what it announces (nothing announced = no limit), the client's CONNECT leaves it alone,
    dropping the context forgets it -/
theorem announcedMax_lines (out : List Obs) (call : Call) (k : ConnackRx) (t : ConnectTx) :
    announcedMax (out ++ [.ret call (.connack k)]) = k.maxPacketSize ∧
    announcedMax (out ++ [.ret call (.connectError k)]) = k.maxPacketSize ∧
    announcedMax (out ++ [.ev (.connect t)]) = announcedMax out ∧
    announcedMax (out ++ [.ev .dropCtx]) = none := by
  simp only [announcedMax_snoc]
  exact ⟨rfl, rfl, rfl, rfl⟩

set_option linter.unusedVariables false in
/-- **What the client announces in CONNECT never becomes the limit for its own packets**: the `connect` event and the
    first poll of `connect()` up to the point where the response is awaited (the session expiry is recorded, the CONNECT is
    written) leave `remote_max_packet_size` alone, whatever `t.maxPacketSize` is. -/
theorem connect_options_do_not_set_the_limit (w : World) (t : ConnectTx) (a : AuthTx) :
    (w.apply (.connect t)).c.maxPkt = w.c.maxPkt ∧
    (({ w with c := { w.c with sei := t.sessionExpiry.getD 0 } } : World).writeBytes t.encode).c.maxPkt = w.c.maxPkt := by
  refine ⟨?_, by simp⟩
  have h := (apply_spec w (.connect t)).norm
  generalize w.apply (.connect t) = w' at h ⊢
  cases h <;> rfl

/-- **Serving and session resumption never change the limit**: a poll of `run()` — first (session resumed or reset,
    unfinished handshakes re-sent) or later — leaves `remote_max_packet_size` as it was. -/
theorem run_keeps_the_limit (w : World) (s : Bool) : (w.pollRun s).c.maxPkt = w.c.maxPkt := pollRun_maxPkt w s

/-- **`DONE id MaximumPacketSizeExceeded` ⇒ the future found that value in its oneshot.** If the transcript of a script is
    `pre ++ DONE id MaximumPacketSizeExceeded :: post`, there was a moment `w0` of the execution, with transcript `pre`,
    at which the future of `id` was waiting on a oneshot `s` that held `MaximumPacketSizeExceeded`; the poll of the future
    from `w0` logged exactly this line, and the end of the script is reached from there. -/
theorem size_error_reported_only_from_oneshot (cfg : Cfg) (evs : List Ev) (pre post : List Obs) (id : Nat)
    (h : World.run cfg evs = pre ++ .done id (.err .maximumPacketSizeExceeded) :: post) :
    ∃ w0 s k, During cfg w0 ∧ w0.out = pre ∧ w0.opSt id = some (.wait s k) ∧ w0.slot s = some (.full .errSize) ∧
      (w0.pollOp id).out = pre ++ [.done id (.err .maximumPacketSizeExceeded)] ∧
      Reaches (w0.pollOp id) (evs.foldl World.step { cfg := cfg }).finishScript := by
  obtain ⟨w0, hd, ho, hp, hr, -⟩ := done_has_a_documented_cause cfg evs pre post id _ h
  obtain ⟨s, k, v, hop, hs, _, b0, -, hres⟩ := pollOp_done_resumed (w := w0) (r := .err .maximumPacketSizeExceeded) (by rw [ho, hp]) nofun nofun
  cases hres with
  | tooLarge k b => exact ⟨w0, s, k, hd, ho, hop, hs, hp, hr⟩

/-- **A poll of the context task puts `MaximumPacketSizeExceeded` into a oneshot only by refusing a request for its
    size.** In any world: if after a poll of the context task the oneshot `s` holds `MaximumPacketSizeExceeded` and did
    not before, then `run()` was executing and an iteration of that poll (starting in the world `wm`) found at the head of
    the queue a request carrying the oneshot `s` whose packet was longer than the limit in force in `wm`. -/
theorem size_error_sent_only_by_refusal (w : World) (s : Nat)
    (h1 : w.pollCtx.slot s = some (.full .errSize)) (h0 : w.slot s ≠ some (.full .errSize)) :
    ∃ started wm m q M, w.task = .running started ∧ InPoll w started wm ∧ wm.queue = m :: q ∧ m.slot = s ∧
      wm.c.maxPkt = some M ∧ M < m.pkt.length := by
  obtain ⟨started, wm, ht, hin, m, q, hq, hs, M, hM, hL⟩ := pollCtx_errSize w s h1 h0
  exact ⟨started, wm, m, q, M, ht, hin, hq, hs, hM, hL⟩

/-- **`DONE id MaximumPacketSizeExceeded` ⇒ a request was refused for its size** (script level, end to end). If the
    transcript of a script is `pre ++ DONE id MaximumPacketSizeExceeded :: post`: at the moment `w1` the line was logged
    (transcript `pre`) the future of `id` was waiting on a oneshot `s` holding `MaximumPacketSizeExceeded`; and that value
    was put there at an earlier moment `w0` of the same execution, at which `run()` was executing: in the poll of the
    context task from `w0`, the iteration starting in `wm` found at the head of the queue a request `m` carrying the oneshot
    `s` whose packet was longer than the limit `M` in force in `wm` — the refusal of `too_big_request_in_world`. Nothing
    else (no handle future, no stream, no script event, no other handler) ever puts this value into a oneshot. -/
theorem size_error_stems_from_a_refusal (cfg : Cfg) (evs : List Ev) (pre post : List Obs) (id : Nat)
    (h : World.run cfg evs = pre ++ .done id (.err .maximumPacketSizeExceeded) :: post) :
    ∃ w1 s k w0 started wm m q M, During cfg w1 ∧ w1.out = pre ∧ w1.opSt id = some (.wait s k) ∧
      w1.slot s = some (.full .errSize) ∧
      During cfg w0 ∧ w0.task = .running started ∧ InPoll w0 started wm ∧ wm.queue = m :: q ∧ m.slot = s ∧
      wm.c.maxPkt = some M ∧ M < m.pkt.length ∧ Reaches w0.pollCtx w1 := by
  obtain ⟨w1, s, k, hd1, ho, hop, hs, _, _⟩ := size_error_reported_only_from_oneshot cfg evs pre post id h
  obtain ⟨w0, st, wm, hd0, ht, hin, ⟨m, q, hq, hms, M, hM, hL⟩, hr⟩ := during_errSize_origin hd1 s (mem_of_lookupFirst s _ _ hs)
  exact ⟨w1, s, k, w0, st, wm, m, q, M, hd1, ho, hop, hs, hd0, ht, hin, hq, hms, hM, hL, hr⟩

/-- **Refusal ⇒ `DONE`.** The converse, step by step: the iteration refuses (`too_big_request_in_world`: the waiting
    future's oneshot receives the value), and the future's next poll reports it (`refused_request_future`). Combined for a
    world with a well-formed operation table (`hi`) in which the operation `id` waits on the still empty oneshot (`hs`) of
    the message `m` that `headStep` handles as the head of the queue (`w.queue = m :: q` is not asked): after the iteration
    and one poll of the future, the transcript has grown by exactly `DONE id MaximumPacketSizeExceeded`, the operation
    is gone, nothing was handed to the transport and the context is as before. -/
theorem refusal_then_done (w : World) (hi : OpsInv w) (m : Msg) (q : List Msg) (id : Nat) (k : Wait)
    (h : TooBig w.c m.pkt) (hop : w.opSt id = some (.wait m.slot k)) (hs : w.slot m.slot = some .empty) :
    let w1 := (headStep w m q).1
    (w1.pollOp id).out = w.out ++ [.done id (.err .maximumPacketSizeExceeded)] ∧ (w1.pollOp id).opSt id = none ∧
    (w1.pollOp id).sent = w.sent ∧ (w1.pollOp id).c = w.c := by
  obtain ⟨e, a1, a2, a3, a4, a5, a6, a7, a8⟩ := headStep_tooBig w m q h
  have hi1 : OpsInv (headStep w m q).1 := by
    refine ⟨by rw [a6]; exact hi.nodup, fun id' s' k' hm => ?_, by rw [e]; simpa using hi.pid⟩
    rw [a6] at hm
    obtain ⟨h1, h2⟩ := hi.shape id' s' k' hm
    refine ⟨h1, ?_⟩
    by_cases hs' : s' = m.slot
    · rw [hs', a7 hs]; rfl
    · rw [a8 s' hs']; exact h2
  have hop1 : (headStep w m q).1.opSt id = some (.wait m.slot k) := by
    show lookupFirst id (headStep w m q).1.ops = _
    rw [a6]; exact hop
  obtain ⟨b1, b2, b3, b4, b5, b6⟩ := refused_request_future _ hi1 id m.slot k hop1 (a7 hs)
  exact ⟨by rw [b1, a3], b2, by rw [b5, a2], by rw [b4, a1]⟩

section NonVacuity
namespace C12Ex

/-- the hypotheses of `too_big_request_in_world` / `refusal_then_done` hold for it, and the conclusions are what one
    computes: nothing written, `DONE 1 MaximumPacketSizeExceeded` -/
example : wBig.c.maxPkt = some 4 ∧ 4 < (Msg.ff [0xC0, 3, 0, 0, 0] 2).pkt.length ∧ wBig.slot 2 = some .empty ∧
    wBig.opSt 1 = some (.wait 2 .ff) ∧
    (headStep wBig (.ff [0xC0, 3, 0, 0, 0] 2) []).1.slot 2 = some (.full .errSize) ∧
    (headStep wBig (.ff [0xC0, 3, 0, 0, 0] 2) []).1.sent = [] ∧
    (((headStep wBig (.ff [0xC0, 3, 0, 0, 0] 2) []).1).pollOp 1).out = [.done 1 (.err .maximumPacketSizeExceeded)] := by
  decide

example : OpsInv wBig := by
  refine ⟨by decide, ?_, ⟨by decide, by decide⟩⟩
  intro id s k h
  simp only [wBig, List.mem_cons, Prod.mk.injEq, OpSt.wait.injEq, List.not_mem_nil, or_false] at h
  obtain ⟨rfl, rfl, rfl⟩ := h
  exact ⟨Or.inl ⟨rfl, by decide⟩, rfl⟩

/-- a 4-byte packet under the same limit fits (`M` itself is allowed) and is written whole -/
example : ¬ TooBig wBig.c [0xC0, 2, 0, 0] ∧
    (headStep { wBig with queue := [.ff [0xC0, 2, 0, 0] 2] } (.ff [0xC0, 2, 0, 0] 2) []).1.sent = [0xC0, 2, 0, 0] := by
  decide

/-- `connect()` awaiting its first response reads that CONNACK: the poll returns it, logs it, and the limit in force
    becomes 4 — the transcript's `announcedMax` agrees -/
example : (Ex.wConn connackMax4).pollCtx.c.maxPkt = some 4 ∧
    (Ex.wConn connackMax4).pollCtx.out = [.ret .connect (.connack kMax4)] ∧
    announcedMax (Ex.wConn connackMax4).pollCtx.out = some 4 := by
  have e : (Ex.wConn connackMax4).pollCtx =
      ({ Ex.wConn connackMax4 with rx := {}, reader := [], c := ({} : Ctx).handleConnack kMax4 } : World).finish
        .connect (.connack kMax4) := by
    simp [World.pollCtx, Ex.wConn, World.pollConnect, World.awaitFirst, pn_connackMax4, dec_connackMax4, kMax4]
  rw [e]
  decide

set_option maxRecDepth 100000 in
/-- `scrNoLimit` (Lemmas/WorldIdsEx.lean): a script without inbound traffic — a QoS 1 publish and a DISCONNECT issued before
    `run()`; no limit is ever announced, no `assert-subid` panic, both packets are written whole -/
example : subidPanic ∉ World.run {} scrNoLimit ∧ announcedMax (World.run {} scrNoLimit) = none ∧
    (scrNoLimit.foldl World.step {}).c.maxPkt = none ∧
    wires (World.run {} scrNoLimit) = [[0x32, 9, 0, 1, 0x61, 0, 1, 0, 1, 2, 3], [0xE0, 2, 0, 0]] := by
  decide +kernel

/-- **a whole script** (evaluated stage by stage in Lemmas/WorldIdsEx.lean): `setup`, `connect`, the broker's CONNACK
    announcing Maximum Packet Size 4, `run`, then a QoS 1 publish whose PUBLISH packet is 11 bytes long. Its transcript
    contains `DONE 1 MaximumPacketSizeExceeded` (hypothesis of `size_error_stems_from_a_refusal` and
    `size_error_reported_only_from_oneshot`), no `assert-subid` panic, the limit in force at the end is 4 = what the
    transcript tells, and the only packet on the wire is the CONNECT: not one byte of the PUBLISH was written. The packet
    identifier 1 was consumed all the same. -/
example :
    (∃ pre post, World.run {} scrBig = pre ++ .done 1 (.err .maximumPacketSizeExceeded) :: post) ∧
    subidPanic ∉ World.run {} scrBig ∧ announcedMax (World.run {} scrBig) = some 4 ∧
    (scrBig.foldl World.step {}).c.maxPkt = some 4 ∧ wires (World.run {} scrBig) = [connectBytes] ∧
    (scrBig.foldl World.step {}).pidCtr = 2 ∧ (scrBig.foldl World.step {}).queue = [] ∧
    (scrBig.foldl World.step {}).c.awaiting = [] := by
  rw [scrBig_run, scrBig_foldl]
  refine ⟨⟨l4.out ++ [.ev (.op 1 0 pubBig)], [], ?_⟩, ?_⟩
  · show l4.out ++ [.ev (.op 1 0 pubBig), .done 1 (.err .maximumPacketSizeExceeded)] = _
    simp
  · decide

/-- the transcript's limit follows the CONNACKs: set by one that carries the property, lifted by one that does not -/
example :
    announcedMax [.ret .connect (.connack { sessionPresent := false, reason := 0, maxPacketSize := some 4 }),
      .ret .connect (.connack { sessionPresent := false, reason := 0 })] = none ∧
    announcedMax [.ret .connect (.connack { sessionPresent := false, reason := 0, maxPacketSize := some 4 })] = some 4 ∧
    announcedMax [.ret .connect (.connack { sessionPresent := false, reason := 0, maxPacketSize := some 4 }),
      .ev .dropCtx] = none := by decide

end C12Ex
end NonVacuity

#print axioms refused_iff_too_big
#print axioms refusal_effects
#print axioms loop_iteration_on_a_request
#print axioms too_big_request_in_world
#print axioms too_big_subscribe_drops_stream_sender
#print axioms fitting_request_in_world
#print axioms fitting_request_written_whole
#print axioms refused_request_future
#print axioms reqBytes_length
#print axioms request_refused_iff_longer_than_limit
#print axioms every_handler_call_refuses_exactly_the_too_big
#print axioms limit_in_force_is_last_announced
#print axioms limit_in_force_is_last_announced_script
#print axioms announcedMax_snoc
#print axioms announcedMax_lines
#print axioms connect_options_do_not_set_the_limit
#print axioms run_keeps_the_limit
#print axioms size_error_reported_only_from_oneshot
#print axioms size_error_sent_only_by_refusal
#print axioms size_error_stems_from_a_refusal
#print axioms refusal_then_done

end Poster

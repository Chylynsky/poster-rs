/-
  Properties/C12.lean — the server's Maximum Packet Size is honoured exactly.

  Model: `Ctx.sizeOk` = `validate_packet_size`, `Ctx.handleMsg` = `handle_message`, `Ctx.handleConnack` = `handle_connack`
  (src/client/context.rs). `m.pkt` is the encoded packet of a request (publish, subscribe, unsubscribe, ping, disconnect,
  pubrel, auth), `m.slot` the oneshot on which the caller awaits the outcome.
-/
import PosterModel.Lemmas.CtxSize

namespace Poster

/-- **The size check is exact**: a packet passes iff no Maximum Packet Size was announced or its length is at most the
    announced value (a packet of exactly `M` bytes passes, one of `M + 1` does not). -/
theorem sizeOk_iff (c : Ctx) (pkt : Bytes) :
    c.sizeOk pkt = true ↔ c.maxPkt = none ∨ ∃ M, c.maxPkt = some M ∧ pkt.length ≤ M := by
  unfold Ctx.sizeOk
  cases h : c.maxPkt <;> simp

/-- **Too big: refused, cleanly.** A request whose packet exceeds the announced maximum changes nothing in the context —
    no quota slot taken, no subscription stream registered, no pending acknowledgement, nothing queued for
    retransmission —, not one byte is written, the caller receives `MaximumPacketSizeExceeded`, and `run()` goes on.
    Whether the transport would have accepted a write is irrelevant. -/
theorem too_big_refused (c : Ctx) (m : Msg) (wok : Bool) (h : c.sizeOk m.pkt = false) :
    (c.handleMsg m wok).1 = c ∧ writesOf (c.handleMsg m wok).2.1 = [] ∧
    (m.slot, SlotVal.errSize) ∈ sendsOf (c.handleMsg m wok).2.1 ∧ (c.handleMsg m wok).2.2 = .cont := by
  rw [World.W10.handleMsg_tooBig c m wok ((World.W10.sizeOk_false_iff c m.pkt).1 h)]
  cases m <;> simp [World.W10.refusalEffs, Msg.slot]

/-- a request that passes the size check — and, for a PUBLISH awaiting its acknowledgement, the quota check — is handed
    to the transport as it is, whether or not the transport then takes it; if it does not, `run()` ends -/
theorem fits_handed_to_transport (c : Ctx) (m : Msg) (wok : Bool) (h : c.sizeOk m.pkt = true) :
    (pktType m.pkt = 3 ∧ c.quota = 0 ∧ ∃ aid pkt slot, m = .awaitAck aid pkt slot) ∨
    (writesOf (c.handleMsg m wok).2.1 = [m.pkt] ∧ (wok = false → (c.handleMsg m wok).2.2 = .exitSocket)) := by
  rcases World.W10.handleMsg_fits c m wok ((World.W10.sizeOk_true_iff c m.pkt).1 h) with ⟨hq, _⟩ | ⟨_, hw, hfl, _⟩
  · exact Or.inl hq
  · exact Or.inr ⟨hw, hfl.2⟩

/-- **Fits: written in full.** A request whose packet passes the size check is written as it is, in one piece, on a
    transport that accepts the write — the only exception being a QoS>0 PUBLISH refused because the send quota is
    exhausted (property C10), which writes nothing. -/
theorem fits_written_whole (c : Ctx) (m : Msg) (h : c.sizeOk m.pkt = true) :
    (pktType m.pkt = 3 ∧ c.quota = 0 ∧ ∃ aid pkt slot, m = .awaitAck aid pkt slot) ∨
    writesOf (c.handleMsg m true).2.1 = [m.pkt] :=
  (fits_handed_to_transport c m true h).imp id (·.1)

/-- the same on a transport that refuses the write: the (whole) packet is what was handed to `write`, and `run()` ends with
    the socket error -/
theorem fits_write_attempted (c : Ctx) (m : Msg) (h : c.sizeOk m.pkt = true) :
    (pktType m.pkt = 3 ∧ c.quota = 0 ∧ ∃ aid pkt slot, m = .awaitAck aid pkt slot) ∨
    (writesOf (c.handleMsg m false).2.1 = [m.pkt] ∧ (c.handleMsg m false).2.2 = .exitSocket) :=
  (fits_handed_to_transport c m false h).imp id fun h => ⟨h.1, h.2 rfl⟩

/-- **Where the limit comes from.** The limit in force is exactly the Maximum Packet Size of the connection's CONNACK:
    present ⇒ that value, absent ⇒ no limit — whatever an earlier connection of the same context announced (none on a
    fresh context). -/
theorem maxPkt_from_connack (c : Ctx) (k : ConnackRx) :
    (c.handleConnack k).maxPkt = k.maxPacketSize ∧ ({} : Ctx).maxPkt = none := by
  rw [Ctx.handleConnack_eq]; exact ⟨rfl, rfl⟩

/-- serving never changes the limit: it is the one of the last CONNACK for the whole connection -/
theorem maxPkt_constant (c : Ctx) (is : List CIn) : (c.serve is).1.maxPkt = c.maxPkt := by
  refine Ctx.serve_inv (fun c' => c'.maxPkt = c.maxPkt) ?_ c is rfl
  intro c' i h
  cases i with
  | msg m wok => rw [Ctx.stepIn_msg, (Ctx.handleMsg_frame c' m wok).2.1]; exact h
  | pkt p dead wok => rw [Ctx.stepIn_pkt, (Ctx.handlePkt_frame ..).2]; exact h

/-- M = 4: a 5-byte PINGREQ-like packet is refused without a trace, a 4-byte QoS 1 PUBLISH is written whole -/
example :
    let c : Ctx := ({} : Ctx).handleConnack { sessionPresent := false, reason := 0, maxPacketSize := some 4 }
    c.handleMsg (.ff [0xC0, 3, 0, 0, 0] 1) true = (c, [.send 1 .errSize], .cont) ∧
    (c.handleMsg (.awaitAck 5 [0x32, 2, 0, 0] 2) true).2.1 = [.write [0x32, 2, 0, 0]] := by decide

#print axioms sizeOk_iff
#print axioms too_big_refused
#print axioms fits_handed_to_transport
#print axioms fits_written_whole
#print axioms fits_write_attempted
#print axioms maxPkt_from_connack
#print axioms maxPkt_constant

end Poster

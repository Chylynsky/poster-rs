/-
  C01 — every packet written is well-formed and carries the caller's options.

  `Spec.parseClient` (Spec/Client.lean) is the independent MQTT 5 parser; `Spec.ofX` and `XInDomain` (Spec/ClientOf.lean) are
  the expected packet and the domain of values MQTT 5 can represent. For every packet kind K:
    K_valid_iff      which requests are refused (before anything is written)
    enc_K_parses     the bytes are exactly one well-formed packet; an independent decoder reads back exactly
                     the caller's values, protocol constants and library-assigned identifiers; `rest` is untouched
    K_lengths        remaining-length field = number of bytes after it; property-length field = number of
                     property bytes; the exact layout
    K_packetLen      `packet_len()` = number of bytes written
  each `*_parses` theorem with a concrete non-trivial request satisfying its hypotheses.
-/
import PosterModel.Lemmas.TxConnect
import PosterModel.Lemmas.TxPublish
import PosterModel.Lemmas.TxSubscribe
import PosterModel.Lemmas.TxAck

namespace Poster
open Spec

/-- A connect request is refused exactly when authentication data is given without an authentication method. -/
theorem connect_valid_iff (t : ConnectTx) : t.valid = true ↔ (t.authData.isSome → t.authMethod.isSome) := by
  unfold ConnectTx.valid; cases t.authMethod <;> cases t.authData <;> simp

/-- For every accepted in-domain connect request the bytes written are exactly one well-formed CONNECT packet
    (protocol name "MQTT", version 5, reserved flag clear, will bits consistent), and an independent decoder reads
    back clean start, keep alive, the properties (as a list, nothing added), client identifier, the will (absent, or
    QoS / retain / properties / topic / payload), user name and password. -/
theorem enc_connect_parses (t : ConnectTx) (hv : t.valid = true) (hd : ConnectInDomain t) (rest : Bytes) :
    Spec.parseClient (t.encode ++ rest) = some (Spec.ofConnect t, rest) :=
  (connect_layout t).parses (by decide) hd.size (connect_body_parses t hv hd) rest

/-- The remaining-length field of a written CONNECT is the number of bytes that follow it; the property-length
    field is the number of property bytes, and likewise the will-property-length field — for every request. -/
theorem connect_lengths (t : ConnectTx) :
    ∃ body props willProps : Bytes,
      t.encode = UInt8.ofNat 16 :: (encVar body.length ++ body) ∧
      body = encStr [77, 81, 84, 84] ++ encU8 5 ++ encU8 t.payloadFlags ++ encU16 t.keepAlive
              ++ encVar props.length ++ props ++ encStr t.clientId
              ++ (if t.willTopic.isSome ∧ t.willPayload.isSome then
                    encVar willProps.length ++ willProps ++ oEnc encStr t.willTopic ++ oEnc encStr t.willPayload
                  else [])
              ++ oEnc encStr t.username ++ oEnc encStr t.password ∧
      props = encProps (Spec.connectProps t) ∧ willProps = encProps (Spec.willProps t) := by
  refine ⟨connectBody t, encProps (connectProps t), encProps (Spec.willProps t), ?_, ?_, rfl, rfl⟩
  · exact (connect_layout t).lengths
  · unfold connectBody connectWillBytes ConnectTx.willFlag
    cases t.willTopic <;> cases t.willPayload <;> simp

/-- `packet_len()` (compared with the server's Maximum Packet Size) is the number of bytes written. -/
theorem connect_packetLen (t : ConnectTx) : t.packetLen = t.encode.length :=
  (connect_layout t).packetLen

/-- non-vacuity: a CONNECT with a will (QoS 1, retained, with will properties), properties, user properties,
    enhanced authentication and credentials -/
example :
    let t : ConnectTx :=
      { keepAlive := 60, sessionExpiry := some 3600, receiveMaximum := some 20, maxPacketSize := some 65536,
        topicAliasMax := some 0, reqRespInfo := some true, reqProbInfo := some false,
        authMethod := some [83, 67, 82, 65, 77], authData := some [0, 1, 2],
        userProps := [([107], [118]), ([107], [119])], willQos := 1, willRetain := true, cleanStart := true,
        clientId := [99, 108, 105], willDelay := some 5, willPfi := some true, willMei := some 10,
        willContentType := some [116], willResponseTopic := some [114], willCorrelationData := some [1],
        willUserProps := [([97], [98])], willTopic := some [119, 47, 116], willPayload := some [103, 111, 110, 101],
        username := some [117], password := some [112, 119] }
    t.valid = true ∧ ConnectInDomain t := by decide

/-- An authentication request is accepted exactly in two cases: the empty request (success, no properties — the
    shortened packet), or when both authentication method and authentication data are present. -/
theorem auth_valid_iff (t : AuthTx) :
    t.valid = true ↔
      (((t.reason = none ∨ t.reason = some 0) ∧ t.authMethod = none ∧ t.authData = none ∧ t.reasonString = none
          ∧ t.userProps = [])
        ∨ (t.authMethod.isSome ∧ t.authData.isSome)) := by
  unfold AuthTx.valid AuthTx.shortened AuthTx.reasonVal
  cases t.reason <;> cases t.authMethod <;> cases t.authData <;> cases t.reasonString <;> cases t.userProps <;> simp

/-- For every accepted in-domain authentication request the bytes written are exactly one well-formed AUTH packet
    (shortened to remaining length 0 for "success, no properties"), carrying the caller's reason and properties. -/
theorem enc_auth_parses (t : AuthTx) (hv : t.valid = true) (hd : AuthInDomain t) (rest : Bytes) :
    Spec.parseClient (t.encode ++ rest) = some (Spec.ofAuth t, rest) :=
  (auth_layout t).parses (by decide) hd.size (auth_body_parses t hv hd) rest

/-- Remaining length and property length of a written AUTH are the sizes of what follows them. -/
theorem auth_lengths (t : AuthTx) :
    ∃ body props : Bytes,
      t.encode = UInt8.ofNat 240 :: (encVar body.length ++ body) ∧
      body = (if t.shortened then [] else encU8 (t.reason.getD 0) ++ encVar props.length ++ props) ∧
      props = encProps (Spec.authProps t) := by
  refine ⟨authBody t, encProps (authProps t), ?_, ?_, rfl⟩
  · exact (auth_layout t).lengths
  · unfold authBody AuthTx.reasonVal; cases t.shortened <;> simp

theorem auth_packetLen (t : AuthTx) : t.packetLen = t.encode.length :=
  (auth_layout t).packetLen

/-- non-vacuity: "continue authentication" with method, data, reason string and a user property -/
example :
    let t : AuthTx :=
      { reason := some 0x18, authMethod := some [83, 67, 82, 65, 77], authData := some [1, 2, 3],
        reasonString := some [111, 107], userProps := [([107], [118])] }
    t.valid = true ∧ AuthInDomain t := by decide

/-- non-vacuity: the empty request (shortened form) is in the domain too -/
example : ({} : AuthTx).valid = true ∧ AuthInDomain {} := by decide

/-- A publish request is accepted exactly when it has a topic and, for QoS 1 and 2, a packet identifier;
    anything else is refused before a byte is written. -/
theorem publish_valid_iff (t : PublishTx) :
    t.valid = true ↔ (t.topic.isSome ∧ (t.qos = 0 ∨ t.packetId.isSome)) := by
  simp [PublishTx.valid]

/-- For every accepted in-domain publish request the bytes written are exactly one well-formed PUBLISH packet
    (anything after it is left untouched), and an independent decoder reads back the caller's DUP / QoS / RETAIN,
    topic, packet identifier, properties (as a list, nothing added) and payload. -/
theorem enc_publish_parses (t : PublishTx) (hv : t.valid = true) (hd : PublishInDomain t) (rest : Bytes) :
    Spec.parseClient (t.encode ++ rest) = some (Spec.ofPublish t, rest) := by
  have hh : t.fixedHdr < 256 := by
    have := hd.qos; have := b2n_le t.dup; have := b2n_le t.retain
    unfold PublishTx.fixedHdr; omega
  exact (publish_layout t).parses hh hd.size (publish_body_parses t hv hd) rest

/-- The remaining-length field of a written PUBLISH is the number of bytes that follow it, and its
    property-length field is the number of property bytes — for every request, with the exact layout. -/
theorem publish_lengths (t : PublishTx) :
    ∃ body props : Bytes,
      t.encode = UInt8.ofNat t.fixedHdr :: (encVar body.length ++ body) ∧
      body = encStr (t.topic.getD []) ++ oEnc encU16 t.packetId ++ encVar props.length ++ props
              ++ t.payload.getD [] ∧
      props = encProps (Spec.publishProps t) := by
  refine ⟨publishBody t, encProps (publishProps t), ?_, ?_, rfl⟩
  · exact (publish_layout t).lengths
  · simp [publishBody, PublishTx.topicBytes, oEnc_id]

theorem publish_packetLen (t : PublishTx) : t.packetLen = t.encode.length :=
  (publish_layout t).packetLen

/-- non-vacuity: a retained QoS 1 publication with all six kinds of properties, two user properties and a payload -/
example :
    let t : PublishTx :=
      { retain := true, qos := 1, topic := some [97, 47, 98], packetId := some 7, pfi := some true,
        topicAlias := some 3, mei := some 60, correlationData := some [1, 2], responseTopic := some [114],
        contentType := some [116], userProps := [([107], [118]), ([107], [119])], payload := some [1, 2, 3] }
    t.valid = true ∧ PublishInDomain t := by decide

/-- A subscribe request is refused exactly when it has no topic filter. -/
theorem subscribe_valid_iff (t : SubscribeTx) : t.valid = true ↔ t.filters ≠ [] := by
  simp [SubscribeTx.valid]

/-- For every accepted in-domain subscribe request the bytes written are exactly one well-formed SUBSCRIBE packet:
    packet identifier, subscription identifier and user properties, and for each topic filter the maximum QoS,
    No Local, Retain As Published and Retain Handling at their bit positions, reserved bits clear. -/
theorem enc_subscribe_parses (t : SubscribeTx) (hv : t.valid = true) (hd : SubscribeInDomain t) (rest : Bytes) :
    Spec.parseClient (t.encode ++ rest) = some (Spec.ofSubscribe t, rest) :=
  (subscribe_layout t).parses (by decide) hd.size (subscribe_body_parses t hv hd) rest

/-- Remaining length and property length of a written SUBSCRIBE are the sizes of what follows them. -/
theorem subscribe_lengths (t : SubscribeTx) :
    ∃ body props : Bytes,
      t.encode = UInt8.ofNat 130 :: (encVar body.length ++ body) ∧
      body = encU16 t.packetId ++ encVar props.length ++ props
              ++ (t.filters.map fun fo => encStr fo.1 ++ encU8 fo.2.byte).flatten ∧
      props = encProps (Spec.subscribeProps t) := by
  refine ⟨subscribeBody t, encProps (subscribeProps t), ?_, ?_, rfl⟩
  · exact (subscribe_layout t).lengths
  · simp only [subscribeBody, List.append_assoc]; rfl

theorem subscribe_packetLen (t : SubscribeTx) : t.packetLen = t.encode.length :=
  (subscribe_layout t).packetLen

/-- non-vacuity: two topic filters with different options, a two-byte subscription identifier, a user property -/
example :
    let t : SubscribeTx :=
      { packetId := 9, subId := some 300, userProps := [([107], [118])],
        filters := [([97, 47, 35], { maxQos := 1, noLocal := true, retainAsPublished := false, retainHandling := 2 }),
                    ([98], { maxQos := 2, noLocal := false, retainAsPublished := true, retainHandling := 0 })] }
    t.valid = true ∧ SubscribeInDomain t := by decide

/-- An unsubscribe request is refused exactly when it has no topic filter. -/
theorem unsubscribe_valid_iff (t : UnsubscribeTx) : t.valid = true ↔ t.filters ≠ [] := by
  simp [UnsubscribeTx.valid]

/-- For every accepted in-domain unsubscribe request the bytes written are exactly one well-formed UNSUBSCRIBE
    packet with the caller's user properties and topic filters, in order. -/
theorem enc_unsubscribe_parses (t : UnsubscribeTx) (hv : t.valid = true) (hd : UnsubscribeInDomain t)
    (rest : Bytes) : Spec.parseClient (t.encode ++ rest) = some (Spec.ofUnsubscribe t, rest) :=
  (unsubscribe_layout t).parses (by decide) hd.size (unsubscribe_body_parses t hv hd) rest

/-- Remaining length and property length of a written UNSUBSCRIBE are the sizes of what follows them. -/
theorem unsubscribe_lengths (t : UnsubscribeTx) :
    ∃ body props : Bytes,
      t.encode = UInt8.ofNat 162 :: (encVar body.length ++ body) ∧
      body = encU16 t.packetId ++ encVar props.length ++ props ++ (t.filters.map encStr).flatten ∧
      props = encProps (Spec.userPs t.userProps) := by
  refine ⟨unsubscribeBody t, encProps (userPs t.userProps), ?_, ?_, rfl⟩
  · exact (unsubscribe_layout t).lengths
  · simp only [unsubscribeBody, List.append_assoc]

theorem unsubscribe_packetLen (t : UnsubscribeTx) : t.packetLen = t.encode.length :=
  (unsubscribe_layout t).packetLen

/-- non-vacuity: two topic filters and a user property -/
example :
    let t : UnsubscribeTx := { packetId := 65535, userProps := [([107], [118])], filters := [[97, 47, 35], [98]] }
    t.valid = true ∧ UnsubscribeInDomain t := by decide

/-- For every in-domain disconnect request (none is refused) the bytes written are exactly one well-formed
    DISCONNECT packet with the caller's reason code and properties. -/
theorem enc_disconnect_parses (t : DisconnectTx) (hd : DisconnectInDomain t) (rest : Bytes) :
    Spec.parseClient (t.encode ++ rest) = some (Spec.ofDisconnect t, rest) :=
  (disconnect_layout t).parses (by decide) hd.size (disconnect_body_parses t hd) rest

/-- Remaining length and property length of a written DISCONNECT are the sizes of what follows them. -/
theorem disconnect_lengths (t : DisconnectTx) :
    ∃ body props : Bytes,
      t.encode = UInt8.ofNat 224 :: (encVar body.length ++ body) ∧
      body = encU8 t.reason ++ encVar props.length ++ props ∧
      props = encProps (Spec.disconnectProps t) := by
  refine ⟨disconnectBody t, encProps (disconnectProps t), ?_, ?_, rfl⟩
  · exact (disconnect_layout t).lengths
  · simp only [disconnectBody, List.append_assoc]

theorem disconnect_packetLen (t : DisconnectTx) : t.packetLen = t.encode.length :=
  (disconnect_layout t).packetLen

/-- non-vacuity: "disconnect with will message", session expiry, reason string and a user property -/
example :
    let t : DisconnectTx :=
      { reason := 4, sessionExpiry := some 0, reasonString := some [98, 121, 101], userProps := [([107], [118])] }
    DisconnectInDomain t := by decide

/-- For every in-domain acknowledgement (none is refused) the bytes written are exactly one well-formed packet of
    the kind named by the record (PUBREL with flag bits 0010), shortened to the bare packet identifier for "success,
    no properties", carrying the packet identifier, reason code and properties. -/
theorem enc_ack_parses (t : AckTx) (hd : AckInDomain t) (rest : Bytes) :
    Spec.parseClient (t.encode ++ rest) = some (Spec.ofAck t, rest) := by
  have hh : t.hdr < 256 := by rcases hd.hdr with h | h | h | h <;> omega
  exact (ack_layout t).parses hh hd.size (ack_body_parses t hd) rest

/-- Remaining length and property length of a written acknowledgement are the sizes of what follows them; the
    reason code and the properties are omitted exactly for "success, no properties". -/
theorem ack_lengths (t : AckTx) :
    ∃ body props : Bytes,
      t.encode = UInt8.ofNat t.hdr :: (encVar body.length ++ body) ∧
      body = encU16 t.packetId
              ++ (if t.reason = 0 ∧ props.length = 0 then [] else encU8 t.reason ++ encVar props.length ++ props) ∧
      props = encProps (Spec.ackProps t) := by
  refine ⟨ackBody t, encProps (ackProps t), ?_, ?_, rfl⟩
  · exact (ack_layout t).lengths
  · unfold ackBody
    rw [ack_short, ack_propertyLen_eq]
    by_cases h1 : t.reason = 0 <;> by_cases h2 : (encProps (ackProps t)).length = 0 <;> simp [h1, h2]

theorem ack_packetLen (t : AckTx) : t.packetLen = t.encode.length :=
  (ack_layout t).packetLen

/-- non-vacuity: a PUBREL refusing an unknown packet identifier, with a reason string and a user property -/
example :
    let t : AckTx :=
      { hdr := 0x62, packetId := 513, reason := 0x92, reasonString := some [110, 111], userProps := [([107], [118])] }
    AckInDomain t := by decide

/-- non-vacuity: the acknowledgements the library writes by itself (success, no properties: the shortened form) -/
example (hdr : Nat) (h : hdr = 0x40 ∨ hdr = 0x50 ∨ hdr = 0x62 ∨ hdr = 0x70) :
    AckInDomain { hdr := hdr, packetId := 1 } := by
  rcases h with rfl | rfl | rfl | rfl <;> decide

/-- The acknowledgements the connection context writes by itself (`ackBytes`: success, no properties) are exactly
    one well-formed packet of the right kind carrying the packet identifier being acknowledged. -/
theorem enc_ackBytes_parses (hdr pid : Nat) (hh : hdr = 0x40 ∨ hdr = 0x50 ∨ hdr = 0x62 ∨ hdr = 0x70)
    (hp : 1 ≤ pid ∧ pid ≤ 65535) (rest : Bytes) :
    Spec.parseClient (ackBytes hdr pid ++ rest) = some (Spec.ofAck { hdr := hdr, packetId := pid }, rest) := by
  -- success without properties: besides `hh` and `hp` every field of the domain is about constants
  exact enc_ack_parses { hdr := hdr, packetId := pid }
    { hdr := hh, packetId := hp
      reason := show 0 ∈ ackReasons hdr by unfold ackReasons; split <;> decide
      reasonString := fun _ h => nomatch h
      userProps := fun _ h => nomatch h
      size := show 2 < 268435456 by decide } rest

/-- The ping request is exactly one well-formed PINGREQ packet. -/
theorem enc_pingreq_parses (rest : Bytes) : Spec.parseClient (pingreqBytes ++ rest) = some (.pingreq, rest) := by
  simp [pingreqBytes, parseClient, pVar, pVarAux, parseBody]

/-! ## the independent parser is not vacuous: concrete packets, and malformed ones it rejects -/

/-- the four bytes of a shortened PUBACK for packet identifier 7, followed by one more byte -/
example : parseClient [0x40, 2, 0, 7, 0xC0] = some (.puback 7 0 [], [0xC0]) := by decide
/-- packet identifier 0 -/
example : parseClient [0x40, 2, 0, 0] = none := by decide
/-- PUBREL without its reserved flag bits -/
example : parseClient [0x60, 2, 0, 7] = none := by decide
/-- a remaining length that is not minimally encoded -/
example : parseClient [0xC0, 0x80, 0] = none := by decide
/-- PUBLISH with QoS 3 -/
example : parseClient [0x36, 5, 0, 1, 97, 0, 1, 0] = none := by decide
/-- PUBLISH whose property length overruns the packet -/
example : parseClient [0x30, 4, 0, 1, 97, 5] = none := by decide
/-- SUBSCRIBE without a topic filter -/
example : parseClient [0x82, 3, 0, 1, 0] = none := by decide
/-- SUBSCRIBE with a reserved subscription-option bit set -/
example : parseClient [0x82, 7, 0, 1, 0, 0, 1, 97, 0x40] = none := by decide
/-- a property twice (Topic Alias) -/
example : parseClient [0x30, 10, 0, 1, 97, 6, 35, 0, 1, 35, 0, 2] = none := by decide

/-! ## the domain restrictions are needed (requests outside the domain that the model turns into bad packets) -/

/-- a will QoS without a will: the will flag is clear but the will QoS bits are set — a malformed CONNECT -/
example : parseClient ({ willQos := 1 } : ConnectTx).encode = none := by decide
/-- a will topic without a will payload: the will is silently dropped -/
example : parseClient ({ willTopic := some [116] } : ConnectTx).encode
    = some (.connect false 0 [] [] none none none, []) := by decide
/-- a packet identifier on a QoS 0 publication is written, and read by the peer as property length and payload -/
example : parseClient ({ topic := some [97], packetId := some 5 } : PublishTx).encode
    = some (.publish false 0 false [97] none [] [5, 0], []) := by decide

#print axioms connect_valid_iff
#print axioms enc_connect_parses
#print axioms connect_lengths
#print axioms connect_packetLen
#print axioms auth_valid_iff
#print axioms enc_auth_parses
#print axioms auth_lengths
#print axioms auth_packetLen
#print axioms publish_valid_iff
#print axioms enc_publish_parses
#print axioms publish_lengths
#print axioms publish_packetLen
#print axioms subscribe_valid_iff
#print axioms enc_subscribe_parses
#print axioms subscribe_lengths
#print axioms subscribe_packetLen
#print axioms unsubscribe_valid_iff
#print axioms enc_unsubscribe_parses
#print axioms unsubscribe_lengths
#print axioms unsubscribe_packetLen
#print axioms enc_disconnect_parses
#print axioms disconnect_lengths
#print axioms disconnect_packetLen
#print axioms enc_ack_parses
#print axioms ack_lengths
#print axioms ack_packetLen
#print axioms enc_ackBytes_parses
#print axioms enc_pingreq_parses

end Poster

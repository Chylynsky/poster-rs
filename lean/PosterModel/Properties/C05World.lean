/-
  Properties/C05World.lean — C05 end to end, at the level of whole scripts (`World.run`): the table of
  handle operations is well formed in every reachable world, every issued operation completes at most once and
  only through a poll of its own future, and — when the script issues every operation id at most once — whatever
  the context owns on behalf of an operation has that operation's kind, so that a future is only ever resumed
  with the acknowledgement of its own type and the `unreachable!()` of the handle futures is dead code.

  Model note (id reuse). Oneshot channels are named `2 * id` / `2 * id + 1` after the operation id. The script
  language allows an id to be issued again once the earlier operation has completed or was dropped, while a
  message of the earlier operation may still be owned by the context; the two uses then share the *name* of their
  oneshot (in the implementation they are different channel objects). The ownership / kind statements below are
  therefore stated for *clean* scripts (`World.Clean`): scripts that do not issue an id while the context still
  owns a oneshot of an earlier use of it — in particular all scripts whose `op` events carry pairwise distinct
  ids. The theorems `reused_id_shares_a_oneshot` and `reused_id_reaches_unreachable` show that the hypothesis
  cannot be dropped in the model.
-/
import PosterModel.Lemmas.WorldRetPub
import PosterModel.Lemmas.WorldEx
import PosterModel.Lemmas.WorldOpsEx

namespace Poster
open World

/-- **The operation table is well formed in every reachable world.** Whatever the script does: no two entries of
    `ops` have the same operation id; an operation that waits does so on the oneshot `2 * id` — or on `2 * id + 1`
    exactly when it is the QoS 2 publish waiting for its PUBCOMP — and that oneshot exists (its sender is alive,
    or it holds a value, or it is closed; it has not been taken); and the packet-identifier counter stays within
    1..=65535. -/
theorem operation_table_well_formed (cfg : Cfg) (evs : List Ev) :
    let w := evs.foldl World.step { cfg := cfg }
    (w.ops.map (·.1)).Nodup ∧
    (∀ id s k, (id, OpSt.wait s k) ∈ w.ops →
      (s = 2 * id ∧ k ≠ .pubcomp ∨ s = 2 * id + 1 ∧ k = .pubcomp) ∧ (w.slot s).isSome) ∧
    1 ≤ w.pidCtr ∧ w.pidCtr ≤ 65535 := by
  have h := (OpsInv.init cfg).steps evs
  exact ⟨h.nodup, h.shape, h.pid.1, h.pid.2⟩

/-- the same, as the invariant structure used by the other theorems -/
theorem opsInv_reachable (cfg : Cfg) (evs : List Ev) : OpsInv (evs.foldl World.step { cfg := cfg }) :=
  (OpsInv.init cfg).steps evs

/-- **Each issued operation completes at most once.** In the transcript of any script, for every operation id,
    the number of `DONE id _` lines is at most the number of `op id _ _` events: a future never resolves twice,
    and nothing resolves that was not issued. -/
theorem each_operation_completes_at_most_once (cfg : Cfg) (evs : List Ev) (id : Nat) :
    doneCount id (World.run cfg evs) ≤ opCount id (World.run cfg evs) := by
  have hi := opsInv_reachable cfg evs
  have hc := (CountInv.init cfg).steps (OpsInv.init cfg) evs
  have := (hc.move hi (flushRaw_move _)) id
  unfold World.run finishScript
  omega

/-- …more precisely, in every reachable world the completions logged so far for `id`, plus one if `id` is still
    in the table, do not exceed the `op id` events logged so far: an operation that is still pending has not
    completed yet. -/
theorem completions_bounded_by_issues (cfg : Cfg) (evs : List Ev) (id : Nat) :
    let w := evs.foldl World.step { cfg := cfg }
    doneCount id w.out + (if id ∈ w.ops.map (·.1) then 1 else 0) ≤ opCount id w.out :=
  (CountInv.init cfg).steps (OpsInv.init cfg) evs id

/-- **Only a poll of its own future completes an operation.** In a world with a well-formed operation table:
    polling any other task (the context, a stream, another operation) logs no `DONE id`; polling the future of
    `id` logs at most one, and when it does, the operation was in the table before the poll and is gone after. -/
theorem done_logged_only_by_own_poll (w : World) (hi : OpsInv w) (id : Nat) :
    (∀ t, t ≠ .op id → doneCount id (w.pollTask t).out = doneCount id w.out) ∧
    (doneCount id (w.pollTask (.op id)).out = doneCount id w.out ∨
      (doneCount id (w.pollTask (.op id)).out = doneCount id w.out + 1 ∧ (w.opSt id).isSome ∧
        (w.pollTask (.op id)).opSt id = none)) := by
  constructor
  · intro t ht
    exact (pollTask_moves w t).doneCount_other id (taskTag_ne ht)
  · have hu : doneCount id (w.unwake (.op id)).out = doneCount id w.out := rfl
    have hiu : OpsInv (w.unwake (.op id)) := ⟨hi.nodup, hi.shape, hi.pid⟩
    have hop : (w.unwake (.op id)).opSt id = w.opSt id := rfl
    show doneCount id ((w.unwake (.op id)).pollOp id).out = _ ∨ _
    rcases pollOp_one (w.unwake (.op id)) id with h | h | h
    · left; rw [h]; exact hu
    · left; rw [h.doneCount_other id (by intro e; cases e)]; exact hu
    · rcases h.doneCount_own hiu with h1 | ⟨h1, h2, h3⟩
      · left; rw [h1]; exact hu
      · right; exact ⟨h1.trans (by rw [hu]), hop ▸ h2, h3⟩

/-- Script events other than `poll` log no completion either (dropping a future removes it silently). -/
theorem events_log_no_done (w : World) (e : Ev) (he : ∀ t, e ≠ .poll t) (id : Nat) :
    doneCount id (w.apply e).out = doneCount id w.out := by
  rcases apply_decomp w e with ⟨j, h, req, _, ha⟩ | hm
  · rw [ha.out]
  · cases e with
    | poll t => exact absurd rfl (he t)
    | drop t =>
      cases t with
      | op n => show doneCount id (w.dropOp n).out = _; rw [(dropOp_rx_out w n).2]
      | ctx => exact hm.doneCount_other id (by intro h; cases h)
      | st n => exact hm.doneCount_other id (by intro h; cases h)
    | _ => exact hm.doneCount_other id (by intro h; cases h)

/-- a script that issues every operation id at most once never reuses an id the context still works for -/
theorem clean_of_distinct_ids (cfg : Cfg) (evs : List Ev) (hn : (opIds evs).Nodup) : Clean { cfg := cfg } evs :=
  ((Good.init (fun _ => False) cfg).steps_fresh evs hn (fun _ _ h => h)).1

/-- **What the context owns belongs to exactly one operation, and has its kind.** For a clean script, in every
    reachable world:
    * `own`: if a oneshot `s` is carried by a queued message or registered in `awaiting_ack` and the operation
      `s / 2` is in the table, that operation waits on `s` or on a later oneshot (it is not a fresh future);
    * `nodup`: no two queued messages / `awaiting_ack` entries carry the same oneshot;
    * `qmsg`, `awt`: a queued message, resp. an `awaiting_ack` entry `(aid, s)`, whose oneshot a waiting operation
      waits on for `k`, is of the kind of `k`: fire-and-forget exactly for `k = ff`, otherwise registered under
      `actionId (type of k's acknowledgement) pid` with `pid < 65536`;
    * `full`: a packet stored in the oneshot of a waiting operation is well formed and of the type it waits for. -/
theorem owned_oneshots_have_their_operations_kind (cfg : Cfg) (evs : List Ev) (hc : Clean { cfg := cfg } evs) :
    KInv (fun _ => True) (evs.foldl World.step { cfg := cfg }) :=
  ((Good.init (fun _ => True) cfg).steps_clean evs hc).kind

/-- …and when the ids are pairwise distinct, every oneshot the context owns was created by an operation the script
    has issued (`own` with `U = (· ∈ opIds evs)`) -/
theorem owned_oneshots_of_issued_operations (cfg : Cfg) (evs : List Ev) (hn : (opIds evs).Nodup) :
    KInv (· ∈ opIds evs) (evs.foldl World.step { cfg := cfg }) := by
  have := ((Good.init (fun _ => False) cfg).steps_fresh evs hn (fun _ _ h => h)).2
  exact (this.kind).mono (by rintro x (h | h); exact h.elim; exact h)

/-- the oneshots the context owns are pairwise distinct -/
theorem owned_oneshots_distinct (cfg : Cfg) (evs : List Ev) (hc : Clean { cfg := cfg } evs) :
    let w := evs.foldl World.step { cfg := cfg }
    (w.queue.map Msg.slot ++ w.c.awaiting.map (·.2)).Nodup :=
  (owned_oneshots_have_their_operations_kind cfg evs hc).nodup

/-- **A future is only ever resumed with an acknowledgement of its own type.** For a clean script, in every
    reachable world, whenever the oneshot of a waiting operation holds a packet, the packet is well formed and is
    the acknowledgement that operation waits for (PUBACK for a QoS 1 publish, PUBREC then PUBCOMP for QoS 2,
    SUBACK, UNSUBACK, PINGRESP; never a packet for a fire-and-forget operation). -/
theorem filled_oneshot_matches_its_operation (cfg : Cfg) (evs : List Ev) (hc : Clean { cfg := cfg } evs)
    (id s : Nat) (k : Wait) (p : RxPacket) :
    let w := evs.foldl World.step { cfg := cfg }
    w.opSt id = some (.wait s k) → w.slot s = some (.full (.pkt p)) → Wait.accepts k p = true ∧ p.wf := by
  intro w hop hs
  exact (owned_oneshots_have_their_operations_kind cfg evs hc).full id s k p (mem_of_opSt hop) hs

/-- **The `unreachable!()` of the handle futures is dead code.** For a clean script no handle future ever panics
    with `unreachable`: the transcript contains no `PANIC op id unreachable` line, for any broker behaviour,
    interleaving, executor mode or transport limit. -/
theorem no_unreachable_panic (cfg : Cfg) (evs : List Ev) (hc : Clean { cfg := cfg } evs) (id : Nat) :
    Obs.panic (.op id) "unreachable" ∉ World.run cfg evs :=
  (((Good.init (fun _ => True) cfg).steps_clean evs hc).move (flushRaw_move _)).noUnr id

/-- in particular for every script that issues each operation id at most once -/
theorem no_unreachable_panic_of_distinct_ids (cfg : Cfg) (evs : List Ev) (hn : (opIds evs).Nodup) (id : Nat) :
    Obs.panic (.op id) "unreachable" ∉ World.run cfg evs :=
  no_unreachable_panic cfg evs (clean_of_distinct_ids cfg evs hn) id

/-- **A successful completion needs the operation's own acknowledgement in its oneshot.** In any world, if a poll
    of the future of `id` logs `DONE id r` where `r` is not a local failure (`r` is `ok`, `okAck …` or an
    acknowledgement error `errAck …`), then the operation was waiting (`wait s k`), its oneshot `s` held a value
    `v`, the future was resumed with exactly that value, and `v` is either "written" for a fire-and-forget
    operation or a packet of the type the operation waits for (its content then determines `r`:
    `resumeOp_content`). -/
theorem completion_needs_filled_oneshot (w : World) (id : Nat) (r : DoneRes)
    (h : (w.pollOp id).out = w.out ++ [.done id r]) (hr : ∀ k, r ≠ .err k) :
    ∃ s k v, w.opSt id = some (.wait s k) ∧ w.slot s = some (.full v) ∧ w.pollOp id = w.resumeOp id s k v ∧
      ((v = .unit ∧ k = .ff) ∨ ∃ p, v = .pkt p ∧ Wait.accepts k p = true) := by
  obtain ⟨s, k, v, ho, hs, e, b, -, hres⟩ := W7.pollOp_done_resumed h (hr _) (hr _)
  exact ⟨s, k, v, ho, hs, e, hres.accepts hr⟩

/-- **The context fills a oneshot with a packet only for the waiter registered under that packet's own action
    identifier.** If a poll of the context task turns the empty oneshot `s` into one holding the packet `p`, then at
    some point `w1` of that poll (reached by context moves only) `p` was a well-formed inbound acknowledgement,
    `s` was registered in `awaiting_ack` under `aid = rxActionId p` — the action identifier built from `p`'s own
    packet type and packet identifier — and it was the first waiter under that identifier. Together with `awt` of
    `owned_oneshots_have_their_operations_kind` (the entry `(aid, s)` has the kind of the operation waiting on `s`)
    and `actionId_injective`, this is "only its own acknowledgement completes an operation" end to end. -/
theorem oneshot_filled_only_by_own_acknowledgement (w : World) (s : Nat) (p : RxPacket)
    (hs : w.slot s = some .empty) (hs' : w.pollCtx.slot s = some (.full (.pkt p))) :
    ∃ w1 aid pre post, Moves CtxTag w w1 ∧ p.wf ∧ rxActionId p = some aid ∧
      w1.c.awaiting = pre ++ (aid, s) :: post ∧ aid ∉ pre.map (·.1) ∧ w1.slot s = some .empty :=
  Moves.filled (fun _ h => h) (pollCtx_moves w) s p hs hs'

/-- a script with two outstanding pings (distinct ids): the hypothesis of the `_of_distinct_ids` theorems is satisfiable -/
example : (opIds evsTwoPings).Nodup := by decide
example : Clean {} evsTwoPings := by decide

/-- a clean script that does reuse an id: operation 1 is dropped before its first poll (nothing was queued), then
    the id is issued again -/
example :
    let evs : List Ev := [.setup, .hold (.op 1), .op 1 0 .ping, .drop (.op 1), .release (.op 1), .op 1 0 .ping]
    Clean {} evs ∧ opIds evs = [1, 1] := by decide

/-- …and in the world it reaches both futures wait on their own oneshots, with their PINGREQ messages queued
    (the context has not been started): the invariants speak about a non-trivial world -/
example :
    let w := evsTwoPings.foldl World.step {}
    w.ops = [(1, .wait 2 .pingresp), (2, .wait 4 .pingresp)] ∧ ctxSlots w = [2, 4] ∧
    w.slot 2 = some .empty ∧ w.slot 4 = some .empty := by decide

/-- a completion is logged, once, for an issued operation (here: the context was dropped, the ping fails) -/
example :
    doneCount 1 (World.run {} [.setup, .dropCtx, .op 1 0 .ping]) = 1 ∧
    opCount 1 (World.run {} [.setup, .dropCtx, .op 1 0 .ping]) = 1 := by decide

/-- the serving world of `Lemmas/WorldEx.lean` has a well-formed operation table: `done_logged_only_by_own_poll`
    applies to it -/
example : OpsInv Ex.wRun := by
  refine ⟨by decide, ?_, ⟨by decide, by decide⟩⟩
  intro id s k h
  simp only [Ex.wRun, List.mem_cons, Prod.mk.injEq, OpSt.wait.injEq, List.not_mem_nil, or_false, reduceCtorEq,
    and_false] at h
  obtain ⟨rfl, rfl, rfl⟩ := h
  exact ⟨Or.inl ⟨rfl, by decide⟩, rfl⟩

/-- a future resumed with its own PUBACK: the hypotheses of `completion_needs_filled_oneshot` are satisfiable -/
example :
    let w : World := { Ex.wRun with slots := [(2, .full (.pkt (.puback { packetId := 1 })))] }
    (w.pollOp 1).out = w.out ++ [.done 1 .ok] := by decide

/-- a poll of the context that reads the PINGRESP fills the oneshot of the registered ping: the hypotheses of
    `oneshot_filled_only_by_own_acknowledgement` are satisfiable -/
example : wPing.slot 2 = some .empty ∧ wPing.pollCtx.slot 2 = some (.full (.pkt .pingresp)) := by
  refine ⟨by decide, ?_⟩
  -- one iteration reads and handles the PINGRESP, the next one finds nothing to do
  rw [show wPing.pollCtx = wPing.pollTask .ctx from rfl, pollTask_ctx_frame wPing Ex.pingresp .pingresp (by decide) rfl
    (by decide) Ex.pn_pingresp Ex.dec_pingresp (by decide)]
  decide

/-- a clean script (a ping whose future is held back while the PINGRESP arrives) reaches a world in which the
    oneshot of the waiting operation is filled: the hypotheses of `filled_oneshot_matches_its_operation` are
    satisfiable, at script level, and its conclusion is the non-trivial "PINGRESP for a ping" -/
example :
    Clean {} evsFill ∧
    (evsFill.foldl World.step {}).opSt 1 = some (.wait 2 .pingresp) ∧
    (evsFill.foldl World.step {}).slot 2 = some (.full (.pkt .pingresp)) := by
  refine ⟨evsFill_clean, ?_, ?_⟩ <;> rw [evsFill_foldl] <;> decide

/-- **Id reuse (model caveat), 1.** If the script issues the id 1 again after dropping the first operation 1 whose
    PINGREQ is still queued, the two messages carry the same oneshot name: without the cleanliness hypothesis the
    oneshots the context owns are not pairwise distinct. -/
theorem reused_id_shares_a_oneshot :
    let evs : List Ev := [.setup, .op 1 0 .ping, .drop (.op 1), .op 1 0 .ping]
    ¬ Clean {} evs ∧ ctxSlots (evs.foldl World.step {}) = [2, 2] := by decide

/-- **Id reuse (model caveat), 2: the unconditional "`unreachable` is dead" is false in the model.** The script
    `setup, run, op 1 ping, drop (op 1), op 1 (QoS 1 publish), feed PINGRESP` is not clean — the publish is issued
    under id 1 while the dropped ping's waiter is still registered on oneshot 2 — and the PINGRESP completes
    oneshot 2, which now belongs to the publish: its future finds a PINGRESP where it expects a PUBACK and logs
    `PANIC op 1 unreachable`. (In the implementation the two uses of "oneshot 2" are different channel objects and
    the first one's receiver is gone; this is an artefact of naming oneshots after reusable script ids, not a
    defect of the client.) -/
theorem reused_id_reaches_unreachable :
    ¬ Clean {} evsReuse ∧ Obs.panic (.op 1) "unreachable" ∈ World.run {} evsReuse :=
  ⟨evsReuse_not_clean, evsReuse_unreachable⟩

#print axioms operation_table_well_formed
#print axioms opsInv_reachable
#print axioms each_operation_completes_at_most_once
#print axioms completions_bounded_by_issues
#print axioms done_logged_only_by_own_poll
#print axioms events_log_no_done
#print axioms clean_of_distinct_ids
#print axioms owned_oneshots_have_their_operations_kind
#print axioms owned_oneshots_of_issued_operations
#print axioms owned_oneshots_distinct
#print axioms filled_oneshot_matches_its_operation
#print axioms no_unreachable_panic
#print axioms no_unreachable_panic_of_distinct_ids
#print axioms completion_needs_filled_oneshot
#print axioms oneshot_filled_only_by_own_acknowledgement
#print axioms reused_id_shares_a_oneshot
#print axioms reused_id_reaches_unreachable

end Poster

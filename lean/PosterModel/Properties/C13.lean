/-
  Properties/C13.lean — connect() and run() end with the documented outcome, and only then.

  C13: "connect()/authorize() return the server's CONNACK as ConnectRsp when its reason is < 0x80, ConnectError
  with that reason when it is >= 0x80, AuthRsp for an AUTH challenge, and SocketClosed if the transport ends
  first. run() returns Ok(()) once the user's DISCONNECT has been written (writing nothing after it) or a server
  DISCONNECT with reason 0 arrives, Disconnected carrying the server's reason and properties for any other
  server DISCONNECT, SocketClosed on end-of-stream or transport error, HandleClosed once every handle is dropped,
  and an error for undecodable input; it does not return while none of these has happened."

  Model: `Ctx.handlePkt` / `Ctx.handleMsg` (what `run()` does next: `Flow`), `World.flowRet`, `World.runLoop`
  (one poll of the `select!` loop), `World.awaitFirst` / `World.pollConnect` (`connect()` / `authorize()`),
  `World.pollCtx`. An observation `.ret call r` is the call returning `r`.
-/
import PosterModel.Lemmas.WorldIter
import PosterModel.Lemmas.WorldEx
import PosterModel.Lemmas.WorldApplied

namespace Poster
open Framing

/-- **The value `run()` returns** for each way the loop ends: `Ok(())`, `Err(SocketClosed)`, and
    `Err(Disconnected(d))` carrying the server's DISCONNECT packet — reason and properties — unchanged. -/
theorem flowRet_mapping (d : DisconnectRx) :
    World.flowRet .exitOk = .ok ∧ World.flowRet .exitSocket = .err .socketClosed ∧
    World.flowRet (.exitDisconnected d) = .disconnected d :=
  ⟨rfl, rfl, rfl⟩

/-- one poll of the loop only ever appends observations -/
theorem runLoop_out_prefix (f : Nat) (w : World) : w.out <+: (w.runLoop f).out := by
  rcases World.runLoop_ends f w with ⟨_, pre, _, hpre⟩ | ⟨wm, hs, over⟩
  · exact ⟨pre, hpre.symm⟩
  · obtain ⟨pre, _, hpre⟩ := (World.sServe_frame hs).out
    obtain ⟨pre2, last, _, ho, _⟩ := over.out
    exact ⟨pre ++ pre2 ++ [last], by rw [ho, hpre]; simp⟩

/-- **`run()` returns only for a documented cause, exactly once, and otherwise stays pending.**
    One poll of the loop of a running `run()` with any fuel: if the task is gone afterwards, the observations
    appended are `W` / `WRAW` lines (packets written, whole or cut) followed by exactly one final observation, which is
    `RET run r` with `r` one of `Ok`, `Disconnected(d)`, `SocketClosed`, `HandleClosed`, a decoding error —
    or a panic of the context task (see C04: impossible from reachable framing states).
    Conversely, if the task is still there it is still `running`, and only `W` / `WRAW` lines were appended:
    no `RET`, no panic. -/
theorem runLoop_returns_only_for_a_cause (f : Nat) (w : World) (ht : w.task = .running true) :
    ((w.runLoop f).task = .none →
      ∃ pre last, (w.runLoop f).out = w.out ++ pre ++ [last] ∧
        (∀ o ∈ pre, ∃ bs, o = .wire bs ∨ o = .wraw bs) ∧
        ((∃ r, last = .ret .run r ∧
            (r = .ok ∨ (∃ d, r = .disconnected d) ∨ r = .err .socketClosed ∨ r = .err .handleClosed ∨
              r = .err .codecError)) ∨
          ∃ cls, last = .panic .ctx cls)) ∧
    ((w.runLoop f).task ≠ .none →
      (w.runLoop f).task = .running true ∧
      ∃ pre, (w.runLoop f).out = w.out ++ pre ∧ (∀ o ∈ pre, ∃ bs, o = .wire bs ∨ o = .wraw bs)) :=
  (World.runLoop_outcome (w0 := w) w f true ht ht rfl (World.outExt_refl w)).running ht

/-- **`HandleClosed` only when every handle is gone and everything queued has been served.** If a poll of the
    loop ends with `RET run HandleClosed`, then no sender of the message queue existed when the poll started
    (every `ContextHandle`, and every pending handle future with its clone, had been dropped), and the queue
    is empty at the end: every message that was still buffered was handled first. -/
theorem handleClosed_only_when_no_sender (f : Nat) (w : World) (ht : w.task = .running true)
    (hn : (w.runLoop f).task = .none)
    (hl : (w.runLoop f).out.getLast? = some (.ret .run (.err .handleClosed))) :
    w.senders = 0 ∧ (w.runLoop f).queue = [] ∧ (w.runLoop f).senders = 0 := by
  obtain ⟨wm, hs, he | ⟨he, _⟩⟩ := World.runLoop_is_a_resolution f w ▸ World.runLoopS_decomp (fun _ => false) f w
  · rcases World.sEnd_out he with over | waits
    · obtain ⟨pre, last, _, ho, _⟩ := over.out
      rw [ho, List.getLast?_concat] at hl
      obtain ⟨_, h2, h3, h4⟩ := World.sEnd_closed he (Option.some.inj hl ▸ ho)
      exact ⟨World.sServe_senders hs ▸ h2, h3, h4⟩
    · rw [waits.task, (World.sServe_frame hs).task, ht] at hn; cases hn
  · rw [he, (World.sServe_frame hs).task, ht] at hn; cases hn

/-- the forward direction, one step: with nothing queued and no sender left the loop returns `HandleClosed`
    at once; with something queued it handles the first message first. -/
theorem handleClosed_when_no_sender (f : Nat) (w : World) (hq : w.queue = []) (hs : w.senders = 0) :
    w.runLoop (f + 1) = w.finish .run (.err .handleClosed) :=
  (World.RunEnd.closed hq hs).loop f

/-- **Nothing after the return.** Once the context future has completed (`task = none` — in particular after
    the user's DISCONNECT was written and `run()` returned `Ok`), polling it does nothing at all: nothing more
    is written or observed. Messages queued by handles afterwards just stay in the queue: `sendMsg` only
    appends (and fires the queue waker); it writes nothing, observes nothing and does not revive the task. -/
theorem nothing_after_return (w : World) (h : w.task = .none) :
    w.pollCtx = w ∧
    (∀ m w', w.sendMsg m = some w' →
      w'.queue = w.queue ++ [m] ∧ w'.out = w.out ∧ w'.wirePend = w.wirePend ∧ w'.written = w.written ∧
      w'.task = .none ∧ w'.c = w.c) := by
  refine ⟨World.pollCtx_none h, fun m w' hm => ?_⟩
  rw [World.sendMsg_eq] at hm
  split at hm
  · simp only [Option.some.injEq] at hm; subst hm; simp [h]
  · cases hm

/-- **The user's DISCONNECT ends `run()` with `Ok`, and it is the last thing written.** With the DISCONNECT
    message at the head of the queue, within size and accepted by the transport, the poll writes it, completes
    the caller's oneshot, emits `RET run Ok` and the task is gone (so by `nothing_after_return` nothing is
    written after it) — the messages behind it in the queue are not handled. -/
theorem user_disconnect_returns_ok (f : Nat) (w : World) (pkt : Bytes) (slot : Nat) (q : List Msg)
    (hq : w.queue = .ff pkt slot :: q) (h14 : pktType pkt = 14) (hs : w.c.sizeOk pkt = true)
    (hw : w.canWrite pkt.length = true) :
    w.runLoop (f + 1) =
      ((({ w with queue := q }).writeBytes pkt).sendSlot slot .unit).finish .run .ok := by
  rw [World.runLoop_succ]
  have hn : World.writeNeed [Eff.write pkt, Eff.send slot SlotVal.unit] = pkt.length := by
    simp [World.writeNeed]
  have hw' : World.canWrite { w with queue := q } pkt.length = true := hw
  simp [World.runIter, hq, World.runHandler_eq, Ctx.handleMsg, hs, h14, hn, hw', World.flowRet,
    World.applyEffs, World.applyEff]

/-- **The first response decides what `connect()` / `authorize()` return.** With `poll_next` yielding the
    frame `fr`: a CONNACK with reason < 0x80 (from a broker supporting subscription identifiers) ⇒
    `ConnectRsp` = that CONNACK; a CONNACK with reason ≥ 0x80 ⇒ `ConnectError` carrying it; an AUTH ⇒ `AuthRsp`;
    any other packet, or an undecodable frame ⇒ a codec error. In both CONNACK cases the session first takes
    over the CONNACK's limits (`handle_connack`) — before the outcome is decided. If the transport ends first
    (end of stream, read error, malformed length) ⇒ `SocketClosed`. While the response has not arrived nothing
    is returned and the future stays pending (`connecting … true`), having armed the transport waker. -/
theorem first_response_mapping (w : World) (call : Call) (t : ConnectTx) (a : AuthTx) (rx' : Rx)
    (rd' : List ReadEv) :
    (∀ fr k, pollNext w.rx w.reader = (rx', rd', .item fr) → decodeRx fr = .ok (.connack k) →
      k.reason < 128 → k.subIdAvail = true →
      w.awaitFirst call t a =
        ({ w with rx := rx', reader := rd', c := w.c.handleConnack k }).finish call (.connack k)) ∧
    (∀ fr k, pollNext w.rx w.reader = (rx', rd', .item fr) → decodeRx fr = .ok (.connack k) →
      k.reason ≥ 128 →
      w.awaitFirst call t a =
        ({ w with rx := rx', reader := rd', c := w.c.handleConnack k }).finish call (.connectError k)) ∧
    (∀ fr au, pollNext w.rx w.reader = (rx', rd', .item fr) → decodeRx fr = .ok (.auth au) →
      w.awaitFirst call t a = ({ w with rx := rx', reader := rd' }).finish call (.auth au)) ∧
    (∀ fr p, pollNext w.rx w.reader = (rx', rd', .item fr) → decodeRx fr = .ok p →
      (∀ k, p ≠ .connack k) → (∀ au, p ≠ .auth au) →
      w.awaitFirst call t a = ({ w with rx := rx', reader := rd' }).finish call (.err .codecError)) ∧
    (∀ fr, pollNext w.rx w.reader = (rx', rd', .item fr) → decodeRx fr = .err →
      w.awaitFirst call t a = ({ w with rx := rx', reader := rd' }).finish call (.err .codecError)) ∧
    (pollNext w.rx w.reader = (rx', rd', .none) →
      w.awaitFirst call t a = ({ w with rx := rx', reader := rd' }).finish call (.err .socketClosed)) ∧
    (pollNext w.rx w.reader = (rx', rd', .pending) →
      (w.awaitFirst call t a).task = .connecting call t a true ∧ (w.awaitFirst call t a).out = w.out ∧
      (w.awaitFirst call t a).c = w.c ∧
      (((w.awaitFirst call t a).reader = [] ∧ (w.awaitFirst call t a).readerReg = true) ∨
        .ctx ∈ (w.awaitFirst call t a).woken)) := by
  refine ⟨fun fr k hp hd hk hs => ?_, fun fr k hp hd hk => ?_, fun fr au hp hd => ?_,
    fun fr p hp hd h1 h2 => ?_, fun fr hp hd => ?_, fun hp => ?_, fun hp => ?_⟩
  · exact (World.FirstEnd.connack rx' rd' fr k hp hd hk hs).eq
  · exact (World.FirstEnd.refused rx' rd' fr k hp hd hk).eq
  · exact (World.FirstEnd.auth rx' rd' fr au hp hd).eq
  · exact (World.FirstEnd.unexpected rx' rd' fr p hp hd h1 h2).eq
  · exact (World.FirstEnd.codec rx' rd' fr hp hd).eq
  · exact (World.FirstEnd.sock rx' rd' hp).eq
  · rw [(World.FirstEnd.pending rx' rd' hp).eq]
    by_cases hrd : rd' = []
    · simp [hrd]
    · simp only [hrd, ↓reduceIte]
      exact ⟨by simp, by simp, by simp, Or.inr (World.mem_wake_self _ _)⟩

/-- **A request that cannot be encoded is refused before anything is written.** First poll of `connect()` /
    `authorize()` with an invalid request: the call returns a codec error at once; the transport (`wirePend`,
    `written`), the framing state and the session are untouched and the only observation is the `RET`. -/
theorem connect_refused_before_writing (w : World) (call : Call) (t : ConnectTx) (a : AuthTx)
    (hv : World.reqValid call t a = false) :
    w.pollConnect call t a false = w.finish call (.err .codecError) ∧
    (w.pollConnect call t a false).out = w.out ++ [.ret call (.err .codecError)] ∧
    (w.pollConnect call t a false).wirePend = w.wirePend ∧
    (w.pollConnect call t a false).written = w.written ∧
    (w.pollConnect call t a false).c = w.c ∧ (w.pollConnect call t a false).task = .none := by
  rw [World.pollConnect_false_eq, hv]; exact ⟨rfl, rfl, rfl, rfl, rfl, rfl⟩

/-- a valid request is written (only `W` / `WRAW` lines are observed, the framing state is untouched) and then the
    first response is awaited as in `first_response_mapping`; if the transport refuses the write the call
    returns `SocketClosed`. -/
theorem connect_writes_then_awaits (w : World) (call : Call) (t : ConnectTx) (a : AuthTx)
    (hv : World.reqValid call t a = true) :
    ∃ w0 : World, w0.rx = w.rx ∧ w0.reader = w.reader ∧
      (∃ pre, w0.out = w.out ++ pre ∧ ∀ o ∈ pre, ∃ bs, o = .wire bs ∨ o = .wraw bs) ∧
      (w.pollConnect call t a false = w0.awaitFirst call t a ∨
       w.pollConnect call t a false = w0.finish call (.err .socketClosed)) := by
  obtain ⟨hrx, hrd, pre, hq, hp⟩ := World.reqWritten_prelude w call t a
  refine ⟨_, hrx, hrd, ⟨pre, hp, hq⟩, ?_⟩
  rw [World.pollConnect_false_eq, hv]
  cases w.canWrite (World.W7.reqBytes call t a).length
  · exact Or.inr rfl
  · exact Or.inl rfl

/-- what `reqValid` stands for: the CONNECT request's validity for `connect()`, the AUTH request's otherwise -/
theorem reqValid_def (t : ConnectTx) (a : AuthTx) :
    World.reqValid .connect t a = t.valid ∧ World.reqValid .authorize t a = a.valid := ⟨rfl, rfl⟩

/-- **One poll of `run()`, first or later, as the executor sees it.** If the `run()` future is gone after the
    poll, the observations appended are `W` / `WRAW` lines followed by exactly one final observation: `RET run r` for a
    documented cause `r`, or a context panic (excluded by C04). If it is still there it is `running`, and
    only `W` / `WRAW` lines were appended: `run()` has not returned. -/
theorem run_poll_outcome (w : World) (s : Bool) (ht : w.task = .running s) :
    ((w.pollCtx).task = .none →
      ∃ pre last, (w.pollCtx).out = w.out ++ pre ++ [last] ∧
        (∀ o ∈ pre, ∃ bs, o = .wire bs ∨ o = .wraw bs) ∧
        ((∃ r, last = .ret .run r ∧
            (r = .ok ∨ (∃ d, r = .disconnected d) ∨ r = .err .socketClosed ∨ r = .err .handleClosed ∨
              r = .err .codecError)) ∨
          ∃ cls, last = .panic .ctx cls)) ∧
    ((w.pollCtx).task ≠ .none →
      (w.pollCtx).task = .running true ∧
      ∃ pre, (w.pollCtx).out = w.out ++ pre ∧ (∀ o ∈ pre, ∃ bs, o = .wire bs ∨ o = .wraw bs)) :=
  (World.pollCtx_outcome w).running ht

/-- **A server DISCONNECT ends `run()`**: with reason 0 it returns `Ok(())`, with any other reason
    `Err(Disconnected(d))` where `d` is the decoded packet itself — reason, session expiry, reason string,
    server reference and user properties as received. Nothing is written. -/
theorem server_disconnect_returns (f : Nat) (w : World) (rx' : Rx) (rd' : List ReadEv) (fr : Bytes)
    (d : DisconnectRx) (hq : w.queue = []) (hs : w.senders ≠ 0)
    (hp : pollNext w.rx w.reader = (rx', rd', .item fr)) (hd : decodeRx fr = .ok (.disconnect d)) :
    w.runLoop (f + 1) =
      ({ w with rx := rx', reader := rd' }).finish .run (if d.reason = 0 then .ok else .disconnected d) := by
  rw [World.runLoop_succ]
  by_cases hr : d.reason = 0 <;>
    simp [World.runIter, hq, hs, hp, hd, World.runHandler_eq, Ctx.handlePkt, World.applyEffs, hr,
      World.flowRet]

/-- **Undecodable input ends `run()` with an error** (and not with a panic): a frame the decoder rejects makes
    `run()` return a codec error; **end of stream** (or a read error, or a malformed length field) makes it
    return `SocketClosed`. In both cases nothing is written. -/
theorem bad_input_returns_error (f : Nat) (w : World) (rx' : Rx) (rd' : List ReadEv) (hq : w.queue = [])
    (hs : w.senders ≠ 0) :
    (∀ fr, pollNext w.rx w.reader = (rx', rd', .item fr) → decodeRx fr = .err →
      w.runLoop (f + 1) = ({ w with rx := rx', reader := rd' }).finish .run (.err .codecError)) ∧
    (pollNext w.rx w.reader = (rx', rd', .none) →
      w.runLoop (f + 1) = ({ w with rx := rx', reader := rd' }).finish .run (.err .socketClosed)) :=
  ⟨fun fr hp hd => (World.RunEnd.codec rx' rd' fr hq hs hp hd).loop f, fun hp => (World.RunEnd.sock rx' rd' hq hs hp).loop f⟩

/-! ## Non-vacuity: the hypotheses are satisfiable and the conclusions are not trivial (worlds of Lemmas/WorldEx.lean) -/
section NonVacuity
open Ex

/-- a CONNACK with reason 0 makes `connect()` return it -/
example : ((wConn connackOk).awaitFirst .connect {} {}).out = [.ret .connect (.connack kOk)] := by
  rw [(first_response_mapping (wConn connackOk) .connect {} {} {} []).1 connackOk kOk
    pn_connackOk dec_connackOk (by decide) (by decide)]
  rfl
/-- a CONNACK with reason 0x87 makes `connect()` return `ConnectError` carrying it -/
example : ((wConn connackRefused).awaitFirst .connect {} {}).out = [.ret .connect (.connectError kRefused)] := by
  rw [(first_response_mapping (wConn connackRefused) .connect {} {} {} []).2.1 connackRefused kRefused
    pn_connackRefused dec_connackRefused (by decide)]
  rfl
/-- half a CONNACK: `connect()` stays pending -/
example : ((wConn [0x20]).awaitFirst .connect {} {}).task = .connecting .connect {} {} true :=
  ((first_response_mapping (wConn [0x20]) .connect {} {} _ []).2.2.2.2.2.2 pn_pending).1
/-- server DISCONNECT 0x8B: `run()` returns `Disconnected` with that reason -/
example : ((wServe [.data disconnect8B]).runLoop 3).out = [.ret .run (.disconnected { reason := 0x8B })] := by
  rw [server_disconnect_returns 2 (wServe [.data disconnect8B]) {} [] disconnect8B { reason := 0x8B } rfl
    (by decide) pn_disconnect8B dec_disconnect8B]
  rfl
/-- server DISCONNECT 0: `run()` returns `Ok` -/
example : ((wServe [.data disconnect0]).runLoop 3).out = [.ret .run .ok] := by
  rw [server_disconnect_returns 2 (wServe [.data disconnect0]) {} [] disconnect0 {} rfl
    (by decide) pn_disconnect0 dec_disconnect0]
  rfl
/-- an undecodable frame: `run()` returns a codec error -/
example : ((wServe [.data badPuback]).runLoop 3).out = [.ret .run (.err .codecError)] := by
  rw [(bad_input_returns_error 2 (wServe [.data badPuback]) {} [] rfl (by decide)).1 badPuback pn_badPuback
    dec_badPuback]
  rfl
/-- end of stream: `run()` returns `SocketClosed` -/
example : ((wServe [.eof]).runLoop 3).out = [.ret .run (.err .socketClosed)] := by
  rw [(bad_input_returns_error 2 (wServe [.eof]) {} [.eof] rfl (by decide)).2 pn_eof]
  rfl
/-- no handle left: `run()` returns `HandleClosed` (the hypotheses of `handleClosed_only_when_no_sender` hold) -/
example : (({ wServe [] with handles := [] } : World).runLoop 3).out = [.ret .run (.err .handleClosed)] := by
  rw [handleClosed_when_no_sender 2 _ rfl (by decide)]; rfl
/-- the user's DISCONNECT: written, its caller completed and woken, `Ok` returned, the PINGREQ queued behind it
    is not handled -/
example : (wBye.runLoop 3).out = [.wire [0xE0, 0], .ret .run .ok] ∧ (wBye.runLoop 3).slot 4 = some (.full .unit) ∧
    (wBye.runLoop 3).queue = [.awaitAck (actionId 13 0) pingreqBytes 6] ∧ Task.op 2 ∈ (wBye.runLoop 3).woken := by
  rw [user_disconnect_returns_ok 2 wBye [0xE0, 0] 4 _ rfl (by decide) (by decide) (by decide)]
  decide
/-- none of the causes: `run()` stays pending and returns nothing -/
example : ((wServe []).pollCtx).task = .running true ∧ ((wServe []).pollCtx).out = [] := by
  rw [World.pollCtx_running (w := wServe []) rfl,
    show (wServe []).pollRun true = _ from World.runLoop_idle _ (wServe []) (by decide) rfl (by decide) rfl rfl]
  exact ⟨rfl, rfl⟩
/-- an invalid AUTH request is refused before anything is written -/
example : World.reqValid .authorize {} { reason := some 24 } = false := by decide

end NonVacuity

#print axioms handlePkt_flow
#print axioms handleMsg_flow
#print axioms flowRet_mapping
#print axioms runLoop_out_prefix
#print axioms runLoop_returns_only_for_a_cause
#print axioms handleClosed_only_when_no_sender
#print axioms handleClosed_when_no_sender
#print axioms nothing_after_return
#print axioms user_disconnect_returns_ok
#print axioms first_response_mapping
#print axioms connect_refused_before_writing
#print axioms connect_writes_then_awaits
#print axioms reqValid_def
#print axioms run_poll_outcome
#print axioms server_disconnect_returns
#print axioms bad_input_returns_error

end Poster

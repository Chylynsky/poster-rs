/-
  Properties/C05.lean — C05: each operation completes exactly once, with the acknowledgement addressed to it.

  The context keeps `awaiting : List (action id × oneshot)`; a handle method registers its oneshot under
  `actionId kind pid` when its packet is written (`handleMsg`) and an inbound acknowledgement completes the FIRST
  entry registered under the action identifier computed from its own type and packet identifier (`handlePkt`,
  `rxActionId`). On the user side the suspended future (`World.pollOp` / `resumeOp`) turns the value found in its
  oneshot into the result of the call and disappears.
-/
import PosterModel.Lemmas.UserCtx

namespace Poster
open World User

/-- An action identifier determines the packet type and the packet identifier it was built from: acknowledgements
    of different types, or with different identifiers, never address the same waiter. -/
theorem actionId_injective (k k' p p' : Nat) (_hk : k < 256) (_hk' : k' < 256) (hp : p < 65536) (hp' : p' < 65536) :
    actionId k p = actionId k' p' → k = k' ∧ p = p' := by
  unfold actionId; omega

/-- `removeFirst k l` finds and removes the FIRST entry with key `k`, keeping every other entry in order;
    it fails exactly when no entry has that key. -/
theorem removeFirst_spec {β} (k : Nat) (l : List (Nat × β)) :
    (∀ v l', removeFirst k l = some (v, l') ↔
      ∃ pre post, l = pre ++ (k, v) :: post ∧ k ∉ pre.map (·.1) ∧ l' = pre ++ post) ∧
    (removeFirst k l = none ↔ k ∉ l.map (·.1)) :=
  ⟨fun v l' => removeFirst_some_iff k l l' v, removeFirst_none_iff k l⟩

/-- What handling one inbound packet does to the waiters: either nothing is completed and `awaiting` is unchanged
    (the packet is not an acknowledgement, or is a PUBREL, or nobody is registered under its action identifier),
    or the packet is an acknowledgement, the first waiter registered under its action identifier is removed and is
    sent exactly this packet, and nothing else is sent. -/
theorem ack_completion_cases (c : Ctx) (alive : Nat → Bool) (p : RxPacket) (wok : Bool) :
    (sendsOf (c.handlePkt alive p wok).2.1 = [] ∧ (c.handlePkt alive p wok).1.awaiting = c.awaiting ∧
      (rxActionId p = none ∨ (∃ a, p = .pubrel a) ∨
        ∃ aid, rxActionId p = some aid ∧ removeFirst aid c.awaiting = none)) ∨
    (∃ aid slot rest, rxActionId p = some aid ∧ removeFirst aid c.awaiting = some (slot, rest) ∧
      sendsOf (c.handlePkt alive p wok).2.1 = [(slot, .pkt p)] ∧ (c.handlePkt alive p wok).1.awaiting = rest) := by
  cases p.kind with
  | ack p aid hid hrel =>
    rw [Ctx.handlePkt_ack_eq c alive p wok aid hid hrel, Ctx.complete_effs, lookupFirst_eq_removeFirst]
    cases hr : removeFirst aid c.awaiting with
    | none => exact Or.inl ⟨rfl, by simp [eraseFirst, hr], Or.inr (Or.inr ⟨aid, hid, hr⟩)⟩
    | some r => exact Or.inr ⟨aid, r.1, r.2, hid, hr, rfl, by simp [eraseFirst, hr]⟩
  | publish pb =>
    rw [Ctx.handlePkt_publish_eq]
    refine Or.inl ⟨?_, rfl, Or.inl rfl⟩
    simp only [sendsOf_append]
    split <;> cases pb.packetId <;> simp
  | pubrel a => exact Or.inl ⟨rfl, rfl, Or.inr (Or.inl ⟨a, rfl⟩)⟩
  | disconnect d => exact Or.inl ⟨rfl, rfl, Or.inl rfl⟩
  | idle p h _ hi => rw [hi]; exact Or.inl ⟨rfl, rfl, Or.inl h⟩

/-- **Only the acknowledgement addressed to an operation completes it.** Handling an inbound packet `p` sends at
    most one value; if it sends `v` to oneshot `slot`, then `v` is `p` itself, `p` is an acknowledgement whose
    action identifier `aid` (its type and packet identifier) is the key under which `slot` was registered, that
    entry is the first one registered under `aid`, and exactly that entry leaves `awaiting` (all others stay, in
    order). If nothing is sent, `awaiting` is unchanged: operations whose acknowledgement has not arrived stay
    registered. -/
theorem only_own_ack_completes (c : Ctx) (alive : Nat → Bool) (p : RxPacket) (wok : Bool) :
    (sendsOf (c.handlePkt alive p wok).2.1).length ≤ 1 ∧
    (sendsOf (c.handlePkt alive p wok).2.1 = [] → (c.handlePkt alive p wok).1.awaiting = c.awaiting) ∧
    ∀ slot v, (slot, v) ∈ sendsOf (c.handlePkt alive p wok).2.1 →
      v = .pkt p ∧ sendsOf (c.handlePkt alive p wok).2.1 = [(slot, v)] ∧
      ∃ aid pre post, rxActionId p = some aid ∧ c.awaiting = pre ++ (aid, slot) :: post ∧
        aid ∉ pre.map (·.1) ∧ (c.handlePkt alive p wok).1.awaiting = pre ++ post := by
  rcases ack_completion_cases c alive p wok with ⟨hs, ha, _⟩ | ⟨aid, slot, rest, hid, hr, hs, ha⟩
  · rw [hs]; exact ⟨by simp, fun _ => ha, by simp⟩
  · rw [hs]
    refine ⟨by simp, by simp, ?_⟩
    intro slot' v hm
    simp only [List.mem_singleton, Prod.mk.injEq] at hm
    obtain ⟨rfl, rfl⟩ := hm
    obtain ⟨pre, post, h1, h2, h3⟩ := (removeFirst_some_iff _ _ _ _).1 hr
    exact ⟨rfl, rfl, aid, pre, post, hid, h1, h2, by rw [ha, h3]⟩

/-- A message from a handle is answered, if at all, on its own oneshot and never with a packet: the only values
    `handle_message` sends are "written" (`unit`, only for a fire-and-forget message whose write succeeded),
    "too large" and "quota exceeded". -/
theorem msg_replies_only_to_its_own_slot (c : Ctx) (m : Msg) (wok : Bool) :
    ∀ slot v, (slot, v) ∈ sendsOf (c.handleMsg m wok).2.1 →
      slot = m.slot ∧ (v = .unit ∨ v = .errSize ∨ v = .errQuota) ∧
      (v = .unit → (∃ pkt s, m = .ff pkt s) ∧ wok = true ∧ writesOf (c.handleMsg m wok).2.1 = [m.pkt]) := by
  intro slot v h
  obtain ⟨hs, hv⟩ := Ctx.handleMsg_sends (mem_sendsOf.mp h)
  rcases hv with ⟨rfl, _⟩ | ⟨rfl, _⟩ | ⟨rfl, hw, pkt, hm⟩
  · exact ⟨hs, Or.inr (Or.inl rfl), nofun⟩
  · exact ⟨hs, Or.inr (Or.inr rfl), nofun⟩
  · refine ⟨hs, Or.inl rfl, fun _ => ⟨⟨pkt, slot, hm⟩, hw, ?_⟩⟩
    -- a fire-and-forget request that is told "written" has written
    subst hm
    rcases Ctx.handleMsg_ff_cases c pkt slot wok with ⟨_, e⟩ | ⟨_, _, e⟩ | ⟨_, _, e⟩ <;> rw [e] at h ⊢
    · simp at h
    · simp at h
    · rfl

/-- the waiter list after a message: unchanged, or the message's own `(aid, slot)` appended at the end -/
theorem handleMsg_awaiting_cases (c : Ctx) (m : Msg) (wok : Bool) :
    (c.handleMsg m wok).1.awaiting = c.awaiting ∨
    ∃ aid, m.aid = some aid ∧ (c.handleMsg m wok).1.awaiting = c.awaiting ++ [(aid, m.slot)] :=
  Ctx.awaiting_handleMsg c m wok

/-- **Registered when sent (acknowledged operations).** A message that expects an acknowledgement and is accepted
    (size within the broker's limit, send quota not exhausted if it is a PUBLISH, write succeeded) appends its
    `(aid, slot)` at the END of `awaiting` — waiters are kept in issue order. -/
theorem registered_on_send (c : Ctx) (aid : Nat) (pkt : Bytes) (slot : Nat)
    (hs : c.sizeOk pkt = true) (hq : pktType pkt = 3 → c.quota ≠ 0) :
    (c.handleMsg (.awaitAck aid pkt slot) true).1.awaiting = c.awaiting ++ [(aid, slot)] := by
  have hq' : ¬ (pktType pkt = 3 ∧ c.quota = 0) := fun h => hq h.1 h.2
  simp [Ctx.handleMsg_awaitAck_eq, hs, hq']

/-- **Registered when sent (subscribe).** An accepted SUBSCRIBE appends its waiter at the end of `awaiting`
    (whether or not the write then succeeds). -/
theorem registered_on_send_subscribe (c : Ctx) (aid sid : Nat) (pkt : Bytes) (slot ch : Nat) (wok : Bool)
    (hs : c.sizeOk pkt = true) :
    (c.handleMsg (.subscribe aid sid pkt slot ch) wok).1.awaiting = c.awaiting ++ [(aid, slot)] := by
  simp [Ctx.handleMsg_subscribe_eq, hs]

/-- **Pings complete in issue order.** All pings share the key `actionId 13 0`; with two of them registered
    (`s₁` before `s₂`, no ping before `s₁`), a PINGRESP completes `s₁` with that PINGRESP, leaves `s₂` and every
    other waiter registered in order, sends nothing else and writes nothing. -/
theorem pings_fifo (c : Ctx) (alive : Nat → Bool) (wok : Bool) (pre mid post : List (Nat × Nat)) (s₁ s₂ : Nat)
    (hpre : actionId 13 0 ∉ pre.map (·.1))
    (haw : c.awaiting = pre ++ (actionId 13 0, s₁) :: (mid ++ (actionId 13 0, s₂) :: post)) :
    c.handlePkt alive .pingresp wok =
      ({ c with awaiting := pre ++ (mid ++ (actionId 13 0, s₂) :: post) }, [.send s₁ (.pkt .pingresp)], .cont) := by
  have h : removeFirst (actionId 13 0) c.awaiting = some (s₁, pre ++ (mid ++ (actionId 13 0, s₂) :: post)) := by
    rw [haw]; exact removeFirst_append_of_not_mem _ _ _ _ hpre
  rw [Ctx.handlePkt_ack_eq c alive .pingresp wok _ rfl (fun _ h => by cases h), Ctx.complete_effs,
    lookupFirst_eq_removeFirst, eraseFirst_of_removeFirst h, h]
  rfl

/-- **Identifier uniqueness is an invariant of `awaiting`.** If the non-ping keys of `awaiting` are pairwise
    distinct and the action identifier of a new message is not among the registered keys (packet identifiers of
    outstanding operations are unique — C11 — and `actionId_injective`), they are still pairwise distinct after
    the context handled any input. -/
theorem awaiting_keys_nodup_preserved (c : Ctx) (i : CIn)
    (hinv : (nonPingKeys c.awaiting).Nodup)
    (hnew : ∀ m wok aid, i = .msg m wok → m.aid = some aid → aid ≠ actionId 13 0 → aid ∉ c.awaiting.map (·.1)) :
    (nonPingKeys (c.stepIn i).1.awaiting).Nodup := by
  cases i with
  | msg m wok =>
    simp only [Ctx.stepIn]
    rcases handleMsg_awaiting_cases c m wok with h | ⟨aid, ha, h⟩
    · rw [h]; exact hinv
    · rw [h, nonPingKeys_append]
      by_cases hp : aid = actionId 13 0
      · simpa [nonPingKeys, hp] using hinv
      · have hk : nonPingKeys [(aid, m.slot)] = [aid] := by simp [nonPingKeys, hp]
        rw [hk, nodup_append_singleton]
        exact ⟨hinv, fun ha' => hnew m wok aid rfl ha hp (List.mem_filter.1 ha').1⟩
  | pkt p dead wok =>
    simp only [Ctx.stepIn]
    rcases ack_completion_cases c (fun ch => ch ∉ dead) p wok with ⟨_, ha, _⟩ | ⟨aid, slot, rest, _, hr, _, ha⟩
    · rw [ha]; exact hinv
    · rw [ha]
      exact List.Nodup.sublist (nonPingKeys_sublist (removeFirst_sublist _ _ _ _ hr)) hinv

/-- **A packet completes THE operation registered with its type and identifier.** Under the invariant of
    `awaiting_keys_nodup_preserved`, if `slot` is registered under the non-ping action identifier of the
    acknowledgement `p` (any acknowledgement the context completes waiters for, i.e. not a PUBREL), then handling
    `p` completes exactly `slot`, with `p`, wherever in the list it is and whatever else is outstanding. -/
theorem own_ack_completes_the_registered_operation (c : Ctx) (alive : Nat → Bool) (p : RxPacket) (wok : Bool)
    (aid slot : Nat) (hinv : (nonPingKeys c.awaiting).Nodup) (hreg : (aid, slot) ∈ c.awaiting)
    (haid : rxActionId p = some aid) (hnp : aid ≠ actionId 13 0) (hrel : ∀ a, p ≠ .pubrel a) :
    sendsOf (c.handlePkt alive p wok).2.1 = [(slot, .pkt p)] ∧
    (aid, slot) ∉ (c.handlePkt alive p wok).1.awaiting := by
  obtain ⟨pre, post, h1, h2, h3⟩ := User.once_of_filter_nodup hinv (by simpa using hnp) hreg
  have hr : removeFirst aid c.awaiting = some (slot, pre ++ post) :=
    (removeFirst_some_iff _ _ _ _).2 ⟨pre, post, h1, h2, rfl⟩
  rcases ack_completion_cases c alive p wok with
    ⟨_, _, h | ⟨a, rfl⟩ | ⟨aid', h, hn⟩⟩ | ⟨aid', slot', rest', hid, hr', hs, ha⟩
  · rw [haid] at h; cases h
  · exact absurd rfl (hrel a)
  · rw [haid] at h; cases h; rw [hr] at hn; cases hn
  · rw [haid] at hid; cases hid
    rw [hr] at hr'; cases hr'
    refine ⟨hs, ?_⟩
    rw [ha]; simp only [List.mem_append, not_or]
    exact ⟨fun h => h2 (List.mem_map.2 ⟨_, h, rfl⟩), fun h => h3 (List.mem_map.2 ⟨_, h, rfl⟩)⟩

/-- **Pending operations stay pending.** Polling a future whose oneshot has no value yet produces no `DONE`
    (nothing is emitted at all) and changes nothing but the registration of its waker. -/
theorem pending_stays_pending (w : World) (id s : Nat) (k : Wait)
    (hop : w.opSt id = some (.wait s k)) (hs : w.slot s = some .empty) :
    w.pollOp id = { w with slotReg := if s ∈ w.slotReg then w.slotReg else w.slotReg ++ [s] } ∧
    (w.pollOp id).out = w.out ∧ (w.pollOp id).ops = w.ops ∧ (w.pollOp id).slots = w.slots ∧
    (w.pollOp id).queue = w.queue ∧ (w.pollOp id).c = w.c := by
  rw [World.pollOp_of_empty hop (Or.inr hs)]; exact ⟨rfl, rfl, rfl, rfl, rfl, rfl⟩

/-- **The value sent by the context is the value the future is resumed with.** The effect `send slot v` on an
    empty oneshot stores `v` (a second send into the same oneshot changes nothing: a oneshot carries one value);
    the next poll of the future waiting on that oneshot is `resumeOp` with exactly `v`. -/
theorem completion_reaches_the_future (w : World) (id s : Nat) (k : Wait) (v : SlotVal)
    (hop : w.opSt id = some (.wait s k)) (hs : w.slot s = some .empty) :
    (w.sendSlot s v).slot s = some (.full v) ∧
    (∀ v', ((w.sendSlot s v).sendSlot s v') = w.sendSlot s v) ∧
    (w.sendSlot s v).pollOp id = (w.sendSlot s v).resumeOp id s k v := by
  obtain ⟨wk, sr, e⟩ := sendSlot_of_empty w s v hs
  have h1 : (w.sendSlot s v).slot s = some (.full v) := by rw [e]; exact lookupFirst_setAssoc_self _ _ _
  have h2 : (w.sendSlot s v).opSt id = some (.wait s k) := by rw [e]; exact hop
  refine ⟨h1, fun v' => sendSlot_noop _ s v' (by rw [h1]; simp), ?_⟩
  exact World.pollOp_of_full h2 h1

/-- **The result carries the acknowledgement's content.** A future resumed with the acknowledgement it waits for
    emits exactly one `DONE`, built from that packet: success, or the error of its kind with the packet's reason
    code, reason string and user properties, or (SUBACK/UNSUBACK) the packet's reason string, user properties and
    reason codes; and the operation leaves `ops`. -/
theorem resumeOp_content (w : World) (id s : Nat) :
    (∀ a : AckRx, (w.resumeOp id s .puback (.pkt (.puback a))).out = w.out ++ [.done id
        (if a.reason ≥ 128 then .errAck .pubackError a.reason a.reasonString a.userProps else .ok)]) ∧
    (∀ a : AckRx, (w.resumeOp id s .pubcomp (.pkt (.pubcomp a))).out = w.out ++ [.done id
        (if a.reason ≥ 128 then .errAck .pubcompError a.reason a.reasonString a.userProps else .ok)]) ∧
    (∀ a : AckRx, a.reason ≥ 128 → (w.resumeOp id s .pubrec (.pkt (.pubrec a))).out = w.out ++ [.done id
        (.errAck .pubrecError a.reason a.reasonString a.userProps)]) ∧
    (∀ a : SubackRx, (w.resumeOp id s .suback (.pkt (.suback a))).out = w.out ++ [.done id
        (.okAck false a.reasonString a.userProps a.payload)]) ∧
    (∀ a : SubackRx, (w.resumeOp id s .unsuback (.pkt (.unsuback a))).out = w.out ++ [.done id
        (.okAck true a.reasonString a.userProps a.payload)]) ∧
    ((w.resumeOp id s .pingresp (.pkt .pingresp)).out = w.out ++ [.done id .ok]) := by
  refine ⟨?_, ?_, ?_, ?_, ?_, ?_⟩
  · intro a; rw [resumeOp_puback, User.finishOp_out]; rfl
  · intro a; rw [resumeOp_pubcomp, User.finishOp_out]; rfl
  · intro a h; rw [resumeOp_pubrec_refused w id s a h, User.finishOp_out]; rfl
  · intro a; exact User.finishOp_out _ _ _
  · intro a; exact User.finishOp_out _ _ _
  · exact User.finishOp_out _ _ _

/-- In each of those cases the operation is removed from `ops` (and its oneshot from `slots`). -/
theorem resumeOp_removes_op (w : World) (id s : Nat) :
    (∀ a : AckRx, (w.resumeOp id s .puback (.pkt (.puback a))).ops = eraseFirst id w.ops) ∧
    (∀ a : AckRx, (w.resumeOp id s .pubcomp (.pkt (.pubcomp a))).ops = eraseFirst id w.ops) ∧
    (∀ a : AckRx, a.reason ≥ 128 → (w.resumeOp id s .pubrec (.pkt (.pubrec a))).ops = eraseFirst id w.ops) ∧
    (∀ a : SubackRx, (w.resumeOp id s .suback (.pkt (.suback a))).ops = eraseFirst id w.ops) ∧
    (∀ a : SubackRx, (w.resumeOp id s .unsuback (.pkt (.unsuback a))).ops = eraseFirst id w.ops) ∧
    ((w.resumeOp id s .pingresp (.pkt .pingresp)).ops = eraseFirst id w.ops) := by
  refine ⟨?_, ?_, ?_, ?_, ?_, ?_⟩
  · intro a; rw [resumeOp_puback, User.finishOp_ops]; rfl
  · intro a; rw [resumeOp_pubcomp, User.finishOp_ops]; rfl
  · intro a h; rw [resumeOp_pubrec_refused w id s a h, User.finishOp_ops]; rfl
  · intro a; exact User.finishOp_ops _ _ _
  · intro a; exact User.finishOp_ops _ _ _
  · exact User.finishOp_ops _ _ _

/-- **Never twice.** A future that is no longer in `ops` does nothing when polled: no second `DONE`. -/
theorem pollOp_absent (w : World) (id : Nat) (h : w.opSt id = none) : w.pollOp id = w := World.pollOp_of_none h

/-- …and a finished operation is absent: operation ids are unique in `ops` (the `op` event refuses an id in use),
    so removing the entry leaves none. -/
theorem finishOp_opSt_none (w : World) (id : Nat) (r : DoneRes) (hn : (w.ops.map (·.1)).Nodup) :
    (w.finishOp id r).opSt id = none := by
  simp [opSt, lookupFirst_eraseFirst_self id w.ops hn]

/-- two outstanding QoS 1 publishes, acknowledged in reverse order: each PUBACK completes its own oneshot -/
example :
    let c : Ctx := { awaiting := [(actionId 4 1, 10), (actionId 4 2, 12)] }
    sendsOf (c.handlePkt (fun _ => true) (.puback { packetId := 2 }) true).2.1 = [(12, .pkt (.puback { packetId := 2 }))] ∧
    (c.handlePkt (fun _ => true) (.puback { packetId := 2 }) true).1.awaiting = [(actionId 4 1, 10)] := by
  decide

/-- a SUBACK with the identifier of an outstanding publish completes nothing -/
example :
    let c : Ctx := { awaiting := [(actionId 4 1, 10)] }
    sendsOf (c.handlePkt (fun _ => true) (.suback { packetId := 1 }) true).2.1 = [] := by decide

/-- the hypotheses of `pings_fifo` are satisfiable -/
example : ∃ c : Ctx, c.awaiting = [] ++ (actionId 13 0, 2) :: ([(actionId 4 7, 4)] ++ (actionId 13 0, 6) :: []) :=
  ⟨{ awaiting := [(actionId 13 0, 2), (actionId 4 7, 4), (actionId 13 0, 6)] }, rfl⟩

#print axioms actionId_injective
#print axioms removeFirst_spec
#print axioms ack_completion_cases
#print axioms only_own_ack_completes
#print axioms msg_replies_only_to_its_own_slot
#print axioms handleMsg_awaiting_cases
#print axioms registered_on_send
#print axioms registered_on_send_subscribe
#print axioms pings_fifo
#print axioms awaiting_keys_nodup_preserved
#print axioms own_ack_completes_the_registered_operation
#print axioms pending_stays_pending
#print axioms completion_reaches_the_future
#print axioms resumeOp_content
#print axioms resumeOp_removes_op
#print axioms pollOp_absent
#print axioms finishOp_opSt_none

end Poster

/-
  Properties/C06.lean — C06: outbound QoS 1/2 publishes follow the MQTT handshake and report its outcome.

  `ContextHandle::publish` (World.startOp / resumeOp) builds one PUBLISH, hands it to the context together with
  the action identifier of the acknowledgement it expects, and (QoS 2) answers a successful PUBREC with one PUBREL
  carrying the same packet identifier. The context (`Ctx.handleMsg`) writes the packet once, as encoded.
-/
import PosterModel.Lemmas.UserCtx
import PosterModel.Lemmas.WorldShape
import PosterModel.Lemmas.CtxPkt

namespace Poster
open World User

/-- A valid QoS 0 publish queues exactly one fire-and-forget message with the encoded packet, takes no packet
    identifier, and then waits for the "written" notification on its oneshot `2*id`. -/
theorem startOp_publish_qos0 (w : World) (id : Nat) (t : PublishTx) (hv : t.valid = true) (hq : t.qos = 0)
    (hc : w.hasCtx = true) :
    (w.startOp id (.publish t)).queue = w.queue ++ [.ff t.encode (2 * id)] ∧
    (w.startOp id (.publish t)).pidCtr = w.pidCtr ∧
    (w.startOp id (.publish t)).opSt id = some (.wait (2 * id) .ff) ∧
    (w.startOp id (.publish t)).out = w.out := by
  have h := startOp_accepted w id (.publish t) hc (by simpa only [completeReq, hq, if_true, Req.accepted] using hv)
  simp only [reqMsg, Req.wait, hq, if_true] at h
  exact ⟨h.1, by rw [(startOp_counters w id _).1, allocFor, if_pos hq], h.2.1, h.2.2.1⟩

/-- A valid QoS 1 or QoS 2 publish takes the next packet identifier `pid`, queues exactly one message: the PUBLISH
    encoded with that identifier, registered for the acknowledgement `PUBACK pid` (QoS 1) resp. `PUBREC pid`
    (QoS 2), and waits for that acknowledgement. Nothing is reported yet. -/
theorem startOp_publish_qos12 (w : World) (id : Nat) (t : PublishTx) (hq : t.qos = 1 ∨ t.qos = 2)
    (hv : ({ t with packetId := some w.pidCtr } : PublishTx).valid = true) (hc : w.hasCtx = true) :
    (w.startOp id (.publish t)).queue = w.queue ++
      [.awaitAck (actionId (if t.qos = 1 then 4 else 5) w.pidCtr)
         ({ t with packetId := some w.pidCtr } : PublishTx).encode (2 * id)] ∧
    (w.startOp id (.publish t)).opSt id = some (.wait (2 * id) (if t.qos = 1 then .puback else .pubrec)) ∧
    (w.startOp id (.publish t)).out = w.out := by
  have hq0 : t.qos ≠ 0 := by omega
  have h := startOp_accepted w id (.publish t) hc (by simpa only [completeReq, hq0, if_false, Req.accepted] using hv)
  simp only [reqMsg, Req.wait, hq0, if_false] at h
  exact ⟨h.1, h.2.1, h.2.2.1⟩

/-- The validity of the packet with the identifier filled in only depends on the topic being present. -/
theorem publish_valid_with_pid (t : PublishTx) (pid : Nat) :
    ({ t with packetId := some pid } : PublishTx).valid = t.topic.isSome := by
  simp [PublishTx.valid]

/-- **Written exactly once, as encoded.** An accepted PUBLISH (size ok, quota left, write succeeds) causes exactly
    one write, of exactly the bytes the caller's encoder produced; nothing is sent to the oneshot yet; the copy kept
    for retransmission has the DUP bit set; the send quota goes down by one; the waiter is registered. -/
theorem publish_written_once_dup0 (c : Ctx) (aid : Nat) (pkt : Bytes) (slot : Nat)
    (hs : c.sizeOk pkt = true) (hq : c.quota ≠ 0) (ht : pktType pkt = 3) :
    c.handleMsg (.awaitAck aid pkt slot) true =
      ({ c with quota := c.quota - 1, awaiting := c.awaiting ++ [(aid, slot)],
                retx := c.retx ++ [(aid, setDup pkt)] }, [.write pkt], .cont) ∧
    writesOf (c.handleMsg (.awaitAck aid pkt slot) true).2.1 = [pkt] := by
  have : c.handleMsg (.awaitAck aid pkt slot) true =
      ({ c with quota := c.quota - 1, awaiting := c.awaiting ++ [(aid, slot)],
                retx := c.retx ++ [(aid, setDup pkt)] }, [.write pkt], .cont) := by
    simp [Ctx.handleMsg_awaitAck_eq, Ctx.retxEntry, hs, hq, ht]
  rw [this]; exact ⟨rfl, rfl⟩

/-- **DUP = 0 on the first transmission.** The encoder puts the caller's DUP flag into bit 3 of the first byte;
    a publish built with `dup = false` (the builder default; `publish()` never sets it) has that bit clear, and
    the byte is the PUBLISH type with the requested QoS and RETAIN bits. -/
theorem encode_dup_clear (t : PublishTx) (h : t.dup = false) (hq : t.qos ≤ 2) :
    ∃ rest, t.encode = UInt8.ofNat t.fixedHdr :: rest ∧ t.fixedHdr / 8 % 2 = 0 ∧
      (UInt8.ofNat t.fixedHdr).toNat = 48 + t.qos * 2 + b2n t.retain ∧ pktType t.encode = 3 := by
  have hr := b2n_le t.retain
  have hf : t.fixedHdr = 48 + t.qos * 2 + b2n t.retain := by simp only [PublishTx.fixedHdr, h, b2n]; rfl
  obtain ⟨rest, e⟩ := publish_encode_head t
  refine ⟨rest, e, ?_, ?_, pktType_publish_encode t hq⟩
  · omega
  · rw [UInt8.toNat_ofNat']; omega

/-- The retransmission copy differs from the written packet only in the DUP bit of the first byte. -/
theorem setDup_first_byte (b : UInt8) (rest : Bytes) :
    setDup (b :: rest) = UInt8.ofNat (b.toNat ||| 8) :: rest := rfl

/-- **QoS 0 completes once written.** The fire-and-forget message, handled with a successful write and within
    the size limit, writes the packet and notifies its oneshot with `unit` in the same step; the future resumed
    with `unit` reports success. -/
theorem qos0_completes_when_written (c : Ctx) (pkt : Bytes) (slot : Nat) (hs : c.sizeOk pkt = true)
    (w : World) (id s : Nat) :
    (c.handleMsg (.ff pkt slot) true).2.1 = [.write pkt, .send slot .unit] ∧
    (c.handleMsg (.ff pkt slot) true).1 = c ∧
    (w.resumeOp id s .ff .unit).out = w.out ++ [.done id .ok] := by
  refine ⟨by simp [Ctx.handleMsg_ff_eq, hs], by simp [Ctx.handleMsg_ff_eq, hs], by simp [resumeOp, clearSlot]⟩

/-- **PUBACK outcome.** Reason ≥ 0x80: `publish()` fails with `PubackError` carrying the packet's reason, reason
    string and user properties; any smaller reason is success. Nothing is queued. -/
theorem puback_outcome (w : World) (id s : Nat) (a : AckRx) :
    (w.resumeOp id s .puback (.pkt (.puback a))).out = w.out ++ [.done id
      (if a.reason ≥ 128 then .errAck .pubackError a.reason a.reasonString a.userProps else .ok)] ∧
    (w.resumeOp id s .puback (.pkt (.puback a))).queue = w.queue := by
  rw [resumeOp_puback]; exact ⟨User.finishOp_out _ _ _, World.finishOp_queue _ _ _⟩

/-- **PUBCOMP outcome.** Same rule with `PubcompError`. -/
theorem pubcomp_outcome (w : World) (id s : Nat) (a : AckRx) :
    (w.resumeOp id s .pubcomp (.pkt (.pubcomp a))).out = w.out ++ [.done id
      (if a.reason ≥ 128 then .errAck .pubcompError a.reason a.reasonString a.userProps else .ok)] ∧
    (w.resumeOp id s .pubcomp (.pkt (.pubcomp a))).queue = w.queue := by
  rw [resumeOp_pubcomp]; exact ⟨User.finishOp_out _ _ _, World.finishOp_queue _ _ _⟩

/-- **PUBREC outcome.** Reason ≥ 0x80: `publish()` fails with `PubrecError` carrying the reason, and NO message
    is queued — after a failing PUBREC no PUBREL is ever sent. Reason < 0x80 (context alive): exactly one message is
    appended to the queue, the PUBREL with the PUBREC's packet identifier, registered for `PUBCOMP` with the same
    identifier; nothing is reported yet and the future now waits for the PUBCOMP on its second oneshot. -/
theorem pubrec_outcome (w : World) (id s : Nat) (a : AckRx) :
    (a.reason ≥ 128 →
      (w.resumeOp id s .pubrec (.pkt (.pubrec a))).out = w.out ++ [.done id
        (.errAck .pubrecError a.reason a.reasonString a.userProps)] ∧
      (w.resumeOp id s .pubrec (.pkt (.pubrec a))).queue = w.queue) ∧
    (a.reason < 128 → w.hasCtx = true →
      (w.resumeOp id s .pubrec (.pkt (.pubrec a))).queue = w.queue ++
        [.awaitAck (actionId 7 a.packetId) (ackBytes 0x62 a.packetId) (s + 1)] ∧
      (w.resumeOp id s .pubrec (.pkt (.pubrec a))).out = w.out ∧
      (w.resumeOp id s .pubrec (.pkt (.pubrec a))).opSt id = some (.wait (s + 1) .pubcomp)) := by
  constructor
  · intro h; rw [resumeOp_pubrec_refused w id s a h]; exact ⟨User.finishOp_out _ _ _, World.finishOp_queue _ _ _⟩
  · intro h hc
    have e0 := resumeOp_pubrec_accepted w id s a h
    obtain ⟨wk, qr, e⟩ := sendAwait_ctx (w.clearSlot s)
      (.awaitAck (actionId 7 a.packetId) (ackBytes 0x62 a.packetId) (s + 1)) id (s + 1) .pubcomp hc
    rw [e0, e]
    exact ⟨rfl, rfl, lookupFirst_setAssoc_self _ _ _⟩

/-- The PUBREL is a PUBREL: packet type 6 with the reserved flags 0010. -/
theorem pubrel_bytes (pid : Nat) : ∃ rest, ackBytes 0x62 pid = 0x62 :: rest ∧ pktType (ackBytes 0x62 pid) = 6 := by
  obtain ⟨rest, e⟩ := ackBytes_head 0x62 pid
  exact ⟨rest, e, by rw [pktType_ackBytes]⟩

/-- **A PUBREL is only ever queued in answer to a successful PUBREC.**
    (1) Starting an operation queues at most one message and never a PUBREL (packet type 6) — for a publish whose
        QoS is one of 0, 1, 2, which is all the `QoS` enum of the library has.
    (2) Resuming a future leaves the queue alone, except in the one case of `pubrec_outcome`: the future waits for
        a PUBREC, is resumed with a PUBREC whose reason is < 0x80, and then appends exactly that PUBREL.
    `sendMsg` is used nowhere else on the user side, and the context writes messages as given
    (`handleMsg_writes`); so however long the future is left unpolled in between (`pending_stays_pending`: a
    poll without a value changes nothing), a PUBREL reaches the wire only after a PUBREC with reason < 0x80 was
    delivered to that operation. -/
theorem pubrel_only_from_pubrec (w : World) (id : Nat) :
    (∀ req, (∀ t, req = .publish t → t.qos ≤ 2) →
      (w.startOp id req).queue = w.queue ∨
      ∃ m, (w.startOp id req).queue = w.queue ++ [m] ∧ pktType m.pkt ≠ 6) ∧
    (∀ s k v,
      (w.resumeOp id s k v).queue = w.queue ∨
      ∃ a, k = .pubrec ∧ v = .pkt (.pubrec a) ∧ a.reason < 128 ∧ w.hasCtx = true ∧
        (w.resumeOp id s k v).queue = w.queue ++
          [.awaitAck (actionId 7 a.packetId) (ackBytes 0x62 a.packetId) (s + 1)]) := by
  refine ⟨fun req hreq => ?_, fun s k v => (resumeOp_outcome w id s k v).2.2⟩
  obtain ⟨w0, hp, ⟨k, _, e, _⟩ | ⟨hc, _, _, hv⟩⟩ := startOp_spec w id req
  · left; rw [e, World.finishOp_queue, (hp 0).queue]
  · exact Or.inr ⟨_, (startOp_accepted w id req hc hv).1, reqMsg_ne_pubrel w id req hreq⟩

/-- The context itself never originates a PUBREL: the packets `handle_packet` writes on its own are the
    acknowledgements PUBACK / PUBREC (for an inbound PUBLISH) and PUBCOMP (for an inbound PUBREL). -/
theorem handlePkt_never_writes_pubrel (c : Ctx) (alive : Nat → Bool) (p : RxPacket) (wok : Bool) :
    ∀ b ∈ writesOf (c.handlePkt alive p wok).2.1, pktType b ≠ 6 := by
  intro b hb
  rw [Ctx.handlePkt_writes] at hb
  -- the only packets written are PUBACK / PUBREC (0x40 / 0x50) and PUBCOMP (0x70)
  split at hb
  · split at hb
    · cases hb
    · rw [List.mem_singleton.1 hb, pktType_ackBytes]; split <;> decide
  · rw [List.mem_singleton.1 hb, pktType_ackBytes]; decide
  · cases hb

/-- a QoS 2 publish: PUBLISH queued with identifier 1 for PUBREC 1; after PUBREC(0) the PUBREL 1 is queued -/
example :
    let t : PublishTx := { qos := 2, topic := some [97] }
    let w : World := { hasCtx := true }
    (w.startOp 3 (.publish t)).queue = [.awaitAck (actionId 5 1) ({ t with packetId := some 1 } : PublishTx).encode 6] ∧
    ((w.startOp 3 (.publish t)).resumeOp 3 6 .pubrec (.pkt (.pubrec { packetId := 1 }))).queue.length = 2 ∧
    ((w.startOp 3 (.publish t)).resumeOp 3 6 .pubrec (.pkt (.pubrec { packetId := 1, reason := 0x80 }))).queue.length = 1 := by
  decide

example : ({ qos := 1, topic := some [97], retain := true } : PublishTx).fixedHdr / 8 % 2 = 0 := by decide

#print axioms startOp_publish_qos0
#print axioms startOp_publish_qos12
#print axioms publish_valid_with_pid
#print axioms publish_written_once_dup0
#print axioms handleMsg_writes
#print axioms encode_dup_clear
#print axioms setDup_first_byte
#print axioms qos0_completes_when_written
#print axioms puback_outcome
#print axioms pubcomp_outcome
#print axioms pubrec_outcome
#print axioms pubrel_bytes
#print axioms pubrel_only_from_pubrec
#print axioms handlePkt_never_writes_pubrel

end Poster

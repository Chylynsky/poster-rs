/-
  Properties/C13World.lean — C13 at the level of whole scripts: where the `RET` lines of a transcript come from,
  why `run()` returned, and that nothing is written after it returned.

  C13: "connect()/authorize() return the server's CONNACK as ConnectRsp when its reason is < 0x80, ConnectError
  with that reason when it is >= 0x80, AuthRsp for an AUTH challenge, and SocketClosed if the transport ends
  first. run() returns Ok(()) once the user's DISCONNECT has been written (writing nothing after it) or a server
  DISCONNECT with reason 0 arrives, Disconnected carrying the server's reason and properties for any other
  server DISCONNECT, SocketClosed on end-of-stream or transport error, HandleClosed once every handle is dropped,
  and an error for undecodable input; it does not return while none of these has happened."
-/
import PosterModel.Properties.C13
import PosterModel.Lemmas.WorldRet
import PosterModel.Lemmas.WorldEx
import PosterModel.Lemmas.WorldOpsEx


namespace Poster
open Framing World World.W7

/-- **Only a poll of the context task logs a `RET`.** In any world: polling a handle future or a stream logs no
    `RET` line; no script event other than `poll` logs one; and one poll of the context task either lets the call go
    on (the task is the same up to its "polled before" flag and only `W` / `WRAW` lines are appended) or ends it:
    then the task is gone, and `W` / `WRAW` lines followed by exactly one last line are appended, which is the `RET`
    of the call that was executing (or a panic of the context task). -/
theorem ret_logged_only_by_context_poll (w : World) :
    (∀ t, t ≠ .ctx → OutExtP NoRet w (w.pollTask t)) ∧
    (∀ e, (∀ t, e ≠ .poll t) → OutExtP NoRet w (w.apply e)) ∧
    ((TaskNext w.task w.pollCtx.task ∧ OutExt w w.pollCtx) ∨
     (w.pollCtx.task = .none ∧ ∃ pre last, Quiet pre ∧ w.pollCtx.out = w.out ++ pre ++ [last] ∧
       ((∃ c r, last = .ret c r ∧ taskCall w.task = some c) ∨ ∃ cls, last = .panic .ctx cls))) := by
  refine ⟨fun t ht => ?_, fun e he => ?_, pollCtx_shape w⟩
  · exact outExtP_mono (pollTask_user w t ht).2 (fun _ h => noRet_of_plain (plain_of_taskLine ht h))
  · exact outExtP_mono (apply_dull w e he) fun _ h => noRet_of_plain (plain_of_dull h)

/-- **A call is accepted only while no call is executing**: a `connect` / `authorize` / `run` event that arrives
    while the context task exists is a script error (nothing is started; the script stops). -/
theorem call_event_refused_while_call_in_flight (w : World) (e : Ev) (c : Call) (hc : isCallEv e = some c)
    (ht : w.task ≠ .none) : w.apply e = w.badScript := by
  cases e with
  | connect t => simp [World.apply, ht]
  | authorize t => simp [World.apply, ht]
  | run => simp [World.apply, ht]
  | _ => cases hc

/-- **Returns are bounded by calls, in every reachable world.** For each of `connect`, `authorize`, `run`: the `RET`
    lines logged so far for that call, plus one if that call is still executing, do not exceed the events logged so
    far that start it. So between an accepted call event and its `RET` (or the `dropFut` / `dropCtx` that cancels it)
    exactly that one call is in flight, and it returns at most once. -/
theorem returns_bounded_by_calls (cfg : Cfg) (evs : List Ev) (c : Call) :
    let w := evs.foldl World.step { cfg := cfg }
    retCount c w.out + inFlight w c ≤ callCount c w.out :=
  during_callInv (during_run cfg evs) c

/-- **Each call returns at most once.** In the transcript of any script, for each of `connect`, `authorize`, `run`,
    the number of `RET` lines of that call is at most the number of events that start it. -/
theorem each_call_returns_at_most_once (cfg : Cfg) (evs : List Ev) (c : Call) :
    retCount c (World.run cfg evs) ≤ callCount c (World.run cfg evs) := by
  have := during_callInv (during_script cfg evs).1 c
  rw [(during_script cfg evs).2]
  omega

/-- **Every `RET` line of a transcript was logged by a poll of the context task that ended the call.** If the
    transcript of a script is `pre ++ RET c r :: post`, there was a moment `w0` of the execution at which the call `c`
    was executing, the poll of the context task from `w0` produced exactly the transcript `pre ++ [RET c r]` and
    left no context task behind, and the end of the script is reached from there by elementary transitions. -/
theorem ret_comes_from_a_context_poll (cfg : Cfg) (evs : List Ev) (pre post : List Obs) (c : Call) (r : RetRes)
    (h : World.run cfg evs = pre ++ .ret c r :: post) :
    ∃ w0, During cfg w0 ∧ taskCall w0.task = some c ∧ w0.pollCtx.task = .none ∧
      w0.pollCtx.out = pre ++ [.ret c r] ∧ Reaches w0.pollCtx (evs.foldl World.step { cfg := cfg }).finishScript :=
  during_ret_origin (during_script cfg evs).1 h

/-- **Every `RET run r` of a transcript has a documented cause.** If the transcript of a script is
    `pre ++ RET run r :: post`, there was a moment `w0` of the execution at which `run()` was executing (`started`: it
    had been polled before), the poll of the context task from `w0` produced exactly the transcript
    `pre ++ [RET run r]`, and `r` is justified by `ReturnCause`: on a first poll the transport failed while the
    unfinished handshakes were re-sent (`SocketClosed`); or, after iterations of the loop that went on, the iteration
    starting in some world `wm` ended the call for one of the causes of `EndCause` (see `run_result_causes`). -/
theorem run_returns_only_for_a_cause (cfg : Cfg) (evs : List Ev) (pre post : List Obs) (r : RetRes)
    (h : World.run cfg evs = pre ++ .ret .run r :: post) :
    ∃ w0 started, During cfg w0 ∧ w0.task = .running started ∧ w0.pollCtx.task = .none ∧
      w0.pollCtx.out = pre ++ [.ret .run r] ∧ ReturnCause w0 started w0.pollCtx r ∧
      Reaches w0.pollCtx (evs.foldl World.step { cfg := cfg }).finishScript := by
  obtain ⟨w0, hd, hc, hn, ho, hr⟩ := during_ret_origin (during_script cfg evs).1 h
  obtain ⟨s, ht⟩ := running_of_call_run (during_taskOk hd) hc
  exact ⟨w0, s, hd, ht, hn, ho, pollRun_ret_cause w0 s ht hn ho, hr⟩

/-- **The causes, result by result.** If the poll of `run()` from `w` (`fin` = the world after it) returned `r` for
    the cause `ReturnCause w started fin r`, then, with `wm` the world at the start of the last iteration of that poll
    (`InPoll w started wm`: reached from `w` — on a first poll from `w.resent` — by iterations that go on):
    * `r = Ok` only if the user's DISCONNECT (a fire-and-forget message whose packet has type 14, within the size limit)
      was at the head of the queue in `wm` and the transport took it — then `fin` is `wm` with that packet written, its
      caller notified and `RET run Ok` logged right after the write — or nothing was queued and the next frame decoded
      to a server DISCONNECT with reason 0;
    * `r = Disconnected d` only if nothing was queued and the next frame decoded to the server DISCONNECT `d` itself,
      with `d.reason ≠ 0`;
    * `r = HandleClosed` only if no sender of the message queue existed when the poll started (`w.senders = 0`: every
      handle and every pending handle future was gone) and everything queued had been handled (`fin.queue = []`);
    * `r = SocketClosed` only if the transport failed while unfinished handshakes were re-sent (first poll), or the framing
      layer reported the end of the stream (end of stream, read error, malformed length), or a write was due — the
      request at the head of the queue, or the acknowledgement of the inbound packet just decoded — and the transport
      refused it;
    * a codec error only if nothing was queued and the next complete frame did not decode. -/
theorem run_result_causes {w fin : World} {started : Bool} {r : RetRes} (h : ReturnCause w started fin r) :
    (r = .ok → ∃ wm : World, InPoll w started wm ∧
      ((∃ pkt slot q, wm.queue = .ff pkt slot :: q ∧ pktType pkt = 14 ∧ wm.c.sizeOk pkt = true ∧
        wm.canWrite pkt.length = true ∧
        fin = ((({ wm with queue := q }).writeBytes pkt).sendSlot slot .unit).finish .run .ok) ∨
      (∃ rx' rd' fr d, wm.queue = [] ∧ wm.senders ≠ 0 ∧ pollNext wm.rx wm.reader = (rx', rd', .item fr) ∧
        decodeRx fr = .ok (.disconnect d) ∧ d.reason = 0))) ∧
    (∀ d, r = .disconnected d → ∃ (wm : World) (rx' : Rx) (rd' : List ReadEv) (fr : Bytes), InPoll w started wm ∧
      wm.queue = [] ∧ wm.senders ≠ 0 ∧ pollNext wm.rx wm.reader = (rx', rd', .item fr) ∧
      decodeRx fr = .ok (.disconnect d) ∧ d.reason ≠ 0) ∧
    (r = .err .handleClosed → w.senders = 0 ∧ fin.queue = [] ∧ fin.senders = 0) ∧
    (r = .err .socketClosed →
      (started = false ∧ w.resumed.canWrite ((w.c.resume.2.2.map List.length).sum) = false) ∨
      ∃ wm : World, InPoll w started wm ∧
        ((∃ rx' rd', wm.queue = [] ∧ wm.senders ≠ 0 ∧ pollNext wm.rx wm.reader = (rx', rd', .none)) ∨
        (∃ m q, wm.queue = m :: q ∧ wm.canWrite (writeNeed (wm.c.handleMsg m true).2.1) = false ∧
          writesOf (wm.c.handleMsg m false).2.1 ≠ []) ∨
        (∃ rx' rd' fr p, wm.queue = [] ∧ wm.senders ≠ 0 ∧ pollNext wm.rx wm.reader = (rx', rd', .item fr) ∧
          decodeRx fr = .ok p ∧ wm.canWrite (writeNeed (wm.c.handlePkt wm.chanRxAlive p true).2.1) = false ∧
          writesOf (wm.c.handlePkt wm.chanRxAlive p false).2.1 ≠ []))) ∧
    (r = .err .codecError → ∃ (wm : World) (rx' : Rx) (rd' : List ReadEv) (fr : Bytes), InPoll w started wm ∧
      wm.queue = [] ∧ wm.senders ≠ 0 ∧ pollNext wm.rx wm.reader = (rx', rd', .item fr) ∧ decodeRx fr = .err) := by
  cases h with
  | resendFailed h1 h2 =>
    refine ⟨nofun, nofun, nofun, fun _ => Or.inl ⟨h1, h2⟩, nofun⟩
  | loop w1 wm r h1 h2 hs hc =>
    have hin : InPoll w started wm := ⟨w1, h1, h2, hs⟩
    have hsend := hin.senders
    cases hc with
    | userDisconnect pkt slot q a1 a2 a3 a4 a5 =>
      exact ⟨fun _ => ⟨wm, hin, Or.inl ⟨pkt, slot, q, a1, a2, a3, a4, a5⟩⟩, nofun, nofun, nofun, nofun⟩
    | serverDisconnect0 rx' rd' fr d a1 a2 a3 a4 a5 =>
      exact ⟨fun _ => ⟨wm, hin, Or.inr ⟨rx', rd', fr, d, a1, a2, a3, a4, a5⟩⟩, nofun, nofun, nofun, nofun⟩
    | serverDisconnect rx' rd' fr d a1 a2 a3 a4 a5 =>
      refine ⟨nofun, fun d' hd => ?_, nofun, nofun, nofun⟩
      cases hd
      exact ⟨wm, rx', rd', fr, hin, a1, a2, a3, a4, a5⟩
    | handleClosed a1 a2 a3 =>
      refine ⟨nofun, nofun, fun _ => ⟨by rw [← hsend]; exact a2, by rw [a3]; exact a1, by rw [a3]; exact a2⟩, nofun,
        nofun⟩
    | streamEnded rx' rd' a1 a2 a3 =>
      exact ⟨nofun, nofun, nofun, fun _ => Or.inr ⟨wm, hin, Or.inl ⟨rx', rd', a1, a2, a3⟩⟩, nofun⟩
    | requestWriteFailed m q a1 a2 a3 =>
      exact ⟨nofun, nofun, nofun, fun _ => Or.inr ⟨wm, hin, Or.inr (Or.inl ⟨m, q, a1, a2, a3⟩)⟩, nofun⟩
    | ackWriteFailed rx' rd' fr p a1 a2 a3 a4 a5 a6 =>
      exact ⟨nofun, nofun, nofun,
        fun _ => Or.inr ⟨wm, hin, Or.inr (Or.inr ⟨rx', rd', fr, p, a1, a2, a3, a4, a5, a6⟩)⟩, nofun⟩
    | undecodable rx' rd' fr a1 a2 a3 a4 =>
      exact ⟨nofun, nofun, nofun, nofun, fun _ => ⟨wm, rx', rd', fr, hin, a1, a2, a3, a4⟩⟩

/-- **`run()` does not return while none of the causes holds.** At any moment of an execution at which `run()` is
    executing: if a poll of the context task leaves the future pending, then at the last iteration of that poll (world
    `wm`) nothing was queued, a sender of the message queue was alive (`senders ≠ 0`, also when the poll started) and
    the framing layer had neither a complete frame nor an end of stream to report (`pollNext` returned `pending`);
    after the poll the future is still `running`, the queue is empty, its waker is armed, and either the transport
    waker is armed (nothing left to read) or the context task is flagged to be polled again. -/
theorem run_pending_only_without_cause (cfg : Cfg) (w : World) (hd : During cfg w) (s : Bool)
    (ht : w.task = .running s) (hn : w.pollCtx.task ≠ .none) :
    w.pollCtx.task = .running true ∧ w.pollCtx.queue = [] ∧ w.pollCtx.queueReg = true ∧ w.senders ≠ 0 ∧
    ((w.pollCtx.reader = [] ∧ w.pollCtx.readerReg = true) ∨ .ctx ∈ w.pollCtx.woken) ∧
    ∃ wm : World, InPoll w s wm ∧ wm.queue = [] ∧ wm.senders ≠ 0 ∧
      pollNext wm.rx wm.reader = (w.pollCtx.rx, w.pollCtx.reader, .pending) :=
  run_pending_facts w s ht (reach_ok (during_reach hd)) hn

/-- **After a return nothing is written until the next call.** If the transcript of a script is
    `pre ++ RET c r :: mid` and `mid` contains no `connect` / `authorize` / `run` event, then `mid` contains no `W`
    line, no call is executing at the end of the script, and the bytes handed to the transport at the end of the script
    are exactly those handed to it when the `RET` was logged (by the poll of the context task from the moment `w0`). -/
theorem nothing_written_after_return (cfg : Cfg) (evs : List Ev) (pre mid : List Obs) (c : Call) (r : RetRes)
    (h : World.run cfg evs = pre ++ .ret c r :: mid)
    (hmid : ∀ o ∈ mid, ∀ e, o = .ev e → isCallEv e = none) :
    (∀ o ∈ mid, ∀ bs, o ≠ .wire bs) ∧ (evs.foldl World.step { cfg := cfg }).finishScript.task = .none ∧
    ∃ w0, During cfg w0 ∧ taskCall w0.task = some c ∧ w0.pollCtx.out = pre ++ [.ret c r] ∧
      (evs.foldl World.step { cfg := cfg }).finishScript.sent = w0.pollCtx.sent ∧
      Reaches w0.pollCtx (evs.foldl World.step { cfg := cfg }).finishScript := by
  obtain ⟨h1, h2, w0, h3, h4, _, h6, h7, h8⟩ := during_after_ret (during_script cfg evs).1 h hmid
  exact ⟨h2, h1, w0, h3, h4, h6, h7, h8⟩

/-- **Nothing is written after the user's DISCONNECT.** If the transcript of a script is `pre ++ RET run Ok :: mid`
    with no `connect` / `authorize` / `run` event in `mid`, then `mid` contains no `W` line; the `RET` was logged by a
    poll of `run()` (from the moment `w0`) for a cause `ReturnCause … Ok`; and whenever that cause is the user's
    DISCONNECT — packet `pkt` at the head of the queue in the world `wm` of the last iteration — the `RET` immediately
    follows the write of `pkt`, and all the bytes handed to the transport up to the end of the script are those handed
    to it before that iteration followed by `pkt`: the DISCONNECT is the last thing written. -/
theorem nothing_written_after_user_disconnect (cfg : Cfg) (evs : List Ev) (pre mid : List Obs)
    (h : World.run cfg evs = pre ++ .ret .run .ok :: mid)
    (hmid : ∀ o ∈ mid, ∀ e, o = .ev e → isCallEv e = none) :
    (∀ o ∈ mid, ∀ bs, o ≠ .wire bs) ∧
    ∃ w0 started, During cfg w0 ∧ w0.task = .running started ∧ w0.pollCtx.out = pre ++ [.ret .run .ok] ∧
      ReturnCause w0 started w0.pollCtx .ok ∧
      Reaches w0.pollCtx (evs.foldl World.step { cfg := cfg }).finishScript ∧
      ∀ (wm : World) (pkt : Bytes) (slot : Nat) (q : List Msg), wm.canWrite pkt.length = true →
        w0.pollCtx = ((({ wm with queue := q }).writeBytes pkt).sendSlot slot .unit).finish .run .ok →
        (evs.foldl World.step { cfg := cfg }).finishScript.sent = wm.sent ++ pkt ∧
        pre = (({ wm with queue := q } : World).writeBytes pkt).out := by
  obtain ⟨_, h2, w0, h3, h4, h5, h6, h7, h8⟩ := during_after_ret (during_script cfg evs).1 h hmid
  obtain ⟨s, ht⟩ := running_of_call_run (during_taskOk h3) h4
  refine ⟨h2, w0, s, h3, ht, h6, pollRun_ret_cause w0 s ht h5 h6, h8, ?_⟩
  intro wm pkt slot q hw hf
  obtain ⟨a1, a2⟩ := userDisconnect_last_write hw hf
  refine ⟨by rw [h7, a1], ?_⟩
  rw [h6] at a2
  exact (List.append_inj' a2 rfl).1

/-- **Every `RET connect r` / `RET authorize r` of a transcript has a documented cause.** If the transcript of a script
    is `pre ++ RET c r :: post` with `c` = `connect` or `authorize`, there was a moment `w0` of the execution at which
    that call was executing (`t`, `a`: the CONNECT resp. AUTH request; `started`: the request had been written by an
    earlier poll), the poll of the context task from `w0` produced exactly the transcript `pre ++ [RET c r]`, and `r`
    is justified by `ConnectCause` (see `connect_result_causes`). -/
theorem connect_returns_only_for_a_cause (cfg : Cfg) (evs : List Ev) (pre post : List Obs) (c : Call) (r : RetRes)
    (hc : c ≠ .run) (h : World.run cfg evs = pre ++ .ret c r :: post) :
    ∃ w0 t a started, During cfg w0 ∧ w0.task = .connecting c t a started ∧ w0.pollCtx.task = .none ∧
      w0.pollCtx.out = pre ++ [.ret c r] ∧ ConnectCause w0 c t a started r ∧
      Reaches w0.pollCtx (evs.foldl World.step { cfg := cfg }).finishScript := by
  obtain ⟨w0, hd, hcall, hn, ho, hr⟩ := during_ret_origin (during_script cfg evs).1 h
  obtain ⟨t, a, s, ht⟩ := (taskCall_eq_some.1 hcall).resolve_right fun h => hc h.1
  exact ⟨w0, t, a, s, hd, ht, hn, ho, pollConnect_ret_cause w0 c t a s ht hn ho, hr⟩

/-- **The causes, result by result.** If the poll of `connect()` / `authorize()` from `w` returned `r` for the cause
    `ConnectCause w call t a started r`, then (the first response is awaited with the framing state and the reader of `w`
    — writing the request does not touch them):
    * `r = ConnectRsp k` only if the first frame decoded to the CONNACK `k` itself, with `k.reason < 0x80`;
    * `r = ConnectError k` only if the first frame decoded to the CONNACK `k` itself, with `k.reason ≥ 0x80`;
    * `r = AuthRsp au` only if the first frame decoded to the AUTH packet `au` itself;
    * `r = SocketClosed` only if the transport refused the request (first poll) or ended before a complete first frame
      arrived (end of stream, read error, malformed length);
    * a codec error only if the request could not be encoded (first poll; nothing written), or the first frame did not
      decode, or decoded to a packet that is neither CONNACK nor AUTH. -/
theorem connect_result_causes {w : World} {call : Call} {t : ConnectTx} {a : AuthTx} {started : Bool} {r : RetRes}
    (h : ConnectCause w call t a started r) :
    (∀ k, r = .connack k → ∃ (rx' : Rx) (rd' : List ReadEv) (fr : Bytes),
      pollNext w.rx w.reader = (rx', rd', .item fr) ∧ decodeRx fr = .ok (.connack k) ∧ k.reason < 128) ∧
    (∀ k, r = .connectError k → ∃ (rx' : Rx) (rd' : List ReadEv) (fr : Bytes),
      pollNext w.rx w.reader = (rx', rd', .item fr) ∧ decodeRx fr = .ok (.connack k) ∧ k.reason ≥ 128) ∧
    (∀ au, r = .auth au → ∃ (rx' : Rx) (rd' : List ReadEv) (fr : Bytes),
      pollNext w.rx w.reader = (rx', rd', .item fr) ∧ decodeRx fr = .ok (.auth au)) ∧
    (r = .err .socketClosed →
      (started = false ∧ reqValid call t a = true ∧ w.canWrite (reqBytes call t a).length = false) ∨
      ∃ (rx' : Rx) (rd' : List ReadEv), pollNext w.rx w.reader = (rx', rd', .none)) ∧
    (r = .err .codecError →
      (started = false ∧ reqValid call t a = false) ∨
      ∃ (rx' : Rx) (rd' : List ReadEv) (fr : Bytes), pollNext w.rx w.reader = (rx', rd', .item fr) ∧
        (decodeRx fr = .err ∨ ∃ p, decodeRx fr = .ok p ∧ (∀ k, p ≠ .connack k) ∧ (∀ au, p ≠ .auth au))) := by
  cases h with
  | invalid h1 h2 => exact ⟨(fun _ h => by cases h), (fun _ h => by cases h), (fun _ h => by cases h), (fun h => by cases h), fun _ => Or.inl ⟨h1, h2⟩⟩
  | writeFailed h1 h2 h3 => exact ⟨(fun _ h => by cases h), (fun _ h => by cases h), (fun _ h => by cases h), fun _ => Or.inl ⟨h1, h2, h3⟩, (fun h => by cases h)⟩
  | response w0 r h1 h2 hc =>
    have hrx : w0.rx = w.rx ∧ w0.reader = w.reader := by
      cases started with
      | true => rw [h1 rfl]; exact ⟨rfl, rfl⟩
      | false => obtain ⟨_, _, rx, reader, _⟩ := h2 rfl; exact ⟨rx, reader⟩
    rw [← hrx.1, ← hrx.2]
    cases hc with
    | connack rx' rd' fr k a1 a2 a3 a4 =>
      refine ⟨fun k' hk => ?_, (fun _ h => by cases h), (fun _ h => by cases h), (fun h => by cases h), (fun h => by cases h)⟩
      cases hk; exact ⟨rx', rd', fr, a1, a2, a3⟩
    | refused rx' rd' fr k a1 a2 a3 =>
      refine ⟨(fun _ h => by cases h), fun k' hk => ?_, (fun _ h => by cases h), (fun h => by cases h), (fun h => by cases h)⟩
      cases hk; exact ⟨rx', rd', fr, a1, a2, a3⟩
    | auth rx' rd' fr au a1 a2 =>
      refine ⟨(fun _ h => by cases h), (fun _ h => by cases h), fun au' hk => ?_, (fun h => by cases h), (fun h => by cases h)⟩
      cases hk; exact ⟨rx', rd', fr, a1, a2⟩
    | unexpected rx' rd' fr p a1 a2 a3 a4 =>
      exact ⟨(fun _ h => by cases h), (fun _ h => by cases h), (fun _ h => by cases h), (fun h => by cases h), fun _ => Or.inr ⟨rx', rd', fr, a1, Or.inr ⟨p, a2, a3, a4⟩⟩⟩
    | undecodable rx' rd' fr a1 a2 =>
      exact ⟨(fun _ h => by cases h), (fun _ h => by cases h), (fun _ h => by cases h), (fun h => by cases h), fun _ => Or.inr ⟨rx', rd', fr, a1, Or.inl a2⟩⟩
    | streamEnded rx' rd' a1 =>
      exact ⟨(fun _ h => by cases h), (fun _ h => by cases h), (fun _ h => by cases h), fun _ => Or.inr ⟨rx', rd', a1⟩, (fun h => by cases h)⟩

section NonVacuity

/-- a script in which the user's DISCONNECT ends `run()`: the transcript has the shape required by
    `run_returns_only_for_a_cause`, `nothing_written_after_return` and `nothing_written_after_user_disconnect` (with
    `mid` = the completion of the DISCONNECT operation and a later `ping` request, no call event) -/
example :
    World.run {} [.setup, .op 1 0 (.disconnect {}), .run, .op 2 0 .ping] =
      [.ev .setup, .ev (.op 1 0 (.disconnect {})), .ev .run, .wire [224, 2, 0, 0]] ++
        .ret .run .ok :: [.done 1 .ok, .ev (.op 2 0 .ping)] := by decide

example : ∀ o ∈ [Obs.done 1 .ok, .ev (.op 2 0 .ping)], ∀ e, o = .ev e → isCallEv e = none := by
  intro o ho e he
  subst he
  simp only [List.mem_cons, List.not_mem_nil, or_false, reduceCtorEq, false_or, Obs.ev.injEq] at ho
  subst ho
  rfl

/-- a script in which every handle is dropped: `run()` returns `HandleClosed` -/
example :
    World.run {} [.setup, .dropHandle 0, .run] =
      [.ev .setup, .ev (.dropHandle 0), .ev .run] ++ .ret .run (.err .handleClosed) :: [] := by decide

/-- calls and returns are counted on a transcript with two `run` events and two returns -/
example :
    retCount .run (World.run {} [.setup, .dropHandle 0, .run, .run]) = 2 ∧
    callCount .run (World.run {} [.setup, .dropHandle 0, .run, .run]) = 2 := by decide

/-- the hypotheses of `run_pending_only_without_cause` are satisfiable: after `setup, run` the future is pending
    (`World.s2` of Lemmas/WorldOpsEx.lean is that world) -/
example : During {} World.s2 ∧ World.s2.task = .running true ∧ World.s2.pollCtx.task ≠ .none := by
  have h : [Ev.setup, .run].foldl World.step {} = World.s2 := by
    simp only [List.foldl_cons, List.foldl_nil]; rw [World.stage1, World.stage2]
  refine ⟨h ▸ during_run {} _, rfl, ?_⟩
  have : World.s2.pollCtx = World.s2 := by
    show World.runLoop World.s2.loopFuel World.s2 = _
    rw [World.runLoop_idle _ _ (by decide) (by decide) (by decide) (by decide) (by decide)]
    rfl
  rw [this]; decide

/-- a call event while a call is executing is a script error -/
example : isCallEv .run = some .run ∧ World.s2.task ≠ .none := by decide

/-- a script in which `authorize()` is refused before anything is written (the AUTH request cannot be encoded): the
    transcript has the shape required by `connect_returns_only_for_a_cause` -/
example :
    World.run {} [.setup, .authorize { reason := some 24 }] =
      [.ev .setup, .ev (.authorize { reason := some 24 })] ++ .ret .authorize (.err .codecError) :: [] := by decide

/-- a script in which the transport refuses the CONNECT: `connect()` returns `SocketClosed` -/
example :
    (World.run { wlimit := some 3 } [.setup, .connect {}]).drop 2 =
      [.ret .connect (.err .socketClosed), .wraw [16, 13, 0]] := by decide

/-- the causes are inhabited: in the world `wBye` of Lemmas/WorldEx.lean (the user's DISCONNECT at the head of the
    queue) the iteration ends `run()` with `Ok` for the cause "user DISCONNECT written" -/
example : EndCause Ex.wBye (Ex.wBye.runLoop 3) .ok :=
  .userDisconnect [0xE0, 0] 4 _ rfl (by decide) (by decide) (by decide)
    (user_disconnect_returns_ok 2 Ex.wBye [0xE0, 0] 4 _ rfl (by decide) (by decide) (by decide))

/-- … and a CONNACK with reason 0 waiting at the transport makes `connect()` return it -/
example : FirstCause (Ex.wConn Ex.connackOk) (.connack Ex.kOk) :=
  .connack {} [] Ex.connackOk Ex.kOk Ex.pn_connackOk Ex.dec_connackOk (by decide) (by decide)

/-- … a CONNACK with reason 0x87 makes it return `ConnectError` -/
example : FirstCause (Ex.wConn Ex.connackRefused) (.connectError Ex.kRefused) :=
  .refused {} [] Ex.connackRefused Ex.kRefused Ex.pn_connackRefused Ex.dec_connackRefused (by decide)

end NonVacuity

#print axioms ret_logged_only_by_context_poll
#print axioms call_event_refused_while_call_in_flight
#print axioms returns_bounded_by_calls
#print axioms each_call_returns_at_most_once
#print axioms ret_comes_from_a_context_poll
#print axioms run_returns_only_for_a_cause
#print axioms run_result_causes
#print axioms run_pending_only_without_cause
#print axioms nothing_written_after_return
#print axioms nothing_written_after_user_disconnect
#print axioms connect_returns_only_for_a_cause
#print axioms connect_result_causes

end Poster

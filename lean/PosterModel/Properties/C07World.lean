/-
  C07 end to end: every stream yields exactly what was delivered to it, in order.

  C07: "Every inbound PUBLISH is yielded exactly once by the stream of each subscribe() call whose subscription
  identifier it carries, and by no other stream, in arrival order and with topic, payload, QoS, flags and properties
  unchanged; this includes messages arriving after the SUBSCRIBE was written but before its SUBACK or before stream() is
  called. Streams are unaffected by unsubscribe(), by other streams being dropped or lagging, and end only when the
  context is gone."

  Properties/C07.lean proves the single-step facts (the dispatch loop, the FIFO channel). This file composes them over
  whole executions of the client machine `World`, as traces of stream moves (`SMove`, `STrace`, the ghost `delivered`:
  Lemmas/WorldStream.lean). Scripts name channels after operation identifiers, so the script-level theorems assume
  `(World.opIds evs).Nodup` (pairwise distinct `OP` identifiers).
-/
import PosterModel.Lemmas.WorldStreamSid
import PosterModel.Lemmas.WorldStreamEx

namespace Poster
open Framing World

/-! ## 1. every execution is a trace of stream moves -/

/-- **One script step is a sequence of moves.** From any world with a well-formed operation table, a script step (the
    event, the executor's drain, the optional sweep) is a trace of stream moves; the only identifier it can
    issue is that of its own `OP` event. -/
theorem step_is_a_trace (w : World) (e : Ev) (hi : OpsInv w) :
    ∃ tr, STrace w tr (w.step e) ∧ (issuedOf tr = [] ∨ ∃ id, evOpId e = some id ∧ issuedOf tr = [id]) := by
  obtain ⟨iss, ⟨tr, st, _, rfl, _⟩, h⟩ := step_tr w e hi
  exact ⟨tr, st, h⟩

/-- **A whole script is a sequence of moves**, and with pairwise distinct `OP` identifiers it issues every identifier
    at most once and reaches a world in which the channel table is well formed and every existing channel belongs to
    an issued operation whose future has been polled (`SInv`). -/
theorem script_is_a_trace (cfg : Cfg) (evs : List Ev) (hn : (opIds evs).Nodup) :
    ∃ tr, STrace { cfg := cfg } tr (evs.foldl World.step { cfg := cfg }) ∧ (issuedOf tr).Nodup ∧
      (issuedOf tr).Sublist (opIds evs) ∧ SInv (· ∈ issuedOf tr) (evs.foldl World.step { cfg := cfg }) := by
  obtain ⟨tr, st, hs⟩ := steps_dec evs { cfg := cfg } (OpsInv.init cfg)
  have hnd : (issuedOf tr).Nodup := hs.nodup hn
  refine ⟨tr, st, hnd, hs, ?_⟩
  exact ((sInv_init (fun _ => False) cfg).trace st hnd (fun _ _ h => h)).mono (by rintro x (h | h); exact h.elim; exact h)

/-- **Subscription identifiers are registered once.** If moreover the script issues fewer operations than the
    subscription-identifier counter has values (it wraps after 268 435 455 allocations), then at every handler call of the
    trace `subsOnce` holds (the subscription identifiers in the context's table are pairwise distinct, or no registered
    receiver is gone), and in the world reached the identifiers in flight (queued SUBSCRIBEs and the table) are pairwise
    distinct, all below the counter. -/
theorem script_registers_identifiers_once (cfg : Cfg) (evs : List Ev) (hn : (opIds evs).Nodup)
    (hlen : (opIds evs).length + 1 < 268435455) :
    ∃ tr, STrace { cfg := cfg } tr (evs.foldl World.step { cfg := cfg }) ∧ (issuedOf tr).Nodup ∧
      (issuedOf tr).Sublist (opIds evs) ∧ (∀ l ∈ tr, l.subsOnce) ∧ SidInv (evs.foldl World.step { cfg := cfg }) := by
  obtain ⟨tr, st, hnd, hs, _⟩ := script_is_a_trace cfg evs hn
  have hl : (startedOf tr).length ≤ (opIds evs).length := Nat.le_trans (st.started_length_le hnd) hs.length_le
  obtain ⟨x, _, z⟩ := st.sidInv (sidInv_init cfg) (by show 1 + _ < _; omega)
  exact ⟨tr, st, hnd, hs, z, x⟩

/-! ## 2. the conservation law -/

/-- **Conservation, one move.** For a channel `id` that exists before and after a move (other than its own creation):
    what its stream has yielded so far followed by what is buffered is, afterwards, what it was before followed by the
    messages the move delivers into `id` — the history only grows at its end, by exactly the delivered messages;
    nothing is lost, duplicated or reordered. -/
theorem move_conservation {l : SLab} {w w' : World} (m : SMove l w w') (wf : ChanWf w) (id : Nat) (ch ch' : Chan)
    (h : w.chan id = some ch) (h' : w'.chan id = some ch') (hn : l ≠ .new id) :
    itemsOf id w'.out ++ ch'.buf = itemsOf id w.out ++ ch.buf ++ deliversTo id l.effs :=
  m.hist_alive wf id ch ch' h h' hn

/-- **Conservation, any trace.** Along any sequence of moves that does not re-create channel `id`:
    * if the channel exists at both ends, yielded ++ buffered at the end = yielded ++ buffered at the start ++ everything
      delivered into `id` in between, in order;
    * if it exists at the start, what the stream has yielded at the end is a prefix of that (the rest is still
      buffered, or was when the receiver was dropped);
    * if it does not exist at the start, it does not exist at the end, its stream yields nothing and nothing is
      delivered into it. -/
theorem trace_conservation {tr : List SLab} {w w' : World} (t : STrace w tr w') (wf : ChanWf w) (id : Nat)
    (hn : .new id ∉ tr) :
    (∀ ch ch', w.chan id = some ch → w'.chan id = some ch' →
      itemsOf id w'.out ++ ch'.buf = itemsOf id w.out ++ ch.buf ++ delivered id tr) ∧
    (∀ ch, w.chan id = some ch → ∃ rest, itemsOf id w'.out ++ rest = itemsOf id w.out ++ ch.buf ++ delivered id tr) ∧
    (w.chan id = none → w'.chan id = none ∧ itemsOf id w'.out = itemsOf id w.out ∧ delivered id tr = []) :=
  ⟨fun ch ch' h h' => t.hist_alive wf id ch ch' h h' hn, fun ch h => (t.hist wf id ch h hn).imp fun _ => And.left,
    fun h => t.none_quiet id h hn⟩

/-- **Conservation, any script from any world** in which the invariants of the moves hold and whose identifiers the
    script does not re-issue: for every channel `id` that exists at the start, after the script what its stream has
    yielded followed by what is buffered (if the channel still exists) is what it was at the start followed by exactly
    the messages delivered into `id` during the script, in order; if the receiver was dropped on the way, what it had
    yielded is a prefix of that. -/
theorem script_conservation_from (w0 : World) (hi : OpsInv w0) (U : Nat → Prop) (hs : SInv U w0) (evs : List Ev)
    (hnew : ∀ n ∈ opIds evs, ¬ U n) (id : Nat) (ch : Chan) (hch : w0.chan id = some ch) :
    ∃ tr, STrace w0 tr (evs.foldl World.step w0) ∧
      (∀ ch', (evs.foldl World.step w0).chan id = some ch' →
        itemsOf id (evs.foldl World.step w0).out ++ ch'.buf = itemsOf id w0.out ++ ch.buf ++ delivered id tr) ∧
      (∃ rest, itemsOf id (evs.foldl World.step w0).out ++ rest = itemsOf id w0.out ++ ch.buf ++ delivered id tr) := by
  obtain ⟨tr, st, hsub⟩ := steps_dec evs w0 hi
  obtain ⟨hU, hnf⟩ := hs.polled id (by rw [hch]; simp)
  have hn : .new id ∉ tr := st.no_new id hnf (fun hm => hnew id (hsub.subset hm) hU)
  exact ⟨tr, st, fun ch' h' => st.hist_alive hs.wf id ch ch' hch h' hn, (st.hist hs.wf id ch hch hn).imp fun _ => And.left⟩

/-- **Conservation, one script step** (`step_conservation`). In a world `w` in which the invariants of the moves hold
    (`SInv U w` — in particular every world a script with distinct identifiers reaches, `script_is_a_trace`) and for an
    event that does not re-issue an identifier already used: the step is a trace `tr` of moves such that for every
    channel `id` that exists in `w`, what its stream has yielded after the step, followed by what is then buffered (if
    the channel still exists), equals what it had yielded before, followed by what was buffered, followed by exactly the
    messages of the `deliver id` effects of the handlers run in the step (`delivered id tr`), in order. -/
theorem step_conservation (w : World) (hi : OpsInv w) (U : Nat → Prop) (hs : SInv U w) (e : Ev)
    (hnew : ∀ n, evOpId e = some n → ¬ U n) (id : Nat) (ch : Chan) (hch : w.chan id = some ch) :
    ∃ tr, STrace w tr (w.step e) ∧
      (∀ ch', (w.step e).chan id = some ch' →
        itemsOf id (w.step e).out ++ ch'.buf = itemsOf id w.out ++ ch.buf ++ delivered id tr) ∧
      (∃ rest, itemsOf id (w.step e).out ++ rest = itemsOf id w.out ++ ch.buf ++ delivered id tr) :=
  script_conservation_from w hi U hs [e] (fun n hn => hnew n (by simpa [opIds] using hn)) id ch hch

/-- **Every stream yields exactly what was delivered to it, in order** (script level). For every script with pairwise
    distinct `OP` identifiers there is a trace `tr` of moves from the initial world to the world reached such that for
    every channel `id`:
    * if the channel (still) exists: the messages its stream has yielded so far, followed by the messages still
      buffered, are exactly — same messages, same order, same multiplicity, unchanged — the messages the context's
      handlers delivered into `id` during the whole execution (`delivered id tr`);
    * in any case the messages yielded so far are a prefix of those (a receiver dropped with messages still buffered
      never yields them; nothing else is ever missing, and nothing is yielded that was not delivered).
    This covers messages delivered before the SUBACK arrived and before `stream()` was called: the channel exists from
    the first poll of the `subscribe()` future on, and deliveries are buffered in it. -/
theorem stream_yields_exactly_what_was_delivered (cfg : Cfg) (evs : List Ev) (hn : (opIds evs).Nodup) :
    ∃ tr, STrace { cfg := cfg } tr (evs.foldl World.step { cfg := cfg }) ∧ ∀ id,
      (∀ ch, (evs.foldl World.step { cfg := cfg }).chan id = some ch →
        itemsOf id (evs.foldl World.step { cfg := cfg }).out ++ ch.buf = delivered id tr) ∧
      (∃ rest, itemsOf id (evs.foldl World.step { cfg := cfg }).out ++ rest = delivered id tr) := by
  obtain ⟨tr, st, hnd, _, _⟩ := script_is_a_trace cfg evs hn
  exact ⟨tr, st, fun id => st.conservation_init id hnd⟩

/-- the end-of-script flush logs no stream line: the same holds for the transcript `World.run` -/
theorem itemsOf_run (cfg : Cfg) (evs : List Ev) (id : Nat) :
    itemsOf id (World.run cfg evs) = itemsOf id (evs.foldl World.step { cfg := cfg }).out := by
  obtain ⟨added, e, hq⟩ := run_out cfg evs
  rw [e, itemsOf_append, itemsOf_streamQuiet id added hq, List.append_nil]

/-! ## 3. who gets delivered what -/

/-- **What one handler call delivers into channel `id`** (context level, input `i` handled in state `c`).
    * a request from a handle (`handle_message`) delivers nothing; so does every inbound packet other than a PUBLISH;
    * every message a handled PUBLISH `pb` puts into `id` is `pb` itself, unchanged; it puts one there only if it is
      not a QoS 2 re-delivery, the receiver of `id` is alive and `id` is registered under a subscription identifier
      `pb` carries — no other channel gets anything;
    * when every subscription identifier is registered once, exactly: nothing for a QoS 2 re-delivery, otherwise one
      copy of `pb` for each occurrence of a subscription identifier in `pb` that is registered to `id`, provided
      `id`'s receiver is alive (`pubDelivers`). -/
theorem who_gets_delivered_what (c : Ctx) (id : Nat) :
    (∀ m wok, deliversTo id (c.stepIn (.msg m wok)).2.effs = []) ∧
    (∀ p dead wok, (∀ pb, p ≠ .publish pb) → deliversTo id (c.stepIn (.pkt p dead wok)).2.effs = []) ∧
    (∀ pb dead wok,
      (∀ q ∈ deliversTo id (c.stepIn (.pkt (.publish pb) dead wok)).2.effs, q = pb) ∧
      (deliversTo id (c.stepIn (.pkt (.publish pb) dead wok)).2.effs ≠ [] →
        ¬ (pb.qos = 2 ∧ pb.packetId.getD 0 ∈ c.inQos2) ∧ id ∉ dead ∧ ∃ sid ∈ pb.subIds, (sid, id) ∈ c.subs)) ∧
    (∀ pb dead wok, (c.subs.map (·.1)).Nodup →
      deliversTo id (c.stepIn (.pkt (.publish pb) dead wok)).2.effs = pubDelivers id c pb dead) :=
  ⟨fun m wok => deliversTo_stepIn_msg c m wok id, fun p dead wok hp => deliversTo_stepIn_other c p dead wok id hp,
    fun pb dead wok => deliversTo_stepIn_publish_sound c pb dead wok id,
    fun pb dead wok hn => deliversTo_stepIn_publish c pb dead wok id hn⟩

/-- **… in the world**: the handler the loop calls in world `w` on an inbound PUBLISH `pb` (`w.inPkt`: the receivers
    counted as dead are those of registered channels that no longer exist). With the channel table well formed and
    every subscription identifier registered once: if channel `id` does not exist nothing is delivered into it; if it
    exists — whether or not its SUBACK has arrived, whether or not `stream()` has been called, however many messages
    it has buffered — it gets one copy of `pb` for each subscription identifier `pb` carries that is registered to
    `id`, unless `pb` is a QoS 2 re-delivery. -/
theorem publish_delivers_in_world (w : World) (wf : ChanWf w) (hn : (w.c.subs.map (·.1)).Nodup) (pb : PublishRx)
    (id : Nat) :
    (w.chan id = none → deliversTo id (w.c.stepIn (w.inPkt (.publish pb))).2.effs = []) ∧
    (w.chan id ≠ none → deliversTo id (w.c.stepIn (w.inPkt (.publish pb))).2.effs =
      if pb.qos = 2 ∧ pb.packetId.getD 0 ∈ w.c.inQos2 then []
      else (pb.subIds.filter fun sid => lookupFirst sid w.c.subs == some id).map fun _ => pb) := by
  have e : deliversTo id (w.c.stepIn (w.inPkt (.publish pb))).2.effs = pubDelivers id w.c pb w.deadOf :=
    deliversTo_stepIn_publish w.c pb w.deadOf _ id hn
  rw [e]
  unfold pubDelivers
  constructor
  · intro hnone
    split
    · rfl
    · rw [List.map_eq_nil_iff, List.filter_eq_nil_iff]
      intro sid _
      simp only [Bool.and_eq_true, beq_iff_eq, decide_eq_true_eq, not_and]
      intro hl hnd
      exact hnd ((wf.mem_deadOf id).2 ⟨⟨sid, Poster.mem_of_lookupFirst _ _ _ hl⟩, hnone⟩)
  · intro hsome
    have : decide (id ∉ w.deadOf) = true := by simpa using not_dead_of_chan w wf id hsome
    simp [this]

/-- **The channel exists, and the registration is on its way, from the first poll of `subscribe()`.** If the request
    can be encoded and the context exists, the first poll of the future of `subscribe()` call `id` creates the channel
    `id` (empty, both halves alive), allocates the subscription identifier `w.subCtr` and queues the SUBSCRIBE message
    that carries exactly this identifier and this channel; nothing is logged. When the context handles that message
    (`registered_when_subscribe_is_sent`, Properties/C07.lean) it writes the SUBSCRIBE and registers
    `(w.subCtr, id)` — before any SUBACK, and whether or not the caller ever polls the future again. -/
theorem subscribe_creates_channel_and_queues_registration (w : World) (id : Nat) (t : SubscribeTx)
    (hv : ({ t with packetId := w.pidCtr, subId := some w.subCtr } : SubscribeTx).valid = true)
    (hc : w.hasCtx = true) :
    (w.startOp id (.subscribe t)).chan id = some {} ∧
    (w.startOp id (.subscribe t)).queue = w.queue ++
      [.subscribe (actionId 9 w.pidCtr) w.subCtr
        ({ t with packetId := w.pidCtr, subId := some w.subCtr } : SubscribeTx).encode (2 * id) id] ∧
    (w.startOp id (.subscribe t)).out = w.out := by
  obtain ⟨hq, _, ho, hch⟩ := startOp_accepted w id (.subscribe t) hc hv
  exact ⟨by rw [chan, hch]; exact lookupFirst_setAssoc_self id ({} : Chan) w.chans, hq, ho⟩

/-- **`stream()` moves nothing.** Taking the stream out of the response of `subscribe()` (the script event `STREAM id`)
    changes no channel, no buffer, nothing in the context and logs no stream line: the messages delivered before the
    call are in the channel's buffer and are yielded, in order, by the polls that follow (`trace_conservation`). -/
theorem stream_call_moves_nothing (w : World) (id : Nat) :
    (w.apply (.stream id)).chans = w.chans ∧ (w.apply (.stream id)).c = w.c ∧
    (∀ j, itemsOf j (w.apply (.stream id)).out = itemsOf j w.out) := by
  simp only [apply]
  split
  · unfold badScript
    exact ⟨rfl, rfl, fun j => (itemsOf_append j w.out [.badscript]).trans (List.append_nil _)⟩
  · rw [World.wake_eq]
    exact ⟨rfl, rfl, fun _ => rfl⟩

/-- **A PUBLISH is delivered whether or not the SUBACK has arrived or `stream()` has been called.** In any world with a
    well-formed channel table and every subscription identifier registered once, in which `sid` is registered to channel
    `id` and the channel exists (its receiver — the pending future, the response, or the stream — has not been dropped),
    an inbound PUBLISH carrying the one identifier `sid` (`pb.subIds = [sid]`) that is not a QoS 2 re-delivery is
    delivered into `id`, exactly once and unchanged. The hypotheses mention neither the operation table (has the SUBACK
    arrived? has the future been polled again?) nor `rsps` / `streams` (has `stream()` been called?) nor the buffer (is
    the stream lagging?). -/
theorem publish_delivered_before_suback_and_before_stream (w : World) (wf : ChanWf w)
    (hn : (w.c.subs.map (·.1)).Nodup) (pb : PublishRx) (sid id : Nat)
    (hreg : lookupFirst sid w.c.subs = some id) (hch : w.chan id ≠ none) (hsid : pb.subIds = [sid])
    (hnew : ¬ (pb.qos = 2 ∧ pb.packetId.getD 0 ∈ w.c.inQos2)) :
    deliversTo id (w.c.stepIn (w.inPkt (.publish pb))).2.effs = [pb] := by
  rw [(publish_delivers_in_world w wf hn pb id).2 hch, if_neg hnew, hsid]
  simp [hreg]

/-- **"Dead" means dropped.** The receivers the loop reports to the handler as gone (`w.deadOf`, the `dead` of the
    handler's input) are exactly the channels registered in the subscription table whose entry no longer exists —
    i.e. whose receiving half (the pending `subscribe()` future, its response, or the stream) was dropped or has ended. -/
theorem dead_receivers_are_dropped_channels (w : World) (wf : ChanWf w) (id : Nat) :
    id ∈ w.deadOf ↔ (∃ sid, (sid, id) ∈ w.c.subs) ∧ w.chan id = none :=
  wf.mem_deadOf id

/-- **A lagging stream changes nothing for the others**: what a PUBLISH delivers into `id` depends on the context
    state, the packet and on *which* channels exist — not on how many messages any channel (including `id`) has
    buffered, nor on whether its stream has been polled. Two worlds with the same context state and the same set of
    existing channels deliver the same messages into `id`. -/
theorem delivery_independent_of_buffers (w1 w2 : World) (wf1 : ChanWf w1) (wf2 : ChanWf w2) (hc : w1.c = w2.c)
    (hex : ∀ ch, w1.chan ch = none ↔ w2.chan ch = none) (p : RxPacket) (id : Nat) :
    deliversTo id (w1.c.stepIn (w1.inPkt p)).2.effs = deliversTo id (w2.c.stepIn (w2.inPkt p)).2.effs := by
  have hd : w1.deadOf = w2.deadOf := by
    unfold deadOf
    rw [hc]
    refine List.filter_congr fun ch _ => congrArg not (Bool.eq_iff_iff.mpr ?_)
    rw [wf1.rxAlive_iff ch, wf2.rxAlive_iff ch]
    exact not_congr (hex ch)
  by_cases hp : ∃ pb, p = .publish pb
  · obtain ⟨pb, rfl⟩ := hp
    show deliversTo id (w1.c.handlePkt _ (.publish pb) _).2.1 = deliversTo id (w2.c.handlePkt _ (.publish pb) _).2.1
    rw [deliversTo_handlePkt_publish, deliversTo_handlePkt_publish, hc, hd]
  · have e1 : deliversTo id (w1.c.stepIn (w1.inPkt p)).2.effs = [] :=
      deliversTo_stepIn_other _ _ _ _ _ (fun pb e => hp ⟨pb, e⟩)
    have e2 : deliversTo id (w2.c.stepIn (w2.inPkt p)).2.effs = [] :=
      deliversTo_stepIn_other _ _ _ _ _ (fun pb e => hp ⟨pb, e⟩)
    rw [e1, e2]

/-- **The ghost in closed form.** Along a trace in which, at every handled inbound packet, every subscription
    identifier is registered once or no registered receiver is gone (`subsOnce`), the messages delivered into `id` are,
    in handling order, for each handled inbound PUBLISH `pb` that is not a QoS 2 re-delivery, one copy of `pb` per
    subscription identifier it carries that was registered to `id` at that moment with `id`'s receiver alive
    (`pubDelivers id c pb dead`, `c` = the context state and `dead` = the dead receivers at that moment) — and nothing
    else: requests, other packets, session resumption and dropping the context deliver nothing. -/
theorem delivered_in_closed_form (id : Nat) (tr : List SLab) (h : ∀ l ∈ tr, l.subsOnce) :
    delivered id tr = tr.flatMap (SLab.publishes id) := by
  induction tr with
  | nil => rfl
  | cons l t ih =>
    rw [delivered_cons, List.flatMap_cons, SLab.effs_publishes id l (h l (by simp)),
      ih (fun l' hl' => h l' (by simp [hl']))]

/-- **C07, composed** (script level). For every script with pairwise distinct `OP` identifiers (fewer than the
    268 435 455 values of the subscription-identifier counter) there is a trace `tr` of moves from the initial world to
    the world reached such that for every channel `id`: what its stream has yielded so far followed by what is still
    buffered is — same messages, same order, each exactly as often, unchanged — the handled inbound PUBLISH packets,
    in handling order, QoS 2 re-deliveries excluded, once per carried subscription identifier that was registered to `id`
    at that moment with `id`'s receiver alive (`SLab.publishes id`, i.e. `pubDelivers`); if the receiver has been dropped
    (with messages still buffered) what it had yielded is a prefix of that. -/
theorem stream_yields_the_publishes_registered_for_it (cfg : Cfg) (evs : List Ev) (hn : (opIds evs).Nodup)
    (hlen : (opIds evs).length + 1 < 268435455) :
    ∃ tr, STrace { cfg := cfg } tr (evs.foldl World.step { cfg := cfg }) ∧ ∀ id,
      (∀ ch, (evs.foldl World.step { cfg := cfg }).chan id = some ch →
        itemsOf id (evs.foldl World.step { cfg := cfg }).out ++ ch.buf = tr.flatMap (SLab.publishes id)) ∧
      (∃ rest, itemsOf id (evs.foldl World.step { cfg := cfg }).out ++ rest = tr.flatMap (SLab.publishes id)) := by
  obtain ⟨tr, st, hnd, _, hs, _⟩ := script_registers_identifiers_once cfg evs hn hlen
  refine ⟨tr, st, fun id => ?_⟩
  rw [← delivered_in_closed_form id tr hs]
  exact st.conservation_init id hnd

/-! ## 4. a stream ends only when the context let go of its sender -/

/-- **Why a channel is without sender** (any trace from any world with a well-formed channel table). If at the end of
    a trace channel `id` exists and has lost its sender, then it had already lost it at the start, or the trace contains
    a batch `src` of context effects with an `EndCause`: applied while the channel existed with its sender alive, it is
    the context being dropped while it owned that sender (in a queued SUBSCRIBE or in its subscription table), the reset
    of an expired session in which `id` was registered, or the refusal of `id`'s own SUBSCRIBE for its size. Nothing
    else — no handler for any packet, no handle future, no stream, no other subscription — closes a channel whose
    receiver is alive. -/
theorem sender_lost_only_by_end_cause {tr : List SLab} {w w' : World} (t : STrace w tr w') (wf : ChanWf w) (id : Nat)
    (ch' : Chan) (h' : w'.chan id = some ch') (ht : ch'.txAlive = false) :
    (∃ ch, w.chan id = some ch ∧ ch.txAlive = false) ∨
    (∃ t1 src t2, tr = t1 ++ .ctx src :: t2 ∧ EndCause id src) := by
  rcases t.closed wf id ch' h' ht with h | ⟨t1, src, t2, a, b, ch, e, s1, mv, s2, ha, hat, hmem⟩
  · exact Or.inl h
  · exact Or.inr ⟨t1, src, t2, e, mv.endCause (wf.trace s1) id (by rw [ha]; simp) hmem⟩

/-- **`END` is logged only for a drained channel whose sender the context has let go.** For every script with pairwise
    distinct `OP` identifiers: if the transcript contains `END id`, the execution is a trace
    `t1 ++ ctx src :: t2 ++ endS id :: t3` where `src` is an `EndCause` for `id` (the context was dropped, an expired
    session was reset, or the SUBSCRIBE was refused for its size) — and at the `END` the buffer was empty: the channel
    is gone afterwards, and the stream has yielded exactly everything that was ever delivered into it
    (`itemsOf id = delivered id tr`): a stream never ends with messages unread, and never yields anything after `END`. -/
theorem stream_ends_only_after_end_cause (cfg : Cfg) (evs : List Ev) (hn : (opIds evs).Nodup) (id : Nat)
    (h : Obs.endStream id ∈ World.run cfg evs) :
    ∃ tr t1 src t2 t3, STrace { cfg := cfg } tr (evs.foldl World.step { cfg := cfg }) ∧
      tr = t1 ++ .ctx src :: t2 ++ .endS id :: t3 ∧ EndCause id src ∧
      (evs.foldl World.step { cfg := cfg }).chan id = none ∧
      itemsOf id (World.run cfg evs) = delivered id tr := by
  obtain ⟨tr, st, hnd, _, _⟩ := script_is_a_trace cfg evs hn
  -- the `END` line is in the log of the world reached
  have hout : Obs.endStream id ∈ (evs.foldl World.step { cfg := cfg }).out := by
    obtain ⟨added, e, hq⟩ := run_out cfg evs
    rw [e] at h
    exact (List.mem_append.mp h).resolve_right fun ha => (hq _ ha).2 id rfl
  have hmem : SLab.endS id ∈ tr := (st.end_logged id hout).resolve_left (by simp)
  obtain ⟨p, t3, rfl⟩ := List.append_of_mem hmem
  obtain ⟨a, b, s1, m, s3⟩ := st.split_at
  have hndp : (issuedOf p).Nodup := by
    rw [issuedOf_append] at hnd; exact (List.nodup_append.mp hnd).1
  have inva := (sInv_init (fun _ => False) cfg).trace s1 hndp (fun _ _ h => h)
  have keep : NotFresh id a → NotFresh id b := fun h => h.move m (by simp [SLab.issued])
  cases m with
  | endS _ ch hch hbuf htx chans c_eq ops out =>
    -- why the sender was gone
    rcases sender_lost_only_by_end_cause s1 (chanWf_init cfg) id ch hch htx with ⟨c0, h0, _⟩ | ⟨t1, src, t2, e, hc⟩
    · simp [chan, lookupFirst] at h0
    · -- everything delivered had been yielded
      have hcons := (s1.conservation_init id hndp).1 ch hch
      rw [hbuf, List.append_nil] at hcons
      -- afterwards the channel is gone for good
      have hb : b.chan id = none := chan_erase_self chans inva.wf.nodup
      have hib : itemsOf id b.out = itemsOf id a.out := by rw [out, itemsOf_append]; simp [itemsOf]
      obtain ⟨hU, hnf⟩ := inva.polled id (by rw [hch]; simp)
      have hidp : id ∈ issuedOf p := hU.resolve_left False.elim
      have hnot : id ∉ issuedOf t3 := by
        rw [issuedOf_append, issuedOf_cons] at hnd
        intro hm
        exact (List.nodup_append.mp hnd).2.2 id hidp id (List.mem_append_right _ hm) rfl
      obtain ⟨x, y, z⟩ := s3.none_quiet id hb (s3.no_new id (keep hnf) hnot)
      refine ⟨_, t1, src, t2, t3, st, by rw [e], hc, x, ?_⟩
      rw [itemsOf_run, y, hib, hcons, delivered_append, delivered_cons, z]
      simp [SLab.effs]

/-! ## 5. independence -/

/-- **Other streams do not matter.** Polling another stream `id'`, dropping it, or dropping a response that was never
    turned into a stream, leaves channel `id` — buffer, sender, receiver — and what stream `id` has yielded exactly as
    they were. -/
theorem other_stream_polled_or_dropped (w : World) (id id' : Nat) (hne : id' ≠ id) :
    ((w.pollStream id').chan id = w.chan id ∧ itemsOf id (w.pollStream id').out = itemsOf id w.out) ∧
    ((w.apply (.drop (.st id'))).chan id = w.chan id ∧ itemsOf id (w.apply (.drop (.st id'))).out = itemsOf id w.out) ∧
    ((w.apply (.dropRsp id')).chan id = w.chan id ∧ itemsOf id (w.apply (.dropRsp id')).out = itemsOf id w.out) := by
  refine ⟨(pollStream_dec w id').away id (fun l h => away_of_stLab hne h), ?_, ?_⟩
  · simp only [apply]
    split
    · exact ⟨lookupFirst_eraseFirst_of_ne (fun e => hne e.symm) w.chans, rfl⟩
    · exact ⟨rfl, rfl⟩
  · simp only [apply]
    split
    · exact ⟨lookupFirst_eraseFirst_of_ne (fun e => hne e.symm) w.chans, rfl⟩
    · exact ⟨rfl, rfl⟩

/-- **Other operations do not matter** — in particular `unsubscribe()`, other `subscribe()` calls, publishes: a poll of
    the future of another operation `id'` (first poll or resumption), or dropping that future, leaves channel `id` and
    what stream `id` has yielded exactly as they were. (Such a poll only queues a message or consumes a oneshot; what
    the context later does with an UNSUBSCRIBE message or an UNSUBACK changes neither the channel nor — see
    `registration_kept` — its registration.) -/
theorem other_operation_polled_or_dropped (w : World) (hi : OpsInv w) (id id' : Nat) (hne : id' ≠ id) :
    ((w.pollOp id').chan id = w.chan id ∧ itemsOf id (w.pollOp id').out = itemsOf id w.out) ∧
    ((w.dropOp id').chan id = w.chan id ∧ itemsOf id (w.dropOp id').out = itemsOf id w.out) :=
  ⟨(pollOp_dec w id' hi).away id (fun _ h => away_of_opLab hne h),
    (dropOp_dec w id' hi).away id (fun _ h => away_of_opLab hne h)⟩

/-- **A registration is removed only with the context or its session.** One move keeps the registration `(sid, id)` of
    an existing channel in the context's subscription table, unless the move is the context being dropped, a new
    context being created, or the reset of an expired session. In particular no handler removes it — not the one
    handling an UNSUBSCRIBE request, a SUBACK, an UNSUBACK or a PUBLISH for other subscriptions (the dispatch loop
    removes registrations of channels whose receiver is gone, only). -/
theorem registration_kept {l : SLab} {w w' : World} (m : SMove l w w') (wf : ChanWf w) (sid id : Nat)
    (hreg : (sid, id) ∈ w.c.subs) (hch : w.chan id ≠ none) :
    (sid, id) ∈ w'.c.subs ∨ (∃ q c, l = .ctx (.dropCtx q c)) ∨ l = .ctx .fresh ∨
      (∃ c el, l = .ctx (.resume c) ∧ c.disc = some el ∧ c.sessionExpired el = true) :=
  m.registration wf sid id hreg hch

/-- … along a trace: while the receiver is alive and the context is neither dropped, re-created nor its expired
    session reset, the registration stays — so every further PUBLISH carrying `sid` keeps being delivered
    (`publish_delivers_in_world`). -/
theorem registration_kept_along {tr : List SLab} {w w' : World} (t : STrace w tr w') (wf : ChanWf w) (sid id : Nat)
    (hreg : (sid, id) ∈ w.c.subs) (hend : w'.chan id ≠ none) (hn : .new id ∉ tr)
    (hq : ∀ l ∈ tr, (∀ q c, l ≠ .ctx (.dropCtx q c)) ∧ l ≠ .ctx .fresh ∧
      ∀ c el, l = .ctx (.resume c) → c.disc = some el → c.sessionExpired el ≠ true) :
    (sid, id) ∈ w'.c.subs := by
  induction t with
  | refl => exact hreg
  | @cons a b c l tr' m t' ih =>
    have hn' : .new id ∉ tr' := fun hm => hn (List.mem_cons_of_mem _ hm)
    have hl : l ≠ .new id := fun e => hn (by rw [e]; simp)
    have hb : b.chan id ≠ none := fun e => hend (t'.none_quiet id e hn').1
    have ha : a.chan id ≠ none := fun e => hb (m.chan_none id e hl)
    obtain ⟨q1, q2, q3⟩ := hq l (by simp)
    rcases m.registration wf sid id hreg ha with h | ⟨q, c0, e⟩ | e | ⟨c0, el, e, e1, e2⟩
    · exact ih (wf.move m) h hend hn' (fun l' hl' => hq l' (by simp [hl']))
    · exact absurd e (q1 q c0)
    · exact absurd e q2
    · exact absurd e2 (q3 c0 el e e1)

/-! ## 6. non-vacuity -/

section NonVacuity
open Ex

/-- the script "subscribe, unsubscribe, drop the context" uses distinct identifiers: hypothesis of the script-level theorems -/
example : (opIds [Ev.setup, .op 1 0 (.subscribe { packetId := 0, filters := [([0x61], {})] }),
    .op 2 0 (.unsubscribe { packetId := 0, filters := [[0x61]] }), .dropCtx]).Nodup := by decide

/-- in the world `wSub` (stream 1 asleep on its empty channel, registered under subscription identifier 1) a handled
    PUBLISH carrying identifier 1 delivers exactly itself into channel 1 and nothing into channel 2 … -/
example :
    deliversTo 1 (wSub.c.stepIn (.pkt (.publish { topic := [0x61], subIds := [1] }) [] true)).2.effs =
      [{ topic := [0x61], subIds := [1] }] ∧
    deliversTo 2 (wSub.c.stepIn (.pkt (.publish { topic := [0x61], subIds := [1] }) [] true)).2.effs = [] := by
  decide

/-- … twice if it carries the identifier twice, and not at all if the receiver is gone (then the registration is
    removed: `dropChan`) -/
example :
    pubDelivers 1 wSub.c { topic := [0x61], subIds := [1, 5, 1] } [] =
      [{ topic := [0x61], subIds := [1, 5, 1] }, { topic := [0x61], subIds := [1, 5, 1] }] ∧
    pubDelivers 1 wSub.c { topic := [0x61], subIds := [1] } [1] = [] ∧
    (wSub.c.stepIn (.pkt (.publish { topic := [0x61], subIds := [1] }) [1] true)).2.effs = [.dropChan 1] := by
  decide

/-- the handler move itself, from `wPub` (= `wSub` with that PUBLISH pending at the transport: the framing layer yields
    its frame, the decoder the packet `pubA`): the channel of the sleeping stream gets the message (conservation:
    yielded ++ buffered grows by the delivered message), the stream is woken -/
example :
    let w' := ({ wPub with rx := {}, reader := [], c := (wPub.c.stepIn (wPub.inPkt (.publish pubA))).1 } : World).applyEffs
      (wPub.c.stepIn (wPub.inPkt (.publish pubA))).2.effs
    SMove (.ctx (.handler wPub.c (wPub.inPkt (.publish pubA)))) wPub w' ∧
    w'.chan 1 = some { buf := [pubA], reg := false } ∧ Task.st 1 ∈ w'.woken ∧
    deliversTo 1 (SLab.ctx (.handler wPub.c (wPub.inPkt (.publish pubA)))).effs = [pubA] :=
  ⟨smove_handler_pkt wPub {} [] pubFrame (.publish pubA) rfl pn_pubFrame dec_pubFrame, by decide, by decide, by decide⟩

/-- first poll of a `subscribe()` future in a serving world: the hypotheses of
    `subscribe_creates_channel_and_queues_registration` hold, the channel 1 exists afterwards and the SUBSCRIBE carrying
    subscription identifier 1 and channel 1 is queued -/
example :
    let w : World := { wServe [] with ops := [(1, .fresh 0 (.subscribe { packetId := 0, filters := [([0x61], {})] }))] }
    ({ packetId := w.pidCtr, subId := some w.subCtr, filters := [([0x61], {})] } : SubscribeTx).valid = true ∧
    w.hasCtx = true ∧
    (w.startOp 1 (.subscribe { packetId := 0, filters := [([0x61], {})] })).chan 1 = some {} ∧
    (w.startOp 1 (.subscribe { packetId := 0, filters := [([0x61], {})] })).queue.map Msg.sid? = [some 1] := by
  decide

/-- `wWaitSub`: the SUBSCRIBE is out and registered, the SUBACK has not arrived, `stream()` has not been called — the
    hypotheses of `publish_delivered_before_suback_and_before_stream` hold, so the PUBLISH is delivered (and buffered) -/
example :
    wWaitSub.opSt 1 = some (.wait 2 .suback) ∧ wWaitSub.rsps = [] ∧ wWaitSub.streams = [] ∧
    deliversTo 1 (wWaitSub.c.stepIn (wWaitSub.inPkt (.publish pubA))).2.effs = [pubA] :=
  ⟨by decide, rfl, rfl, publish_delivered_before_suback_and_before_stream wWaitSub wWaitSub_wf (by decide) pubA 1 1
    (by decide) (by decide) rfl (by decide)⟩

/-- `wSub` satisfies the hypotheses of `step_conservation` (`Ex.wSub_sInv`, `Ex.wSub_opsInv`) and the identifier
    invariant (`Ex.wSub_sidInv`); a script of three operations is far below the wrap-around bound of
    `script_registers_identifiers_once` -/
example : SInv (· = 1) wSub ∧ OpsInv wSub ∧ SidInv wSub ∧ (opIds scrThree).Nodup ∧
    (opIds scrThree).length + 1 < 268435455 :=
  ⟨wSub_sInv, wSub_opsInv, wSub_sidInv, by decide, by decide⟩

/-- … so `step_conservation` applies to the step `DROPCTX` from `wSub`; that step ends stream 1: the context, which
    owned the sender in its subscription table, is dropped -/
example : ∃ tr, STrace wSub tr (wSub.step .dropCtx) ∧
    ∃ rest, itemsOf 1 (wSub.step .dropCtx).out ++ rest = itemsOf 1 wSub.out ++ [] ++ delivered 1 tr := by
  obtain ⟨tr, st, _, h⟩ := step_conservation wSub wSub_opsInv (· = 1) wSub_sInv .dropCtx (by intro n h; cases h) 1
    { buf := [], reg := true } (by decide)
  exact ⟨tr, st, h⟩

example : (wSub.step .dropCtx).out = [.ev .dropCtx, .endStream 1] ∧
    EndCause 1 (.dropCtx wSub.queue wSub.c) :=
  ⟨by decide, .dropCtx _ _ (Or.inr ⟨1, by decide⟩)⟩

/-- `wPub` (stream 1 asleep, its PUBLISH pending at the transport) satisfies the hypotheses of
    `script_conservation_from` for any script that does not issue the identifier 1 again — e.g. polling the context
    task (which handles the PUBLISH) and then dropping the context -/
example : ∃ tr, STrace wPub tr ([Ev.poll .ctx, .dropCtx].foldl World.step wPub) ∧
    ∃ rest, itemsOf 1 ([Ev.poll .ctx, .dropCtx].foldl World.step wPub).out ++ rest =
      itemsOf 1 wPub.out ++ [] ++ delivered 1 tr := by
  obtain ⟨tr, st, _, h⟩ := script_conservation_from wPub wPub_opsInv (· = 1) wPub_sInv [Ev.poll .ctx, .dropCtx]
    (by intro n h; simp [opIds, evOpId] at h) 1 { buf := [], reg := true } (by decide)
  exact ⟨tr, st, h⟩

/-- **end to end, one step**: from `wPub` the script step `POLL ctx` reads the PUBLISH, delivers it and lets the woken
    stream yield it (`Ex.wPub_step`, evaluated). `step_conservation` applies, and here its ghost is not empty: the trace
    it provides delivered exactly `pubA` into channel 1, which is what the stream yielded. -/
example : ∃ tr, STrace wPub tr (wPub.step (.poll .ctx)) ∧ delivered 1 tr = [pubA] ∧
    itemsOf 1 (wPub.step (.poll .ctx)).out = [pubA] := by
  obtain ⟨tr, st, h, _⟩ := step_conservation wPub wPub_opsInv (· = 1) wPub_sInv (.poll .ctx) (by intro n h; cases h) 1
    { buf := [], reg := true } (by decide)
  have h1 := h _ wPub_step.2
  rw [wPub_step.1] at h1 ⊢
  refine ⟨tr, st, ?_, by decide⟩
  have e1 : itemsOf 1 [Obs.ev (.poll .ctx), .item 1 pubA] = [pubA] := by decide
  have e2 : itemsOf 1 wPub.out = [] := by decide
  rw [e1, e2] at h1
  simpa using h1.symm

/-- a stream with two buffered messages and no sender (`wDrain`): three polls are the moves `pop`, `pop`, `endS`;
    the conservation law says what it yields is what was buffered, in order -/
example : (wDrain.pollStream 3).out = [.item 3 { topic := [0x61] }] ∧
    (((wDrain.pollStream 3).pollStream 3).pollStream 3).out =
      [.item 3 { topic := [0x61] }, .item 3 { topic := [0x62] }, .endStream 3] ∧
    itemsOf 3 (((wDrain.pollStream 3).pollStream 3).pollStream 3).out = [{ topic := [0x61] }, { topic := [0x62] }] := by
  decide

/-- dropping another stream leaves this one's channel alone: the hypotheses of `other_stream_polled_or_dropped` are
    met by a world with two streams -/
example :
    let w : World := { wDrain with streams := [3, 4], chans := wDrain.chans ++ [(4, { buf := [{ topic := [0x63] }] })] }
    (w.apply (.drop (.st 4))).chan 3 = w.chan 3 ∧ (w.apply (.drop (.st 4))).chan 4 = none := by decide

/-- the registration of `wSub` survives the handling of an UNSUBACK and of a PUBLISH for somebody else -/
example :
    (wSub.c.stepIn (.pkt (.unsuback { packetId := 5 }) [] true)).1.subs = [(1, 1)] ∧
    (wSub.c.stepIn (.pkt (.publish { topic := [0x61], subIds := [9] }) [] true)).1.subs = [(1, 1)] := by decide

/-- an expired session reset on reconnection is an end cause: its effects drop the sender of the registered channel -/
example :
    let c : Ctx := { subs := [(1, 1)], disc := some 5, sei := 0 }
    c.resume.2.1 = [.dropChan 1] ∧ EndCause 1 (.resume c) :=
  ⟨by decide, .reset _ 5 rfl (by decide) ⟨1, by decide⟩⟩

/-- a SUBSCRIBE refused for its size is an end cause: the caller gets `MaximumPacketSizeExceeded`, the sender is dropped -/
example :
    let c : Ctx := { maxPkt := some 1 }
    (c.stepIn (.msg (.subscribe (actionId 9 1) 1 [0x82, 0] 2 1) true)).2.effs = [.send 2 .errSize, .dropChan 1] ∧
    EndCause 1 (.handler c (.msg (.subscribe (actionId 9 1) 1 [0x82, 0] 2 1) true)) :=
  ⟨by decide, .refused _ _ _ _ _ _ (by decide)⟩

/-- **Model note (receiver of a failed `subscribe()`).** In the library the stream receiver is a local of
    `subscribe()` and is dropped when the call returns an error; in the model a `subscribe()` future that completes with
    an error *after* its channel was created (its oneshot was closed, or it received `MaximumPacketSizeExceeded`) leaves
    the channel entry in place, so the model keeps reporting that receiver as alive. This does not affect the theorems
    above (an entry nobody reads only makes `rest` non-empty), and in both cases the channel is no longer registered
    (session reset / context dropped, resp. SUBSCRIBE refused) — but it is a place where the model is more generous than
    the code. -/
example :
    (({ wWaitSub with slots := [(2, .closed)] } : World).pollOp 1).out = [.done 1 (.err .contextExited)] ∧
    (({ wWaitSub with slots := [(2, .closed)] } : World).pollOp 1).opSt 1 = none ∧
    (({ wWaitSub with slots := [(2, .closed)] } : World).pollOp 1).chanRxAlive 1 = true ∧
    (({ wWaitSub with slots := [(2, .full .errSize)] } : World).pollOp 1).chan 1 = some {} := by decide

end NonVacuity

#print axioms step_is_a_trace
#print axioms script_is_a_trace
#print axioms script_registers_identifiers_once
#print axioms move_conservation
#print axioms trace_conservation
#print axioms step_conservation
#print axioms script_conservation_from
#print axioms stream_yields_exactly_what_was_delivered
#print axioms itemsOf_run
#print axioms who_gets_delivered_what
#print axioms publish_delivers_in_world
#print axioms subscribe_creates_channel_and_queues_registration
#print axioms stream_call_moves_nothing
#print axioms publish_delivered_before_suback_and_before_stream
#print axioms dead_receivers_are_dropped_channels
#print axioms delivery_independent_of_buffers
#print axioms delivered_in_closed_form
#print axioms stream_yields_the_publishes_registered_for_it
#print axioms sender_lost_only_by_end_cause
#print axioms stream_ends_only_after_end_cause
#print axioms other_stream_polled_or_dropped
#print axioms other_operation_polled_or_dropped
#print axioms registration_kept
#print axioms registration_kept_along

end Poster

/-
  Properties/C04Decode.lean — C04, decoder part: no byte sequence makes the packet decoders panic.

  C04: "For every byte sequence … the client never panics." The modelled panics of the decoding layer are
    (1) `Bytes::advance` past the end of the buffer (`tryDec`, `advanceBy`),
    (2) `bytes[0]` on an empty frame (`decodeRx []`) — excluded: the framing layer hands over frames of ≥ 2 bytes,
    (3) `u32` overflow in the variable byte integer loop (debug builds) — `decVar_no_overflow`.
-/
import PosterModel.Lemmas.NoPanic

namespace Poster

/-- **C04 (decoder).** `RxPacket::try_decode` never panics on a non-empty frame, whatever the bytes are:
    no primitive decoder reports a byte length larger than the buffer it decoded from, so no
    `Decoder::try_decode` / `advance_by` runs past the end. -/
theorem decodeRx_never_panics (bs : Bytes) (h : bs ≠ []) : decodeRx bs ≠ .panic := by
  cases bs with
  | nil => exact absurd rfl h
  | cons b t =>
    simp only [decodeRx]
    split
    · exact Res.map_ne_panic (decConnack_np _)
    · exact Res.map_ne_panic (decPublish_np _)
    · exact Res.map_ne_panic (decAck_np _ _ _)
    · exact Res.map_ne_panic (decAck_np _ _ _)
    · exact Res.map_ne_panic (decAck_np _ _ _)
    · exact Res.map_ne_panic (decAck_np _ _ _)
    · exact Res.map_ne_panic (decSubackLike_np _ _ _)
    · exact Res.map_ne_panic (decSubackLike_np _ _ _)
    · exact Res.bind_ne_panic (dU8_np _) fun (hd, _) => Res.ite_ne_panic nofun nofun
    · exact Res.map_ne_panic (decDisconnect_np _)
    · exact Res.map_ne_panic (decAuth_np _)
    · simp

/-- The one modelled panic of `decodeRx`: indexing `bytes[0]` of an empty buffer (so the hypothesis of
    `decodeRx_never_panics` is necessary). -/
example : decodeRx [] = .panic := rfl

/-- Each packet decoder on its own never panics, for every input including the empty one
    (`decoder.try_decode::<u8>()` on an empty buffer is an error, not a panic). -/
theorem packet_decoders_never_panic (bs : Bytes) :
    decConnack bs ≠ .panic ∧ decAuth bs ≠ .panic ∧ decPublish bs ≠ .panic ∧ decDisconnect bs ≠ .panic ∧
    (∀ hdr ok, decAck hdr ok bs ≠ .panic) ∧ (∀ hdr ok, decSubackLike hdr ok bs ≠ .panic) :=
  ⟨decConnack_np bs, decAuth_np bs, decPublish_np bs, decDisconnect_np bs,
   fun _ _ => decAck_np _ _ bs, fun _ _ => decSubackLike_np _ _ bs⟩

/-- The calls `decVarAux idx mult acc rest` that the loop of `VarSizeInt::try_from(&[u8])` makes on `input`:
    it starts at `decVarAux 0 1 0 input` and recurses exactly when the multiplier test passes and the byte has
    its continuation bit set. -/
inductive VarReach (input : Bytes) : Nat → Nat → Nat → Bytes → Prop where
  | start : VarReach input 0 1 0 input
  | step {idx mult acc : Nat} {b : UInt8} {rest : Bytes} :
      VarReach input idx mult acc (b :: rest) → ¬ mult > varMax → ¬ b.toNat < 128 →
      VarReach input (idx + 1) (mult * 128) (acc + (b.toNat % 128) * mult) rest

/-- `VarReach` is faithful to the recursion: every reachable call computes the result of the whole loop. -/
theorem varReach_result {input : Bytes} {idx mult acc : Nat} {bs : Bytes} (h : VarReach input idx mult acc bs) :
    decVarAux idx mult acc bs = decVar input := by
  induction h with
  | start => rfl
  | step _ hm hb ih => rw [← ih]; simp only [decVarAux, hm, hb, ↓reduceIte]

/-- **C04 (arithmetic).** In the variable byte integer loop, at every reachable iteration the multiplier is one of
    1, 128, 128², 128³, 128⁴ (so `≤ 2^28`), the accumulator is below the multiplier (so `< 2^28`), and whenever the
    multiplier test `mult > MAX` passes, the two `u32` operations of the iteration — `acc + (b & 127) * mult` and
    `mult * 128` — stay `< 2^28` resp. `≤ 2^28`: nothing overflows a `u32`, and at most four bytes are consumed. -/
theorem decVar_no_overflow {input : Bytes} {idx mult acc : Nat} {bs : Bytes} (h : VarReach input idx mult acc bs) :
    idx ≤ 4 ∧ mult = 128 ^ idx ∧ mult ≤ 2 ^ 28 ∧ acc < mult ∧ acc < 2 ^ 28 ∧
    (¬ mult > varMax → idx ≤ 3 ∧ mult * 128 ≤ 2 ^ 28 ∧
      ∀ b : UInt8, (b.toNat % 128) * mult < 2 ^ 28 ∧ acc + (b.toNat % 128) * mult < 2 ^ 28) := by
  -- the multiplier is a power of 128, and the test `mult > MAX` lets the loop go on only below 128⁴ = MAX + 1
  have key : mult = 128 ^ idx ∧ idx ≤ 4 := by
    induction h with
    | start => exact ⟨rfl, Nat.zero_le _⟩
    | @step idx mult _ _ _ _ hm _ ih =>
      obtain ⟨rfl, _⟩ := ih
      refine ⟨(Nat.pow_succ ..).symm, Nat.lt_of_not_le fun h4 => hm ?_⟩
      exact Nat.lt_of_lt_of_le (by decide : varMax < 128 ^ 4) (Nat.pow_le_pow_right (by decide) h4)
  have hacc : acc < mult := by
    induction h with
    | start => decide
    | @step idx mult acc b rest _ _ _ ih =>
      have : b.toNat % 128 * mult ≤ 127 * mult := Nat.mul_le_mul_right _ (by omega)
      omega
  obtain ⟨rfl, h4⟩ := key
  have hle : 128 ^ idx ≤ 128 ^ 4 := Nat.pow_le_pow_right (by decide) h4
  refine ⟨h4, rfl, hle, hacc, Nat.lt_of_lt_of_le hacc hle, fun hm => ?_⟩
  have h3 : idx ≤ 3 := Nat.le_of_lt_succ (Nat.lt_of_not_le fun h => hm <|
    Nat.lt_of_lt_of_le (by decide : varMax < 128 ^ 4) (Nat.pow_le_pow_right (by decide) h))
  have hs : 128 ^ idx * 128 ≤ 128 ^ 4 := by
    rw [← Nat.pow_succ]; exact Nat.pow_le_pow_right (by decide) (Nat.succ_le_succ h3)
  refine ⟨h3, hs, fun b => ?_⟩
  have : b.toNat % 128 * 128 ^ idx ≤ 127 * 128 ^ idx := Nat.mul_le_mul_right _ (by omega)
  generalize 128 ^ idx = m at *
  omega

/-- non-vacuity of `VarReach`: on `ff ff ff 7f` the loop reaches index 3 with multiplier 128³. -/
example : VarReach [0xff, 0xff, 0xff, 0x7f] 3 2097152 2097151 [0x7f] :=
  .step (.step (.step .start (by decide) (by decide)) (by decide) (by decide)) (by decide) (by decide)

end Poster

#print axioms Poster.decodeRx_never_panics
#print axioms Poster.packet_decoders_never_panic
#print axioms Poster.varReach_result
#print axioms Poster.decVar_no_overflow

/-
  Properties/C17.lean — resuming a session re-sends exactly the unfinished outbound handshakes.

  Model (src/client/context.rs): `Ctx.resume` = the prelude of `run()` on a reconnect
  (`if session_expired { reset_session }; retransmit`), `Ctx.sessionExpired`, `Ctx.resetSession`; the retransmit queue
  `c.retx` is filled by `Ctx.handleMsg` and emptied by the PUBACK / PUBREC / PUBCOMP arms of `Ctx.handlePkt`.
  `c.disc = some e` means: a disconnection was recorded `e` seconds ago; `c.sei` is the session expiry interval in force.

  Specification of the queue, from the history alone (Lemmas/CtxRetx.lean): `unfinished t` — every PUBLISH / PUBREL request
  that was accepted and written (PUBLISH with DUP set), in order, minus those whose PUBACK / PUBREC / PUBCOMP was handled.
-/
import PosterModel.Lemmas.CtxRetx

namespace Poster

/-- **When a session has expired**: interval 0 — always; interval 0xFFFFFFFF — never; otherwise exactly when more
    seconds than the interval have elapsed since the recorded disconnection (`elapsed` as a `u32`). -/
theorem sessionExpired_iff (c : Ctx) (elapsed : Nat) (he : elapsed ≤ 4294967295) :
    c.sessionExpired elapsed = true ↔ c.sei = 0 ∨ (c.sei ≠ 4294967295 ∧ c.sei < elapsed) := by
  unfold Ctx.sessionExpired
  have : ¬ elapsed > 4294967295 := by omega
  by_cases h0 : c.sei = 0
  · simp [h0]
  · by_cases hm : c.sei = 4294967295
    · simp [hm]
    · simp [h0, hm, this]

/-- an elapsed time that does not fit a `u32` saturates: it counts as 0xFFFFFFFF seconds -/
theorem sessionExpired_saturates (c : Ctx) (elapsed : Nat) (he : elapsed > 4294967295) :
    c.sessionExpired elapsed = c.sessionExpired 4294967295 := by
  unfold Ctx.sessionExpired
  simp [he]

/-- **First connection**: nothing recorded, nothing re-sent, nothing touched. -/
theorem resume_first_connection (c : Ctx) (h : c.disc = none) : c.resume = (c, [], []) := c.resume_none h

/-- **Session still alive.** The packets re-sent before any new traffic are exactly the packets of the retransmit queue, in
    queue order; no caller is failed, no stream is closed; the pending acknowledgements, the subscriptions, the queue and
    the quota are what they were — so the original `publish()` futures complete on the acknowledgements that arrive on the
    new connection —; the recorded disconnection is cleared. -/
theorem resume_not_expired (c : Ctx) (e : Nat) (h : c.disc = some e) (hx : c.sessionExpired e = false) :
    c.resume = ({ c with disc := none }, [], c.retx.map (·.2)) ∧
    c.resume.2.2 = c.retx.map (·.2) ∧ c.resume.2.1 = [] ∧
    c.resume.1.awaiting = c.awaiting ∧ c.resume.1.subs = c.subs ∧ c.resume.1.retx = c.retx ∧
    c.resume.1.quota = c.quota ∧ c.resume.1.inQos2 = c.inQos2 ∧ c.resume.1.disc = none := by
  have : c.resume = ({ c with disc := none }, [], c.retx.map (·.2)) := c.resume_alive e h hx
  simp [this]

/-- **Session expired.** Nothing is re-sent and nothing is written; every abandoned operation fails instead of hanging:
    the oneshot of every pending acknowledgement is dropped (its future resolves with an error) and every subscription
    sender is dropped (its stream ends); afterwards the session is empty. -/
theorem resume_expired (c : Ctx) (e : Nat) (h : c.disc = some e) (hx : c.sessionExpired e = true) :
    c.resume.2.2 = [] ∧ writesOf c.resume.2.1 = [] ∧
    (∀ as ∈ c.awaiting, Eff.dropSlot as.2 ∈ c.resume.2.1) ∧ (∀ sc ∈ c.subs, Eff.dropChan sc.2 ∈ c.resume.2.1) ∧
    c.resume.1.awaiting = [] ∧ c.resume.1.retx = [] ∧ c.resume.1.subs = [] ∧ c.resume.1.inQos2 = [] ∧
    c.resume.1.disc = none := by
  have hres : c.resume = ({ c with awaiting := [], subs := [], retx := [], inQos2 := [], disc := none },
      c.awaiting.map (fun (_, s) => Eff.dropSlot s) ++ c.subs.map (fun (_, ch) => Eff.dropChan ch), []) :=
    c.resume_expired_eq e h hx
  rw [hres]
  refine ⟨rfl, ?_, ?_, ?_, rfl, rfl, rfl, rfl, rfl⟩
  · -- only drops, no write
    rw [writesOf_eq_nil_iff]
    intro b hb
    simp only [List.mem_append, List.mem_map] at hb
    rcases hb with ⟨x, _, hx⟩ | ⟨x, _, hx⟩ <;> cases hx
  · intro as has
    simp only [List.mem_append, List.mem_map]
    exact Or.inl ⟨as, has, rfl⟩
  · intro sc hsc
    simp only [List.mem_append, List.mem_map]
    exact Or.inr ⟨sc, hsc, rfl⟩

/-- **The queue is the unfinished handshakes.** After any history, the retransmit queue is what the specification computes
    from the observations alone: the accepted-and-written PUBLISH (DUP set) and PUBREL requests, in the order they were
    made, minus the first entry addressed by every PUBACK / PUBREC / PUBCOMP handled. -/
theorem retx_is_unfinished (c : Ctx) (is : List CIn) :
    (c.serve is).1.retx = unfinishedFrom c.retx (c.serve is).2 ∧
    (c.retx = [] → (c.serve is).1.retx = unfinished (c.serve is).2) := by
  have h := Ctx.serve_fold (·.retx) retxStep step_retx c is
  refine ⟨h, fun h0 => ?_⟩
  rw [h, h0]; rfl

/-- **C17 end to end.** Serve any history from an empty queue, lose the connection, come back before the session expires:
    what is re-sent, before anything else, is exactly the list of unfinished handshakes of that history, in their original
    order. -/
theorem resume_resends_unfinished (c : Ctx) (is : List CIn) (e : Nat) (h0 : c.retx = [])
    (hx : (c.serve is).1.sessionExpired e = false) :
    ({ (c.serve is).1 with disc := some e } : Ctx).resume.2.2 = (unfinished (c.serve is).2).map (·.2) := by
  have hx' : ({ (c.serve is).1 with disc := some e } : Ctx).sessionExpired e = false := hx
  rw [(resume_not_expired _ e rfl hx').2.1]
  simp only
  rw [(retx_is_unfinished c is).2 h0]

/-- **Acknowledged, hence not re-sent.** With pairwise distinct outstanding action identifiers (`nodup_preserved`), after a
    PUBACK (resp. PUBREC with any reason code, PUBCOMP) for `pid` no entry addressed by it is left in the queue. -/
theorem acked_not_resent (c : Ctx) (alive : Nat → Bool) (a : AckRx) (wok : Bool) (hnd : (c.retx.map (·.1)).Nodup) :
    (∀ e ∈ (c.handlePkt alive (.puback a) wok).1.retx, e.1 ≠ actionId 4 a.packetId) ∧
    (∀ e ∈ (c.handlePkt alive (.pubrec a) wok).1.retx, e.1 ≠ actionId 5 a.packetId) ∧
    (∀ e ∈ (c.handlePkt alive (.pubcomp a) wok).1.retx, e.1 ≠ actionId 7 a.packetId) := by
  simp only [Ctx.handlePkt_retx]
  exact ⟨eraseFirst_no_key _ _ hnd, eraseFirst_no_key _ _ hnd, eraseFirst_no_key _ _ hnd⟩

/-- … and nothing else is lost: an entry addressed by another identifier stays in the queue -/
theorem unacked_still_queued (c : Ctx) (alive : Nat → Bool) (p : RxPacket) (wok : Bool) (e : Nat × Bytes) (he : e ∈ c.retx)
    (hk : ∀ k, rxActionId p = some k → e.1 ≠ k) : e ∈ (c.handlePkt alive p wok).1.retx := by
  rcases Ctx.handlePkt_retx_cases c alive p wok with e' | ⟨aid, ha, e'⟩ <;> rw [e']
  · exact he
  · exact mem_eraseFirst_of_ne _ _ e he (hk _ ha)

/-- **Order preserved.** Handling an inbound packet only erases entries (what remains keeps its relative order); handling a
    request leaves the queue alone or appends exactly one entry at the end — for a PUBLISH or PUBREL awaiting its
    acknowledgement. -/
theorem retx_order_preserved (c : Ctx) :
    (∀ alive p wok, ((c.handlePkt alive p wok).1.retx).Sublist c.retx) ∧
    (∀ m wok, (c.handleMsg m wok).1.retx = c.retx ∨
      ∃ aid pkt slot, m = .awaitAck aid pkt slot ∧
        ((pktType pkt = 3 ∧ (c.handleMsg m wok).1.retx = c.retx ++ [(aid, setDup pkt)]) ∨
         (pktType pkt = 6 ∧ (c.handleMsg m wok).1.retx = c.retx ++ [(aid, pkt)]))) := by
  constructor
  · exact fun alive p wok => Ctx.handlePkt_retx_sublist c alive p wok
  · intro m wok
    rcases Ctx.retx_handleMsg c m wok with h | ⟨aid, pkt, slot, rfl, h⟩
    · exact Or.inl h
    · rw [Ctx.retxEntry] at h
      by_cases h3 : pktType pkt = 3
      · exact Or.inr ⟨aid, pkt, slot, rfl, Or.inl ⟨h3, by rw [h, if_pos h3]⟩⟩
      · by_cases h6 : pktType pkt = 6
        · exact Or.inr ⟨aid, pkt, slot, rfl, Or.inr ⟨h6, by rw [h, if_neg h3, if_pos h6]⟩⟩
        · exact Or.inl (by rw [h, if_neg h3, if_neg h6, List.append_nil])

/-- **Stored with DUP, written without.** An accepted QoS>0 PUBLISH is written exactly as the caller encoded it and stored
    for retransmission as `setDup pkt`; an accepted PUBREL is stored as it is. -/
theorem retx_dup_marked (c : Ctx) (aid : Nat) (pkt : Bytes) (slot : Nat) (hs : c.sizeOk pkt = true) :
    (pktType pkt = 3 → c.quota ≠ 0 →
      (c.handleMsg (.awaitAck aid pkt slot) true).1.retx = c.retx ++ [(aid, setDup pkt)] ∧
      (c.handleMsg (.awaitAck aid pkt slot) true).2.1 = [.write pkt]) ∧
    (pktType pkt = 6 →
      (c.handleMsg (.awaitAck aid pkt slot) true).1.retx = c.retx ++ [(aid, pkt)] ∧
      (c.handleMsg (.awaitAck aid pkt slot) true).2.1 = [.write pkt]) := by
  rw [Ctx.handleMsg_awaitAck_eq]
  constructor
  · intro h3 hq; simp [Ctx.retxEntry, hs, h3, hq]
  · intro h6; simp [Ctx.retxEntry, hs, h6]

/-- **What DUP marking changes**: bit 3 of the first byte becomes 1; the packet type (high nibble), the QoS and RETAIN
    bits (bits 2..0) and every other byte — identifier, topic, properties, payload — are the ones written the first time. -/
theorem setDup_spec (b : UInt8) (t : Bytes) :
    setDup (b :: t) = UInt8.ofNat (b.toNat ||| 8) :: t ∧
    (UInt8.ofNat (b.toNat ||| 8)).toNat = b.toNat ||| 8 ∧
    (b.toNat ||| 8) % 8 = b.toNat % 8 ∧ (b.toNat ||| 8) / 16 = b.toNat / 16 ∧ (b.toNat ||| 8) / 8 % 2 = 1 ∧
    pktType (setDup (b :: t)) = pktType (b :: t) ∧ (setDup (b :: t)).length = (b :: t).length := by
  obtain ⟨h1, h2, h3, h4⟩ := lor8_bits b.toNat b.toNat_lt
  refine ⟨rfl, by simp, h1, h2, h3, ?_, rfl⟩
  simp [setDup, pktType, h2]

/-- **Outstanding identifiers stay distinct** (the queue side of property C11): if the keys of the queue are pairwise
    distinct and a new PUBLISH / PUBREL request does not reuse the action identifier of an unfinished one, they are
    pairwise distinct after the step. -/
theorem nodup_preserved (c : Ctx) (i : CIn) (hnd : (c.retx.map (·.1)).Nodup)
    (hnew : ∀ aid pkt slot wok, i = .msg (.awaitAck aid pkt slot) wok → aid ∉ c.retx.map (·.1)) :
    ((c.stepIn i).1.retx.map (·.1)).Nodup := by
  cases i with
  | pkt p dead wok =>
    rw [Ctx.stepIn_pkt]
    exact ((retx_order_preserved c).1 _ p wok |>.map _).nodup hnd
  | msg m wok =>
    rw [Ctx.stepIn_msg]
    rcases (retx_order_preserved c).2 m wok with h | ⟨aid, pkt, slot, rfl, hh⟩
    · rw [h]; exact hnd
    · obtain ⟨x, h⟩ : ∃ x, (c.handleMsg (.awaitAck aid pkt slot) wok).1.retx = c.retx ++ [(aid, x)] := by
        rcases hh with ⟨_, h⟩ | ⟨_, h⟩ <;> exact ⟨_, h⟩
      rw [h, List.map_append, List.map_singleton, nodup_append_singleton]
      exact ⟨hnd, hnew aid pkt slot wok rfl⟩

/-- QoS 1 PUBLISH id 1, QoS 2 PUBLISH id 2, PUBREL id 3 are sent; PUBACK 1 arrives; the connection is lost for 5 s with a
    60 s session: the QoS 2 PUBLISH (now with DUP: 0x34 → 0x3C) and the PUBREL are re-sent, in that order, and the two
    callers are still waiting. With a 3 s session nothing is re-sent and both callers are failed. -/
example :
    let r := ({} : Ctx).serve
      [.msg (.awaitAck (actionId 4 1) [0x32, 2, 0, 1] 10) true,
       .msg (.awaitAck (actionId 5 2) [0x34, 2, 0, 2] 11) true,
       .msg (.awaitAck (actionId 7 3) [0x62, 2, 0, 3] 12) true,
       .pkt (.puback { packetId := 1 }) [] true]
    unfinished r.2 = [(actionId 5 2, [0x3C, 2, 0, 2]), (actionId 7 3, [0x62, 2, 0, 3])] ∧
    ({ r.1 with disc := some 5, sei := 60 } : Ctx).resume.2 = ([], [[0x3C, 2, 0, 2], [0x62, 2, 0, 3]]) ∧
    ({ r.1 with disc := some 5, sei := 60 } : Ctx).resume.1.awaiting = [(actionId 5 2, 11), (actionId 7 3, 12)] ∧
    ({ r.1 with disc := some 5, sei := 3 } : Ctx).resume.2 = ([.dropSlot 11, .dropSlot 12], []) := by decide

#print axioms sessionExpired_iff
#print axioms sessionExpired_saturates
#print axioms resume_first_connection
#print axioms resume_not_expired
#print axioms resume_expired
#print axioms retx_is_unfinished
#print axioms resume_resends_unfinished
#print axioms acked_not_resent
#print axioms unacked_still_queued
#print axioms retx_order_preserved
#print axioms retx_dup_marked
#print axioms setDup_spec
#print axioms nodup_preserved

end Poster

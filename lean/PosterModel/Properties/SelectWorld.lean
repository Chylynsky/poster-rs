/-
  Properties/SelectWorld.lean — the `select!` of `run()` in EITHER order.

  `run()` (src/client/context.rs) is a loop around `futures::select! { packet = pck_fut => …, msg = msg_fut => … }`.
  When both branches are ready `select!` picks one pseudo-randomly; `World.runLoop` fixes "messages first". This file
  removes that assumption: the properties are proved for EVERY resolution of every choice — a scheduler `sched : Nat → Bool`
  per poll of the loop (`sched i = true`: in the iteration after which `i` iterations of fuel are left the packet branch is polled first; the
  definitions and the corner cases of `select!`: Lemmas/WorldSched.lean), and `StepsAny` / `RunAny` (Lemmas/WorldAny.lean)
  for whole scripts with every poll of `run()` resolved by its own scheduler.
-/
import PosterModel.Lemmas.WorldSelectEx
import PosterModel.Lemmas.WorldSelectCommute
import PosterModel.Lemmas.WorldSelectFuel
import PosterModel.Properties.CtxLift
import PosterModel.Properties.C04World
import PosterModel.Properties.C14World


namespace Poster
open Framing

/-- **`World.runLoop` is one resolution of the choice**: the scheduler that always polls the message branch first. -/
theorem select_runLoop_is_a_resolution (f : Nat) (w : World) :
    World.runLoopS (fun _ => false) f w = World.runLoop f w :=
  World.runLoop_is_a_resolution f w

/-- … and so is every poll of every task, every step and every run of the model: the transcript `World.run cfg evs` is
    one of the possible transcripts. -/
theorem select_model_run_is_a_resolution (cfg : Cfg) (evs : List Ev) :
    (∀ (w : World) (t : Task), World.PollTaskAny w t (w.pollTask t)) ∧
    (∀ (w : World) (e : Ev), World.StepAny w e (w.step e)) ∧
    World.RunAny cfg evs (World.run cfg evs) :=
  ⟨World.pollTaskAny_pollTask, World.stepAny_step, World.runAny_run cfg evs⟩

/-- **End of stream against a queued message** (the corner case of `select!`): if the packet branch is polled first and
    the packet stream has ended (`pollNext` yields `none`), `run()` returns `SocketClosed` at once — whatever is queued,
    nothing is handled, nothing is written; if the message branch is polled first, the first queued message is handled
    (the transport is not looked at in that round). -/
theorem select_end_of_stream_corner (w : World) :
    (∀ rx' rd', pollNext w.rx w.reader = (rx', rd', .none) →
      World.runIterS true w = .inr (({ w with rx := rx', reader := rd' } : World).finish .run (.err .socketClosed))) ∧
    (∀ m q, w.queue = m :: q → World.runIterS false w = World.msgBranch w m q) :=
  ⟨fun _ _ hp => World.runIterS_true_eq hp rfl,
    fun _ _ hq => World.runIterS_false_eq (rx' := (pollNext w.rx w.reader).1) (rd' := (pollNext w.rx w.reader).2.1)
      (o := (pollNext w.rx w.reader).2.2) rfl hq⟩

/-- **`HandleClosed` needs the message branch**: under every scheduler, the final step of a poll returns `HandleClosed`
    only from a world with nothing queued and no sender left (the message stream has ENDED, which only a poll of the message
    branch observes) — never because the packet branch won. -/
theorem select_handle_closed_needs_message_branch (w r : World) (h : World.SEnd w r) (pre : List Obs)
    (ho : r.out = w.out ++ pre ++ [.ret .run (.err .handleClosed)]) : w.queue = [] ∧ w.senders = 0 := by
  exact ⟨(World.sEnd_closed h ho).1, (World.sEnd_closed h ho).2.1⟩

/-- **Every poll under every scheduler decomposes into steps**: zero or more steps after which the loop goes on (a queued
    message handled; an inbound packet handled — whatever the queue holds; the packet branch `Pending`, which arms the
    reader), then — the fuel `loopFuel` always suffices from a sane framing state — one final step (`World.SEnd`: a handler
    ends `run()`, `HandleClosed`, a frame that does not decode, end of stream, or both branches `Pending`: the task parks
    with both wakers armed). -/
theorem select_poll_decomposes (sched : Nat → Bool) (w : World) (hok : w.rx.Ok) :
    ∃ wm, World.SServe w wm ∧ World.SEnd wm (World.runLoopS sched w.loopFuel w) :=
  World.runLoopS_full sched w hok

/-- **One poll of the loop is a served history, under every scheduler.** For every scheduler, fuel and world, the poll
    hands the inputs `loopHistS sched f w` to the handlers: each is well formed (inbound packets are decoder output), none
    is skipped, all but possibly the last let the loop go on, the context afterwards is the one `Ctx.serve` computes; if the
    last one ends `run()` the task is over and returns the result of that flow; with an unlimited transport (or whenever
    every handler's write was taken) the bytes handed to the transport are exactly the writes of the history, in order. -/
theorem select_poll_is_serve (sched : Nat → Bool) (f : Nat) (w : World) :
    World.PollServe w (World.runLoopS sched f w) (World.loopHistS sched f w) :=
  World.runLoopS_pollServe sched f w

/-- the history of the model's own order is `World.loopHist` (Lemmas/WorldCtx.lean), the history of Properties/CtxLift.lean -/
theorem select_hist_messages_first (f : Nat) (w : World) :
    World.loopHistS (fun _ => false) f w = World.loopHist f w :=
  World.loopHistS_false f w

/-- **Acknowledgements are exact under every scheduler** (C08): with `t` the history the poll serves, every handled
    inbound packet is answered with exactly the acknowledgement owed and every handled request with nothing or its own
    packet; the acknowledgements written are the ones owed, in arrival order of the PACKETS; and on an unlimited transport
    the bytes of the poll are, in order, for each handled packet its owed acknowledgement and for each handled request
    what it wrote. -/
theorem select_poll_acks_exact (sched : Nat → Bool) (f : Nat) (w : World) :
    let t := (w.c.serve (World.loopHistS sched f w)).2
    (World.runLoopS sched f w).c = (w.c.serve (World.loopHistS sched f w)).1 ∧
    P_C08 t = true ∧ pktWrites t = pktOwed t ∧
    (w.cfg.wlimit = none → (World.runLoopS sched f w).sent = w.sent ++ (t.flatMap obsWire).flatten) := by
  have h := World.runLoopS_pollServe sched f w
  exact ⟨h.c_eq, h.acks, pktWrites_eq_pktOwed _ h.acks, fun hl => h.wire (.inl hl)⟩

/-- **The send quota is respected under every scheduler** (C10): for every monitor state that accounts for the context
    (free slots + outstanding = Receive Maximum) the monitor accepts the history of the poll — in whichever order the
    requests and the acknowledgements were interleaved. -/
theorem select_poll_quota (sched : Nat → Bool) (f : Nat) (w : World) (m : QMon) (h : QRel w.c m) :
    m.scan (w.c.serve (World.loopHistS sched f w)).2 = true :=
  serve_sim w.c m _ h

theorem select_poll_quota_fresh (sched : Nat → Bool) (f : Nat) (w : World) (R : Nat) (hq : w.c.quota = R)
    (hr : w.c.recvMax = R) : P_C10 R (w.c.serve (World.loopHistS sched f w)).2 = true :=
  quota_invariant R w.c hq hr _

/-- **`inbound_qos2` after a poll is what its history says, under every scheduler** (C09). -/
theorem select_poll_inQos2 (sched : Nat → Bool) (f : Nat) (w : World) :
    (World.runLoopS sched f w).c.inQos2 = (w.c.serve (World.loopHistS sched f w)).2.foldl q2Step w.c.inQos2 :=
  (World.runLoopS_pollServe sched f w).inQos2

/-- **The retransmit queue after a poll is the unfinished handshakes of its history, under every scheduler** (C17). -/
theorem select_poll_retx (sched : Nat → Bool) (f : Nat) (w : World) :
    (World.runLoopS sched f w).c.retx = unfinishedFrom w.c.retx (w.c.serve (World.loopHistS sched f w)).2 :=
  (World.runLoopS_pollServe sched f w).retx

/-- **Serving never changes the packet-size limit, under every scheduler** (C12). -/
theorem select_poll_maxPkt (sched : Nat → Bool) (f : Nat) (w : World) :
    (World.runLoopS sched f w).c.maxPkt = w.c.maxPkt :=
  (World.runLoopS_pollServe sched f w).maxPkt

/-- **The first poll of `run()` under any scheduler**: session resumption and the re-sent retransmit queue are not
    affected by the scheduler (they precede the loop); then — if the transport takes the re-sent queue (`h`; otherwise
    `run()` returns `SocketClosed` before the loop) — the loop is a served history from the resumed context. -/
theorem select_first_poll_is_serve (sched : Nat → Bool) (w : World)
    (h : w.resumed.canWrite ((w.c.resume.2.2.map List.length).sum) = true) :
    World.PollServe w.resent (w.pollRunS sched false) (World.loopHistS sched w.resent.loopFuel w.resent) := by
  rw [World.pollRunS_first, if_pos h]
  exact World.runLoopS_pollServe _ _ _

/-- **Under any resolution of every `select!`, along every script, the context moves only by the documented
    transitions** — so every inductive invariant of those transitions holds in every world reachable under any
    resolution. -/
theorem select_ctx_invariant_lifts (P : Ctx → Prop) (h0 : P {}) (hserve : ∀ c i, i.wf → P c → P (c.stepIn i).1)
    (hconnack : ∀ c k, P c → P (c.handleConnack k)) (hsei : ∀ c n, P c → P { c with sei := n })
    (hdisc : ∀ c n, P c → P { c with disc := some n }) (hresume : ∀ c, P c → P c.resume.1)
    (cfg : Cfg) (evs : List Ev) (w : World) (hw : World.StepsAny { cfg := cfg } evs w) : P w.c :=
  CtxTrans.inv P h0 hserve hconnack hsei hdisc hresume (World.stepsAny_ctxTrans hw) h0

/-- e.g. the send quota never exceeds Receive Maximum in any world reachable under any resolution -/
theorem select_quota_bounded (cfg : Cfg) (evs : List Ev) (w : World) (hw : World.StepsAny { cfg := cfg } evs w) :
    w.c.quota ≤ w.c.recvMax :=
  (World.stepsAny_ctxTrans hw).quota_le (by decide : ({} : Ctx).quota ≤ ({} : Ctx).recvMax)

/-- **The messages handled by a poll are a prefix of the queue, in queue order, under every scheduler**, and what the
    poll leaves in the queue is the rest. In particular two resolutions that leave the same queue (e.g. both park: the
    queue is empty) have handled the same messages in the same order. -/
theorem select_messages_in_queue_order (sched : Nat → Bool) (f : Nat) (w : World) :
    histMsgs (World.loopHistS sched f w) ++ (World.runLoopS sched f w).queue = w.queue :=
  World.loopHistS_msgs sched f w

/-- **The inbound packets handled by a poll are a prefix of the decoded frames, in frame order, under every
    scheduler**: whatever the scheduler, the packets the poll hands to `handle_packet` are an initial segment of ONE reference
    sequence, `pktStream f w.rx w.reader` — what repeated `poll_next` calls decode from the framing state and the transport
    — so for any two schedulers one sequence of handled packets is a prefix of the other. (They need not be equal: a
    `Pending` of the transport that has flagged the task splits the packets between this poll and the next one differently,
    and a handler that ends the loop cuts the sequence short.) -/
theorem select_packets_in_frame_order (s1 s2 : Nat → Bool) (f : Nat) (w : World) :
    histPkts (World.loopHistS s1 f w) <+: World.pktStream f w.rx w.reader ∧
    (histPkts (World.loopHistS s1 f w) <+: histPkts (World.loopHistS s2 f w) ∨
     histPkts (World.loopHistS s2 f w) <+: histPkts (World.loopHistS s1 f w)) :=
  have h1 := World.loopHistS_pkts s1 f w
  have h2 := World.loopHistS_pkts s2 f w
  ⟨h1, (Nat.le_total (histPkts (World.loopHistS s1 f w)).length (histPkts (World.loopHistS s2 f w)).length).imp
    (List.prefix_of_prefix_length_le h1 h2) (List.prefix_of_prefix_length_le h2 h1)⟩

/-- a poll that leaves `run()` pending has handled the whole queue, under every scheduler -/
theorem select_parked_handled_all (sched : Nat → Bool) (w : World) (hok : w.rx.Ok)
    (h : (World.runLoopS sched w.loopFuel w).task ≠ .none) :
    histMsgs (World.loopHistS sched w.loopFuel w) = w.queue := by
  have h1 := World.loopHistS_msgs sched w.loopFuel w
  rwa [World.runLoopS_pending_queue sched w hok h, List.append_nil] at h1

/-- **What a poll writes when its inbound packets are silent — explicit; the scheduler enters only through which prefix
    of the queue the poll handled.** On an
    unlimited transport, if every inbound packet the poll handles writes nothing and does not end the loop (acknowledgements,
    SUBACK, UNSUBACK, PINGRESP, QoS 0 PUBLISH, …) and the send quota cannot tell the orders apart — `nb = true`: the packets
    leave the quota alone; `nb = false`: the quota covers every queued QoS>0 PUBLISH — then the bytes the poll hands to the
    transport are exactly what the handled messages (a prefix of the queue) write when served ALONE, in queue order, from
    the context before the poll. -/
theorem select_sent_of_silent_poll (nb : Bool) (sched : Nat → Bool) (f : Nat) (w : World) (hl : w.cfg.wlimit = none)
    (hs : Ctx.SilentHist nb (World.loopHistS sched f w))
    (hq : nb = false → pubCountM w.queue ≤ w.c.quota) :
    (World.runLoopS sched f w).sent = w.sent ++ (World.histWrites
      (w.c.serve ((histMsgs (World.loopHistS sched f w)).map (fun m => CIn.msg m true))).2).flatten :=
  World.sent_of_silent_poll nb sched f w hl hs hq

/-- **The bytes do not depend on the scheduler** — the justification of the `coincide` correspondence scripts (DESIGN.md §4). Two
    resolutions of the same poll (any schedulers, any fuels) on an unlimited transport, in both of which every inbound
    packet handled is silent and the quota cannot tell orders apart, and which leave the same messages in the queue, hand
    the same bytes to the transport. -/
theorem select_sent_scheduler_independent (nb : Bool) (s1 s2 : Nat → Bool) (f1 f2 : Nat) (w : World)
    (hl : w.cfg.wlimit = none)
    (h1 : Ctx.SilentHist nb (World.loopHistS s1 f1 w)) (h2 : Ctx.SilentHist nb (World.loopHistS s2 f2 w))
    (hq : nb = false → pubCountM w.queue ≤ w.c.quota)
    (hleft : (World.runLoopS s1 f1 w).queue = (World.runLoopS s2 f2 w).queue) :
    (World.runLoopS s1 f1 w).sent = (World.runLoopS s2 f2 w).sent :=
  World.sent_scheduler_independent nb s1 s2 f1 f2 w hl h1 h2 hq hleft

/-- … in particular for two resolutions of a whole poll that both leave `run()` pending -/
theorem select_sent_independent_when_parked (nb : Bool) (s1 s2 : Nat → Bool) (w : World) (hok : w.rx.Ok)
    (hl : w.cfg.wlimit = none)
    (h1 : Ctx.SilentHist nb (World.loopHistS s1 w.loopFuel w)) (h2 : Ctx.SilentHist nb (World.loopHistS s2 w.loopFuel w))
    (hq : nb = false → pubCountM w.queue ≤ w.c.quota)
    (p1 : (World.runLoopS s1 w.loopFuel w).task ≠ .none) (p2 : (World.runLoopS s2 w.loopFuel w).task ≠ .none) :
    (World.runLoopS s1 w.loopFuel w).sent = (World.runLoopS s2 w.loopFuel w).sent :=
  -- both polls park, so both leave the queue empty
  World.sent_scheduler_independent nb s1 s2 _ _ w hl h1 h2 hq
    ((World.runLoopS_pending_queue s1 w hok p1).trans (World.runLoopS_pending_queue s2 w hok p2).symm)

/-- the `Ctx`-level core of `select_sent_of_silent_poll`: silent packets can be deleted from a served history without changing what the message
    handlers do -/
theorem select_silent_packets_can_be_deleted (nb : Bool) (is : List CIn) (c c' : Ctx) (hs : Ctx.SilentHist nb is)
    (h : Ctx.QSim nb (pubCount is) c c') : msgObs (c.serve is).2 = (c'.serve (msgIns is)).2 :=
  Ctx.serve_msgObs_indep nb is c c' hs h

/-- **Commutation.** If the queued message `m` and the ready inbound packet `p` do not race in `c` — the packet is not
    addressed to the action identifier this very request registers, is not a PUBLISH for the subscription identifier it
    registers, and, if the request is a QoS>0 PUBLISH, the packet leaves the send quota alone or the quota is strictly
    between 0 and Receive Maximum — then handling them in either order leads to the same context, and each handler performs
    the same effects and returns the same flow in both orders. In particular every request that is not a QoS>0 PUBLISH
    commutes with every packet that neither answers it nor is a PUBLISH for the subscription identifier it registers. -/
theorem select_handle_commute (c : Ctx) (m : Msg) (p : RxPacket) (alive : Nat → Bool) (wm wp : Bool)
    (h : Ctx.NoRace c m p) :
    ((c.handleMsg m wm).1.handlePkt alive p wp).1 = ((c.handlePkt alive p wp).1.handleMsg m wm).1 ∧
    (c.handleMsg m wm).2 = ((c.handlePkt alive p wp).1.handleMsg m wm).2 ∧
    ((c.handleMsg m wm).1.handlePkt alive p wp).2 = (c.handlePkt alive p wp).2 :=
  Ctx.handle_commute c m p alive wm wp h

/-- the same for the two-input histories the serving loop sees: same final context whichever input is handled first
    (when neither handler ends the loop) -/
theorem select_serve_commute (c : Ctx) (m : Msg) (p : RxPacket) (dead : List Nat) (wm wp : Bool)
    (h : Ctx.NoRace c m p) (hm : (c.handleMsg m wm).2.2 = .cont)
    (hp : (c.handlePkt (fun ch => ch ∉ dead) p wp).2.2 = .cont) :
    (c.serve [.msg m wm, .pkt p dead wp]).1 = (c.serve [.pkt p dead wp, .msg m wm]).1 := by
  rw [Ctx.serve_cons_cont c (.msg m wm) _ hm, Ctx.serve_cons_cont c (.pkt p dead wp) _ hp, Ctx.serve_single, Ctx.serve_single]
  exact (Ctx.handle_commute c m p (fun ch => ch ∉ dead) wm wp h).1

/-- **The hypotheses of the commutation cannot be dropped, 1: the answer overtaking its request.** A PINGREQ is queued and
    a PINGRESP is ready while nobody waits for one: handled after the request the PINGRESP completes the new waiter,
    handled before it completes nothing. (A real broker has not seen the request yet; the model allows it.) -/
theorem select_race_answer_overtakes_request :
    let c : Ctx := {}
    let m : Msg := .awaitAck (actionId 13 0) pingreqBytes 2
    ((c.handleMsg m true).1.handlePkt (fun _ => true) .pingresp true).1.awaiting = [] ∧
    ((c.handlePkt (fun _ => true) .pingresp true).1.handleMsg m true).1.awaiting = [(actionId 13 0, 2)] := by
  decide

/-- **2: a duplicate acknowledgement at full quota.** Quota = Receive Maximum (nothing outstanding), a QoS 1 PUBLISH queued
    and a (spurious) PUBACK ready: the guarded increment makes the order visible. -/
theorem select_race_full_quota :
    let c : Ctx := { quota := 5, recvMax := 5 }
    let m : Msg := .awaitAck (actionId 4 2) Ex.pub2 4
    ((c.handleMsg m true).1.handlePkt (fun _ => true) (.puback { packetId := 1 }) true).1.quota = 5 ∧
    ((c.handlePkt (fun _ => true) (.puback { packetId := 1 }) true).1.handleMsg m true).1.quota = 4 := by
  decide

/-- **The one real race**: the send quota is exactly 0, the PUBACK that frees the slot is ready and a QoS 1 PUBLISH is
    queued (`Ex.wRace`). With the messages first (`World.runLoop`) the PUBLISH is refused with `QuotaExceeded`, nothing is
    written, and the quota ends at 1; with the packets first the PUBACK frees the slot, the PUBLISH takes it and is written,
    and the quota ends at 0. Both histories are legal under C10: the send-quota monitor (Receive Maximum 1, packet 1
    outstanding) accepts both, and both satisfy C08. -/
theorem select_quota_race (f : Nat) :
    -- messages first
    World.loopHistS (fun _ => false) (f + 3) Ex.wRace = [Ex.raceMsg, Ex.racePkt] ∧
    (World.runLoopS (fun _ => false) (f + 3) Ex.wRace).slot 4 = some (.full .errQuota) ∧
    (World.runLoopS (fun _ => false) (f + 3) Ex.wRace).sent = [] ∧
    (World.runLoopS (fun _ => false) (f + 3) Ex.wRace).c.quota = 1 ∧
    -- packets first
    World.loopHistS (fun _ => true) (f + 3) Ex.wRace = [Ex.racePkt, Ex.raceMsg] ∧
    (World.runLoopS (fun _ => true) (f + 3) Ex.wRace).slot 4 = some .empty ∧
    (World.runLoopS (fun _ => true) (f + 3) Ex.wRace).sent = Ex.pub2 ∧
    (World.runLoopS (fun _ => true) (f + 3) Ex.wRace).c.quota = 0 ∧
    (World.runLoopS (fun _ => true) (f + 3) Ex.wRace).c.awaiting = [(actionId 4 2, 4)] ∧
    -- both are legal
    (∀ sched, ({ R := 1, out := [(1, 1)] } : QMon).scan
      (Ex.wRace.c.serve (World.loopHistS sched (f + 3) Ex.wRace)).2 = true) ∧
    (∀ sched, P_C08 (Ex.wRace.c.serve (World.loopHistS sched (f + 3) Ex.wRace)).2 = true) := by
  refine ⟨Ex.race_hist_msgs_first f, ?_, ?_, ?_, Ex.race_hist_pkts_first f, ?_, ?_, ?_, ?_, fun sched => ?_, fun sched => ?_⟩
  · rw [Ex.race_msgs_first]; decide
  · rw [Ex.race_msgs_first]; decide
  · rw [Ex.race_msgs_first]; decide
  · rw [Ex.race_pkts_first]; decide
  · rw [Ex.race_pkts_first]; decide
  · rw [Ex.race_pkts_first]; decide
  · rw [Ex.race_pkts_first]; decide
  · exact select_poll_quota sched _ _ _ ⟨by decide, by decide⟩
  · exact (select_poll_acks_exact sched _ _).2.1

/-- **One poll of the context task under any scheduler** keeps the sender-ownership invariant `OwnInv`, the operation
    table invariant `OpsInv` and the registration invariant `RegInv`, keeps the framing state reachable, adds no
    observation other than `W` lines, one `RET` and the panics of `CtxObs` (the documented assertion — only from
    `connect()` / `authorize()` — or a decoder panic, which reachable framing states exclude), and leaves the context
    future alive only with everything read and the transport waker registered, or flagged. -/
theorem select_poll_preserves (sched : Nat → Bool) (w : World) :
    (World.OwnInv w → World.OwnInv (w.pollCtxS sched)) ∧
    (World.OpsInv w → World.OpsInv (w.pollCtxS sched)) ∧
    (World.RegInv w → World.RegInv (w.pollCtxS sched)) ∧
    (Reach w.rx → Reach (w.pollCtxS sched).rx) ∧
    World.OutExtP (World.CtxObs w) w (w.pollCtxS sched) ∧
    (Reach w.rx → Obs.panic .ctx "other" ∉ (w.pollCtxS sched).out.drop w.out.length) ∧
    (w.rx.Ok → (w.pollCtxS sched).task ≠ .none →
      ((w.pollCtxS sched).reader = [] ∧ (w.pollCtxS sched).readerReg = true) ∨ Task.ctx ∈ (w.pollCtxS sched).woken) := by
  refine ⟨World.own_pollCtxS sched w, fun h => h.moves (World.pollCtxS_moves sched w),
    fun h => (World.RegSub.pollCtxS sched w).regInv h, World.pollCtxS_reach sched w,
    World.pollCtxS_panics sched w, fun hr => ?_, fun hok h => (World.pollCtxS_pending sched w hok h).armed⟩
  obtain ⟨added, e, hP⟩ := (World.pollCtxS_safe sched w hr).2
  rw [e, List.drop_left]
  exact fun hm => hP _ hm rfl

/-- **The whole-client invariants hold in every world reachable under any resolution of every `select!`**: sender
    ownership (`OwnInv`, C14), the operation table (`OpsInv`, C05), waker registrations (`RegInv`), a reachable framing
    state, and "a context future that is alive and not flagged has nothing left to read and the transport waker
    registered". -/
theorem select_invariants_reachable (cfg : Cfg) (evs : List Ev) (w : World)
    (hw : World.StepsAny { cfg := cfg } evs w) :
    World.OwnInv w ∧ World.OpsInv w ∧ World.RegInv w ∧ Reach w.rx ∧
    (w.task ≠ .none → Task.ctx ∉ w.woken → w.reader = [] ∧ w.readerReg = true) := by
  have r := (World.W11.reachable_init cfg).stepsAny hw
  have h4 := World.W5.tinv_anyInv.stepsAny hw (World.W5.TInv.init cfg)
  exact ⟨r.own, r.ops, r.reg, h4.reach, h4.st⟩

/-- **Headline, C04 under every resolution: the only panic a client can log is the documented assertion.** For every
    configuration, every script whose operations carry pairwise distinct ids, and EVERY resolution of every `select!` of
    `run()`: every `PANIC` line of the transcript is `PANIC ctx assert-subid`. -/
theorem select_only_documented_panic (cfg : Cfg) (evs : List Ev) (hn : (World.opIds evs).Nodup) (out : List Obs)
    (h : World.RunAny cfg evs out) :
    ∀ o ∈ out, (∃ t cls, o = .panic t cls) → o = .panic .ctx "assert-subid" :=
  h.documented hn

/-- **Headline, C14 under every resolution: no operation hangs once the context is gone.** In every world reachable under
    any resolution in which the context has been dropped, every pending operation is flagged for the executor (and if the
    executor is quiescent the script holds it), and a single poll completes it with exactly one observation: a never-polled
    operation fails with `ContextExited` (or `CodecError`), a waiting one whose oneshot was closed completes with
    `ContextExited`, one whose acknowledgement had already arrived is resumed with it. -/
theorem select_no_op_hangs_after_drop (cfg : Cfg) (evs : List Ev) (w : World)
    (hw : World.StepsAny { cfg := cfg } evs w) (hd : w.ctxDropped = true)
    (id : Nat) (st : OpSt) (hm : (id, st) ∈ w.ops) :
    Task.op id ∈ w.woken ∧ (w.pick = none → Task.op id ∈ w.held) ∧
    (w.pollOp id).opSt id = none ∧ (w.pollOp id).ops = eraseFirst id w.ops ∧
    (match st with
     | .fresh _ _ => ∃ k, (k = ErrKind.contextExited ∨ k = ErrKind.codecError) ∧
         (w.pollOp id).out = w.out ++ [.done id (.err k)]
     | .wait s k =>
        (w.slot s = some .closed ∧ (w.pollOp id).out = w.out ++ [.done id (.err .contextExited)]) ∨
        (∃ v, w.slot s = some (.full v) ∧ w.pollOp id = w.resumeOp id s k v ∧
          ∃ o, World.OpEnd id o ∧ (w.pollOp id).out = w.out ++ [o])) :=
  World.no_op_hangs_of_ownInv (World.ownInv_stepsAny hw (World.ownInv_init cfg)) hd id st hm

/-- **The executor's fuel suffices under every resolution**: after every step of every script, whatever the schedulers, the
    executor has run to quiescence (no flagged live task that the script does not hold is left) — or the script was refused
    as malformed. (No poll of `run()` increases the potential `W5.phi` whatever the scheduler: a packet branch that is
    `Pending` and flags the task again has consumed a `pending` read event.) -/
theorem select_executor_idle_after_every_step (cfg : Cfg) (evs : List Ev) (w : World)
    (hw : World.StepsAny { cfg := cfg } evs w) : w.bad = true ∨ w.pick = none :=
  ((World.W11.reachable_init cfg).stepsAny hw).quiet

/-- **Headline, C04 under every resolution: the client never stalls with unread input.** Under any resolution of every
    `select!`, a script that never holds the context task back never logs a stall — whatever the configuration, the bytes
    fed, the operations and their identifiers. -/
theorem select_never_stalls (cfg : Cfg) (evs : List Ev) (hh : ∀ e ∈ evs, e ≠ .hold .ctx) (out : List Obs)
    (h : World.RunAny cfg evs out) : Obs.stall ∉ out :=
  World.no_stall_any cfg evs hh out h

section NonVacuity
open Ex

/-- the race world satisfies the hypotheses used above: a sane framing state, an unlimited transport, the monitor relation;
    and its two resolutions really differ -/
example : wRace.rx.Ok ∧ wRace.cfg.wlimit = none ∧ QRel wRace.c { R := 1, out := [(1, 1)] } ∧
    (World.runLoopS (fun _ => false) 3 wRace).sent ≠ (World.runLoopS (fun _ => true) 3 wRace).sent := by
  refine ⟨ok_init, rfl, ⟨by decide, by decide⟩, ?_⟩
  rw [race_msgs_first 0, race_pkts_first 0]; decide

/-- the race is exactly what `select_sent_scheduler_independent` excludes: the PUBACK is silent but not neutral, and the
    quota (0) does not cover the queued publish (1) -/
example : (RxPacket.puback { packetId := 1 }).silent = true ∧ (RxPacket.puback { packetId := 1 }).neutral = false ∧
    ¬ pubCountM wRace.queue ≤ wRace.c.quota := by decide

/-- … and what `Ctx.NoRace` excludes -/
example : ¬ Ctx.NoRace wRace.c (.awaitAck (actionId 4 2) pub2 4) (.puback { packetId := 1 }) := by
  intro h
  rcases h.quota (by decide) with h1 | h1
  · exact absurd h1 (by decide)
  · exact absurd h1.1 (by decide)

/-- the commutation applies to the same request and acknowledgement as soon as a slot is free: quota 1 of 2 -/
example : Ctx.NoRace { wRace.c with quota := 1, recvMax := 2 } (.awaitAck (actionId 4 2) pub2 4)
    (.puback { packetId := 1 }) :=
  ⟨fun id h1 h2 => by
      simp only [Msg.aid, Option.some.injEq] at h1; subst h1
      simp only [rxActionId, Option.some.injEq, actionId] at h2; omega,
    fun sid pb h1 => by simp [Msg.subId?] at h1, fun _ => Or.inr ⟨by decide, by decide⟩⟩

/-- a request that is not a QoS>0 PUBLISH (a PINGREQ) commutes with the PUBACK even at quota 0 -/
example : Ctx.NoRace wRace.c (.awaitAck (actionId 13 0) pingreqBytes 6) (.puback { packetId := 1 }) :=
  ⟨fun id h1 h2 => by
      simp only [Msg.aid, Option.some.injEq] at h1; subst h1
      simp only [rxActionId, Option.some.injEq, actionId] at h2; omega,
    fun sid pb h1 => by simp [Msg.subId?] at h1, fun h => by simp [Msg.isPub, pingreqBytes, pktType] at h⟩

/-- the silent-packet theorem applies to a non-trivial poll: the race world with one more slot (`wRace2`, quota 1 of 2),
    packets first — the history contains the (silent) PUBACK and the PUBLISH request, the quota covers the one queued
    publish, and the theorem computes the bytes of the poll: the PUBLISH packet -/
example :
    Ctx.SilentHist false (World.loopHistS (fun _ => true) 3 wRace2) ∧ pubCountM wRace2.queue ≤ wRace2.c.quota ∧
    (World.runLoopS (fun _ => true) 3 wRace2).sent = pub2 := by
  have hs : Ctx.SilentHist false (World.loopHistS (fun _ => true) 3 wRace2) := by
    rw [race2_hist_pkts_first 0]
    intro p d wok hm
    simp only [racePkt, raceMsg, List.mem_cons, CIn.pkt.injEq, List.not_mem_nil, or_false, reduceCtorEq] at hm
    obtain ⟨rfl, _, _⟩ := hm
    exact ⟨rfl, fun h => by cases h⟩
  refine ⟨hs, by decide, ?_⟩
  rw [select_sent_of_silent_poll false _ _ _ rfl hs (fun _ => by decide), race2_hist_pkts_first 0]
  decide

/-- end of stream with the DISCONNECT queued: packets first returns `SocketClosed` and leaves the queue alone; messages
    first writes the DISCONNECT and returns `Ok` -/
example :
    (World.runLoopS (fun _ => true) 1 wByeEof).out = [.ret .run (.err .socketClosed)] ∧
    (World.runLoopS (fun _ => true) 1 wByeEof).queue = wByeEof.queue ∧
    (World.runLoopS (fun _ => false) 1 wByeEof).out = [.wire [0xE0, 0], .ret .run .ok] := by
  rw [eof_pkts_first 0, eof_msgs_first 0]; decide

/-- the reference packet sequence of the race world is the PUBACK; the packets-first poll handles all of it -/
example : World.pktStream 3 wRace.rx wRace.reader = [.puback { packetId := 1 }] ∧
    histPkts (World.loopHistS (fun _ => true) 3 wRace) = [.puback { packetId := 1 }] ∧
    histMsgs (World.loopHistS (fun _ => true) 3 wRace) = wRace.queue := by
  refine ⟨?_, ?_, ?_⟩
  · rw [World.pktStream_succ]
    have : pollNext wRace.rx wRace.reader = ({}, [], .item puback1) := pn_puback1
    rw [this]
    simp only [dec_puback1]
    rw [World.pktStream_succ, World.pn_nil]
    simp only
    rw [World.pktStream_succ, World.pn_nil]
    rfl
  · rw [race_hist_pkts_first 0]; rfl
  · rw [race_hist_pkts_first 0]; rfl

/-- the script-level statements are about a non-trivial relation: a script with a request and a reply, run by the model, is
    one of the resolutions, and the reachable world has a pending operation, so the invariants say something -/
example :
    World.StepsAny {} [.setup, .op 1 0 .ping] (([.setup, .op 1 0 .ping] : List Ev).foldl World.step {}) ∧
    (([.setup, .op 1 0 .ping] : List Ev).foldl World.step {}).ops = [(1, .wait 2 .pingresp)] :=
  ⟨World.stepsAny_foldl _ _, by decide⟩

end NonVacuity

#print axioms select_runLoop_is_a_resolution
#print axioms select_model_run_is_a_resolution
#print axioms select_end_of_stream_corner
#print axioms select_handle_closed_needs_message_branch
#print axioms select_poll_decomposes
#print axioms select_poll_is_serve
#print axioms select_hist_messages_first
#print axioms select_poll_acks_exact
#print axioms select_poll_quota
#print axioms select_poll_quota_fresh
#print axioms select_poll_inQos2
#print axioms select_poll_retx
#print axioms select_poll_maxPkt
#print axioms select_first_poll_is_serve
#print axioms select_ctx_invariant_lifts
#print axioms select_quota_bounded
#print axioms select_messages_in_queue_order
#print axioms select_packets_in_frame_order
#print axioms select_parked_handled_all
#print axioms select_sent_of_silent_poll
#print axioms select_sent_scheduler_independent
#print axioms select_sent_independent_when_parked
#print axioms select_silent_packets_can_be_deleted
#print axioms select_handle_commute
#print axioms select_serve_commute
#print axioms select_race_answer_overtakes_request
#print axioms select_race_full_quota
#print axioms select_quota_race
#print axioms select_poll_preserves
#print axioms select_invariants_reachable
#print axioms select_only_documented_panic
#print axioms select_no_op_hangs_after_drop
#print axioms select_executor_idle_after_every_step
#print axioms select_never_stalls

end Poster

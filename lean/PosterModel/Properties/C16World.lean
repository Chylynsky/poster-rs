/-
  Properties/C16World.lean — C16 end to end: spurious polls and sweeps have no observable effect, over whole
  scripts.

  C16: "Polling any future or stream obtained from the library while its waker has not fired has no observable
  effect (nothing is written, nothing completes, nothing is lost), wherever such extra polls are inserted.
  Conversely, whenever the library returns Pending it has arranged a wakeup for every event that can let it
  proceed, so an executor that polls only woken tasks reaches exactly the same bytes, results and stream items
  as one that additionally polls every task at every step."

  Properties/C16.lean has the single-poll facts. Here they are composed:
    * `World.Quiesced` — the executor is idle and every live task that is not flagged is parked with all its wake
      sources registered (`World.Inv`, `World.TaskOk`); it holds after every step of every script that is fine
      (`runOk`) and was not refused (`script_quiesced`);
    * in such a world a spurious poll and a sweep change NOTHING, not even a registration flag
      (`quiesced_spurious_poll_noop`, `quiesced_sweep_noop`);
    * `exec=sweep` and `exec=wake-only` runs of the same script give the same transcript, and the same world up
      to the switch itself (`sweep_irrelevant_partial`, `sweep_irrelevant_world_partial`);
    * a `poll t` of a task that is not flagged, inserted anywhere in a script, inserts only `World.pollSeg` into the
      transcript: its own `ev` line, and one more `stall` marker when the context is stalled
      (`spurious_poll_inserted_partial`).
  Side conditions, both executable (`World.runOk`, `World.evsOk`, defined in Lemmas/WorldQuiet.lean):
    * the drain fuel sufficed at every step (`World.stepOk`: `pick = none` after the drain). It always does
      (`World.W5.stepsFuelOk_script`); Properties/C16Fuel.lean restates the theorems of this file without it;
    * `World.evOk`: a SUBSCRIBE operation does not re-use the script identifier of a live stream or of a SUBACK
      response whose stream was not taken yet. Without it the statement is FALSE in the model (see the
      counterexample at the end): the script names the stream of operation `id` by `id`, and `startOp` overwrites
      the channel `id` of the live stream. It follows from a purely syntactic condition: the `op` events of the
      script carry pairwise distinct identifiers (`distinct_ids_evsOk`, `sweep_irrelevant_of_distinct_ids`,
      `spurious_poll_inserted_of_distinct_ids`; Lemmas/WorldQuietIds.lean).
-/
import PosterModel.Lemmas.WorldQuiet
import PosterModel.Lemmas.WorldQuietIds
import PosterModel.Lemmas.WorldQuietFuel
import PosterModel.Lemmas.WorldFuelScript
import PosterModel.Lemmas.WorldEx


namespace Poster
open Framing

/-- **Pending ⇒ every wake source registered, for every task at once.** In a quiesced world (the executor ran
    until nothing flagged was left; invariant of the library established along the script) every live task that
    the harness does not hold is parked:
    the context future has nothing to read, an idle framing machine and the transport waker registered, and if it
    is `run()` also nothing queued, the queue waker registered and a sender alive;
    every handle future waits on an existing, still empty oneshot whose waker is registered (a `fresh`, not yet
    polled future cannot occur);
    every stream with a channel has it empty, its sender alive and its waker registered. -/
theorem quiesced_full_registration (w : World) (hq : World.Quiesced w) :
    (w.task ≠ .none → Task.ctx ∉ w.held →
      w.reader = [] ∧ w.readerReg = true ∧ w.rx.st = .idle ∧
      ((w.task = .running true ∧ w.queue = [] ∧ w.queueReg = true ∧ 0 < w.senders) ∨
       (∃ call t a, w.task = .connecting call t a true))) ∧
    (∀ id st, w.opSt id = some st → Task.op id ∉ w.held →
      ∃ s k, st = .wait s k ∧ w.slot s = some .empty ∧ s ∈ w.slotReg) ∧
    (∀ id ch, id ∈ w.streams → Task.st id ∉ w.held → w.chan id = some ch →
      ch.buf = [] ∧ ch.txAlive = true ∧ ch.reg = true) := by
  refine ⟨fun hne hh => ?_, fun id st hst hh => ?_, fun id ch hs hh hc => ?_⟩
  · have hw := World.not_woken_of_idle w .ctx hq.idle (by simpa [World.taskLive] using hne) hh
    obtain ⟨a1, a2, a3, a4⟩ := hq.registered .ctx hw hne
    refine ⟨a1, a2, a3, ?_⟩
    rcases a4 with ⟨b1, b2, b3, b4⟩ | b
    · exact Or.inl ⟨b1, b2, b3, by omega⟩
    · exact Or.inr b
  · have hw := World.not_woken_of_idle w (.op id) hq.idle (by simp [World.taskLive, hst]) hh
    exact hq.registered (.op id) hw st hst
  · have hw := World.not_woken_of_idle w (.st id) hq.idle (by simpa [World.taskLive] using hs) hh
    exact hq.registered (.st id) hw hs ch hc

/-- **A spurious poll changes nothing.** In a quiesced world, the script event `poll t` for any live task
    that is not held — the context future, a handle future, a stream — leaves the world EXACTLY as it is: no
    observation, no byte written, no completion, no item taken, and not even a registration flag or a counter
    moves (the waker was registered already). -/
theorem quiesced_spurious_poll_noop (w : World) (hq : World.Quiesced w) (t : Task)
    (hl : w.taskLive t = true) (hh : t ∉ w.held) : w.apply (.poll t) = w :=
  World.apply_poll_eq_self hq.inv t (World.not_woken_of_idle w t hq.idle hl hh)

/-- the same for a task that is merely not flagged (held or not, executor idle or not), under the invariant -/
theorem spurious_poll_noop (w : World) (hi : World.Inv World.NoE w) (t : Task) (hw : t ∉ w.woken) :
    w.apply (.poll t) = w :=
  World.apply_poll_eq_self hi t hw

/-- **A sweep changes nothing.** In a quiesced world `exec=sweep` — every live, non-flagged, non-held task
    polled once, then the executor run again — returns EXACTLY the same world (`sweep_of_quiescent_is_noop` of
    Properties/C16.lean has this only up to registration flags, for worlds assumed quiescent). -/
theorem quiesced_sweep_noop (w : World) (hq : World.Quiesced w) :
    w.sweep = w ∧ World.drain w.sweep.drainFuel w.sweep = w :=
  hq.sweep_eq_self

/-- **Quiescence holds after every step of every fine script**: run any script from the initial world with any
    configuration; if every step was fine (`runOk`: fuel sufficed, no re-used subscription identifier) and the
    script did not go `bad`, the world reached is quiesced. So the hypotheses of the three theorems above are met
    between any two script events. -/
theorem script_quiesced (cfg : Cfg) (evs : List Ev) (hok : World.runOk cfg evs = true)
    (hb : (evs.foldl World.step { cfg := cfg }).bad = false) :
    World.Quiesced (evs.foldl World.step { cfg := cfg }) :=
  have h := World.Regd.steps evs (World.Regd.init cfg) (World.evsOk_of_stepsOk evs _ hok)
  -- the executor is idle after every script (`W5.quiet_script`): no fuel condition is needed for that
  ⟨(World.W5.quiet_script cfg evs).resolve_left (by rw [hb]; exact Bool.noConfusion), h.inv, h.reach⟩

/-- the registration invariant alone needs no fuel condition: it holds after every script whose SUBSCRIBE
    identifiers are not re-used -/
theorem script_invariant (cfg : Cfg) (evs : List Ev) (hok : World.evsOk { cfg := cfg } evs = true) :
    World.Inv World.NoE (evs.foldl World.step { cfg := cfg }) :=
  (World.Inv.steps_init cfg evs hok).1

/-- **The two runs reach the same world.** (`_partial`: besides the fuel condition, `runOk` contains the condition
    `evOk` on SUBSCRIBE identifiers — without which the statement is false, see the counterexample below.)
    For every configuration and every fine script, the world reached with the sweep switch on
    is the world reached with the switch off, with the switch flipped — every other field, the transcript
    included, is identical (`tweak true []` sets `cfg.sweep := true` and prefixes the transcript with `[]`). -/
theorem sweep_irrelevant_world_partial (cfg : Cfg) (evs : List Ev)
    (hok : World.runOk { cfg with sweep := false } evs = true) :
    evs.foldl World.step { cfg := { cfg with sweep := true } } =
      World.tweak true [] (evs.foldl World.step { cfg := { cfg with sweep := false } }) := by
  have h := World.steps_sweep_irrelevant evs { cfg := { cfg with sweep := false } } rfl
    (World.Regd.init _) hok
  exact h

/-- **An executor that additionally polls every task at every step sees nothing more.** For every
    configuration and every script whose steps are fine when run wake-only, the transcript (bytes written,
    results of the calls and operations, stream items and ends, panics, stalls) of the `exec=sweep` run equals the
    transcript of the wake-only run. -/
theorem sweep_irrelevant_partial (cfg : Cfg) (evs : List Ev) (hok : World.runOk { cfg with sweep := false } evs = true) :
    World.run { cfg with sweep := true } evs = World.run { cfg with sweep := false } evs := by
  unfold World.run
  rw [sweep_irrelevant_world_partial cfg evs hok, World.finishScript_tweak, World.tweak_out, List.nil_append]

/-- **A spurious poll inserted anywhere in a script only inserts its own observation.** (`_partial` because of
    the hypotheses `evsOk` on `evs₁` and "executor idle", and because a stalled context adds a `stall` marker.) Run `evs₁` (with
    non-re-used SUBSCRIBE identifiers) to the world `w₁`; suppose the executor is idle there and task `t` is not
    flagged woken (it may be alive or not, held or not). Then the transcripts of `evs₁ ++ evs₂` and of
    `evs₁ ++ [poll t] ++ evs₂` are `w₁.out ++ post` and `w₁.out ++ pollSeg w₁ t ++ post` for the same `post`:
    everything before and after is unchanged, and what is inserted is `pollSeg w₁ t` — the event marker
    `ev (poll t)` itself, followed by one more `stall` marker if the context future is stalled at that point (alive
    with unread input, which every step reports), or nothing at all if the script had gone `bad`.
    Holds for every configuration (sweeping or not) and every continuation `evs₂`. -/
theorem spurious_poll_inserted_partial (cfg : Cfg) (evs₁ evs₂ : List Ev) (t : Task)
    (hok : World.evsOk { cfg := cfg } evs₁ = true)
    (hidle : (evs₁.foldl World.step { cfg := cfg }).pick = none)
    (hw : t ∉ (evs₁.foldl World.step { cfg := cfg }).woken) :
    ∃ post,
      World.run cfg (evs₁ ++ evs₂) = (evs₁.foldl World.step { cfg := cfg }).out ++ post ∧
      World.run cfg (evs₁ ++ [.poll t] ++ evs₂) =
        (evs₁.foldl World.step { cfg := cfg }).out ++
          World.pollSeg (evs₁.foldl World.step { cfg := cfg }) t ++ post := by
  obtain ⟨hi, hr⟩ := World.Inv.steps_init cfg evs₁ hok
  rw [World.run_append, List.append_assoc, World.run_append, List.cons_append, List.nil_append, List.foldl_cons]
  exact World.poll_inserted_from _ evs₂ t (Or.inr ⟨hi, hr, hidle, hw⟩)

/-- in the usual case — the script has not gone `bad` and the context future is not stalled — exactly the single
    observation `ev (poll t)` is inserted -/
theorem pollSeg_single (w : World) (t : Task) (hb : w.bad = false) (hs : w.task = .none ∨ w.reader = []) :
    World.pollSeg w t = [.ev (.poll t)] := by
  unfold World.pollSeg
  have : ¬ (w.task ≠ .none ∧ w.reader ≠ []) := by
    rintro ⟨a, b⟩; rcases hs with h | h
    · exact a h
    · exact b h
  simp [hb, this]

/-- **Scripts that never re-use an operation identifier satisfy `evsOk`.** If the identifiers of the `op` events
    of a script are pairwise distinct, every SUBSCRIBE is issued under an identifier that names no live stream and
    no un-taken response (identifiers in use only ever come from earlier `op` events). -/
theorem distinct_ids_evsOk (cfg : Cfg) (evs : List Ev) (hd : (World.opIds evs).Nodup) :
    World.evsOk { cfg := cfg } evs = true :=
  World.evsOk_init_of_distinct cfg evs hd

/-- **`sweep_irrelevant_partial` with the fuel condition only**, for scripts with pairwise distinct operation identifiers: if the drain
    fuel sufficed at every step of the wake-only run (`stepsFuelOk`: `pick = none` after each drain), the sweeping
    executor produces exactly the same transcript. -/
theorem sweep_irrelevant_of_distinct_ids (cfg : Cfg) (evs : List Ev) (hd : (World.opIds evs).Nodup)
    (hf : World.stepsFuelOk { cfg := { cfg with sweep := false } } evs = true) :
    World.run { cfg with sweep := true } evs = World.run { cfg with sweep := false } evs :=
  sweep_irrelevant_partial cfg evs
    (World.stepsOk_of_evsOk_fuelOk evs _ (World.evsOk_init_of_distinct _ evs hd) hf)

/-- **`spurious_poll_inserted_partial` for scripts with pairwise distinct operation identifiers** (only the prefix `evs₁` matters): a `poll t`
    of a task that is not flagged, issued while the executor is idle, only inserts `pollSeg` -/
theorem spurious_poll_inserted_of_distinct_ids (cfg : Cfg) (evs₁ evs₂ : List Ev) (t : Task)
    (hd : (World.opIds evs₁).Nodup)
    (hidle : (evs₁.foldl World.step { cfg := cfg }).pick = none)
    (hw : t ∉ (evs₁.foldl World.step { cfg := cfg }).woken) :
    ∃ post,
      World.run cfg (evs₁ ++ evs₂) = (evs₁.foldl World.step { cfg := cfg }).out ++ post ∧
      World.run cfg (evs₁ ++ [.poll t] ++ evs₂) =
        (evs₁.foldl World.step { cfg := cfg }).out ++
          World.pollSeg (evs₁.foldl World.step { cfg := cfg }) t ++ post :=
  spurious_poll_inserted_partial cfg evs₁ evs₂ t (World.evsOk_init_of_distinct cfg evs₁ hd) hidle hw

/-! ## Non-vacuity -/
section NonVacuity
open Ex

/-- `wRun` of Lemmas/WorldEx.lean (a serving client: `run()` pending, operation 1 waiting for its PUBACK, stream 3
    subscribed) as the library leaves it when everything is pending: operation 5 of `wRun`, which was never
    polled, removed, and both wakers of `run()` registered -/
def wRunQ : World := { wRun with ops := [(1, .wait 2 .puback)], readerReg := true, queueReg := true }

/-- `wRunQ` is quiesced -/
theorem wRunQ_quiesced : World.Quiesced wRunQ := by
  -- the one entry of the operation table
  have hop : ∀ {id st}, wRunQ.opSt id = some st → id = 1 ∧ st = .wait 2 .puback := by
    intro id st h
    simp only [World.opSt, wRunQ, wRun, lookupFirst] at h
    split at h
    · rename_i h1; exact ⟨h1.symm, (Option.some.inj h).symm⟩
    · cases h
  refine ⟨by decide, ⟨fun _ => rfl, fun t ht _ => ?_, ?_, ?_, by decide, ?_, ?_⟩, Reach.init⟩
  · cases t with
    | ctx => exact fun _ => ⟨rfl, rfl, rfl, Or.inl ⟨rfl, rfl, rfl, by decide⟩⟩
    | op id =>
      intro st hst
      obtain ⟨rfl, rfl⟩ := hop hst
      exact ⟨2, .puback, rfl, by decide, by decide⟩
    | st id =>
      intro hs ch hc
      have : id = 3 := by simpa [wRunQ, wRun] using hs
      subst this
      cases (show wRunQ.chan 3 = some { buf := [], reg := true } by decide).symm.trans hc
      exact ⟨rfl, rfl, rfl⟩
  · intro id s k hst
    obtain ⟨rfl, e⟩ := hop hst
    cases e; exact Or.inl rfl
  · intro id s k hst _
    obtain ⟨rfl, e⟩ := hop hst
    cases e; decide
  · intro id hsub
    rcases hsub with ⟨hh, t, e⟩ | ⟨s, e⟩ <;> cases (hop e).2
  · intro id hid; simp [wRunQ, wRun] at hid

/-- so polling its `run()` future, its operation 1 or its stream 3 once more changes nothing -/
example : wRunQ.apply (.poll .ctx) = wRunQ ∧ wRunQ.apply (.poll (.op 1)) = wRunQ ∧
    wRunQ.apply (.poll (.st 3)) = wRunQ :=
  ⟨quiesced_spurious_poll_noop _ wRunQ_quiesced _ (by decide) (by decide),
   quiesced_spurious_poll_noop _ wRunQ_quiesced _ (by decide) (by decide),
   quiesced_spurious_poll_noop _ wRunQ_quiesced _ (by decide) (by decide)⟩
/-- … and neither does a sweep -/
example : wRunQ.sweep = wRunQ := (quiesced_sweep_noop _ wRunQ_quiesced).1
/-- the original `wRun` is NOT quiesced: its operation 5 was never polled, yet it is not flagged -/
example : ¬ World.Quiesced wRun := fun hq => by
  obtain ⟨s, k, h, _⟩ := (quiesced_full_registration _ hq).2.1 5 (.fresh 0 .ping) (by decide) (by decide)
  cases h

def sub1 : SubscribeTx := { packetId := 0, filters := [([0x61], {})] }

/-- a script: a client is set up, a PINGREQ and a SUBSCRIBE are requested (both futures run until they wait for
    their answers), a third future is created while the harness holds it -/
def demo : List Ev := [.setup, .op 1 0 .ping, .op 2 0 (.subscribe sub1), .hold (.op 3), .op 3 0 .ping]

/-- every step of `demo` is fine, with either executor -/
example : World.runOk {} demo = true ∧ World.runOk { sweep := true } demo = true :=
  have ok := fun cfg => World.W5.runOk_of_evsOk cfg demo (World.evsOk_init_of_distinct cfg demo (by decide))
  ⟨ok _, ok _⟩
/-- so the world it reaches is quiesced: operations 1 and 2 wait on registered oneshots, 3 is flagged and held -/
example : World.Quiesced (demo.foldl World.step {}) :=
  script_quiesced {} demo (World.W5.runOk_of_evsOk _ _ (World.evsOk_init_of_distinct _ _ (by decide))) (by decide)
example : (demo.foldl World.step {}).ops =
    [(1, .wait 2 .pingresp), (2, .wait 4 .suback), (3, .fresh 0 .ping)] ∧
    (demo.foldl World.step {}).slotReg = [2, 4] ∧ (demo.foldl World.step {}).woken = [.op 3] := by decide
/-- the sweeping and the wake-only executor produce the same transcript for `demo` -/
example : World.run { sweep := true } demo = World.run { sweep := false } demo :=
  sweep_irrelevant_partial {} demo (World.W5.runOk_of_evsOk _ _ (World.evsOk_init_of_distinct _ _ (by decide)))
/-- `demo` has pairwise distinct operation identifiers and enough fuel, so the unconditional-on-`evOk` forms apply -/
example : (World.opIds demo).Nodup ∧ World.stepsFuelOk { cfg := { sweep := false } } demo = true :=
  ⟨by decide, World.W5.stepsFuelOk_script _ demo⟩
example : World.run { sweep := true } demo = World.run { sweep := false } demo :=
  sweep_irrelevant_of_distinct_ids {} demo (by decide) (World.W5.stepsFuelOk_script _ demo)
/-- polling operation 1 (alive, waiting, not flagged) once more after `demo` inserts exactly its own marker -/
example : ∃ post, World.run {} (demo ++ [.op 4 0 .ping]) = (demo.foldl World.step {}).out ++ post ∧
    World.run {} (demo ++ [.poll (.op 1)] ++ [.op 4 0 .ping]) =
      (demo.foldl World.step {}).out ++ [.ev (.poll (.op 1))] ++ post := by
  have h := spurious_poll_inserted_partial {} demo [.op 4 0 .ping] (.op 1) (World.evsOk_init_of_distinct _ _ (by decide))
    (World.W5.pick_script _ _) (by decide)
  rw [pollSeg_single _ _ (by decide) (Or.inl (by decide))] at h
  exact h

/-! ### the side condition `evOk` is needed: a counterexample in the model

  From the initial world the same happens with the script (seen with an `#eval` that no file keeps; `decide` cannot evaluate
  `pollNext`, which is defined by well-founded recursion):
    `[.setup, .connect {}, .feed [[0x20,3,0,0,0]], .run, .op 1 0 (.subscribe sub1), .feed [[0x90,4,0,1,0,0]],
      .stream 1, .op 1 0 (.subscribe sub1), .feed [[0x90,4,0,2,0,0]], .feed [[0x30,6,0,1,0x61,2,0x0B,2]]]`
  — the sweeping run ends with `item 1 …`, the wake-only run never delivers that PUBLISH. Below, the same
  phenomenon from a world in which the stream already exists, proved by `decide`.

  Stream 1 (of an earlier SUBSCRIBE that the script named 1) is alive and registered on its channel, whose sender
  the context owns (`subs = [(7, 1)]`). The script now names a NEW subscribe operation 1: when that future is first
  polled, `startOp` installs a fresh channel under the name 1 — on top of the live stream's channel, erasing its
  registration. A sweep re-registers the stream, a wake-only executor does not; when the context is dropped the
  sweeping run observes the end of stream 1 and the wake-only run does not. (In the library the two channels are
  different objects; the clash only exists because the script names streams by operation identifier.) -/

def wLive (sw : Bool) : World :=
  { cfg := { sweep := sw }, hasCtx := true, handles := [0], streams := [1], chans := [(1, { reg := true })],
    c := { subs := [(7, 1)] } }
def reuse : List Ev := [.op 1 0 (.subscribe sub1), .dropCtx]

/-- the event violates `evOk` … -/
example : World.evOk (wLive false) (.op 1 0 (.subscribe sub1)) = false := by decide
/-- … every other part of `stepOk` holds (the fuel suffices) … -/
example : (World.drain (((wLive false).emit (.ev (.op 1 0 (.subscribe sub1)))).apply (.op 1 0 (.subscribe sub1))).drainFuel
    (((wLive false).emit (.ev (.op 1 0 (.subscribe sub1)))).apply (.op 1 0 (.subscribe sub1)))).pick = none := by decide
/-- … and the transcripts of the sweeping and the wake-only run differ: only the former ends stream 1 -/
example : (reuse.foldl World.step (wLive true)).out ≠ (reuse.foldl World.step (wLive false)).out := by decide
example : Obs.endStream 1 ∈ (reuse.foldl World.step (wLive true)).out ∧
    Obs.endStream 1 ∉ (reuse.foldl World.step (wLive false)).out := by decide

end NonVacuity

#print axioms quiesced_full_registration
#print axioms quiesced_spurious_poll_noop
#print axioms spurious_poll_noop
#print axioms quiesced_sweep_noop
#print axioms script_quiesced
#print axioms script_invariant
#print axioms sweep_irrelevant_world_partial
#print axioms sweep_irrelevant_partial
#print axioms spurious_poll_inserted_partial
#print axioms distinct_ids_evsOk
#print axioms sweep_irrelevant_of_distinct_ids
#print axioms spurious_poll_inserted_of_distinct_ids
#print axioms pollSeg_single
#print axioms wRunQ_quiesced

end Poster

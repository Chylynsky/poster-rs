/-
  Properties/C16Fuel.lean — C16 end to end WITHOUT the fuel side condition.

  Properties/C16World.lean proves that sweeps and spurious polls are unobservable over whole scripts under two
  executable side conditions: `evsOk` (no re-used SUBSCRIBE identifier; implied by pairwise distinct operation ids)
  and `stepsFuelOk` (the executor's fuel `drainFuel` sufficed at every step). Properties/C04World.lean /
  Lemmas/WorldFuelScript.lean prove that the second condition ALWAYS holds (`W5.stepsFuelOk_script`): every poll
  decreases a potential that `drainFuel` dominates. Here the C16 theorems are restated with the fuel hypothesis
  discharged; the "executor idle" hypothesis of the spurious-poll theorem is discharged as well.
-/
import PosterModel.Properties.C16World
import PosterModel.Lemmas.WorldFuelScript

namespace Poster
open Framing

/-- **Every step of every script with pairwise distinct operation ids is fine** (`runOk`): the SUBSCRIBE
    identifiers are not re-used and the drain fuel suffices — the side condition under which
    Properties/C16World.lean states its script-level theorems holds for all such scripts. -/
theorem runOk_of_distinct_ids (cfg : Cfg) (evs : List Ev) (hd : (World.opIds evs).Nodup) :
    World.runOk cfg evs = true :=
  World.W5.runOk_of_evsOk cfg evs (World.evsOk_init_of_distinct cfg evs hd)

/-- **Quiescence and full registration after every step.** For every configuration and every script with pairwise
    distinct operation ids that was not refused as malformed, the world reached is quiesced: the executor has
    nothing left to poll and every live task that is not flagged is parked with all its wake sources registered
    (`quiesced_full_registration` spells this out). No fuel hypothesis. -/
theorem script_quiesced_of_distinct_ids (cfg : Cfg) (evs : List Ev) (hd : (World.opIds evs).Nodup)
    (hb : (evs.foldl World.step { cfg := cfg }).bad = false) :
    World.Quiesced (evs.foldl World.step { cfg := cfg }) :=
  script_quiesced cfg evs (runOk_of_distinct_ids cfg evs hd) hb

/-- **C16 (2), full: an executor that additionally polls every task at every step sees nothing more.** For every
    configuration and every script whose `op` events carry pairwise distinct identifiers, the transcript (bytes
    written, results of the calls and operations, stream items and ends, panics, stalls) of the `exec=sweep` run
    equals the transcript of the wake-only run. -/
theorem sweep_irrelevant (cfg : Cfg) (evs : List Ev) (hd : (World.opIds evs).Nodup) :
    World.run { cfg with sweep := true } evs = World.run { cfg with sweep := false } evs :=
  sweep_irrelevant_of_distinct_ids cfg evs hd (World.W5.stepsFuelOk_script _ evs)

/-- the same at the level of worlds: every field but the switch itself is identical -/
theorem sweep_irrelevant_world (cfg : Cfg) (evs : List Ev) (hd : (World.opIds evs).Nodup) :
    evs.foldl World.step { cfg := { cfg with sweep := true } } =
      World.tweak true [] (evs.foldl World.step { cfg := { cfg with sweep := false } }) :=
  sweep_irrelevant_world_partial cfg evs (runOk_of_distinct_ids _ evs hd)

/-- **C16 (3), full: a spurious poll inserted anywhere in a script only inserts its own observation.** Run `evs₁`
    (pairwise distinct operation ids) to the world `w₁` and let `t` be any task that is not flagged woken there
    (alive or not, held or not). Then the transcripts of `evs₁ ++ evs₂` and of `evs₁ ++ [poll t] ++ evs₂` are
    `w₁.out ++ post` and `w₁.out ++ pollSeg w₁ t ++ post` for the same `post`: what is inserted is `pollSeg w₁ t` —
    the event marker `ev (poll t)`, followed by one more `stall` marker if the (held) context future is stalled at
    that point, or nothing at all if the script had been refused as malformed. No fuel hypothesis and no "executor
    idle" hypothesis: the executor IS idle after every step. -/
theorem spurious_poll_inserted (cfg : Cfg) (evs₁ evs₂ : List Ev) (t : Task) (hd : (World.opIds evs₁).Nodup)
    (hw : t ∉ (evs₁.foldl World.step { cfg := cfg }).woken) :
    ∃ post,
      World.run cfg (evs₁ ++ evs₂) = (evs₁.foldl World.step { cfg := cfg }).out ++ post ∧
      World.run cfg (evs₁ ++ [.poll t] ++ evs₂) =
        (evs₁.foldl World.step { cfg := cfg }).out ++
          World.pollSeg (evs₁.foldl World.step { cfg := cfg }) t ++ post := by
  rw [World.run_append, List.append_assoc, World.run_append, List.cons_append, List.nil_append, List.foldl_cons]
  refine World.poll_inserted_from _ evs₂ t ((World.W5.quiet_script cfg evs₁).imp_right fun hidle => ?_)
  obtain ⟨hi, hr⟩ := World.Inv.steps_init cfg evs₁ (World.evsOk_init_of_distinct cfg evs₁ hd)
  exact ⟨hi, hr, hidle, hw⟩

/-! ## Non-vacuity -/
section NonVacuity

/-- the script `demo` of Properties/C16World.lean has pairwise distinct ids: all theorems above apply to it, with
    no side condition left to check -/
example : World.run { sweep := true } demo = World.run { sweep := false } demo :=
  sweep_irrelevant {} demo (by decide)
example : World.Quiesced (demo.foldl World.step {}) := script_quiesced_of_distinct_ids {} demo (by decide) (by decide)
/-- operation 1 is alive, waiting and not flagged after `demo`: polling it once more inserts exactly its marker -/
example : ∃ post, World.run {} (demo ++ [.op 4 0 .ping]) = (demo.foldl World.step {}).out ++ post ∧
    World.run {} (demo ++ [.poll (.op 1)] ++ [.op 4 0 .ping]) =
      (demo.foldl World.step {}).out ++ [.ev (.poll (.op 1))] ++ post := by
  have h := spurious_poll_inserted {} demo [.op 4 0 .ping] (.op 1) (by decide) (by decide)
  rw [pollSeg_single _ _ (by decide) (Or.inl (by decide))] at h
  exact h

end NonVacuity

#print axioms runOk_of_distinct_ids
#print axioms script_quiesced_of_distinct_ids
#print axioms sweep_irrelevant
#print axioms sweep_irrelevant_world
#print axioms spurious_poll_inserted

end Poster

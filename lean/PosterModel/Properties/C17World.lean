/-
  Properties/C17World.lean — C17, second half, at the level of the whole client (`World`).

  C17: "… the original publish() futures then complete on the acknowledgements received on the new connection. If the
  session has expired (expiry interval 0, or the interval has elapsed) nothing is re-sent and the abandoned operations
  fail instead of hanging."

  Properties/C17.lean proves the `Ctx`-level facts about the prelude of `run()` (`Ctx.resume`), Properties/HistWorld.lean
  places every prelude in the history of a script. This file follows the senders the session owns through the world.
  EXPIRED session: the first poll of `run()` (`task = .running false`, a recorded disconnection and `sessionExpired`) closes
  the oneshot of every waiter of the session and shuts every subscription channel of the session, and re-sends nothing; in
  the script step in which that poll happens every such operation logs `DONE id Err(ContextExited)` and every such stream
  ends, unless the script holds them back. LIVE session: the loop of the first poll starts with every waiter still
  registered, so an acknowledgement arriving on the new connection is sent to the oneshot of the ORIGINAL future, which
  completes with its content at its next poll. The examples end with a whole script (`W13.scrRe`): publish, connection lost,
  reconnect within the session, DUP re-send, PUBACK on the new connection, `DONE 1 Ok`.
-/
import PosterModel.Lemmas.WorldResume
import PosterModel.Lemmas.WorldResumeLive
import PosterModel.Lemmas.WorldOwnEx
import PosterModel.Lemmas.WorldHistEx
import PosterModel.Properties.C05
import PosterModel.Properties.C14
import PosterModel.Properties.C17
import PosterModel.Properties.C04World
import PosterModel.Properties.CtxLift
import PosterModel.Properties.HistWorld


namespace Poster
open Framing World

/-- **An expired session closes the oneshot of every abandoned operation.** Let `w` satisfy the sender-ownership
    invariant (every reachable world does: `ownInv_script`), with `run()` called and not polled yet, a disconnection
    recorded `e` seconds ago and the session expired. After the first poll of `run()`, for every operation `id` waiting
    on a oneshot `s` whose sender the SESSION owned (`(aid, s) ∈ awaiting_ack`):
    * the operation is still in the table, untouched, and is flagged for the executor;
    * its oneshot is `closed` if it had no value — or still holds the value it already had; it is never left `empty`;
    * if the oneshot is closed, a poll of the operation logs exactly `DONE id Err(ContextExited)` and removes it:
      the abandoned operation fails instead of hanging. -/
theorem expired_session_closes_every_waiter (w : World) (ho : OwnInv w) (e : Nat) (ht : w.task = .running false)
    (hd : w.c.disc = some e) (hx : w.c.sessionExpired e = true)
    (id s : Nat) (k : Wait) (aid : Nat) (hm : (id, OpSt.wait s k) ∈ w.ops) (ha : (aid, s) ∈ w.c.awaiting) :
    w.pollCtx.opSt id = some (.wait s k) ∧ w.pollCtx.ops = w.ops ∧ Task.op id ∈ w.pollCtx.woken ∧
    (w.slot s = some .empty → w.pollCtx.slot s = some .closed) ∧
    (∀ v, w.slot s = some (.full v) → w.pollCtx.slot s = some (.full v)) ∧
    w.pollCtx.slot s ≠ some .empty ∧
    (w.pollCtx.slot s = some .closed →
      (w.pollCtx.pollOp id).out = w.pollCtx.out ++ [.done id (.err .contextExited)] ∧
      (w.pollCtx.pollOp id).ops = eraseFirst id w.pollCtx.ops ∧ (w.pollCtx.pollOp id).opSt id = none) := by
  have hop := ho.opSt_of_mem hm
  have hact := (hand_pollCtx w).act
  have ho' := own_pollCtx w ho
  obtain ⟨s1, s3⟩ := W13.expired_poll_slot w e ht hd hx aid s ha
  have hop' : w.pollCtx.opSt id = some (.wait s k) := by simp only [opSt, hact.ops_eq]; exact hop
  refine ⟨hop', hact.ops_eq, ho'.waitDone id s k hop' s3, s1, fun v hv => hact.slotFull s v hv, s3, fun hc => ?_⟩
  obtain ⟨_, c2, c3, c4⟩ := closed_slot_completes w.pollCtx id s k hop' hc
  exact ⟨c2, c3, c4 ho'.nodup⟩

/-- **An expired session shuts every subscription it owned.** In the same situation, for every subscription
    `(sid, ch)` of the session: after the first poll of `run()` the channel `ch` has no sender any more; right after the
    prelude it holds exactly the messages it held before; and if a stream reads from it (both invariants assumed), the
    stream is flagged for the executor, and polling it yields the buffered messages in order, then `END`, after which the
    stream is gone — it does not hang either. -/
theorem expired_session_shuts_every_subscription (w : World) (hb : World.Both w) (e : Nat)
    (ht : w.task = .running false) (hd : w.c.disc = some e) (hx : w.c.sessionExpired e = true)
    (sid ch : Nat) (ha : (sid, ch) ∈ w.c.subs) :
    (∀ c1, w.pollCtx.chan ch = some c1 → c1.txAlive = false) ∧
    (∀ c0, w.chan ch = some c0 → ∃ c1, w.resumed.chan ch = some c1 ∧ c1.buf = c0.buf ∧ c1.txAlive = false) ∧
    (ch ∈ w.streams → ∃ c1, w.pollCtx.chan ch = some c1 ∧ c1.txAlive = false ∧ Task.st ch ∈ w.pollCtx.woken ∧
      (World.pollStreamTimes ch (c1.buf.length + 1) w.pollCtx).out =
        w.pollCtx.out ++ c1.buf.map (Obs.item ch) ++ [.endStream ch] ∧
      ch ∉ (World.pollStreamTimes ch (c1.buf.length + 1) w.pollCtx).streams) := by
  obtain ⟨g1, g2, g3⟩ := W13.expired_poll_chan w e ht hd hx sid ch ha
  have hact := (hand_pollCtx w).act
  refine ⟨g1, fun c0 hc0 => ?_, fun hin => ?_⟩
  · obtain ⟨c1, a, b, c⟩ := g2 c0 hc0
    exact ⟨c1, a, b, c⟩
  · obtain ⟨c0, hc0, hfl⟩ := hb.str.strOk ch hin
    obtain ⟨c1, hc1, _, _⟩ := hact.chanSome ch c0 hc0
    have hin' : ch ∈ w.pollCtx.streams := by rw [hact.streams_eq]; exact hin
    have hw : Task.st ch ∈ w.pollCtx.woken := by
      rcases hfl with hfl | ⟨_, hreg, hta⟩
      · exact hact.wokenMono _ hfl
      · exact g3 c0 hc0 hta hreg
    obtain ⟨e1, e2, _⟩ := stream_ends_after_n_plus_one w.pollCtx ch c1 hin' hc1 (g1 c1 hc1)
    exact ⟨c1, hc1, g1 c1 hc1, hw, e1, e2⟩

/-- **An expired session re-sends nothing**: the prelude hands no packet to the transport, the session the loop then
    serves is empty (no waiter, no subscription, nothing to retransmit, no pending inbound QoS 2 identifier), and on an
    unlimited transport everything this poll writes is what its own loop writes for the inputs `is` it handles. -/
theorem expired_session_resends_nothing (w : World) (e : Nat) (ht : w.task = .running false)
    (hd : w.c.disc = some e) (hx : w.c.sessionExpired e = true) :
    w.c.resume.2.2 = [] ∧ writesOf w.c.resume.2.1 = [] ∧
    w.c.resume.1 = { w.c with awaiting := [], subs := [], retx := [], inQos2 := [], disc := none } ∧
    ∃ is : List CIn, (∀ i ∈ is, i.wf) ∧ w.pollCtx.c = (w.c.resume.1.serve is).1 ∧
      (w.cfg.wlimit = none → w.pollCtx.sent = w.sent ++ (((w.c.resume.1.serve is).2.flatMap obsWire).flatten)) := by
  obtain ⟨r1, r2, _⟩ := resume_expired w.c e hd hx
  have r3 : w.c.resume.1 = { w.c with awaiting := [], subs := [], retx := [], inQos2 := [], disc := none } := by
    rw [w.c.resume_expired_eq e hd hx]
  refine ⟨r1, r2, r3, ?_⟩
  obtain ⟨is, hwf, hc, _, _, _, _, hs⟩ := world_run_poll_is_serve w false ht
  simp only [Bool.false_eq_true, ↓reduceIte] at hc hs
  refine ⟨is, hwf, hc, fun hl => ?_⟩
  rw [hs hl, r1]
  simp

/-- … at script level: if the history of a script contains the prelude `HEv.resume c` of a `run()` call on an expired
    session, the bytes handed to the (unlimited) transport are those of the events before it followed directly by those
    of the events after it — the prelude contributes nothing. -/
theorem expired_session_resends_nothing_script (cfg : Cfg) (evs : List Ev) (hl : cfg.wlimit = none)
    (pre post : List HEv) (c : Ctx) (e : Nat) (hh : World.history cfg evs = pre ++ .resume c :: post)
    (hd : c.disc = some e) (hx : c.sessionExpired e = true) :
    (evs.foldl World.step { cfg := cfg }).sent = (evPkts pre).flatten ++ (evPkts post).flatten := by
  rw [c17_resent_before_anything_else cfg evs hl pre post c hh, (resume_expired c e hd hx).1]
  simp

/-- **The abandoned operations fail in the very step in which `run()` is first polled.** Take any script `evs` and a
    next event `e`, neither refused as malformed (`bad = false` before and after `e`), such that, once `e` has been
    applied (`w0`), the executor's first choice is the context task, `run()`
    has not been polled yet, a disconnection is recorded and the session has expired (e.g. `e = run` after `markDisc`,
    or `release ctx`). Then for every operation `id` that waits on a oneshot `s` owned by the session:
    * at the end of the step the operation is no longer waiting on `s`, unless the script holds it back (`HOLD op id`);
    * if the oneshot had no value and the script does not hold the operation, `DONE id Err(ContextExited)` was logged
      during this step (after the `EV` line of `e`). -/
theorem expired_session_fails_abandoned_operations (cfg : Cfg) (evs : List Ev) (e : Ev) (el : Nat) :
    let w := evs.foldl World.step { cfg := cfg }
    let w0 := (w.emit (.ev e)).apply e
    w.bad = false → w0.bad = false → w0.pick = some .ctx → w0.task = .running false → w0.c.disc = some el →
    w0.c.sessionExpired el = true →
    ∀ id s k aid, (id, OpSt.wait s k) ∈ w0.ops → (aid, s) ∈ w0.c.awaiting →
      ((id, OpSt.wait s k) ∈ (w.step e).ops → Task.op id ∈ (w.step e).held) ∧
      (w0.slot s = some .empty → Task.op id ∉ w0.held →
        ∃ pre post, (w.step e).out = pre ++ Obs.done id (.err .contextExited) :: post ∧ w0.out.length ≤ pre.length) := by
  intro w w0 hb hb1 hp ht hd hx id s k aid hm ha
  exact W13.step_expired_ops w e (W11.reachable_script cfg evs) hb el hb1 hp ht hd hx id s k aid hm ha

/-- **… also when the script polls the context itself.** If `run()` has been called on an expired session but its task
    is held back by the script (so the executor has not polled it; the script not refused as malformed, `w.bad = false`),
    the script event `POLL ctx` is the first poll: in that
    step every operation waiting on a oneshot of the session stops waiting there unless the script holds it, and logs
    `DONE id Err(ContextExited)` (after the `EV` line) if its oneshot had no value and it is not held. -/
theorem expired_session_fails_abandoned_operations_on_poll (cfg : Cfg) (evs : List Ev) (el : Nat) :
    let w := evs.foldl World.step { cfg := cfg }
    w.bad = false → w.task = .running false → w.c.disc = some el → w.c.sessionExpired el = true →
    ∀ id s k aid, (id, OpSt.wait s k) ∈ w.ops → (aid, s) ∈ w.c.awaiting →
      ((id, OpSt.wait s k) ∈ (w.step (.poll .ctx)).ops → Task.op id ∈ (w.step (.poll .ctx)).held) ∧
      (w.slot s = some .empty → Task.op id ∉ w.held →
        ∃ pre post, (w.step (.poll .ctx)).out = pre ++ Obs.done id (.err .contextExited) :: post ∧
          w.out.length + 1 ≤ pre.length) := by
  intro w hb ht hd hx id s k aid hm ha
  exact W13.step_expired_ops_poll w (W11.reachable_script cfg evs) hb el ht hd hx id s k aid hm ha

/-- **… and the abandoned streams end in that step** (general form: from any idle world `w` in which the invariants
    hold — `World.Both`: sender ownership and the stream invariant; `World.RegInv` — and an event `e` that does not start an
    operation under the identifier of a live response or stream, `World.opFresh`). In the situation of `expired_session_fails_abandoned_operations`,
    every stream that reads from a subscription `(sid, ch)` of the expired session has ended by the end of the step (by
    yielding what it had buffered, then `END`: `stream_ends_after_n_plus_one`, not part of this statement), unless the
    script holds it back; in any
    case its channel has no sender any more, so it ends as soon as it is polled. -/
theorem expired_session_ends_abandoned_streams_from (w : World) (hbo : World.Both w) (hr : World.RegInv w)
    (hq : w.pick = none) (e : Ev) (hf : World.opFresh w e) (el : Nat) (hb : w.bad = false)
    (hb1 : ((w.emit (.ev e)).apply e).bad = false) (hp : ((w.emit (.ev e)).apply e).pick = some .ctx)
    (ht : ((w.emit (.ev e)).apply e).task = .running false) (hd : ((w.emit (.ev e)).apply e).c.disc = some el)
    (hx : ((w.emit (.ev e)).apply e).c.sessionExpired el = true) :
    ∀ sid ch, (sid, ch) ∈ ((w.emit (.ev e)).apply e).c.subs → ch ∈ (w.step e).streams →
      Task.st ch ∈ (w.step e).held ∧ ∀ c1, (w.step e).chan ch = some c1 → c1.txAlive = false :=
  fun sid ch ha hin => W13.step_expired_streams w e hbo hf hr hq hb el hb1 hp ht hd hx sid ch ha hin

/-- … for whole scripts: with pairwise distinct `OP` identifiers the invariants hold in every world a script reaches. -/
theorem expired_session_ends_abandoned_streams (cfg : Cfg) (evs : List Ev) (e : Ev) (el : Nat)
    (hn : (World.opIds (evs ++ [e])).Nodup) :
    let w := evs.foldl World.step { cfg := cfg }
    let w0 := (w.emit (.ev e)).apply e
    w.bad = false → w0.bad = false → w0.pick = some .ctx → w0.task = .running false → w0.c.disc = some el →
    w0.c.sessionExpired el = true →
    ∀ sid ch, (sid, ch) ∈ w0.c.subs → ch ∈ (w.step e).streams →
      Task.st ch ∈ (w.step e).held ∧ ∀ c1, (w.step e).chan ch = some c1 → c1.txAlive = false := by
  intro w w0 hb hb1 hp ht hd hx sid ch ha hin
  have hq : w.pick = none := W5.pick_script cfg evs
  have hg := (W13.goodFrom_append evs [e] { cfg := cfg }).1 (World.goodFrom_script cfg (evs ++ [e]) hn)
  have hbo : World.Both w := World.both_steps evs _ ⟨ownInv_init cfg, strInv_init cfg⟩ hg.1
  exact expired_session_ends_abandoned_streams_from w hbo (regInv_script cfg evs) hq e hg.2.1 el hb hb1 hp ht hd hx
    sid ch ha hin

/-- **A live session keeps every waiter.** `run()` called and not polled yet, a disconnection recorded `e` seconds ago,
    the session NOT expired. The prelude drops nothing; the world in which the loop of this first poll starts
    (`w.resent`: prelude done, unfinished handshakes re-sent) has the context of `w` with only the recorded disconnection
    cleared — `awaiting_ack`, the subscriptions, the retransmit queue, the quota are those of the old connection — and
    the operation table, the oneshots, the registered wakers, the message queue and the transport of `w`; the poll is that
    loop (when the transport takes the re-sent packets); and whatever the poll does, no operation leaves the table. -/
theorem live_session_keeps_every_waiter (w : World) (e : Nat) (ht : w.task = .running false)
    (hd : w.c.disc = some e) (hx : w.c.sessionExpired e = false) :
    w.c.resume.2.1 = [] ∧ w.resent.c = { w.c with disc := none } ∧ w.resent.c.awaiting = w.c.awaiting ∧
    w.resent.c.subs = w.c.subs ∧ w.resent.ops = w.ops ∧ (∀ s, w.resent.slot s = w.slot s) ∧
    w.resent.slotReg = w.slotReg ∧ w.resent.queue = w.queue ∧ w.resent.reader = w.reader ∧ w.resent.rx = w.rx ∧
    (w.resumed.canWrite ((w.c.resume.2.2.map List.length).sum) = true →
      w.pollCtx = runLoop w.resent.loopFuel w.resent) ∧
    w.pollCtx.ops = w.ops := by
  obtain ⟨a1, a2, a3, a4, a5, a6, a7, _, _, _, _⟩ := W13.resent_alive w e hd hx
  refine ⟨(resume_not_expired w.c e hd hx).2.2.1, a1, by rw [a1], by rw [a1], a2, fun s => by simp [slot, a3], a4, a5,
    a6, a7, fun hw => W13.pollCtx_alive_eq w ht hw, (hand_pollCtx w).act.ops_eq⟩

/-- **An acknowledgement received on the new connection completes the ORIGINAL future.** In a world satisfying the
    ownership invariant, `run()` called on a reconnect within the session and not polled yet (the transport takes the
    re-sent packets): nothing is queued, a handle is alive, and the next frame on the new connection decodes to an
    acknowledgement `p` (not a PUBREL) whose action identifier `aid` — its packet type and packet identifier — has the
    oneshot `s` as first registered waiter in the `awaiting_ack` of the OLD connection; operation `id` — the future
    created before the disconnection — still waits on `s`, which is empty (`hs`). Then after the first poll of `run()` that oneshot holds `p`,
    the operation is still in the table and flagged, and its next poll resumes it with exactly `p`. -/
theorem ack_on_new_connection_completes_original_future (w : World) (ho : OwnInv w) (e : Nat)
    (ht : w.task = .running false) (hd : w.c.disc = some e) (hx : w.c.sessionExpired e = false)
    (hw : w.resumed.canWrite ((w.c.resume.2.2.map List.length).sum) = true)
    (rx' : Rx) (rd' : List ReadEv) (fr : Bytes) (p : RxPacket) (aid s id : Nat) (k : Wait)
    (hq : w.queue = []) (hsn : w.senders ≠ 0) (hp : pollNext w.rx w.reader = (rx', rd', .item fr))
    (hdec : decodeRx fr = .ok p) (haid : rxActionId p = some aid) (hrel : ∀ a, p ≠ .pubrel a)
    (hl : lookupFirst aid w.c.awaiting = some s) (hop : w.opSt id = some (.wait s k))
    (hs : w.slot s = some .empty) :
    w.pollCtx.slot s = some (.full (.pkt p)) ∧ w.pollCtx.opSt id = some (.wait s k) ∧
    Task.op id ∈ w.pollCtx.woken ∧ w.pollCtx.pollOp id = w.pollCtx.resumeOp id s k (.pkt p) := by
  obtain ⟨a1, a2, a3, a4, a5, a6, a7, a8, _, _, _⟩ := W13.resent_alive w e hd hx
  rw [W13.pollCtx_alive_eq w ht hw]
  obtain ⟨f, hf⟩ := W13.loopFuel_succ w.resent
  rw [hf]
  exact W13.runLoop_ack_resumes f w.resent rx' rd' fr p aid s id k (by rw [a5]; exact hq)
    (by simpa [senders, a8, a2] using hsn) (by rw [a7, a6]; exact hp) hdec haid hrel (by rw [a1]; exact hl)
    (by simp only [opSt, a2]; exact hop) (by simp only [slot, a3]; exact hs)
    (by rw [a4]; exact ho.waitReg id s k hop hs) (ho.slotOf id s k hop).half

/-- **… and on every later poll as well.** The same for a `run()` future that has already been polled: whenever the
    next frame decodes to an acknowledgement whose action identifier has `s` as first registered waiter, the poll sends it
    to `s`, and the operation waiting there is resumed with it at its next poll. -/
theorem ack_completes_waiting_future (w : World) (ho : OwnInv w) (ht : w.task = .running true)
    (rx' : Rx) (rd' : List ReadEv) (fr : Bytes) (p : RxPacket) (aid s id : Nat) (k : Wait)
    (hq : w.queue = []) (hsn : w.senders ≠ 0) (hp : pollNext w.rx w.reader = (rx', rd', .item fr))
    (hdec : decodeRx fr = .ok p) (haid : rxActionId p = some aid) (hrel : ∀ a, p ≠ .pubrel a)
    (hl : lookupFirst aid w.c.awaiting = some s) (hop : w.opSt id = some (.wait s k))
    (hs : w.slot s = some .empty) :
    w.pollCtx.slot s = some (.full (.pkt p)) ∧ w.pollCtx.opSt id = some (.wait s k) ∧
    Task.op id ∈ w.pollCtx.woken ∧ w.pollCtx.pollOp id = w.pollCtx.resumeOp id s k (.pkt p) := by
  obtain ⟨f, hf⟩ := W13.loopFuel_succ w
  rw [W13.pollCtx_runLoop w ht, hf]
  exact W13.runLoop_ack_resumes f w rx' rd' fr p aid s id k hq hsn hp hdec haid hrel hl hop hs
    (ho.waitReg id s k hop hs) (ho.slotOf id s k hop).half

/-- **What was acknowledged before the disconnection is not re-sent** (script level). Take any handler call of the
    history of a script that handles a PUBACK, a PUBREC (any reason code) or a PUBCOMP `p`, in context state `c`, with `a`
    the events before it. Then `c` is the state `a` left, its retransmit queue is the unfinished handshakes of the session
    history so far, and — the queued action identifiers being pairwise distinct (`nodup_preserved`) — the queue the call
    leaves has no entry under the action identifier of `p` — a `run()` prelude that follows re-sends nothing for it —
    while every entry under another identifier stays queued. -/
theorem c17_acknowledged_leaves_the_queue (cfg : Cfg) (evs : List Ev) (a b : List HEv) (c : Ctx) (p : RxPacket)
    (dead : List Nat) (wok : Bool) (aid : Nat)
    (hh : World.history cfg evs = a ++ .handler c (.pkt p dead wok) :: b)
    (hk : (∃ x, p = .puback x) ∨ (∃ x, p = .pubrec x) ∨ (∃ x, p = .pubcomp x)) (haid : rxActionId p = some aid)
    (hnd : (c.retx.map (·.1)).Nodup) :
    c = lastCtx {} a ∧ c.retx = unfinished (sessionObs a) ∧
    (∀ e ∈ (HEv.handler c (.pkt p dead wok)).after.retx, e.1 ≠ aid) ∧
    (∀ e ∈ c.retx, e.1 ≠ aid → e ∈ (HEv.handler c (.pkt p dead wok)).after.retx) := by
  obtain ⟨hc, hr, _⟩ := event_in_history hh rfl
  refine ⟨hc, hr, ?_, fun e he hne => ?_⟩
  · rcases hk with ⟨x, rfl⟩ | ⟨x, rfl⟩ | ⟨x, rfl⟩ <;>
      simp only [rxActionId, Option.some.injEq] at haid <;> subst haid
    · exact (acked_not_resent c (fun ch => ch ∉ dead) x wok hnd).1
    · exact (acked_not_resent c (fun ch => ch ∉ dead) x wok hnd).2.1
    · exact (acked_not_resent c (fun ch => ch ∉ dead) x wok hnd).2.2
  · exact unacked_still_queued c (fun ch => ch ∉ dead) p wok e he (fun k hk' => by
      rw [haid] at hk'; cases hk'; exact hne)

/-- **The original future returns the content of that acknowledgement.** A future waiting for `k` whose oneshot holds
    the packet `p`: if `p` is the acknowledgement it waits for (`W13.doneOf k p = some r`: PUBACK for a QoS 1 publish,
    PUBREC with a failure code or PUBCOMP for QoS 2, SUBACK, UNSUBACK, PINGRESP), its poll logs exactly `DONE id r` —
    success, or the error of its kind with the packet's reason code, reason string and user properties, or the
    SUBACK/UNSUBACK reason string, user properties and reason codes — and the operation leaves the table; a QoS 2 publish
    whose PUBREC is good queues its PUBREL and waits on its second oneshot for the PUBCOMP, to which the same applies. -/
theorem original_future_returns_the_acknowledgement (w : World) (id s : Nat) (k : Wait) (p : RxPacket)
    (hop : w.opSt id = some (.wait s k)) (hs : w.slot s = some (.full (.pkt p))) :
    (∀ r, W13.doneOf k p = some r →
      (w.pollOp id).out = w.out ++ [.done id r] ∧ (w.pollOp id).ops = eraseFirst id w.ops) ∧
    (∀ a, k = .pubrec → p = .pubrec a → a.reason < 128 → w.hasCtx = true →
      (w.pollOp id).opSt id = some (.wait (s + 1) .pubcomp) ∧ (w.pollOp id).out = w.out ∧
      (w.pollOp id).queue = w.queue ++ [.awaitAck (actionId 7 a.packetId) (ackBytes 0x62 a.packetId) (s + 1)]) := by
  refine ⟨fun r hr => (W13.pollOp_done w id s k p r hop hs hr).2, ?_⟩
  rintro a rfl rfl ha hc
  exact W13.pollOp_pubrec_goes_on w id s a hop hs ha hc

section NonVacuity
open Ex W13 HistEx

/-- the script `W13.scrExp` (a QoS 1 PUBLISH and a DISCONNECT served by a first `run()`, then the disconnection is
    recorded; no session expiry was ever negotiated, so the session has expired) reaches `W13.wExp`; with `e = run` the
    hypotheses of `expired_session_fails_abandoned_operations` hold in `W13.wExp0`: operation 1 still waits for its
    PUBACK on the empty oneshot 2, registered in `awaiting_ack`, and is not held -/
example : wExp.bad = false ∧ wExp0.bad = false ∧ wExp0.pick = some .ctx ∧ wExp0.task = .running false ∧
    wExp0.c.disc = some 5 ∧ wExp0.c.sessionExpired 5 = true ∧ (1, OpSt.wait 2 .puback) ∈ wExp0.ops ∧
    (actionId 4 1, 2) ∈ wExp0.c.awaiting ∧ wExp0.slot 2 = some .empty ∧ Task.op 1 ∉ wExp0.held := by decide

/-- … so the theorem applies: in the step of that `run` the abandoned publish fails with `ContextExited` -/
example : ∃ pre post, ((scrExp.foldl World.step {}).step .run).out =
    pre ++ Obs.done 1 (.err .contextExited) :: post := by
  have h := expired_session_fails_abandoned_operations {} scrExp .run 5
  simp only [scrExp_foldl, wExp_run] at h
  obtain ⟨pre, post, e, _⟩ := (h (by decide) (by decide) (by decide) (by decide) (by decide) (by decide) 1 2 .puback
    (actionId 4 1) (by decide) (by decide)).2 (by decide) (by decide)
  exact ⟨pre, post, by rw [scrExp_foldl]; exact e⟩

/-- the one-poll theorem on the world right before that first poll: its hypotheses hold, and the oneshot of the
    abandoned publish is closed, its future flagged -/
example : (wExp0.unwake .ctx).pollCtx.slot 2 = some .closed ∧ Task.op 1 ∈ (wExp0.unwake .ctx).pollCtx.woken := by
  have ho : OwnInv (wExp0.unwake .ctx) := by
    have h0 : OwnInv wExp0 := by
      rw [← wExp_run, ← scrExp_foldl]
      exact own_apply _ .run (own_emit _ _ (ownInv_script {} scrExp))
    exact own_congr h0 rfl rfl (fun n hn => by simp [unwake, hn]) (by decide)
  obtain ⟨_, _, flagged, closes, _⟩ := expired_session_closes_every_waiter (wExp0.unwake .ctx) ho 5 (by decide)
    (by decide) (by decide) 1 2 .puback (actionId 4 1) (by decide) (by decide)
  exact ⟨closes (by decide), flagged⟩

/-- a stream asleep on a subscription of an expired session (`W13.wSubExp`): the hypotheses of
    `expired_session_shuts_every_subscription` hold, so after the first poll of `run()` stream 1 is flagged and its
    channel has no sender (a single poll then ends it, its buffer being empty: not stated here) -/
example : ∃ c1, wSubExp.pollCtx.chan 1 = some c1 ∧ c1.txAlive = false ∧ Task.st 1 ∈ wSubExp.pollCtx.woken :=
  let ⟨c1, a, b, c, _⟩ := (expired_session_shuts_every_subscription wSubExp wSubExp_both 5 (by decide) (by decide)
    (by decide) 1 1 (by decide)).2.2 (by decide)
  ⟨c1, a, b, c⟩

/-- `expired_session_ends_abandoned_streams_from` applies to `W13.wSubD` (stream 1 asleep on a subscription of the
    session, `run()` cancelled, disconnection recorded, interval 0) and the event `run`: in that step the stream ends — it
    is not held, so it is gone afterwards -/
example : 1 ∉ (wSubD.step .run).streams := by
  intro hin
  have h := (expired_session_ends_abandoned_streams_from wSubD wSubD_both wSubD_reg (by decide) .run trivial 5 (by decide)
    (by decide) (by decide) (by decide) (by decide) (by decide) 1 1 (by decide) hin).1
  have hh : (wSubD.step .run).held = [] :=
    W13.step_of_good (w := wSubD) .run (by decide) ▸ ((W13.held_stable []).settle _ ⟨trivial, by decide⟩).2
  rw [hh] at h
  cases h

/-- the resumed world `W13.wAck` (session of 60 s, disconnection 5 s ago, PUBLISH 1 unacknowledged, PUBACK 1 readable)
    satisfies the hypotheses of `live_session_keeps_every_waiter` and `ack_on_new_connection_completes_original_future` … -/
example : wAck.task = .running false ∧ wAck.c.disc = some 5 ∧ wAck.c.sessionExpired 5 = false ∧
    wAck.resumed.canWrite ((wAck.c.resume.2.2.map List.length).sum) = true ∧ wAck.queue = [] ∧ wAck.senders ≠ 0 ∧
    rxActionId (.puback { packetId := 1 }) = some (actionId 4 1) ∧
    lookupFirst (actionId 4 1) wAck.c.awaiting = some 2 ∧ wAck.opSt 1 = some (.wait 2 .puback) ∧
    wAck.slot 2 = some .empty ∧ wAck.c.resume.2.2 = [[0x3A, 6, 0, 1, 0x61, 0, 1, 0]] := by decide

/-- … so after its first poll of `run()` the oneshot of the ORIGINAL publish holds the PUBACK received on the new
    connection, and the next poll of that future logs `DONE 1 Ok` -/
example : wAck.pollCtx.slot 2 = some (.full (.pkt (.puback { packetId := 1 }))) ∧
    (wAck.pollCtx.pollOp 1).out = wAck.pollCtx.out ++ [.done 1 .ok] := by
  obtain ⟨h1, h2, _, _⟩ := ack_on_new_connection_completes_original_future wAck wAck_own 5 (by decide) (by decide)
    (by decide) (by decide) {} [] puback1 (.puback { packetId := 1 }) (actionId 4 1) 2 1 .puback (by decide) (by decide)
    pn_puback1 dec_puback1 rfl (fun a h => by cases h) (by decide) (by decide) (by decide)
  exact ⟨h1, ((original_future_returns_the_acknowledgement _ 1 2 .puback _ h2 h1).1 .ok rfl).1⟩

/-- `expired_session_fails_abandoned_operations_on_poll`: `W13.scrExpH` (`W13.scrExp`, then the context task is held
    back and `run()` is called — the executor does not poll it) reaches `W13.wExpH`, in which the hypotheses hold; so the
    script's `POLL ctx` fails the abandoned publish -/
example : ∃ pre post, ((scrExpH.foldl World.step {}).step (.poll .ctx)).out =
    pre ++ Obs.done 1 (.err .contextExited) :: post := by
  have h := expired_session_fails_abandoned_operations_on_poll {} scrExpH 5
  simp only [scrExpH_foldl] at h
  obtain ⟨pre, post, e, _⟩ := (h (by decide) (by decide) (by decide) (by decide) 1 2 .puback (actionId 4 1) (by decide)
    (by decide)).2 (by decide) (by decide)
  exact ⟨pre, post, by rw [scrExpH_foldl]; exact e⟩

/-- **A whole script, end to end** (`W13.scrRe`, evaluated stage by stage in Lemmas/WorldResumeLive.lean; the transport
    takes 12 bytes per connection). A QoS 1 PUBLISH is sent and `run()` returns before its PUBACK arrives; the
    disconnection is recorded; `connect()` on a new transport asks for a 60 s session; on a third transport `run()` is
    called again: it re-sends the PUBLISH with DUP set (0x32 → 0x3A) and nothing else; then the broker's PUBACK arrives on
    the NEW connection and the ORIGINAL `publish()` future — operation 1, created before the disconnection — completes
    with `Ok`. -/
example : (World.run cfgRe scrRe).drop 14 =
    [.ev .run, .wire [0x3A, 6, 0, 1, 0x61, 0, 1, 0], .ev (.feed [puback1]), .done 1 .ok] := by
  unfold World.run
  rw [scrRe_foldl]
  decide +kernel

/-- … and `c17_acknowledged_leaves_the_queue` applies to the handler call of that PUBACK (the last event of the history of
    `W13.scrRe`): afterwards nothing is left to re-send -/
example : ∀ e ∈ (HEv.handler { cRe0 with disc := none } (.pkt (.puback { packetId := 1 }) [] true)).after.retx,
    e.1 ≠ actionId 4 1 :=
  (c17_acknowledged_leaves_the_queue cfgRe scrRe _ [] _ (.puback { packetId := 1 }) [] true (actionId 4 1)
    (by rw [scrRe_history]) (Or.inl ⟨_, rfl⟩) rfl (by decide)).2.2.1

end NonVacuity

#print axioms expired_session_closes_every_waiter
#print axioms expired_session_shuts_every_subscription
#print axioms expired_session_resends_nothing
#print axioms expired_session_resends_nothing_script
#print axioms expired_session_fails_abandoned_operations
#print axioms expired_session_fails_abandoned_operations_on_poll
#print axioms expired_session_ends_abandoned_streams_from
#print axioms expired_session_ends_abandoned_streams
#print axioms c17_acknowledged_leaves_the_queue
#print axioms live_session_keeps_every_waiter
#print axioms ack_on_new_connection_completes_original_future
#print axioms ack_completes_waiting_future
#print axioms original_future_returns_the_acknowledgement

end Poster

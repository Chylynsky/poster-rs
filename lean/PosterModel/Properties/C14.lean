/-
  Properties/C14.lean — no operation or stream hangs once the context is gone.

  C14: "Once the Context has been dropped (normally right after run() returned), every operation still pending
  on any handle completes with ContextExited, every operation started afterwards fails with ContextExited
  immediately, and every subscription stream yields the messages it had already received and then ends. No
  future obtained from the library stays pending forever after that point."

  Model: `World.apply .dropCtx` (the `Context` is dropped: every sender it owns is dropped — the oneshot
  senders inside queued messages and `awaiting_ack`, the subscription senders inside queued SUBSCRIBEs and
  `subscriptions`), `World.pollOp`, `World.startOp`, `World.resumeOp`, `World.pollStream`.
-/
import PosterModel.Lemmas.WorldDrop
import PosterModel.Lemmas.WorldEx
import PosterModel.Lemmas.UserCtx

namespace Poster
open Framing

/-- **Dropping the context closes every channel it held a sender of.** After `DROPCTX` on a live context:
    the context is gone, its task is gone, the queue and the session are empty;
    every oneshot that had no value yet and whose sender sat in a queued message or in `awaiting_ack` is now
    `closed`; every subscription channel whose sender sat in a queued SUBSCRIBE or in `subscriptions` has its
    sending half gone and no waker registered;
    and nothing else is lost: every channel keeps its buffered items, a oneshot that already holds a value
    keeps it, operations, streams and the observation log are untouched. -/
theorem dropCtx_closes (w : World) (h : w.hasCtx = true) :
    (w.apply .dropCtx).hasCtx = false ∧ (w.apply .dropCtx).queue = [] ∧ (w.apply .dropCtx).task = .none ∧
    (w.apply .dropCtx).c = {} ∧ (w.apply .dropCtx).ops = w.ops ∧ (w.apply .dropCtx).streams = w.streams ∧
    (w.apply .dropCtx).out = w.out ∧
    (∀ s, w.slot s = some .empty →
      ((∃ m ∈ w.queue, m.slot = s) ∨ (∃ e ∈ w.c.awaiting, e.2 = s)) →
      (w.apply .dropCtx).slot s = some .closed) ∧
    (∀ ch c0, w.chan ch = some c0 →
      ((∃ aid sid pkt s, Msg.subscribe aid sid pkt s ch ∈ w.queue) ∨ (∃ e ∈ w.c.subs, e.2 = ch)) →
      ∃ c1, (w.apply .dropCtx).chan ch = some c1 ∧ c1.txAlive = false ∧ c1.reg = false ∧ c1.buf = c0.buf) ∧
    (∀ ch c0, w.chan ch = some c0 →
      ∃ c1, (w.apply .dropCtx).chan ch = some c1 ∧ c1.buf = c0.buf ∧ c1.rxAlive = c0.rxAlive ∧
        (c1.txAlive = true → c1 = c0)) ∧
    (∀ s v, w.slot s = some (.full v) → (w.apply .dropCtx).slot s = some (.full v)) := by
  rw [World.apply_dropCtx w h]
  have hc := World.closes_dropCtxClosed w
  have inv := World.closes_inv hc
  refine ⟨inv.hasCtx_eq, rfl, inv.task_eq, rfl, inv.ops_eq, inv.streams_eq, inv.out_eq, ?_, ?_, ?_, ?_⟩
  · intro s he hown
    have h1 := World.dropCtxClosed_slot w s hown
    rcases inv.slotEmpty s he with h2 | h2
    · exact absurd h2 h1
    · exact h2
  · intro ch c0 hc0 hown
    obtain ⟨c1, e1, e2, _⟩ := inv.chanSome ch c0 hc0
    obtain ⟨a, b⟩ := World.dropCtxClosed_chan w ch hown c1 e1
    exact ⟨c1, e1, a, b, e2⟩
  · intro ch c0 hc0
    obtain ⟨c1, e1, e2, e3, _, _, e6⟩ := inv.chanSome ch c0 hc0
    exact ⟨c1, e1, e2, e3, e6⟩
  · intro s v hs
    exact inv.slotFull s v hs

/-- dropping the sender of an empty oneshot whose receiver has registered its waker wakes that operation -/
theorem dropSlotTx_wakes (w : World) (s : Nat) (he : w.slot s = some .empty) (hr : s ∈ w.slotReg) :
    .op (s / 2) ∈ (w.dropSlotTx s).woken ∧ (w.dropSlotTx s).slot s = some .closed := by
  refine ⟨World.dropSlotTx_wakes' w s he hr, ?_⟩
  rw [World.dropSlotTx_slot]; simp [he]

/-- dropping the sender of a channel whose stream has registered its waker wakes that stream -/
theorem dropChanTx_wakes (w : World) (c : Nat) (ch : Chan) (hc : w.chan c = some ch) (hr : ch.reg = true) :
    .st c ∈ (w.dropChanTx c).woken ∧
    (w.dropChanTx c).chan c = some { ch with txAlive := false, reg := false } := by
  refine ⟨World.dropChanTx_wakes' w c ch hc hr, ?_⟩
  rw [World.dropChanTx_chan]; simp [hc]

/-- **Nobody sleeps on a channel whose sender is gone.** After `DROPCTX`: the task of every operation that
    was registered on one of the closed oneshots has been woken, the task of every stream that was registered
    on one of the closed channels has been woken, and no wakeup that was already pending is lost. -/
theorem dropCtx_wakes (w : World) (h : w.hasCtx = true) :
    (∀ s, w.slot s = some .empty → s ∈ w.slotReg →
      ((∃ m ∈ w.queue, m.slot = s) ∨ (∃ e ∈ w.c.awaiting, e.2 = s)) →
      .op (s / 2) ∈ (w.apply .dropCtx).woken) ∧
    (∀ ch c0, w.chan ch = some c0 → c0.reg = true →
      ((∃ aid sid pkt s, Msg.subscribe aid sid pkt s ch ∈ w.queue) ∨ (∃ e ∈ w.c.subs, e.2 = ch)) →
      .st ch ∈ (w.apply .dropCtx).woken) ∧
    (∀ t, t ∈ w.woken → t ∈ (w.apply .dropCtx).woken) := by
  rw [World.apply_dropCtx w h]
  have inv := World.closes_inv (World.closes_dropCtxClosed w)
  refine ⟨fun s he hr hown => ?_, fun ch c0 hc0 hr hown => ?_, fun t ht => inv.wokenMono t ht⟩
  · rcases inv.slotWake s he hr with ⟨h1, _⟩ | h1
    · exact absurd h1 (World.dropCtxClosed_slot w s hown)
    · exact h1
  · rcases inv.chanWake ch c0 hc0 hr with ⟨c1, h1, h2⟩ | h1
    · have := (World.dropCtxClosed_chan w ch hown c1 h1).2
      rw [h2] at this; cases this
    · exact h1

/-- **A closed oneshot completes its operation with `ContextExited`.** An operation waiting on a oneshot whose
    sender was dropped: the next poll emits `DONE id Err(ContextExited)` and removes the operation. -/
theorem closed_slot_completes (w : World) (id s : Nat) (k : Wait) (hop : w.opSt id = some (.wait s k))
    (hs : w.slot s = some .closed) :
    w.pollOp id = (w.clearSlot s).finishOp id (.err .contextExited) ∧
    (w.pollOp id).out = w.out ++ [.done id (.err .contextExited)] ∧
    (w.pollOp id).ops = eraseFirst id w.ops ∧
    ((w.ops.map (·.1)).Nodup → (w.pollOp id).opSt id = none) := by
  have e : w.pollOp id = (w.clearSlot s).finishOp id (.err .contextExited) := World.pollOp_of_closed hop hs
  rw [e]
  exact ⟨rfl, by simp, by simp, fun hn => World.endOp_opSt_self (w := w.clearSlot s) hn id _⟩

/-- **A result that had already arrived is not lost.** A oneshot that holds a value when the context is
    dropped still holds it afterwards, and the waiting operation's next poll resumes with that value exactly
    as if the context were alive. -/
theorem full_slot_still_delivers (w : World) (id s : Nat) (k : Wait) (v : SlotVal)
    (hop : w.opSt id = some (.wait s k)) (hs : w.slot s = some (.full v)) :
    (w.apply .dropCtx).slot s = some (.full v) ∧ (w.apply .dropCtx).opSt id = some (.wait s k) ∧
    (w.apply .dropCtx).pollOp id = (w.apply .dropCtx).resumeOp id s k v := by
  have h1 : (w.apply .dropCtx).slot s = some (.full v) ∧ (w.apply .dropCtx).ops = w.ops := by
    cases hc : w.hasCtx with
    | false => simp [World.apply, hc]; exact hs
    | true =>
      obtain ⟨_, _, _, _, a, _, _, _, _, _, b⟩ := dropCtx_closes w hc
      exact ⟨b s v hs, a⟩
  have h2 : (w.apply .dropCtx).opSt id = some (.wait s k) := by
    simp only [World.opSt, h1.2]; exact hop
  exact ⟨h1.1, h2, World.pollOp_of_full h2 h1.1⟩

/-- **An operation started after the context is gone fails in its very first poll**: with `ContextExited`
    (the message cannot be sent), or with a codec error for a request that is refused before it would be sent;
    in that same poll the `DONE` is emitted and the operation is removed — it never gets to wait. -/
theorem start_after_drop (w : World) (id : Nat) (req : Req) (h : w.hasCtx = false) :
    ∃ k, (k = ErrKind.contextExited ∨ k = ErrKind.codecError) ∧
      (w.startOp id req).out = w.out ++ [.done id (.err k)] ∧
      (w.startOp id req).ops = eraseFirst id w.ops := by
  obtain ⟨w0, hp, ⟨k, hk, e, _⟩ | ⟨hc, _⟩⟩ := World.startOp_spec w id req
  · refine ⟨k, hk.symm.imp_left (·.1), ?_, ?_⟩ <;> rw [e, World.finishOp_eq_endOp]
    · rw [World.endOp_out, (hp 0).out]
    · rw [World.endOp_ops, (hp 0).ops]
  · rw [h] at hc; cases hc

/-- the same at the level of a poll: a not-yet-polled operation, polled with the context gone -/
theorem fresh_op_after_drop (w : World) (id hd : Nat) (req : Req) (hop : w.opSt id = some (.fresh hd req))
    (h : w.hasCtx = false) :
    ∃ k, (k = ErrKind.contextExited ∨ k = ErrKind.codecError) ∧
      (w.pollOp id).out = w.out ++ [.done id (.err k)] ∧ (w.pollOp id).ops = eraseFirst id w.ops := by
  rw [World.pollOp_of_fresh hop]; exact start_after_drop w id req h

/-- **Between the two phases of a QoS 2 publish.** The first phase succeeded (a PUBREC without error arrived
    in the oneshot) but the context is gone: the PUBREL cannot be sent and the operation completes with
    `ContextExited` in that poll. -/
theorem resume_after_drop (w : World) (id s : Nat) (a : AckRx) (h : w.hasCtx = false) (ha : a.reason < 128) :
    (w.resumeOp id s .pubrec (.pkt (.pubrec a))).out = w.out ++ [.done id (.err .contextExited)] ∧
    (w.resumeOp id s .pubrec (.pkt (.pubrec a))).ops = eraseFirst id w.ops := by
  -- the PUBREL cannot be sent: `sendAwait` without a context is `finishOp`
  rw [User.resumeOp_pubrec_accepted w id s a ha, User.sendAwait_no_ctx (w.clearSlot s) _ _ _ _ h, User.finishOp_out,
    User.finishOp_ops]
  exact ⟨rfl, rfl⟩

/-- **A stream drains, then ends.** With the sending half gone: a poll yields the oldest buffered item (and
    flags the stream again, so the executor polls it again); with nothing buffered it emits `END` and the
    stream is removed. -/
theorem stream_drains_then_ends (w : World) (id : Nat) (ch : Chan) (hst : id ∈ w.streams)
    (hc : w.chan id = some ch) (ht : ch.txAlive = false) :
    (∀ p rest, ch.buf = p :: rest →
      w.pollStream id = ((w.setChan id { ch with buf := rest }).emit (.item id p)).wake (.st id) ∧
      .st id ∈ (w.pollStream id).woken) ∧
    (ch.buf = [] →
      w.pollStream id =
        (({ w with streams := w.streams.filter (· ≠ id) }).dropChanRx id).emit (.endStream id) ∧
      id ∉ (w.pollStream id).streams) := by
  refine ⟨fun p rest hb => ?_, fun hb => ?_⟩
  · suffices e : w.pollStream id = _ from ⟨e, by rw [e]; exact World.mem_wake_self _ _⟩
    simp only [World.pollStream, hst, not_true_eq_false, if_false, hc, hb]
  · suffices e : w.pollStream id = _ from ⟨e, by rw [e]; simp [World.dropChanRx]⟩
    simp only [World.pollStream, hst, not_true_eq_false, if_false, hc, hb, ht, Bool.false_eq_true]

/-- **A stream with n buffered items ends after exactly n + 1 polls, having yielded them in order.**
    With the sending half gone and `items` buffered: `items.length + 1` polls append exactly
    `ITEM` for each buffered message, oldest first, then `END`; afterwards the stream is gone; and after any
    smaller number of polls it is still there (it has not ended early). -/
theorem stream_ends_after_n_plus_one (w : World) (id : Nat) (ch : Chan) (hst : id ∈ w.streams)
    (hc : w.chan id = some ch) (ht : ch.txAlive = false) :
    (World.pollStreamTimes id (ch.buf.length + 1) w).out =
      w.out ++ ch.buf.map (Obs.item id) ++ [.endStream id] ∧
    id ∉ (World.pollStreamTimes id (ch.buf.length + 1) w).streams ∧
    (∀ n, n ≤ ch.buf.length →
      id ∈ (World.pollStreamTimes id n w).streams ∧
      (World.pollStreamTimes id n w).out = w.out ++ (ch.buf.take n).map (Obs.item id)) := by
  -- the buffered items first (`pollStreamN_take`), then one more poll finds the channel empty and its sender gone
  have take := User.pollStreamN_take w id ch hst hc
  obtain ⟨h1, h2, h3⟩ := take ch.buf.length (Nat.le_refl _)
  rw [List.take_length] at h2
  rw [List.drop_length] at h3
  obtain ⟨e, hn⟩ := (stream_drains_then_ends _ id { ch with buf := [] } h1 h3 ht).2 rfl
  rw [World.pollStreamTimes_eq, User.pollStreamN_succ]
  refine ⟨by rw [e]; simp [h2], hn, fun n hle => ?_⟩
  rw [World.pollStreamTimes_eq]
  exact ⟨(take n hle).1, (take n hle).2.1⟩

/-! ## Non-vacuity: the hypotheses are satisfiable and the conclusions are not trivial (worlds of Lemmas/WorldEx.lean) -/
section NonVacuity
open Ex

/-- the hypotheses of `dropCtx_closes` / `dropCtx_wakes` hold for the serving client `wRun` … -/
example : wRun.hasCtx = true ∧ wRun.slot 2 = some .empty ∧ 2 ∈ wRun.slotReg ∧
    (∃ e ∈ wRun.c.awaiting, e.2 = 2) ∧ wRun.chan 3 = some { buf := [], reg := true } ∧
    (∃ e ∈ wRun.c.subs, e.2 = 3) := by decide
/-- … and the conclusions, evaluated: the oneshot is closed, the channel's sender is gone, both tasks woken -/
example : (wRun.apply .dropCtx).slot 2 = some .closed ∧
    (wRun.apply .dropCtx).chan 3 = some { buf := [], txAlive := false, reg := false } ∧
    Task.op 1 ∈ (wRun.apply .dropCtx).woken ∧ Task.st 3 ∈ (wRun.apply .dropCtx).woken := by decide
/-- the pending operation then completes with `ContextExited` (`closed_slot_completes`) … -/
example : ((wRun.apply .dropCtx).pollOp 1).out = [.done 1 (.err .contextExited)] ∧
    ((wRun.apply .dropCtx).pollOp 1).opSt 1 = none := by decide
/-- … an operation polled for the first time after the drop fails at once (`fresh_op_after_drop`) … -/
example : ((wRun.apply .dropCtx).pollOp 5).out = [.done 5 (.err .contextExited)] ∧
    ((wRun.apply .dropCtx).pollOp 5).opSt 5 = none := by decide
/-- … and the stream ends (`stream_drains_then_ends`, empty buffer) -/
example : ((wRun.apply .dropCtx).pollStream 3).out = [.endStream 3] ∧
    3 ∉ ((wRun.apply .dropCtx).pollStream 3).streams := by decide
/-- two buffered messages, sender gone: exactly three polls, `ITEM`, `ITEM`, `END`
    (`stream_ends_after_n_plus_one`); after two polls the stream is still there -/
example : (World.pollStreamTimes 3 3 wDrain).out =
      [.item 3 { topic := [0x61] }, .item 3 { topic := [0x62] }, .endStream 3] ∧
    3 ∉ (World.pollStreamTimes 3 3 wDrain).streams ∧ 3 ∈ (World.pollStreamTimes 3 2 wDrain).streams := by decide
/-- a result that had arrived survives the drop (`full_slot_still_delivers`) -/
example : ((({ wRun with slots := [(2, .full (.pkt (.puback { packetId := 1 })))] } : World).apply
    .dropCtx).pollOp 1).out = [.done 1 .ok] := by decide
/-- between the phases of a QoS 2 publish (`resume_after_drop`) -/
example : (({ } : World).resumeOp 1 2 .pubrec (.pkt (.pubrec { packetId := 1 }))).out =
    [.done 1 (.err .contextExited)] :=
  (resume_after_drop {} 1 2 { packetId := 1 } rfl (by decide)).1

end NonVacuity

#print axioms dropCtx_closes
#print axioms dropSlotTx_wakes
#print axioms dropChanTx_wakes
#print axioms dropCtx_wakes
#print axioms closed_slot_completes
#print axioms full_slot_still_delivers
#print axioms start_after_drop
#print axioms fresh_op_after_drop
#print axioms resume_after_drop
#print axioms stream_drains_then_ends
#print axioms stream_ends_after_n_plus_one

end Poster

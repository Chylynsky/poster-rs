/-
  Properties/C11.lean — C11: packet identifiers (and subscription identifiers) are non-zero and unique among
  outstanding operations, for any history.

  `ContextHandle` allocates identifiers with `fetch_update` on one shared atomic counter per kind
  (`World.allocPid` / `World.allocSub`): the counter value is returned and replaced by its successor in the
  cycle 1, 2, …, MAX, 1, … (`nextPid`, `nextSub` in Lemmas/UserAlloc.lean; `iter f k a` is `f` applied `k` times).
  Two allocations can only collide if MAX allocations lie between them.
-/
import PosterModel.Lemmas.UserAlloc
import PosterModel.Lemmas.WorldShape

namespace Poster
open World User

/-- `allocPid` returns the current counter value and advances the shared counter by one `nextPid` step;
    nothing else in the world changes. -/
theorem allocPid_spec (w : World) : w.allocPid = (w.pidCtr, { w with pidCtr := nextPid w.pidCtr }) := rfl

/-- `allocSub` returns the current counter value and advances the shared counter by one `nextSub` step. -/
theorem allocSub_spec (w : World) : w.allocSub = (w.subCtr, { w with subCtr := nextSub w.subCtr }) := rfl

/-- Closed form of the packet-identifier cycle: the `k`-th successor of a counter value `c` in 1..65535 is
    `(c - 1 + k) mod 65535 + 1`. -/
theorem alloc_closed_form (c k : Nat) (h : 1 ≤ c ∧ c ≤ 65535) :
    iter nextPid k c = (c - 1 + k) % 65535 + 1 := User.nextCyc_closed 65535 c k h

/-- Starting from 1 (the initial counter), every identifier ever allocated lies in 1..65535, after any number of
    allocations: it is never 0, so `NonZero::try_from(id).unwrap()` in the options builders cannot panic, and it
    always fits the 16-bit field. -/
theorem alloc_nonzero (k : Nat) : 1 ≤ iter nextPid k 1 ∧ iter nextPid k 1 ≤ 65535 := by
  rw [alloc_closed_form 1 k (by omega)]; omega

/-- The same from any counter value in range (the invariant of the counter). -/
theorem alloc_in_range (c k : Nat) (h : 1 ≤ c ∧ c ≤ 65535) : 1 ≤ iter nextPid k c ∧ iter nextPid k c ≤ 65535 := by
  rw [alloc_closed_form c k h]; omega

/-- Any two of fewer than 65535 consecutive allocations differ — also across the wrap-around from 65535 to 1.
    So an operation's identifier is not handed out again while fewer than 65535 identifiers are allocated
    during its lifetime. -/
theorem alloc_unique_window (c i j : Nat) (h : 1 ≤ c ∧ c ≤ 65535) (hij : i < j) (hw : j - i < 65535) :
    iter nextPid i c ≠ iter nextPid j c :=
  nextCyc_unique_window 65535 c i j h hij hw

/-- The cycle has period exactly 65535: the allocation 65535 steps later returns the same identifier (so the
    window of `alloc_unique_window` cannot be enlarged). -/
theorem alloc_period (c i : Nat) (h : 1 ≤ c ∧ c ≤ 65535) : iter nextPid (i + 65535) c = iter nextPid i c :=
  nextCyc_period 65535 c i h

/-- Closed form of the subscription-identifier cycle (modulus 268435455, the largest variable byte integer). -/
theorem sub_closed_form (c k : Nat) (h : 1 ≤ c ∧ c ≤ 268435455) :
    iter nextSub k c = (c - 1 + k) % 268435455 + 1 := User.nextCyc_closed 268435455 c k h

/-- Every subscription identifier allocated is in 1..268435455: non-zero (the `unwrap()` cannot panic) and
    encodable as a variable byte integer. -/
theorem sub_nonzero (k : Nat) : 1 ≤ iter nextSub k 1 ∧ iter nextSub k 1 ≤ 268435455 := by
  rw [sub_closed_form 1 k (by omega)]; omega

/-- Any two of fewer than 268435455 consecutive subscription-identifier allocations differ: every `subscribe()`
    call gets its own identifier. -/
theorem sub_unique_window (c i j : Nat) (h : 1 ≤ c ∧ c ≤ 268435455) (hij : i < j) (hw : j - i < 268435455) :
    iter nextSub i c ≠ iter nextSub j c :=
  nextCyc_unique_window 268435455 c i j h hij hw

/-- Subscription identifiers repeat exactly at distance 268435455. -/
theorem sub_period (c i : Nat) (h : 1 ≤ c ∧ c ≤ 268435455) : iter nextSub (i + 268435455) c = iter nextSub i c :=
  nextCyc_period 268435455 c i h

/-- Allocations from any clones of the handle are `allocPid` steps on the one shared counter: in any sequence of
    worlds in which each next world's counter is the one `allocPid` left (whatever else happened to the world and
    whichever handle or future performed the step), the identifier returned by the `k`-th allocation overall is
    `iter nextPid k 1`. Interleaving cannot produce a duplicate or skip a value. -/
theorem alloc_interleaving_irrelevant (ws : List World)
    (h0 : ∀ h : 0 < ws.length, ws[0].pidCtr = 1)
    (hlink : ∀ k (h : k + 1 < ws.length), ws[k+1].pidCtr = (ws[k].allocPid).2.pidCtr)
    (k : Nat) (hk : k < ws.length) : (ws[k].allocPid).1 = iter nextPid k 1 :=
  iter_of_chain (·.pidCtr) nextPid 1 ws h0 hlink k hk

/-- The same for subscription identifiers. -/
theorem sub_interleaving_irrelevant (ws : List World)
    (h0 : ∀ h : 0 < ws.length, ws[0].subCtr = 1)
    (hlink : ∀ k (h : k + 1 < ws.length), ws[k+1].subCtr = (ws[k].allocSub).2.subCtr)
    (k : Nat) (hk : k < ws.length) : (ws[k].allocSub).1 = iter nextSub k 1 :=
  iter_of_chain (·.subCtr) nextSub 1 ws h0 hlink k hk

/-- Consequently two allocations `i < j` of one client, fewer than 65535 apart, return different identifiers
    whoever performs them. -/
theorem alloc_interleaved_unique (ws : List World)
    (h0 : ∀ h : 0 < ws.length, ws[0].pidCtr = 1)
    (hlink : ∀ k (h : k + 1 < ws.length), ws[k+1].pidCtr = (ws[k].allocPid).2.pidCtr)
    (i j : Nat) (hij : i < j) (hj : j < ws.length) (hw : j - i < 65535) :
    (ws[i].allocPid).1 ≠ (ws[j].allocPid).1 := by
  have hi := alloc_interleaving_irrelevant ws h0 hlink i (by omega)
  have hj' := alloc_interleaving_irrelevant ws h0 hlink j hj
  exact fun e => alloc_unique_window 1 i j (by omega) hij hw (hi.symm.trans (e.trans hj'))

/-- A handle future started from whichever clone `h` of the handle runs the same `startOp` on the same shared
    world: the clone plays no role in which identifier is allocated. -/
theorem pollOp_fresh_ignores_handle (w : World) (id h : Nat) (req : Req)
    (hop : w.opSt id = some (.fresh h req)) : w.pollOp id = w.startOp id req := pollOp_of_fresh hop

/-- `publish()` with QoS > 0 takes its packet identifier before the packet is built and validated: the counter
    advances by exactly one step — and the subscription counter not at all — even when the request is then refused
    (no topic) or the context is gone. -/
theorem startOp_allocates_before_build_publish (w : World) (id : Nat) (t : PublishTx) (hq : t.qos ≠ 0) :
    (w.startOp id (.publish t)).pidCtr = nextPid w.pidCtr ∧ (w.startOp id (.publish t)).subCtr = w.subCtr := by
  have h := startOp_counters w id (.publish t)
  simp only [allocFor, hq, ↓reduceIte] at h
  exact h

/-- `subscribe()` takes one packet identifier and one subscription identifier, whatever happens next. -/
theorem startOp_allocates_before_build_subscribe (w : World) (id : Nat) (t : SubscribeTx) :
    (w.startOp id (.subscribe t)).pidCtr = nextPid w.pidCtr ∧
    (w.startOp id (.subscribe t)).subCtr = nextSub w.subCtr :=
  startOp_counters w id (.subscribe t)

/-- `unsubscribe()` takes one packet identifier, whatever happens next. -/
theorem startOp_allocates_before_build_unsubscribe (w : World) (id : Nat) (t : UnsubscribeTx) :
    (w.startOp id (.unsubscribe t)).pidCtr = nextPid w.pidCtr ∧
    (w.startOp id (.unsubscribe t)).subCtr = w.subCtr :=
  startOp_counters w id (.unsubscribe t)

/-- A QoS 0 publish, a ping and a disconnect carry no identifier and leave both counters alone. -/
theorem startOp_no_allocation (w : World) (id : Nat) (req : Req)
    (hreq : (∃ t, req = .publish t ∧ t.qos = 0) ∨ req = .ping ∨ ∃ t, req = .disconnect t) :
    (w.startOp id req).pidCtr = w.pidCtr ∧ (w.startOp id req).subCtr = w.subCtr := by
  have h := startOp_counters w id req
  rcases hreq with ⟨t, rfl, hq⟩ | rfl | ⟨t, rfl⟩
  · simp only [allocFor, hq, ↓reduceIte] at h; exact h
  · exact h
  · exact h

/-- non-vacuity: the cycle really wraps from 65535 to 1 and never yields 0 -/
example : nextPid 65535 = 1 ∧ nextPid 1 = 2 ∧ iter nextPid 65535 1 = 1 ∧ iter nextPid 65534 1 = 65535 := by
  refine ⟨rfl, rfl, ?_, ?_⟩ <;> rw [alloc_closed_form _ _ (by omega)]

example : (World.allocPid { pidCtr := 65535 }).1 = 65535 ∧ (World.allocPid { pidCtr := 65535 }).2.pidCtr = 1 :=
  ⟨rfl, rfl⟩

/-- non-vacuity: a refused subscribe (no filters) still consumes both identifiers -/
example : ((({ hasCtx := true } : World).startOp 0 (.subscribe { packetId := 0 })).pidCtr,
           (({ hasCtx := true } : World).startOp 0 (.subscribe { packetId := 0 })).subCtr) = (2, 2) := by decide

#print axioms allocPid_spec
#print axioms allocSub_spec
#print axioms alloc_closed_form
#print axioms alloc_nonzero
#print axioms alloc_in_range
#print axioms alloc_unique_window
#print axioms alloc_period
#print axioms sub_closed_form
#print axioms sub_nonzero
#print axioms sub_unique_window
#print axioms sub_period
#print axioms alloc_interleaving_irrelevant
#print axioms sub_interleaving_irrelevant
#print axioms alloc_interleaved_unique
#print axioms pollOp_fresh_ignores_handle
#print axioms startOp_allocates_before_build_publish
#print axioms startOp_allocates_before_build_subscribe
#print axioms startOp_allocates_before_build_unsubscribe
#print axioms startOp_no_allocation

end Poster

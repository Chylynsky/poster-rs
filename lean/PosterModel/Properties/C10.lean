/-
  Properties/C10.lean — Receive Maximum is never exceeded; the send quota neither leaks nor overflows.

  Model: `Ctx.handleMsg` / `Ctx.handlePkt` / `Ctx.handleConnack` (src/client/context.rs), histories `Ctx.serve`.
  Specification: the monitor `QMon` of PosterModel/CtxRun.lean, which reads ONLY the history (what was asked, what was
  written, which errors were returned, which acknowledgements were handled) and keeps the list `out` of QoS>0 PUBLISH
  packets written and not yet completed by PUBACK, PUBCOMP or a PUBREC with reason ≥ 0x80. It rejects a history
    * when a QoS>0 PUBLISH is written while `R` are outstanding,
    * when `QuotaExceeded` is returned while fewer than `R` are outstanding,
    * when `QuotaExceeded` is returned to anything that is not a QoS>0 PUBLISH,
  and stops judging after an acknowledgement that completes nothing outstanding (a non-conformant broker).
  `P_C10 R t` = the monitor started with nothing outstanding accepts the history `t`.

  Proof: simulation. `QRel c m` (Lemmas/CtxQuota.lean): `c.quota + m.out.length = c.recvMax ∧ m.R = c.recvMax`.
-/
import PosterModel.Lemmas.CtxQuota

namespace Poster

/-- **QoS 0 publishes and every other operation are never limited**: a fire-and-forget request (QoS 0 PUBLISH, PINGREQ,
    DISCONNECT, AUTH), a request awaiting an acknowledgement that is not a PUBLISH (PUBREL, UNSUBSCRIBE) and a SUBSCRIBE
    never get `QuotaExceeded`, in any state — in particular with the quota at 0 —, and they never take a slot. -/
theorem qos0_and_others_never_limited (c : Ctx) (m : Msg) (wok : Bool)
    (h : (∃ pkt slot, m = .ff pkt slot) ∨ (∃ aid pkt slot, m = .awaitAck aid pkt slot ∧ pktType pkt ≠ 3) ∨
         (∃ aid sid pkt slot chan, m = .subscribe aid sid pkt slot chan)) :
    (∀ s, (s, SlotVal.errQuota) ∉ sendsOf (c.handleMsg m wok).2.1) ∧ (c.handleMsg m wok).1.quota = c.quota := by
  rcases h with ⟨pkt, slot, rfl⟩ | ⟨aid, pkt, slot, rfl, h3⟩ | ⟨aid, sid, pkt, slot, chan, rfl⟩
  · rcases Ctx.handleMsg_ff_cases c pkt slot wok with ⟨_, e⟩ | ⟨_, _, e⟩ | ⟨_, _, e⟩ <;> rw [e] <;> simp
  · rcases Ctx.handleMsg_awaitAck_cases c aid pkt slot wok with ⟨_, e⟩ | ⟨_, h, _⟩ | ⟨_, _, _, e⟩ | ⟨_, _, _, e⟩
    · rw [e]; simp
    · exact absurd h h3
    · rw [e]; simp [h3]
    · rw [e]; simp [h3]
  · rcases Ctx.handleMsg_subscribe_cases c aid sid pkt slot chan wok with ⟨_, e⟩ | ⟨_, e⟩ <;> rw [e] <;> simp

/-- **One step of the simulation.** Whenever the context's free slots and the monitor's outstanding publishes add up to
    Receive Maximum, the monitor accepts whatever the context does with the next input — any request, any packet, write
    succeeding or failing — and either they add up again afterwards, or the input was an acknowledgement for something
    that is not outstanding (`b = false`: the broker left the protocol, the property says nothing any more). -/
theorem step_sim (c : Ctx) (m : QMon) (i : CIn) (h : QRel c m) :
    ∃ m' b, m.next (c.stepIn i).2 = some (m', b) ∧ (b = true → QRel (c.stepIn i).1 m') := by
  obtain ⟨h1, h2⟩ := h
  cases i with
  | msg msg wok =>
    rw [Ctx.stepIn_msg]
    have hrm := (Ctx.handleMsg_frame c msg wok).1
    -- a request the quota does not apply to changes neither side
    have unl : ((∃ pkt slot, msg = .ff pkt slot) ∨ (∃ aid pkt slot, msg = .awaitAck aid pkt slot ∧ pktType pkt ≠ 3) ∨
        (∃ aid sid pkt slot chan, msg = .subscribe aid sid pkt slot chan)) →
        ∃ m' b, m.next (.msg msg (c.handleMsg msg wok).2.1 (c.handleMsg msg wok).2.2) = some (m', b) ∧
          (b = true → QRel (c.handleMsg msg wok).1 m') := by
      intro hu
      obtain ⟨hs, hq⟩ := qos0_and_others_never_limited c msg wok hu
      refine ⟨m, true, m.next_unlimited msg _ _ ?_ hs, fun _ => ⟨by rw [hq, hrm]; exact h1, by rw [hrm]; exact h2⟩⟩
      rintro aid pkt slot rfl
      rcases hu with ⟨_, _, e⟩ | ⟨_, _, _, e, h3⟩ | ⟨_, _, _, _, _, e⟩
      · cases e
      · cases e; exact h3
      · cases e
    cases msg with
    | ff pkt slot => exact unl (Or.inl ⟨_, _, rfl⟩)
    | subscribe aid sid pkt slot chan => exact unl (Or.inr (Or.inr ⟨_, _, _, _, _, rfl⟩))
    | awaitAck aid pkt slot =>
      by_cases h3 : pktType pkt = 3
      · rcases Ctx.handleMsg_awaitAck_cases c aid pkt slot wok with ⟨_, e⟩ | ⟨_, _, hq, e⟩ | ⟨_, hq, _, e⟩ | ⟨_, hq, _, e⟩ <;>
          rw [e]
        · -- refused for its size: nothing written, no slot taken
          exact ⟨m, true, by simp [QMon.next, h3], fun _ => ⟨h1, h2⟩⟩
        · -- refused for the quota: exactly R outstanding
          have hfull : m.out.length = m.R := by omega
          exact ⟨m, true, by simp [QMon.next, h3, hfull], fun _ => ⟨h1, h2⟩⟩
        · -- the write fails: `run()` ends; the PUBLISH has taken its slot all the same
          have hroom : m.out.length < m.R := by have := hq h3; omega
          exact ⟨{ m with out := m.out ++ [(aidPid aid, if aidKind aid = 4 then 1 else 2)] }, true,
            by simp [QMon.next, h3, hroom], fun _ => by have := hq h3; simp [QRel, h3]; omega⟩
        · -- written: the PUBLISH takes a slot, and there is room for it
          have hroom : m.out.length < m.R := by have := hq h3; omega
          exact ⟨{ m with out := m.out ++ [(aidPid aid, if aidKind aid = 4 then 1 else 2)] }, true,
            by simp [QMon.next, h3, hroom], fun _ => by have := hq h3; simp [QRel, h3]; omega⟩
      · exact unl (Or.inr (Or.inl ⟨_, _, _, rfl, h3⟩))
  | pkt p dead wok =>
    rw [Ctx.stepIn_pkt]
    have hrm := (Ctx.handlePkt_frame c (fun ch => ch ∉ dead) p wok).1
    have hqu := Ctx.handlePkt_quota c (fun ch => ch ∉ dead) p wok
    rw [← RxPacket.frees_isSome] at hqu
    rw [QMon.next_pkt]
    cases hf : p.frees with
    | none =>
      -- a packet that completes no publish changes neither side
      rw [hf] at hqu
      exact ⟨m, true, rfl, fun _ => ⟨by rw [hqu, hrm]; exact h1, by rw [hrm]; exact h2⟩⟩
    | some x =>
      rw [hf] at hqu
      by_cases hp : x ∈ m.out
      · exact ⟨_, true, if_pos hp, fun _ => bump_rel_erase c m _ ⟨h1, h2⟩ hp _ hqu hrm⟩
      · exact ⟨m, false, if_neg hp, nofun⟩

/-- **Every history, from any related pair.** -/
theorem serve_sim (c : Ctx) (m : QMon) (is : List CIn) (h : QRel c m) : m.scan (c.serve is).2 = true := by
  refine Ctx.serve_induction (P := fun c _ _ t => ∀ m, QRel c m → m.scan t = true) ?_ ?_ ?_ c is m h
  · intro _ _ _; rfl
  · intro c i _ _ m h
    obtain ⟨m', b, hn, -⟩ := step_sim c m i h
    simp only [QMon.scan, hn]
    cases b <;> rfl
  · intro c i _ _ t _ ih m h
    obtain ⟨m', b, hn, hrel⟩ := step_sim c m i h
    simp only [QMon.scan, hn]
    cases b with
    | true => exact ih _ (hrel rfl)
    | false => rfl

/-- **C10.** For EVERY Receive Maximum `R`, every context whose quota and limit are `R` (`hq`, `hr`), and EVERY sequence of
    requests and inbound packets (writes succeeding or failing), up to the first acknowledgement that completes nothing
    outstanding — from there the monitor stops judging, see the head: a QoS>0 PUBLISH is never written while `R` are
    outstanding, `QuotaExceeded` is returned only to a QoS>0 PUBLISH and only when exactly `R` are outstanding (so every
    completion — PUBACK, PUBCOMP, failing PUBREC — frees exactly one slot: after it a publish is accepted again, and after
    all of them `R` publishes are), and nothing else is ever limited. -/
theorem quota_invariant (R : Nat) (c : Ctx) (hq : c.quota = R) (hr : c.recvMax = R) (is : List CIn) :
    P_C10 R (c.serve is).2 = true :=
  serve_sim c { R := R } is ⟨by simp [hq, hr], by simp [hr]⟩

/-- **Where `R` comes from.** After CONNACK the quota and the limit are both the announced Receive Maximum, which the
    decoder defaults to 65535 when the property is absent; so `quota_invariant` applies to every connection. -/
theorem quota_after_connack (c : Ctx) (k : ConnackRx) :
    (c.handleConnack k).quota = k.receiveMax ∧ (c.handleConnack k).recvMax = k.receiveMax ∧
    (∀ sp r, ({ sessionPresent := sp, reason := r } : ConnackRx).receiveMax = 65535) := by
  rw [Ctx.handleConnack_eq]; exact ⟨rfl, rfl, fun _ _ => rfl⟩

/-- C10 for a connection: CONNACK, then any traffic -/
theorem quota_invariant_connection (c : Ctx) (k : ConnackRx) (is : List CIn) :
    P_C10 k.receiveMax ((c.handleConnack k).serve is).2 = true :=
  quota_invariant _ _ (quota_after_connack c k).1 (quota_after_connack c k).2.1 is

/-- **The quota never overflows**: it stays at most Receive Maximum through every step (the guard
    `send_quota != remote_receive_maximum` of the increment) — even when the broker acknowledges things twice. -/
theorem quota_bounded (c : Ctx) (i : CIn) (h : c.quota ≤ c.recvMax) :
    (c.stepIn i).1.quota ≤ (c.stepIn i).1.recvMax := by
  cases i with
  | msg m wok =>
    rw [Ctx.stepIn_msg, (Ctx.handleMsg_frame c m wok).1]
    exact Nat.le_trans (Ctx.handleMsg_quota_le c m wok) h
  | pkt p dead wok =>
    rw [Ctx.stepIn_pkt, (Ctx.handlePkt_frame ..).1, Ctx.handlePkt_quota]
    have hb := Ctx.bump_quota_le c h
    rw [Ctx.bump_recvMax] at hb
    split
    · exact hb
    · exact h

/-- the same over a whole history -/
theorem quota_bounded_serve (c : Ctx) (is : List CIn) (h : c.quota ≤ c.recvMax) :
    (c.serve is).1.quota ≤ (c.serve is).1.recvMax :=
  Ctx.serve_inv (fun c => c.quota ≤ c.recvMax) quota_bounded c is h

/-- **A QoS>0 PUBLISH that fits is accepted exactly when a slot is free** (and then takes exactly one) -/
theorem publish_accepted_iff (c : Ctx) (aid : Nat) (pkt : Bytes) (slot : Nat) (wok : Bool)
    (hs : c.sizeOk pkt = true) (h3 : pktType pkt = 3) :
    (c.quota = 0 → (c.handleMsg (.awaitAck aid pkt slot) wok) = (c, [.send slot .errQuota], .cont)) ∧
    (c.quota ≠ 0 → writesOf (c.handleMsg (.awaitAck aid pkt slot) wok).2.1 = [pkt] ∧
      (c.handleMsg (.awaitAck aid pkt slot) wok).1.quota = c.quota - 1) := by
  rw [Ctx.handleMsg_awaitAck_eq]
  constructor
  · intro hq; simp [hs, h3, hq]
  · intro hq; cases wok <;> simp [hs, h3, hq]

/-- R = 1: the first QoS 2 PUBLISH (identifier 10) is written, the second request is refused with `QuotaExceeded` and
    nothing is written, a PUBREC with reason 0x80 for identifier 10 frees the slot, the next PUBLISH is written again;
    the monitor accepts the history, the quota ends at 0. -/
example :
    let c : Ctx := ({} : Ctx).handleConnack { sessionPresent := false, reason := 0, receiveMax := 1 }
    let r := c.serve
      [.msg (.awaitAck (actionId 5 10) [0x34, 2, 0, 10] 1) true,
       .msg (.awaitAck (actionId 5 11) [0x34, 2, 0, 11] 2) true,
       .pkt (.pubrec { packetId := 10, reason := 0x80 }) [] true,
       .msg (.awaitAck (actionId 5 11) [0x34, 2, 0, 11] 3) true]
    r.2.map (fun o => (writesOf o.effs, (sendsOf o.effs).map (·.1))) =
      [([[0x34, 2, 0, 10]], []), ([], [2]), ([], [1]), ([[0x34, 2, 0, 11]], [])] ∧
    (2, SlotVal.errQuota) ∈ sendsOf (r.2.getD 1 (.pkt .pingresp [] .cont)).effs ∧
    P_C10 1 r.2 = true ∧ r.1.quota = 0 := by decide

/-- the monitor is not trivially true: writing a second PUBLISH with one slot is rejected, and so is a refusal with a free slot -/
example : P_C10 1 [.msg (.awaitAck (actionId 4 1) [0x32] 1) [.write [0x32]] .cont,
                   .msg (.awaitAck (actionId 4 2) [0x32] 2) [.write [0x32]] .cont] = false := by decide
example : P_C10 1 [.msg (.awaitAck (actionId 4 1) [0x32] 1) [.send 1 .errQuota] .cont] = false := by decide

#print axioms step_sim
#print axioms serve_sim
#print axioms quota_invariant
#print axioms quota_after_connack
#print axioms quota_invariant_connection
#print axioms quota_bounded
#print axioms quota_bounded_serve
#print axioms qos0_and_others_never_limited
#print axioms publish_accepted_iff

end Poster

/-
  C08 — every inbound QoS>0 PUBLISH and every PUBREL is acknowledged exactly once, with its packet identifier, in arrival
  order; a QoS 0 PUBLISH and every other packet is answered with nothing.

  Model: `Ctx.handlePkt` / `Ctx.handleMsg` (PosterModel/Ctx.lean) = `handle_packet` / `handle_message` of
  src/client/context.rs; histories `Ctx.serve` and the predicate `P_C08` are in PosterModel/CtxRun.lean. `ackOwed p` is the
  acknowledgement MQTT 5 requires for the inbound packet `p`, as bytes; `RxPacket.wf` is what the decoder guarantees.
-/
import PosterModel.Lemmas.CtxPkt
import PosterModel.Lemmas.CtxDecodeWf

namespace Poster

/-- **The decoder establishes `RxPacket.wf`.** Whatever bytes arrive, a packet that `RxPacket::try_decode` accepts has a
    packet identifier in 1..65535 wherever it has one, and a PUBLISH has QoS 0, 1 or 2 and carries an identifier exactly
    when its QoS is 1 or 2. This is what makes the `unreachable!("No acknowledgement for QoS==0.")` in the PUBLISH arm of
    `handle_packet` unreachable. -/
theorem decodeRx_wf (bs : Bytes) (p : RxPacket) : decodeRx bs = .ok p → p.wf :=
  decodeRx_wf_aux bs p

/-- **The acknowledgements the client writes are the four-byte short form**: fixed header, remaining length 2, the
    packet identifier big-endian (and for an identifier below 65536 the two bytes are that identifier). -/
theorem ackBytes_shape (hdr pid : Nat) (h : pid < 65536) :
    ackBytes hdr pid = [UInt8.ofNat hdr, 2, UInt8.ofNat (pid / 256), UInt8.ofNat (pid % 256)] ∧
    (UInt8.ofNat (pid / 256)).toNat * 256 + (UInt8.ofNat (pid % 256)).toNat = pid := by
  -- default reason and no properties: `AckTx.encode` takes the short form whatever the identifier is
  refine ⟨rfl, ?_⟩
  simp only [u8_toNat_ofNat]; omega

set_option linter.unusedVariables false in
/-- **One handled input.** For an inbound packet the client writes exactly the acknowledgement owed — one PUBACK for a
    QoS 1 PUBLISH, one PUBREC for a QoS 2 PUBLISH (first delivery or re-delivery), one PUBCOMP for a PUBREL, each with
    the packet's identifier, and nothing for a QoS 0 PUBLISH or any other packet — for a well-formed input (`h`: what the
    decoder guarantees) in EVERY state: whether or not the
    PUBLISH names subscriptions, whether they are registered, whether their streams are alive (`dead`), whether the
    identifier of an acknowledgement is known. Handling an application request writes nothing or exactly that request's
    packet, so it never adds or removes an acknowledgement. -/
theorem step_acks (c : Ctx) (i : CIn) (h : i.wf) :
    match i with
    | .pkt p dead wok => writesOf (c.stepIn i).2.effs = ackOwed p
    | .msg m wok => writesOf (c.stepIn i).2.effs = [] ∨ writesOf (c.stepIn i).2.effs = [m.pkt] := by
  cases i with
  | msg m wok => exact handleMsg_writes c m wok
  | pkt p dead wok =>
    simp only [Ctx.stepIn_pkt, CObs.effs]
    rw [Ctx.handlePkt_writes]
    cases p with
    | publish pb => exact (ackOwed_publish pb h).symm
    | _ => rfl

/-- **Every history.** Whatever the starting state and whatever sequence of application requests and (decodable) inbound
    packets `run()` serves, with writes succeeding or failing: every handled packet is answered with exactly the
    acknowledgement owed, every handled request with nothing or its own packet. -/
theorem acks_exact (c : Ctx) (is : List CIn) (h : ∀ i ∈ is, i.wf) : P_C08 (c.serve is).2 = true := by
  simp only [P_C08, List.all_eq_true]
  intro o ho
  obtain ⟨c', i, hi, rfl⟩ := Ctx.serve_obs c is o ho
  have hs := step_acks c' i (h i hi)
  cases i with
  | msg m wok =>
    simp only [Ctx.stepIn, CObs.effs] at hs ⊢
    simpa using hs
  | pkt p dead wok =>
    simp only [Ctx.stepIn, CObs.effs] at hs ⊢
    simpa using hs

/-- **In arrival order.** Reading off the history everything written while handling inbound packets gives exactly the list
    of acknowledgements owed for those packets, in the order the packets arrived: none missing, none twice, none out of
    order, none for a packet that is owed nothing. -/
theorem acks_in_arrival_order (c : Ctx) (is : List CIn) (h : ∀ i ∈ is, i.wf) :
    pktWrites (c.serve is).2 = pktOwed (c.serve is).2 :=
  pktWrites_eq_pktOwed _ (acks_exact c is h)

/-- the acknowledgement is written even when the subscription identifier is unknown and the channel is dead -/
example :
    ((({} : Ctx).serve
      [.pkt (.publish { topic := [], qos := 1, packetId := some 7, subIds := [3] }) [5] true,
       .pkt (.publish { topic := [], qos := 2, packetId := some 8 }) [] true,
       .pkt (.publish { topic := [], qos := 2, packetId := some 8 }) [] true,
       .pkt (.publish { topic := [] }) [] true,
       .pkt (.pubrel { packetId := 8 }) [] true]).2.map fun o => writesOf o.effs) =
    [[[0x40, 2, 0, 7]], [[0x50, 2, 0, 8]], [[0x50, 2, 0, 8]], [], [[0x70, 2, 0, 8]]] := by decide

/-- non-vacuity of `decodeRx_wf`: a PUBREL with identifier 0x0102 and a QoS 1 PUBLISH (topic "a", identifier 0x0102,
    no properties, payload 00) decode, hence are well formed -/
example : decodeRx [0x62, 2, 1, 2] = .ok (.pubrel { packetId := 258 }) := by decide
example : (RxPacket.pubrel { packetId := 258 }).wf := decodeRx_wf [0x62, 2, 1, 2] _ (by decide)
example : decodeRx [0x32, 7, 0, 1, 0x61, 1, 2, 0, 0] =
    .ok (.publish { topic := [0x61], qos := 1, packetId := some 258, payload := [0] }) := by
  -- `utf8Valid` recurses on the length of its argument: `decide` does not unfold it, the kernel does
  decide +kernel

#print axioms decodeRx_wf
#print axioms ackBytes_shape
#print axioms step_acks
#print axioms acks_exact
#print axioms acks_in_arrival_order

end Poster

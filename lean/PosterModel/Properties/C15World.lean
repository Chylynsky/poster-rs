/-
  Properties/C15World.lean — C15 for whole scripts: cancelling a future is, for everybody else, the same as never
  polling it again.

  C15: "Dropping the future of any pending handle operation at any point (before it is first polled, while it awaits
  its acknowledgement, or between the two phases of a QoS 2 publish), or dropping a subscription stream, never makes
  run() return and never prevents other operations and streams from completing with their own acknowledgements and
  messages. The late acknowledgement of the abandoned operation is absorbed silently while still freeing its
  flow-control slot."

  The facts about one poll and one event are in Lemmas/WorldCancel*.lean. This file composes them over whole executions
  of the client machine `World` (PosterModel/World.lean).

  The notions of the statements are defined in Lemmas/WorldCancel*.lean (namespace `World.W11`; `PubAck`, `freesSlot`
  in Lemmas/CtxApi.lean). `AllDrops ds`: the script `ds` consists of `drop t` events only; `DropKeeps w w'`: `w'` has
  the context task, the session, the message queue, the handles and the transport of `w`, and only `DropObs` lines
  more. `Side id w` (the hypothesis under which a poll or an event commutes with `hide id`): a handle is alive, the
  operation table is well formed (`OpsInv`), task `op id` is frozen. `Pair id a b` is `Lock (hide id) (Side id) a b`
  (Lemmas/WorldCancelLock.lean).
-/
import PosterModel.Lemmas.WorldCancelEx
import PosterModel.Lemmas.WorldCancelSub
import PosterModel.Properties.C13World
import PosterModel.Properties.C16Fuel

namespace Poster
open Framing World World.W7 World.W11

/-! ## 1. a drop never makes `run()` return -/

/-- **The script event `drop t` leaves the context alone.** Whatever the world and whatever task is dropped (a handle
    future in any phase, a stream, or the context "task", which the event ignores): the context task is the same (so
    `run()` has not returned), not a single line is logged (in particular no `RET`), the session, the message queue, the
    handles, the framing state, the transport, the held tasks, the configuration, the responses and the identifier
    counters are the same, and the script does not become malformed. -/
theorem drop_event_leaves_the_context_alone (w : World) (t : Task) :
    (w.apply (.drop t)).task = w.task ∧ (w.apply (.drop t)).out = w.out ∧ (w.apply (.drop t)).c = w.c ∧
    (w.apply (.drop t)).queue = w.queue ∧ (w.apply (.drop t)).handles = w.handles ∧
    (w.apply (.drop t)).bad = w.bad ∧ (w.apply (.drop t)).hasCtx = w.hasCtx ∧ (w.apply (.drop t)).rx = w.rx ∧
    (w.apply (.drop t)).reader = w.reader ∧ (w.apply (.drop t)).written = w.written ∧
    (w.apply (.drop t)).wirePend = w.wirePend ∧ (w.apply (.drop t)).held = w.held ∧
    (w.apply (.drop t)).cfg = w.cfg ∧ (w.apply (.drop t)).rsps = w.rsps ∧
    (w.apply (.drop t)).pidCtr = w.pidCtr ∧ (w.apply (.drop t)).subCtr = w.subCtr := by
  obtain ⟨o, sl, sr, ch, st, wk, qr, e⟩ := apply_drop_footprint w t
  rw [e]
  exact ⟨rfl, rfl, rfl, rfl, rfl, rfl, rfl, rfl, rfl, rfl, rfl, rfl, rfl, rfl, rfl, rfl⟩

/-- **A dropped handle future gives back exactly its own sender of the message queue.** The number of live senders
    (handles plus pending handle futures) goes down by one if the dropped task is a pending operation, and is unchanged
    otherwise (operation unknown or already completed, stream, context). -/
theorem drop_gives_back_exactly_its_own_sender (w : World) (t : Task) :
    (w.apply (.drop t)).senders =
      match t with
      | .op id => if (w.opSt id).isSome then w.senders - 1 else w.senders
      | _ => w.senders := by
  cases t with
  | ctx => rfl
  | st id => rw [apply_dropStream]; rfl
  | op id => exact dropOp_senders w id

/-- **While a sender is left the drop wakes nobody**: the flags of all tasks and both wakers of the context are as
    before — the context task is not even polled because of the drop. -/
theorem drop_wakes_nobody_while_a_sender_is_left (w : World) (t : Task) (h : (w.apply (.drop t)).senders ≠ 0) :
    (w.apply (.drop t)).woken = w.woken ∧ (w.apply (.drop t)).queueReg = w.queueReg ∧
    (w.apply (.drop t)).readerReg = w.readerReg :=
  apply_drop_silent w t h

/-- **The only return a drop can contribute to is `HandleClosed`, and it needs every handle and every pending future
    gone.** If the transcript of a script contains `RET run HandleClosed`, that line was logged by a poll of `run()`
    from a moment `w0` of the execution at which no `ContextHandle` and no pending handle future existed. So while at
    least one handle exists, nothing — in particular no sequence of drops — makes `run()` return `HandleClosed`; and
    every other result of `run()` has a cause that no drop produces (`run_returns_only_for_a_cause`,
    `run_result_causes`). -/
theorem handleClosed_needs_every_handle_and_future_gone (cfg : Cfg) (evs : List Ev) (pre post : List Obs)
    (h : World.run cfg evs = pre ++ .ret .run (.err .handleClosed) :: post) :
    ∃ w0 started, During cfg w0 ∧ w0.task = .running started ∧
      w0.pollCtx.out = pre ++ [.ret .run (.err .handleClosed)] ∧ w0.handles = [] ∧ w0.ops = [] := by
  obtain ⟨w0, s, hd, ht, _, ho, hc, _⟩ := run_returns_only_for_a_cause cfg evs pre post _ h
  have hs := ((run_result_causes hc).2.2.1 rfl).1
  refine ⟨w0, s, hd, ht, ho, ?_, ?_⟩
  · have : w0.handles.length = 0 := by unfold senders at hs; omega
    exact List.eq_nil_of_length_eq_zero this
  · have : w0.ops.length = 0 := by unfold senders at hs; omega
    exact List.eq_nil_of_length_eq_zero this

/-- **No sequence of drops makes `run()` return while a handle exists** (world level, wake-only executor). From any world
    not refused (`bad = false`) whose executor is idle and in which a handle is alive, after any script consisting of
    `drop` events only — handle futures in any phase, streams, in any order, known or unknown tasks — the context task
    is the same, the session, the message queue, the handles and the transport are the same, the only lines logged are
    the markers of the events (and the executor's stall marker): no `RET`, no `DONE`, no packet; and the executor is
    idle again. -/
theorem no_sequence_of_drops_ends_run (ds : List Ev) (hd : AllDrops ds) (w : World) (hb : w.bad = false)
    (hq : w.pick = none) (hh : w.handles ≠ []) (hs : w.cfg.sweep = false) :
    DropKeeps w (ds.foldl World.step w) ∧ (ds.foldl World.step w).pick = none := by
  induction ds generalizing w with
  | nil => exact ⟨DropKeeps.refl w, hq⟩
  | cons e rest ih =>
    obtain ⟨t, rfl⟩ := hd _ List.mem_cons_self
    obtain ⟨k1, q1⟩ := step_drop_keeps w t hb hq hh hs
    obtain ⟨k2, q2⟩ := ih (fun e he => hd e (List.mem_cons_of_mem _ he)) (w.step (.drop t))
      (by rw [k1.bad]; exact hb) q1 (by rw [k1.handles]; exact hh) (by rw [k1.cfg]; exact hs)
    exact ⟨k1.trans k2, q2⟩

/-- **No sequence of drops makes `run()` return while a handle exists** (script level, both executors). Take any
    configuration — including `exec=sweep` — and any script `evs` with pairwise distinct operation ids that was not
    refused and after which a handle is alive; append any script `ds` of `drop` events. The world reached has the
    context task, the session, the message queue, the handles and the transport of the world reached by `evs` alone,
    and its transcript is that of `evs` followed only by the markers of the `drop` events (and stall markers). -/
theorem no_sequence_of_drops_ends_run_script (cfg : Cfg) (evs ds : List Ev) (hd : AllDrops ds)
    (hn : (opIds evs).Nodup) (hb : (evs.foldl World.step { cfg := cfg }).bad = false)
    (hh : (evs.foldl World.step { cfg := cfg }).handles ≠ []) :
    DropKeeps (evs.foldl World.step { cfg := cfg }) ((evs ++ ds).foldl World.step { cfg := cfg }) := by
  have key : ∀ cfg0 : Cfg, cfg0.sweep = false → (evs.foldl World.step { cfg := cfg0 }).bad = false →
      (evs.foldl World.step { cfg := cfg0 }).handles ≠ [] →
      DropKeeps (evs.foldl World.step { cfg := cfg0 }) ((evs ++ ds).foldl World.step { cfg := cfg0 }) := by
    intro cfg0 hs hb0 hh0
    rw [List.foldl_append]
    have hq := W5.pick_script cfg0 evs
    have hsw : (evs.foldl World.step { cfg := cfg0 }).cfg.sweep = false := by rw [steps_cfg]; exact hs
    exact (no_sequence_of_drops_ends_run ds hd _ hb0 hq hh0 hsw).1
  cases hs : cfg.sweep with
  | false => exact key cfg hs hb hh
  | true =>
    have e0 : cfg = { cfg with sweep := true } := by cases cfg; simp_all
    have e1 := sweep_irrelevant_world cfg evs hn
    have e2 := sweep_irrelevant_world cfg (evs ++ ds) (by rw [hd.opIds_append evs]; exact hn)
    rw [← e0] at e1 e2
    rw [e1, e2]
    apply DropKeeps.tweak
    apply key { cfg with sweep := false } rfl
    · rw [e1] at hb; exact hb
    · rw [e1] at hh; exact hh

/-! ## 2. the late acknowledgement of an abandoned operation frees its slot -/

/-- **The handler's result for the acknowledgement of a publish, whoever waits.** For a PUBACK, a PUBREC or a PUBCOMP
    (addressed to the action identifier `aid`): the effects are those of `complete` — at most one `send` to the oneshot
    registered under `aid` —, `run()` goes on, and the session afterwards is the session before with the `awaiting`
    and retransmission entries of `aid` removed and the quota given back exactly when the acknowledgement completes the
    exchange (PUBACK, PUBCOMP, PUBREC with reason ≥ 0x80): one more, unless it is already at Receive Maximum. Nothing
    else changes, and nothing depends on a waiter being alive. -/
theorem ack_bookkeeping_whoever_waits (c : Ctx) (alive : Nat → Bool) (p : RxPacket) (aid : Nat) (wok : Bool)
    (h : PubAck p aid) :
    (c.handlePkt alive p wok).2.1 = (c.complete aid p).2 ∧
    (c.handlePkt alive p wok).2.2 = .cont ∧
    (c.handlePkt alive p wok).1 =
      { (if freesSlot p then c.bump else c) with
          retx := eraseFirst aid c.retx, awaiting := eraseFirst aid c.awaiting } ∧
    c.bump.quota = (if c.quota ≠ c.recvMax then c.quota + 1 else c.quota) :=
  ⟨(handlePkt_pubAck c alive p aid wok h).1, (handlePkt_pubAck c alive p aid wok h).2.1,
    (handlePkt_pubAck c alive p aid wok h).2.2, by unfold Ctx.bump; split <;> rfl⟩

/-- **The late acknowledgement, in the world.** When `run()` handles the acknowledgement of a publish whose future is
    gone — the oneshot registered under its action identifier, if any is registered, no longer exists — the whole world
    changes in the session only: the quota is given back as if the waiter were alive, the `awaiting` and retransmission
    entries are removed; no oneshot, no waker, no channel changes, nothing is written, no line is logged, and `run()`
    goes on. -/
theorem late_ack_frees_the_slot_silently (w : World) (alive : Nat → Bool) (p : RxPacket) (aid : Nat)
    (h : PubAck p aid) (hs : ∀ s, lookupFirst aid w.c.awaiting = some s → w.slot s = none) :
    w.runHandler (fun wok => w.c.handlePkt alive p wok) =
      ({ w with c := { (if freesSlot p then w.c.bump else w.c) with
                        retx := eraseFirst aid w.c.retx, awaiting := eraseFirst aid w.c.awaiting } }, .cont) := by
  rw [runHandler_eq]
  obtain ⟨h1, h2, h3⟩ := handlePkt_pubAck w.c alive p aid (w.canWrite (writeNeed (w.c.handlePkt alive p true).2.1)) h
  rw [h1, h2, h3]
  congr 1
  exact applyEffs_complete_absent _ w.c aid p (fun s hl => hs s hl)

/-- **The handlers never see the private state of a future.** Running any handler of the context in `w` and in `w`
    with the private state of the future of `id` erased gives the same flow and worlds that again differ only in that
    private state — completing a oneshot of `id` fills a slot nobody else reads in one world and is a no-op in the
    other. -/
theorem handlers_never_see_the_waiter (id : Nat) (w : World) (h : Bool → Ctx × List Eff × Flow) :
    (hide id w).runHandler h = (hide id (w.runHandler h).1, (w.runHandler h).2) :=
  hide_eq id ▸ Era.runHandler_app (hideE_wf id) w h h fun _ => ⟨rfl, rfl, rfl⟩

/-- **The history a poll of `run()` serves, and hence the verdict of the send-quota monitor, is the same with or without
    the waiters.** While a handle is alive, the inputs one poll of the `select!` loop hands to the handlers (queued
    messages, decoded packets, `wok` bits, dead receivers) are the same in `w` and in `w` with the private state of the
    future of `id` erased; the session is the same; so the served history `Ctx.serve` is the same, and so is the
    verdict of the monitor `QMon` (which reads nothing but that history) from any monitor state. -/
theorem quota_verdict_independent_of_waiters (id : Nat) (f : Nat) (w : World) (hh : w.handles ≠ []) (m : QMon) :
    World.loopHist f (hide id w) = World.loopHist f w ∧
    (hide id w).c.serve (World.loopHist f (hide id w)) = w.c.serve (World.loopHist f w) ∧
    m.scan ((hide id w).c.serve (World.loopHist f (hide id w))).2 = m.scan (w.c.serve (World.loopHist f w)).2 := by
  have e := loopHist_hide id f w hh
  refine ⟨e, by rw [e]; rfl, by rw [e]; rfl⟩

/-- … and for two worlds that differ only in the private state of the future of `id` — one in which it was dropped,
    one in which it is alive but never polled again — the polls of `run()` serve the same history from the same
    session and the monitor gives the same verdict. -/
theorem quota_verdict_same_dropped_or_held (id : Nat) (f : Nat) (a b : World) (h : hide id a = hide id b)
    (hh : a.handles ≠ []) (m : QMon) :
    a.c = b.c ∧ World.loopHist f a = World.loopHist f b ∧
    m.scan (a.c.serve (World.loopHist f a)).2 = m.scan (b.c.serve (World.loopHist f b)).2 := by
  have hc : a.c = b.c := (congrArg World.c h : (hide id a).c = (hide id b).c)
  have hb : b.handles ≠ [] := by
    have : a.handles = b.handles := (congrArg World.handles h : (hide id a).handles = (hide id b).handles)
    rw [← this]; exact hh
  have e : World.loopHist f a = World.loopHist f b := by
    rw [← loopHist_hide id f a hh, ← loopHist_hide id f b hb, h]
  exact ⟨hc, e, by rw [e, hc]⟩

/-! ## 3. for everybody else, cancelling is the same as never polling again -/

/-- **A poll of the context task does not depend on the private state of a future.** `connect()`, `authorize()` and
    `run()` — the loop, the handlers, everything they write, complete and deliver, whether the call returns — commute
    with hiding the future of `id`, as long as a handle is alive. -/
theorem context_poll_ignores_the_hidden_future (id : Nat) (w : World) (hh : w.handles ≠ []) :
    (hide id w).pollCtx = hide id w.pollCtx :=
  hide_eq id ▸ Era.pollCtx_app (hideE_wf id) (hideE_ctxSide id) w hh

/-- **A poll of any other task does not depend on it either**: the context, the future of another operation (first poll,
    resumption with its acknowledgement, the PUBREL step of a QoS 2 publish), a stream — under `Side id w` (a handle
    alive, `OpsInv`, task `op id` frozen). -/
theorem other_polls_ignore_the_hidden_future (id : Nat) (w : World) (t : Task) (ht : t ≠ .op id) (h : Side id w) :
    (hide id w).pollTask t = hide id (w.pollTask t) :=
  pollTask_hide id w t ht h

/-- **Every script event that does not address task `op id` commutes with hiding it**, provided `Side id w` (a handle alive,
    `OpsInv`, task `op id` frozen) and a handle is alive after the event. -/
theorem other_events_ignore_the_hidden_future (id : Nat) (w : World) (e : Ev) (hm : mineEv id e = false)
    (h : Side id w) (hk : (w.apply e).handles ≠ []) : (hide id w).apply e = hide id (w.apply e) :=
  apply_hide id w e hm h hk

/-- **Dropping the future is invisible once `op id` is hidden** (under `OpsInv w`, a handle alive) — in every phase:
    never polled (nothing was queued, the entry just disappears), waiting for its acknowledgement (its oneshot is
    cleared; a message it queued stays queued and is handled like any other), between the phases of a QoS 2 publish (the
    PUBREC in its oneshot is discarded). The one exception is a `subscribe()` future waiting for its SUBACK, whose drop
    also removes the receiving end of its subscription channel (sections 3b and 5). -/
theorem drop_is_invisible_to_everybody_else (id : Nat) (w : World) (hi : OpsInv w) (hh : w.handles ≠ [])
    (hns : ∀ s, w.opSt id ≠ some (.wait s .suback)) : hide id (w.dropOp id) = hide id w :=
  hide_dropOp id w hi hh hns

/-- **The first step in lockstep.** From any reachable world in which a handle is alive and operation `id` is not a
    `subscribe()` waiting for its SUBACK, the script step `drop (op id)` and the script step `hold (op id)` — event,
    drain, optional sweep, stall check — lead to two reachable worlds that look the same once `op id` is hidden, and
    in both of which task `op id` is frozen (unless the script had been refused before: then neither step does
    anything). -/
theorem drop_and_hold_start_in_lockstep (id : Nat) (w : World) (r : Reachable w) (hh : w.handles ≠ [])
    (hns : ∀ s, w.opSt id ≠ some (.wait s .suback)) :
    Pair id (w.step (.drop (.op id))) (w.step (.hold (.op id))) := by
  refine (Lock.start (erasure_hide id) r _ _ fun _ => ⟨?_, ?_, ?_⟩).pair
  · have ea : hide id ((w.emit (.ev (.drop (.op id)))).dropOp id) = hide id w := by
      rw [hide_dropOp id _ (r.ops.emit _) hh hns]
      exact emit_hide_mine id w _ (by simp [mine, mineEv])
    exact ea.trans (hide_hold_ev id w).symm
  · exact side_drop id r.ops hh
  · exact side_hold id r.ops hh

/-- **One more event in lockstep** (the step of the simulation): if `a` and `b` are in lockstep, the event `e` does not
    address task `op id`, and `e` does not remove the last handle, then `a.step e` and `b.step e` are in lockstep —
    although the two steps run their executors with different fuels (the fuel counts the pending operations), poll
    the same tasks in the same order and reach quiescence in worlds that differ only in the hidden state. -/
theorem lockstep_one_event (id : Nat) (a b : World) (h : Pair id a b) (e : Ev) (hm : mineEv id e = false)
    (hk : a.bad = false → ((a.emit (.ev e)).apply e).handles ≠ []) : Pair id (a.step e) (b.step e) :=
  h.steps [e] (fun _ he => List.mem_singleton.mp he ▸ hm) ⟨hk, trivial⟩

/-- **Lockstep.** Two worlds in lockstep (`Pair`) stay in lockstep through any script that does not address task
    `op id` and never removes the last handle: after it they still look the same once `op id` is hidden. -/
theorem lockstep (id : Nat) (evs : List Ev) (a b : World) (h : Pair id a b)
    (hm : ∀ e ∈ evs, mineEv id e = false) (hk : KeepsHandle a evs) :
    Pair id (evs.foldl World.step a) (evs.foldl World.step b) :=
  h.steps evs hm hk

/-- **For everybody else, cancelling a future is the same as never polling it again** (the simulation). Run any script
    `pre` under any configuration; then either drop the future of operation `id` or put task `op id` on hold; then run
    any script `post` that does not address task `op id` (no `op id`, `poll / hold / release / drop (op id)`) and never
    removes the last handle. If a handle is alive after `pre` and operation `id` is not a `subscribe()` waiting for its
    SUBACK, the two worlds reached are equal once the private state of the future of `id` is hidden: same context task
    and session, same message queue, same framing state and transport, same handles, same channels, streams and
    responses, same identifier counters, same state of every other operation and of every other oneshot, same flags of
    every other task, and the same transcript up to the lines of task `op id`. -/
theorem cancelling_is_never_polling_again (cfg : Cfg) (pre post : List Ev) (id : Nat)
    (hh : (pre.foldl World.step { cfg := cfg }).handles ≠ [])
    (hns : ∀ s, (pre.foldl World.step { cfg := cfg }).opSt id ≠ some (.wait s .suback))
    (hm : ∀ e ∈ post, mineEv id e = false)
    (hk : KeepsHandle ((pre.foldl World.step { cfg := cfg }).step (.drop (.op id))) post) :
    hide id ((pre ++ .drop (.op id) :: post).foldl World.step { cfg := cfg }) =
      hide id ((pre ++ .hold (.op id) :: post).foldl World.step { cfg := cfg }) :=
  Lock.script (erasure_hide id) (events_hide id) cfg pre post
    (drop_and_hold_start_in_lockstep id _ (reachable_script cfg pre) hh hns).lock (hk.along hm)

/-- the same with a hypothesis on the script only: `post` contains no `dropHandle` event -/
theorem cancelling_is_never_polling_again_no_dropHandle (cfg : Cfg) (pre post : List Ev) (id : Nat)
    (hh : (pre.foldl World.step { cfg := cfg }).handles ≠ [])
    (hns : ∀ s, (pre.foldl World.step { cfg := cfg }).opSt id ≠ some (.wait s .suback))
    (hm : ∀ e ∈ post, mineEv id e = false) (hd : ∀ e ∈ post, isDropHandle e = false) :
    hide id ((pre ++ .drop (.op id) :: post).foldl World.step { cfg := cfg }) =
      hide id ((pre ++ .hold (.op id) :: post).foldl World.step { cfg := cfg }) := by
  apply cancelling_is_never_polling_again cfg pre post id hh hns hm
  apply keepsHandle_of_no_dropHandle post _ _ hd
  by_cases hb : (pre.foldl World.step { cfg := cfg }).bad = true
  · rw [step_of_bad _ _ hb]; exact hh
  · rw [step_handles _ _ (by simpa using hb), apply_handles _ _ (by simpa using hh)]; simpa using hh

/-- **The transcripts agree after erasing the lines of task `op id`.** Under the hypotheses of
    `cancelling_is_never_polling_again`, the transcript of the script that drops the future and the transcript of the
    script that holds it for ever contain, in the same order, the same packets on the wire, the same results of the
    calls, the same completions of all other operations, the same stream items and ends, the same panics and stalls,
    and the same event markers — they differ only in lines of task `op id` (here: the marker of the `drop` resp. `hold`
    event itself). -/
theorem transcripts_agree_up_to_the_cancelled_task (cfg : Cfg) (pre post : List Ev) (id : Nat)
    (hh : (pre.foldl World.step { cfg := cfg }).handles ≠ [])
    (hns : ∀ s, (pre.foldl World.step { cfg := cfg }).opSt id ≠ some (.wait s .suback))
    (hm : ∀ e ∈ post, mineEv id e = false)
    (hk : KeepsHandle ((pre.foldl World.step { cfg := cfg }).step (.drop (.op id))) post) :
    others id (World.run cfg (pre ++ .drop (.op id) :: post)) =
      others id (World.run cfg (pre ++ .hold (.op id) :: post)) :=
  run_erasure (H := hide id) (fun _ => rfl) (flushRaw_hide id)
    (cancelling_is_never_polling_again cfg pre post id hh hns hm hk)

/-- **Everybody else completes the same way.** Under the hypotheses of `cancelling_is_never_polling_again`: every line
    that does not belong to task `op id` occurs in the transcript of the script that drops the future exactly when it
    occurs in the transcript of the script that holds it for ever — in particular the completion `DONE j r` of every
    other operation with the same result, every stream item and stream end, every result `RET` of `connect()` /
    `authorize()` / `run()` (so the drop makes no call return that would not have returned anyway), every packet on the
    wire, every panic of another task, every stall marker. -/
theorem everybody_else_completes_the_same (cfg : Cfg) (pre post : List Ev) (id : Nat)
    (hh : (pre.foldl World.step { cfg := cfg }).handles ≠ [])
    (hns : ∀ s, (pre.foldl World.step { cfg := cfg }).opSt id ≠ some (.wait s .suback))
    (hm : ∀ e ∈ post, mineEv id e = false)
    (hk : KeepsHandle ((pre.foldl World.step { cfg := cfg }).step (.drop (.op id))) post) :
    (∀ o, mine id o = false →
      (o ∈ World.run cfg (pre ++ .drop (.op id) :: post) ↔ o ∈ World.run cfg (pre ++ .hold (.op id) :: post))) ∧
    (∀ j r, j ≠ id →
      (Obs.done j r ∈ World.run cfg (pre ++ .drop (.op id) :: post) ↔
        Obs.done j r ∈ World.run cfg (pre ++ .hold (.op id) :: post))) ∧
    (∀ c r, Obs.ret c r ∈ World.run cfg (pre ++ .drop (.op id) :: post) ↔
      Obs.ret c r ∈ World.run cfg (pre ++ .hold (.op id) :: post)) ∧
    (∀ st p, Obs.item st p ∈ World.run cfg (pre ++ .drop (.op id) :: post) ↔
      Obs.item st p ∈ World.run cfg (pre ++ .hold (.op id) :: post)) ∧
    (∀ bs, Obs.wire bs ∈ World.run cfg (pre ++ .drop (.op id) :: post) ↔
      Obs.wire bs ∈ World.run cfg (pre ++ .hold (.op id) :: post)) := by
  have h := transcripts_agree_up_to_the_cancelled_task cfg pre post id hh hns hm hk
  have key : ∀ o, mine id o = false →
      (o ∈ World.run cfg (pre ++ .drop (.op id) :: post) ↔ o ∈ World.run cfg (pre ++ .hold (.op id) :: post)) := by
    intro o ho
    have e : ∀ l : List Obs, o ∈ l ↔ o ∈ others id l := by
      intro l; simp [others, ho]
    rw [e (World.run cfg (pre ++ .drop (.op id) :: post)), e (World.run cfg (pre ++ .hold (.op id) :: post)), h]
  refine ⟨key, fun j r hj => key _ (by simpa [mine] using hj), fun c r => key _ rfl, fun st p => key _ rfl,
    fun bs => key _ rfl⟩

/-- **What "equal once `op id` is hidden" means, field by field.** -/
theorem hidden_equal_spelled_out (id : Nat) (a b : World) (h : hide id a = hide id b) :
    a.task = b.task ∧ a.c = b.c ∧ a.queue = b.queue ∧ a.queueReg = b.queueReg ∧ a.rx = b.rx ∧
    a.reader = b.reader ∧ a.readerReg = b.readerReg ∧ a.written = b.written ∧ a.wirePend = b.wirePend ∧
    a.handles = b.handles ∧ a.chans = b.chans ∧ a.streams = b.streams ∧ a.rsps = b.rsps ∧
    a.pidCtr = b.pidCtr ∧ a.subCtr = b.subCtr ∧ a.hasCtx = b.hasCtx ∧ a.bad = b.bad ∧
    (∀ j, j ≠ id → a.opSt j = b.opSt j) ∧ (∀ s, s / 2 ≠ id → a.slot s = b.slot s) ∧
    (∀ s, s / 2 ≠ id → (s ∈ a.slotReg ↔ s ∈ b.slotReg)) ∧
    (∀ t, t ≠ .op id → (t ∈ a.woken ↔ t ∈ b.woken)) ∧ (∀ t, t ≠ .op id → (t ∈ a.held ↔ t ∈ b.held)) ∧
    others id a.out = others id b.out := by
  have f : ∀ {α} (g : World → α), g (hide id a) = g (hide id b) := fun g => congrArg g h
  refine ⟨f World.task, f World.c, f World.queue, f World.queueReg, f World.rx, f World.reader, f World.readerReg,
    f World.written, f World.wirePend, f World.handles, f World.chans, f World.streams, f World.rsps,
    f World.pidCtr, f World.subCtr, f World.hasCtx, f World.bad, ?_, ?_, ?_, ?_, ?_, f World.out⟩
  · intro j hj; rw [← opSt_hide id a j hj, ← opSt_hide id b j hj, h]
  · intro s hs; rw [← slot_hide id a s hs, ← slot_hide id b s hs, h]
  · intro s hs; rw [← mem_slotReg_hide id a s hs, ← mem_slotReg_hide id b s hs, h]
  · intro t ht; rw [← mem_woken_hide id a t ht, ← mem_woken_hide id b t ht, h]
  · intro t ht; rw [← mem_held_hide id a t ht, ← mem_held_hide id b t ht, h]

/-! ## 3b. the same for a dropped stream, and for a future in ANY phase (a `subscribe()` waiting for its SUBACK)

  Dropping the receiving end of a subscription channel — a stream, or a `subscribe()` future that waits for its SUBACK
  and owns the receiver until then — is the one cancellation the context can observe (section 5). The simulation still
  holds once the receiving end is erased as well (`veil id`; `shade id` = `veil id ∘ hide id`), for continuations that
  are `quietFor id`:
    `StartV id w` / `StartB id w`   what the world at the drop has to satisfy: no operation is named `id` (resp. a handle is
                    alive and `id` is not yet a stream); no queued request registers channel `id` (its SUBSCRIBE has been
                    handed to the context); the subscription identifiers in flight are pairwise distinct (`psids`; true of
                    every script with distinct operation ids, fewer than the identifier counter has values,
                    `script_registers_identifiers_once`); no (other) `subscribe()` future awaits its first poll
  The restriction to continuations without further `subscribe()` calls keeps the subscription identifiers in flight
  pairwise distinct without counting allocations (the identifier counter wraps around after 268 435 455 allocations). -/

/-- **Dropping a stream is, for everybody else, the same as never polling it again.** Run any script `pre`; then either
    drop stream `id` or put task `st id` on hold; then run any script `post` of events that are `quietFor id`. If the world
    after `pre` satisfies `StartV id`, the two worlds reached are equal once the receiving end of channel `id` is veiled:
    same context task, same session up to the registrations of channel `id`, same message queue, operations, oneshots,
    handles, transport, same channels and streams other than `id` with the same buffered messages, and the same
    transcript up to the lines of stream `id`. In one world messages for `id` pile up in a buffer nobody reads, in the
    other the dispatch loop unregisters the dead receiver — nobody else can tell. -/
theorem dropping_a_stream_is_never_polling_it_again (cfg : Cfg) (pre post : List Ev) (id : Nat)
    (hs : StartV id (pre.foldl World.step { cfg := cfg })) (hq : ∀ e ∈ post, quietFor id e = true) :
    veil id ((pre ++ .drop (.st id) :: post).foldl World.step { cfg := cfg }) =
      veil id ((pre ++ .hold (.st id) :: post).foldl World.step { cfg := cfg }) :=
  Lock.script (erasure_veil id) (events_veil id) cfg pre post (lockV_start id _ (reachable_script cfg pre) hs)
    (.of_forall hq _)

/-- … and the transcripts agree after erasing the lines of stream `id`: every other stream yields the same items and
    ends the same way, every operation completes the same way, the same packets are written, the calls return the same. -/
theorem transcripts_agree_up_to_the_dropped_stream (cfg : Cfg) (pre post : List Ev) (id : Nat)
    (hs : StartV id (pre.foldl World.step { cfg := cfg })) (hq : ∀ e ∈ post, quietFor id e = true) :
    othersSt id (World.run cfg (pre ++ .drop (.st id) :: post)) =
      othersSt id (World.run cfg (pre ++ .hold (.st id) :: post)) :=
  run_erasure (H := veil id) (fun _ => rfl) (flushRaw_veil id)
    (dropping_a_stream_is_never_polling_it_again cfg pre post id hs hq)

/-- **Cancelling a future in ANY phase is, for everybody else, the same as never polling it again** — including a
    `subscribe()` future that waits for its SUBACK, whose drop also removes the receiving end of the subscription channel
    it created. Run `pre`; drop the future of `id` or hold it; run `post` of events that are `quietFor id` and never
    remove the last handle. If the world after `pre` satisfies `StartB id` (which excludes a `subscribe()` whose SUBSCRIBE
    is still queued), the two worlds reached are equal once the private state of the future AND the receiving end of
    channel `id` are erased. -/
theorem cancelling_any_future_is_never_polling_again (cfg : Cfg) (pre post : List Ev) (id : Nat)
    (hs : StartB id (pre.foldl World.step { cfg := cfg })) (hq : ∀ e ∈ post, quietFor id e = true)
    (hk : KeepsHandle ((pre.foldl World.step { cfg := cfg }).step (.drop (.op id))) post) :
    shade id ((pre ++ .drop (.op id) :: post).foldl World.step { cfg := cfg }) =
      shade id ((pre ++ .hold (.op id) :: post).foldl World.step { cfg := cfg }) :=
  Lock.script (erasure_shade id) (events_shade id) cfg pre post (lockB_start id _ (reachable_script cfg pre) hs)
    ((hk.along fun e he => (quietFor_iff.1 (hq e he)).1).and (.of_forall hq _))

/-- … and the transcripts agree after erasing the lines of task `op id` and of stream `id`. -/
theorem transcripts_agree_up_to_the_cancelled_future_and_its_stream (cfg : Cfg) (pre post : List Ev) (id : Nat)
    (hs : StartB id (pre.foldl World.step { cfg := cfg })) (hq : ∀ e ∈ post, quietFor id e = true)
    (hk : KeepsHandle ((pre.foldl World.step { cfg := cfg }).step (.drop (.op id))) post) :
    othersSt id (others id (World.run cfg (pre ++ .drop (.op id) :: post))) =
      othersSt id (others id (World.run cfg (pre ++ .hold (.op id) :: post))) :=
  run_erasure (H := shade id) (filt := fun l => othersSt id (others id l)) (fun _ => rfl)
    (fun w => by unfold shade; rw [flushRaw_veil, flushRaw_hide])
    (cancelling_any_future_is_never_polling_again cfg pre post id hs hq hk)

/-- **What "equal once the receiving end of `id` is veiled" means, field by field.** -/
theorem veiled_equal_spelled_out (id : Nat) (a b : World) (h : veil id a = veil id b) :
    a.task = b.task ∧ a.queue = b.queue ∧ a.queueReg = b.queueReg ∧ a.rx = b.rx ∧ a.reader = b.reader ∧
    a.readerReg = b.readerReg ∧ a.written = b.written ∧ a.wirePend = b.wirePend ∧ a.handles = b.handles ∧
    a.ops = b.ops ∧ a.slots = b.slots ∧ a.slotReg = b.slotReg ∧ a.rsps = b.rsps ∧ a.pidCtr = b.pidCtr ∧
    a.subCtr = b.subCtr ∧ a.hasCtx = b.hasCtx ∧ a.bad = b.bad ∧
    noSubs a.c = noSubs b.c ∧ subsOff id a.c.subs = subsOff id b.c.subs ∧
    (∀ ch, ch ≠ id → a.chan ch = b.chan ch) ∧ (∀ j, j ≠ id → (j ∈ a.streams ↔ j ∈ b.streams)) ∧
    (∀ t, t ≠ .st id → (t ∈ a.woken ↔ t ∈ b.woken)) ∧ (∀ t, t ≠ .st id → (t ∈ a.held ↔ t ∈ b.held)) ∧
    othersSt id a.out = othersSt id b.out := by
  have f : ∀ {α} (g : World → α), g (veil id a) = g (veil id b) := fun g => congrArg g h
  have hc : cOff id a.c = cOff id b.c := f World.c
  refine ⟨f World.task, f World.queue, f World.queueReg, f World.rx, f World.reader, f World.readerReg,
    f World.written, f World.wirePend, f World.handles, f World.ops, f World.slots, f World.slotReg, f World.rsps,
    f World.pidCtr, f World.subCtr, f World.hasCtx, f World.bad, ?_, ?_, ?_, ?_, ?_, ?_, f World.out⟩
  · have := congrArg noSubs hc; exact this
  · exact congrArg Ctx.subs hc
  · intro ch hch; rw [← chan_veil id a ch hch, ← chan_veil id b ch hch, h]
  · intro j hj; rw [← mem_streams_veil id a j hj, ← mem_streams_veil id b j hj, h]
  · intro t ht; rw [← mem_woken_veil id a t ht, ← mem_woken_veil id b t ht, h]
  · intro t ht; rw [← mem_held_veil id a t ht, ← mem_held_veil id b t ht, h]

/-! ## 4. K1: a QoS 2 publish dropped between its two phases -/

/-- **K1, the invariant.** Along any continuation of an execution — any sequence of elementary transitions (polls of the
    context, of handle futures, of streams, script events) — through worlds in which every publish future not yet polled
    has QoS ≤ 2 (`QosOk`) and no handle future is about to send the PUBREL for `pid` (`NoPubrecSeen`: the future that
    received the PUBREC is gone, and no later QoS 2 publish future waits with a successful PUBREC carrying the same
    identifier in its oneshot): if the context holds no PUBREL for `pid` at the start, it holds none at the end —
    neither queued nor in the retransmit queue. Since `run()` writes a packet of type 6 only for a queued PUBREL, as
    given, and re-sends only the retransmit queue (`no_pubrel_means_none_written`, `message_handled_at_most_once`,
    `resend_only_from_retransmit_queue`), the PUBREL for `pid` is never handed to the transport: that last step is read
    off those theorems, no theorem states it. -/
theorem k1_no_pubrel_is_ever_sent {pid : Nat} {a b : World}
    (hr : ReachesP (fun w => QosOk w ∧ NoPubrecSeen pid w) a b) (hi : NoPubrel pid a) : NoPubrel pid b := by
  induction hr with
  | refl => exact hi
  | tail _ hp hm ih => exact noPubrel_micro hm hp.1 ih hp.2

/-- **… and while it holds none, it writes none.** In a world in which the context holds no PUBREL for `pid` (and every
    PUBREL it does hold is one `publish()` built, `PubrelForm`, which holds at every moment of every execution whose
    publishes have QoS ≤ 2, `during_pubrelForm`): a queued request `m` whose packet has type 6 is the PUBREL of another
    packet identifier (the `b` of the statement is not tied to `m`; that a handler writes for `m` nothing or `m.pkt` is
    `message_handled_at_most_once`); and no handler of an inbound packet ever writes a packet of type 6. -/
theorem no_pubrel_means_none_written {pid : Nat} {w : World} (hi : NoPubrel pid w) (hf : PubrelForm w) :
    (∀ m ∈ w.queue, ∀ wok, ∀ b ∈ writesOf (w.c.handleMsg m wok).2.1, b ≠ ackBytes 0x62 pid ∨ pktType m.pkt ≠ 6 ∨
      ∃ pid' s, m = pubrelMsg pid' s ∧ pid' ≠ pid) ∧
    (∀ alive p wok, ∀ b ∈ writesOf (w.c.handlePkt alive p wok).2.1, pktType b ≠ 6) := by
  refine ⟨fun m hm wok b hb => ?_, fun alive p wok b hb => handlePkt_never_writes_pubrel w.c alive p wok b hb⟩
  by_cases h6 : pktType m.pkt = 6
  · obtain ⟨pid', s, e⟩ := hf.queue m hm h6
    refine Or.inr (Or.inr ⟨pid', s, e, ?_⟩)
    intro hp
    subst hp
    exact hi.queue m hm s e
  · exact Or.inr (Or.inl h6)

/-- **K1, the slot.** Start from a session whose books agree with the send-quota monitor (`QRel`: free slots +
    outstanding QoS>0 publishes = Receive Maximum) with the QoS 2 exchange of `pid` outstanding. Serve ANY history
    that contains neither the PUBCOMP for `pid` nor a PUBREC for `pid` with reason ≥ 0x80, and along which the broker
    stays conformant (the monitor can be followed to `m'`: it neither rejects the history nor meets an
    acknowledgement that completes nothing outstanding). Then the books still agree, the exchange of `pid` is still
    outstanding, and the send quota is still below Receive Maximum: the slot of the abandoned publish is not given back
    before the broker completes the exchange itself. -/
theorem k1_slot_stays_taken (pid : Nat) (c : Ctx) (m : QMon) (is : List CIn) (h : QRel c m)
    (hp : (pid, 2) ∈ m.out) (hn : ∀ i ∈ is, ¬ completesQ2 pid i) (m' : QMon)
    (hf : follow m (c.serve is).2 = some m') :
    QRel (c.serve is).1 m' ∧ (pid, 2) ∈ m'.out ∧ (c.serve is).1.quota < (c.serve is).1.recvMax := by
  obtain ⟨h1, h2⟩ := follow_keeps pid c m is h hp hn m' hf
  exact ⟨h1, h2, quota_below_max_while_outstanding pid _ m' h1 h2⟩

/-! ## 5. a dropped receiver: a `subscribe()` future waiting for its SUBACK, a response, a stream

  Dropping such a receiver is the one cancellation the context can observe: the dispatch loop of the PUBLISH arm asks
  whether the receiver of a registered channel is alive and unregisters a dead one instead of buffering for it. The
  theorems of this section show that this concerns channel `ch` only (`offCh ch e`: the effect `e` is neither a delivery
  into `ch` nor the drop of its sender; `subsOff ch subs`: the subscription table without the registrations of `ch`;
  `noSubs c`: the session without its subscription table). -/

/-- **One inbound packet, with the receiver of `ch` alive or dead.** Handle the same packet in two sessions that differ
    at most in the registrations of channel `ch` (each subscription identifier registered once), the receiver of `ch`
    being alive for one (`alive`) and dead for the other (`alive'`; they agree on every other channel). Then `run()`
    does the same next; the same acknowledgement is written, the same oneshots are completed, the same messages are
    delivered into the same other channels in the same order, the same other senders are dropped (the effects agree
    except those on `ch` itself); quota, waiters, retransmit queue, inbound QoS 2 identifiers agree afterwards; and so
    do the registrations of all other channels. No other stream, no acknowledgement, no quota is affected. -/
theorem dead_receiver_changes_only_its_own_channel (ch : Nat) (c : Ctx) (s' : List (Nat × Nat))
    (alive alive' : Nat → Bool) (hag : ∀ x, x ≠ ch → alive x = alive' x) (hn : (c.subs.map (·.1)).Nodup)
    (hn' : (s'.map (·.1)).Nodup) (hf : subsOff ch c.subs = subsOff ch s') (p : RxPacket) (wok : Bool) :
    (c.handlePkt alive p wok).2.2 = (({ c with subs := s' } : Ctx).handlePkt alive' p wok).2.2 ∧
    (c.handlePkt alive p wok).2.1.filter (offCh ch) =
      (({ c with subs := s' } : Ctx).handlePkt alive' p wok).2.1.filter (offCh ch) ∧
    noSubs (c.handlePkt alive p wok).1 = noSubs (({ c with subs := s' } : Ctx).handlePkt alive' p wok).1 ∧
    subsOff ch (c.handlePkt alive p wok).1.subs =
      subsOff ch (({ c with subs := s' } : Ctx).handlePkt alive' p wok).1.subs ∧
    (((c.handlePkt alive p wok).1.subs).map (·.1)).Nodup ∧
    (((({ c with subs := s' } : Ctx).handlePkt alive' p wok).1.subs).map (·.1)).Nodup :=
  handlePkt_sim ch c s' alive alive' hag hn hn' hf p wok

/-- **Whole histories, with the receiver of `ch` alive or dead.** Serve two histories that differ at most in whether the
    receiver of `ch` is reported dead (`InsSim`), from two sessions that differ at most in the registrations of `ch`
    (`CSim`), every subscription identifier being registered once in every session the histories go through
    (`OnceAlong`; for the executions of scripts with distinct operation ids, fewer than the identifier counter has
    values, this is `script_registers_identifiers_once` of Properties/C07World.lean). Then the sessions reached again
    differ at most in the registrations of `ch`, and the served histories are the same input by input — same requests,
    same packets, same acknowledgements written, same oneshots completed, same deliveries into every other channel, same
    flow — except for the effects on `ch` itself (`obsOff ch`). Dropping a receiver changes, for the context, nothing
    but that receiver's own channel, for ever. -/
theorem dead_receiver_changes_only_its_own_channel_for_ever (ch : Nat) (c c' : Ctx) (is is' : List CIn)
    (hc : CSim ch c c') (hi : InsSim ch is is') (ho : OnceAlong c is) (ho' : OnceAlong c' is') :
    CSim ch (c.serve is).1 (c'.serve is').1 ∧
    (c.serve is).2.map (obsOff ch) = (c'.serve is').2.map (obsOff ch) := by
  induction is generalizing c c' is' with
  | nil =>
    cases is' with
    | nil => exact ⟨hc, rfl⟩
    | cons _ _ => exact hi.elim
  | cons i is ih =>
    cases is' with
    | nil => exact hi.elim
    | cons i' is' =>
      obtain ⟨hi1, hi2⟩ := hi
      obtain ⟨s1, s2, s3⟩ := stepIn_sim ch c c' i i' hc hi1 ho.1 ho'.1
      rw [Ctx.serve_cons, Ctx.serve_cons]
      by_cases hf : (c.stepIn i).2.flow = .cont
      · have hf' : (c'.stepIn i').2.flow = .cont := by rw [← s3]; exact hf
        simp only [hf, hf', ↓reduceIte, List.map_cons]
        obtain ⟨r1, r2⟩ := ih _ _ is' s1 hi2 (ho.2 hf) (ho'.2 hf')
        exact ⟨r1, by rw [s2, r2]⟩
      · have hf' : ¬ (c'.stepIn i').2.flow = .cont := by rw [← s3]; exact hf
        simp only [hf, hf', ↓reduceIte, List.map_cons, List.map_nil]
        exact ⟨s1, by rw [s2]⟩

/-- **A request from a handle never consults the subscription table**: handled in two sessions that differ only in the
    registrations of `ch`, it has exactly the same effects and the same flow, and the sessions agree afterwards as
    before (a SUBSCRIBE request registers the same new entry in both). -/
theorem requests_ignore_the_subscription_table (ch : Nat) (c : Ctx) (s' : List (Nat × Nat))
    (hf : subsOff ch c.subs = subsOff ch s') (m : Msg) (wok : Bool) :
    (c.handleMsg m wok).2 = (({ c with subs := s' } : Ctx).handleMsg m wok).2 ∧
    noSubs (c.handleMsg m wok).1 = noSubs (({ c with subs := s' } : Ctx).handleMsg m wok).1 ∧
    subsOff ch (c.handleMsg m wok).1.subs = subsOff ch (({ c with subs := s' } : Ctx).handleMsg m wok).1.subs :=
  handleMsg_sim ch c s' hf m wok

/-- **An effect on channel `ch` touches nothing but that channel and the flag of its stream.** A delivery into `ch`, or
    the drop of its sender, applied to any world changes the entry of `ch` in the channel table and may flag task
    `st ch`; every other channel, every other flag and every other field of the world — the session, the oneshots, the
    operations, the transport, the transcript — is as before. -/
theorem effects_on_a_channel_touch_only_that_channel (w : World) (ch : Nat) (e : Eff) (h : offCh ch e = false) :
    ∃ chs wk, w.applyEff e = { w with chans := chs, woken := wk } ∧
      (∀ x, x ≠ ch → lookupFirst x chs = w.chan x) ∧ (∀ t, t ≠ .st ch → (t ∈ wk ↔ t ∈ w.woken)) := by
  cases e with
  | write bs => cases h
  | send s v => cases h
  | dropSlot s => cases h
  | deliver c p =>
    obtain rfl : c = ch := by simpa [offCh] using h
    show ∃ chs wk, w.deliver c p = _ ∧ _
    rw [deliver_eq]; exact onChan_footprint w c _
  | dropChan c =>
    obtain rfl : c = ch := by simpa [offCh] using h
    show ∃ chs wk, w.dropChanTx c = _ ∧ _
    rw [dropChanTx_eq]; exact onChan_footprint w c _

/-! ## 6. non-vacuity -/
section NonVacuity

/-- section 1: a world with an idle executor, a live handle and a pending operation (`l3` of Lemmas/WorldCancelEx.lean:
    `setup, run, publish(QoS 1)`), to which `no_sequence_of_drops_ends_run` applies with a script that drops the
    operation, an unknown operation and an unknown stream -/
example : AllDrops [.drop (.op 1), .drop (.op 9), .drop (.st 4)] ∧ l3.bad = false ∧ l3.pick = none ∧
    l3.handles ≠ [] ∧ l3.cfg.sweep = false ∧ l3.task = .running true := by
  refine ⟨?_, by decide, by decide, by decide, by decide, by decide⟩
  intro e he
  simp only [List.mem_cons, List.not_mem_nil, or_false] at he
  rcases he with rfl | rfl | rfl <;> exact ⟨_, rfl⟩

/-- … and the conclusion is not trivial: the first drop removes the operation, its oneshot and one sender -/
example : (l3.apply (.drop (.op 1))).ops = [] ∧ (l3.apply (.drop (.op 1))).senders = 1 ∧ l3.senders = 2 ∧
    (l3.apply (.drop (.op 1))).task = .running true := by decide

/-- the script-level theorem applies to `setup, run, publish(QoS 1)` followed by that drop -/
example : (opIds [Ev.setup, .run, .op 1 0 pubReq]).Nodup ∧
    ([Ev.setup, .run, .op 1 0 pubReq].foldl World.step {}).bad = false ∧
    ([Ev.setup, .run, .op 1 0 pubReq].foldl World.step {}).handles ≠ [] := by
  rw [evsLate_foldl3]; decide

/-- `HandleClosed` does occur when every handle is gone (the hypothesis of
    `handleClosed_needs_every_handle_and_future_gone` is satisfiable) -/
example : World.run {} [.setup, .dropHandle 0, .run] =
    [.ev .setup, .ev (.dropHandle 0), .ev .run] ++ .ret .run (.err .handleClosed) :: [] := by decide

/-- section 2, end to end: `setup, run, publish(QoS 1), drop the future, PUBACK arrives`. Before the PUBACK one slot is
    taken and the waiter registered under the action identifier points to a oneshot that no longer exists (the
    hypothesis of `late_ack_frees_the_slot_silently`); after it the session is back to its initial state — quota 65535,
    nothing awaiting, nothing to retransmit —, `run()` is still serving, and the transcript shows nothing but the
    event: no `DONE`, no `RET`, no packet -/
example :
    let w4 := [Ev.setup, .run, .op 1 0 pubReq, .drop (.op 1)].foldl World.step {}
    let w5 := evsLate.foldl World.step {}
    w4.c.quota = 65534 ∧ lookupFirst (actionId 4 1) w4.c.awaiting = some 2 ∧ w4.slot 2 = none ∧
    w5.c = {} ∧ w5.c.quota = 65535 ∧ w5.task = .running true ∧ w5.out = w4.out ++ [.ev (.feed [pubackFr])] := by
  have e4 : [Ev.setup, .run, .op 1 0 pubReq, .drop (.op 1)].foldl World.step {} = l4 := by
    simp only [List.foldl_cons, List.foldl_nil]; rw [stage1, stage2, late3, late4]
  simp only [e4, evsLate_foldl]
  decide

/-- `PubAck` and `freesSlot` on concrete acknowledgements: a PUBACK and a failing PUBREC free the slot, a successful
    PUBREC does not -/
example : PubAck (.puback { packetId := 1 }) (actionId 4 1) ∧ freesSlot (.puback { packetId := 1 }) = true ∧
    freesSlot (.pubrec { packetId := 1, reason := 0x80 }) = true ∧ freesSlot (.pubrec { packetId := 1 }) = false :=
  ⟨.puback _, rfl, rfl, rfl⟩

/-- section 3: the hypotheses of `cancelling_is_never_polling_again_no_dropHandle` hold for `pre = setup, run,
    publish(QoS 1)`, `id = 1` and a continuation in which the PUBACK arrives and a second operation is issued -/
example :
    let pre : List Ev := [.setup, .run, .op 1 0 pubReq]
    let post : List Ev := [.feed [pubackFr], .op 2 0 .ping]
    (pre.foldl World.step {}).handles ≠ [] ∧
    (∀ s, (pre.foldl World.step {}).opSt 1 ≠ some (.wait s .suback)) ∧
    (∀ e ∈ post, mineEv 1 e = false) ∧ (∀ e ∈ post, isDropHandle e = false) := by
  simp only [evsLate_foldl3]
  refine ⟨by decide, ?_, ?_, ?_⟩
  · intro s h
    have : l3.opSt 1 = some (.wait 2 .puback) := by decide
    rw [this] at h; cases h
  · intro e he
    simp only [List.mem_cons, List.not_mem_nil, or_false] at he
    rcases he with rfl | rfl <;> rfl
  · intro e he
    simp only [List.mem_cons, List.not_mem_nil, or_false] at he
    rcases he with rfl | rfl <;> rfl

/-- … the two worlds the theorem compares are really different — in one the operation is gone, in the other it is
    alive, held, with its oneshot — and equal once operation 1 is hidden -/
example :
    (l3.step (.drop (.op 1))).ops = [] ∧ (l3.step (.hold (.op 1))).ops = [(1, .wait 2 .puback)] ∧
    hide 1 (l3.step (.drop (.op 1))) = hide 1 (l3.step (.hold (.op 1))) := by
  refine ⟨by decide, by decide, ?_⟩
  have h := cancelling_is_never_polling_again_no_dropHandle {} [.setup, .run, .op 1 0 pubReq] [] 1
    (by rw [evsLate_foldl3]; decide)
    (by rw [evsLate_foldl3]; intro s h; have : l3.opSt 1 = some (.wait 2 .puback) := by decide
        rw [this] at h; cases h)
    (by simp) (by simp)
  simp only [List.foldl_append, List.foldl_cons, List.foldl_nil] at h
  rw [stage1, stage2, late3] at h
  exact h

/-- `hide` erases exactly the private state: in `l3` the entry of operation 1, its oneshot 2 and the waker registration;
    the session (with the waiter!), the queue, the transcript of everybody else stay -/
example : (hide 1 l3).ops = [] ∧ (hide 1 l3).slots = [] ∧ (hide 1 l3).slotReg = [] ∧ (hide 1 l3).c = l3.c ∧
    (hide 1 l3).out = [.ev .setup, .ev .run, .wire [50, 6, 0, 1, 97, 0, 1, 0]] ∧
    (hide 2 l3).ops = l3.ops ∧ (hide 2 l3).out = l3.out := by decide

/-- section 4, the K1 script: `setup, run, publish(QoS 2), hold its future, PUBREC(reason 0) arrives, drop the future`.
    In the world reached: nothing is queued, the retransmit queue is empty — the context holds no PUBREL for packet
    identifier 1 —, no future is left that could send one, the only packet ever written is the PUBLISH, the quota is
    one below Receive Maximum, and the books agree with a monitor in which the exchange (1, QoS 2) is outstanding: the
    hypotheses of `k1_no_pubrel_is_ever_sent` and `k1_slot_stays_taken` hold -/
example :
    let w := evsK1.foldl World.step {}
    NoPubrel 1 w ∧ NoPubrecSeen 1 w ∧ QosOk w ∧ w.c.quota = 65534 ∧ w.c.recvMax = 65535 ∧
    QRel w.c { out := [(1, 2)], R := 65535 } ∧ w.task = .running true ∧
    w.out.filter (fun o => match o with | .wire _ => true | _ => false) = [.wire [52, 6, 0, 1, 97, 0, 1, 0]] := by
  simp only [evsK1_foldl]
  have hq : k6.queue = [] := by decide
  have hr : k6.c.retx = [] := by decide
  have hnp : NoPubrel 1 k6 :=
    { queue := fun m hm => (by rw [hq] at hm; cases hm), retx := fun x hx _ => (by rw [hr] at hx; cases hx) }
  refine ⟨hnp, ?_, ?_, by decide, by decide, ⟨by decide, by decide⟩, by decide, by decide⟩
  · intro id s a h
    have : k6.opSt id = none := by simp [k6, k5, opSt, lookupFirst]
    rw [this] at h; cases h
  · intro id hd t h
    have : k6.ops = [] := by decide
    rw [this] at h; cases h

/-- … and `k1_slot_stays_taken` applied to that session and a later history (a PINGRESP and a PUBACK-less traffic):
    the monitor can be followed, the slot is still taken -/
example :
    let c : Ctx := { quota := 65534 }
    let is : List CIn := [.pkt .pingresp [] true, .msg (.ff [0xC0, 0] 8) true]
    (∀ i ∈ is, ¬ completesQ2 1 i) ∧ follow { out := [(1, 2)], R := 65535 } (c.serve is).2 =
      some { out := [(1, 2)], R := 65535 } ∧ (c.serve is).1.quota = 65534 := by
  refine ⟨?_, by decide, by decide⟩
  intro i hi
  simp only [List.mem_cons, List.not_mem_nil, or_false] at hi
  rcases hi with rfl | rfl <;> exact fun h => h

/-- the completion does free it: a PUBCOMP for 1 is excluded by the hypothesis, and with it the quota returns -/
example : completesQ2 1 (.pkt (.pubcomp { packetId := 1 }) [] true) ∧
    (({ quota := 65534 } : Ctx).serve [.pkt (.pubcomp { packetId := 1 }) [] true]).1.quota = 65535 :=
  ⟨rfl, by decide⟩

/-- section 5: two sessions that differ in the registration of channel 3 — present (receiver alive) in one, removed in
    the other (receiver dead) —, channel 4 registered in both. A PUBLISH carrying both subscription identifiers is
    delivered into channel 4 by both, acknowledged by both, and the sessions agree afterwards except for channel 3 -/
example :
    let c : Ctx := { subs := [(7, 3), (8, 4)] }
    let pb : PublishRx := { topic := [0x61], qos := 1, packetId := some 9, subIds := [7, 8] }
    (∀ x, x ≠ 3 → (fun _ : Nat => true) x = (fun ch : Nat => decide (ch ≠ 3)) x) ∧
    subsOff 3 c.subs = subsOff 3 [(8, 4)] ∧
    (c.handlePkt (fun _ => true) (.publish pb) true).2.1 = [.deliver 3 pb, .deliver 4 pb, .write (ackBytes 0x40 9)] ∧
    (({ c with subs := [(8, 4)] } : Ctx).handlePkt (fun ch => decide (ch ≠ 3)) (.publish pb) true).2.1 =
      [.deliver 4 pb, .write (ackBytes 0x40 9)] ∧
    offCh 3 (.deliver 3 pb) = false ∧ offCh 3 (.deliver 4 pb) = true := by
  refine ⟨fun x hx => by simp [hx], by decide, by decide, by decide, by decide, by decide⟩

/-- … and with the registration still present and the receiver dead, the dispatch loop unregisters it: the effects on
    the other channel are the same again -/
example :
    let c : Ctx := { subs := [(7, 3), (8, 4)] }
    let pb : PublishRx := { topic := [0x61], qos := 1, packetId := some 9, subIds := [7, 8] }
    (c.handlePkt (fun ch => decide (ch ≠ 3)) (.publish pb) true).2.1 =
      [.dropChan 3, .deliver 4 pb, .write (ackBytes 0x40 9)] ∧
    (c.handlePkt (fun ch => decide (ch ≠ 3)) (.publish pb) true).1.subs = [(8, 4)] := by decide

/-- the hypotheses of `dead_receiver_changes_only_its_own_channel_for_ever` on a two-input history: the PUBLISH above,
    then a PINGRESP; receiver 3 alive in one history, reported dead in the other -/
example :
    let c : Ctx := { subs := [(7, 3), (8, 4)] }
    let c' : Ctx := { subs := [(8, 4)] }
    let pb : PublishRx := { topic := [0x61], qos := 1, packetId := some 9, subIds := [7, 8] }
    CSim 3 c c' ∧ InsSim 3 [.pkt (.publish pb) [] true, .pkt .pingresp [] true]
      [.pkt (.publish pb) [3] true, .pkt .pingresp [3] true] ∧
    OnceAlong c [.pkt (.publish pb) [] true, .pkt .pingresp [] true] ∧
    OnceAlong c' [.pkt (.publish pb) [3] true, .pkt .pingresp [3] true] := by
  refine ⟨⟨by decide, by decide⟩, ⟨⟨rfl, rfl, fun x hx => by simp [hx]⟩, ⟨rfl, rfl, fun x hx => by simp [hx]⟩, trivial⟩,
    ⟨by decide, fun _ => ⟨by decide, fun _ => by show List.Nodup _; decide⟩⟩,
    ⟨by decide, fun _ => ⟨by decide, fun _ => by show List.Nodup _; decide⟩⟩⟩

/-- section 3b: a `subscribe()` future waiting for its SUBACK (`q3` of Lemmas/WorldOpsEx.lean: `setup, run,
    subscribe`; the SUBSCRIBE is on the wire and registered, channel 1 exists) satisfies `StartB 1`; the drop removes the
    future, its oneshot AND channel 1, the hold keeps all three — and the two worlds are equal under `shade 1` -/
example :
    StartB 1 ([Ev.setup, .run, .op 1 0 subReq].foldl World.step {}) ∧
    (q3.step (.drop (.op 1))).chans = [] ∧ (q3.step (.hold (.op 1))).chans = [(1, {})] ∧
    (q3.step (.drop (.op 1))).ops = [] ∧ (q3.step (.hold (.op 1))).ops = [(1, .wait 2 .suback)] ∧
    shade 1 (q3.step (.drop (.op 1))) = shade 1 (q3.step (.hold (.op 1))) := by
  have hs : StartB 1 q3 := by
    refine ⟨by decide, by decide, ?_, by decide, ?_⟩
    · intro m hm; have : q3.queue = [] := by decide
      rw [this] at hm; cases hm
    · intro j hd t hm
      have : (hide 1 q3).ops = [] := by decide
      rw [this] at hm; cases hm
  refine ⟨by rw [evsSub_foldl3]; exact hs, by decide, by decide, by decide, by decide, ?_⟩
  have h := cancelling_any_future_is_never_polling_again {} [.setup, .run, .op 1 0 subReq] [] 1
    (by rw [evsSub_foldl3]; exact hs) (by simp) trivial
  simp only [List.foldl_append, List.foldl_cons, List.foldl_nil] at h
  rw [stage1, stage2, sub3] at h
  exact h

/-- … and a continuation that is `quietFor 1`: bytes arrive, another operation is issued, the context is polled -/
example : ∀ e ∈ ([.feed [pubackFr], .op 2 0 .ping, .poll .ctx, .hold (.op 2)] : List Ev), quietFor 1 e = true := by
  intro e he
  simp only [List.mem_cons, List.not_mem_nil, or_false] at he
  rcases he with rfl | rfl | rfl | rfl <;> rfl

/-- a stream asleep on its channel (`q5`: `setup, run, subscribe, SUBACK, stream`) satisfies `StartV 1`; the drop removes
    stream 1 and channel 1, the hold keeps them; the worlds are equal under `veil 1` -/
example :
    StartV 1 ([Ev.setup, .run, .op 1 0 subReq, .feed [subackFr], .stream 1].foldl World.step {}) ∧
    (q5.step (.drop (.st 1))).streams = [] ∧ (q5.step (.drop (.st 1))).chans = [] ∧
    (q5.step (.hold (.st 1))).streams = [1] ∧ (q5.step (.hold (.st 1))).chans = [(1, { reg := true })] ∧
    veil 1 (q5.step (.drop (.st 1))) = veil 1 (q5.step (.hold (.st 1))) := by
  have hs : StartV 1 q5 := by
    refine ⟨by decide, ?_, by decide, ?_⟩
    · intro m hm; have : q5.queue = [] := by decide
      rw [this] at hm; cases hm
    · intro j hd t hm
      have : q5.ops = [] := by decide
      rw [this] at hm; cases hm
  refine ⟨by rw [evsSub_foldl5]; exact hs, by decide, by decide, by decide, by decide, ?_⟩
  have h := dropping_a_stream_is_never_polling_it_again {} [.setup, .run, .op 1 0 subReq, .feed [subackFr], .stream 1]
    [] 1 (by rw [evsSub_foldl5]; exact hs) (by simp)
  simp only [List.foldl_append, List.foldl_cons, List.foldl_nil] at h
  rw [stage1, stage2, sub3, sub4, sub5] at h
  exact h

/-- `veil` erases exactly the receiving end: in `q5` stream 1, channel 1 and the registration `(1, 1)`; everything
    else stays -/
example : (veil 1 q5).streams = [] ∧ (veil 1 q5).chans = [] ∧ (veil 1 q5).c.subs = [] ∧ (veil 1 q5).ops = q5.ops ∧
    (veil 2 q5).streams = [1] ∧ (veil 2 q5).c = q5.c := by decide

end NonVacuity

#print axioms drop_event_leaves_the_context_alone
#print axioms drop_gives_back_exactly_its_own_sender
#print axioms drop_wakes_nobody_while_a_sender_is_left
#print axioms handleClosed_needs_every_handle_and_future_gone
#print axioms no_sequence_of_drops_ends_run
#print axioms World.W11.AllDrops.opIds_append
#print axioms World.W11.DropKeeps.tweak
#print axioms no_sequence_of_drops_ends_run_script
#print axioms ack_bookkeeping_whoever_waits
#print axioms late_ack_frees_the_slot_silently
#print axioms handlers_never_see_the_waiter
#print axioms quota_verdict_independent_of_waiters
#print axioms quota_verdict_same_dropped_or_held
#print axioms context_poll_ignores_the_hidden_future
#print axioms other_polls_ignore_the_hidden_future
#print axioms other_events_ignore_the_hidden_future
#print axioms drop_is_invisible_to_everybody_else
#print axioms drop_and_hold_start_in_lockstep
#print axioms lockstep_one_event
#print axioms lockstep
#print axioms cancelling_is_never_polling_again
#print axioms cancelling_is_never_polling_again_no_dropHandle
#print axioms transcripts_agree_up_to_the_cancelled_task
#print axioms everybody_else_completes_the_same
#print axioms hidden_equal_spelled_out
#print axioms dropping_a_stream_is_never_polling_it_again
#print axioms transcripts_agree_up_to_the_dropped_stream
#print axioms cancelling_any_future_is_never_polling_again
#print axioms transcripts_agree_up_to_the_cancelled_future_and_its_stream
#print axioms veiled_equal_spelled_out
#print axioms k1_no_pubrel_is_ever_sent
#print axioms no_pubrel_means_none_written
#print axioms k1_slot_stays_taken
#print axioms dead_receiver_changes_only_its_own_channel
#print axioms dead_receiver_changes_only_its_own_channel_for_ever
#print axioms requests_ignore_the_subscription_table
#print axioms effects_on_a_channel_touch_only_that_channel

end Poster

/-
  Properties/C09.lean — an inbound QoS 2 message is delivered to the application exactly once.

  Model: the PUBLISH and PUBREL arms of `Ctx.handlePkt` (= `handle_packet`, src/client/context.rs); `c.inQos2` is
  `session.inbound_qos2`, the identifiers answered with PUBREC and not yet released by PUBREL.
  Specification, from the history alone (CtxRun.lean): `pendingQ2 t` = the identifiers of the handled QoS 2 PUBLISH
  packets of `t` that have no handled PUBREL after them (`q2Step` adds on a QoS 2 PUBLISH, removes on a PUBREL).

  `deliversOf effs` are the messages pushed into subscription streams; `Ctx.dispatch alive pb pb.subIds subs` is the
  delivery loop every PUBLISH (QoS 0, 1, 2) goes through: one `deliver` per subscription identifier of the message that is
  registered and whose stream is alive.
-/
import PosterModel.Lemmas.CtxPkt

namespace Poster

/-- one step: `inbound_qos2` moves exactly as the specification `q2Step` says, for every input -/
theorem step_inQos2 (c : Ctx) (i : CIn) : (c.stepIn i).1.inQos2 = q2Step c.inQos2 (c.stepIn i).2 := by
  cases i with
  | msg m wok => simp only [Ctx.stepIn, q2Step]; exact (Ctx.handleMsg_frame c m wok).2.2
  | pkt p dead wok =>
    simp only [Ctx.stepIn]
    rw [Ctx.handlePkt_inQos2]
    cases p <;> simp [q2Step]

/-- **The set the client keeps is the set the protocol defines.** After any history (no assumption on the inputs),
    `inbound_qos2` is exactly the list of QoS 2 identifiers received and not yet released, computed from the history alone:
    nothing is forgotten (a re-delivery would be yielded twice) and nothing lingers (a new message reusing the identifier
    after PUBREL would be swallowed). From the fresh context that is `pendingQ2`. -/
theorem inQos2_is_pending (c : Ctx) (is : List CIn) :
    (c.serve is).1.inQos2 = (c.serve is).2.foldl q2Step c.inQos2 ∧
    (({} : Ctx).serve is).1.inQos2 = pendingQ2 (({} : Ctx).serve is).2 :=
  ⟨Ctx.serve_fold (·.inQos2) q2Step step_inQos2 c is, Ctx.serve_fold (·.inQos2) q2Step step_inQos2 {} is⟩

/-- **Re-delivery suppressed.** A QoS 2 PUBLISH whose identifier is pending (PUBREC sent, PUBREL not yet received) is
    answered with PUBREC again, nothing is pushed into any stream, and the context is unchanged. -/
theorem redelivery_suppressed (c : Ctx) (alive : Nat → Bool) (pb : PublishRx) (pid : Nat) (wok : Bool)
    (h : pb.qos = 2) (hp : pb.packetId = some pid) (hin : pid ∈ c.inQos2) :
    deliversOf (c.handlePkt alive (.publish pb) wok).2.1 = [] ∧
    writesOf (c.handlePkt alive (.publish pb) wok).2.1 = [ackBytes 0x50 pid] ∧
    (c.handlePkt alive (.publish pb) wok).1 = c := by
  simp [Ctx.handlePkt_publish_eq, h, hp, hin]

/-- **First delivery.** A QoS 2 PUBLISH whose identifier is not pending goes through exactly the delivery loop a QoS 0/1
    message goes through (same streams, same order), then PUBREC is written, and the identifier becomes pending. -/
theorem first_delivery (c : Ctx) (alive : Nat → Bool) (pb : PublishRx) (pid : Nat) (wok : Bool)
    (h : pb.qos = 2) (hp : pb.packetId = some pid) (hout : pid ∉ c.inQos2) :
    (c.handlePkt alive (.publish pb) wok).2.1 =
      (Ctx.dispatch alive pb pb.subIds c.subs).2 ++ [.write (ackBytes 0x50 pid)] ∧
    pid ∈ (c.handlePkt alive (.publish pb) wok).1.inQos2 := by
  simp [Ctx.handlePkt_publish_eq, h, hp, hout]

/-- the delivery loop is indeed the one of a QoS 0/1 message: for those the deliveries are those of the same dispatch -/
theorem qos01_delivery (c : Ctx) (alive : Nat → Bool) (pb : PublishRx) (wok : Bool) (h : pb.qos ≠ 2) :
    deliversOf (c.handlePkt alive (.publish pb) wok).2.1 = deliversOf (Ctx.dispatch alive pb pb.subIds c.subs).2 := by
  cases hp : pb.packetId <;> simp [Ctx.handlePkt_publish_eq, h, hp]

/-- **PUBREL releases.** After a PUBREL the identifier is no longer pending (a later PUBLISH with it is a new message),
    every other identifier is untouched, and exactly one PUBCOMP with the identifier is written. -/
theorem pubrel_releases (c : Ctx) (alive : Nat → Bool) (a : AckRx) (wok : Bool) :
    a.packetId ∉ (c.handlePkt alive (.pubrel a) wok).1.inQos2 ∧
    (∀ q, q ≠ a.packetId → (q ∈ (c.handlePkt alive (.pubrel a) wok).1.inQos2 ↔ q ∈ c.inQos2)) ∧
    writesOf (c.handlePkt alive (.pubrel a) wok).2.1 = [ackBytes 0x70 a.packetId] := by
  rw [Ctx.handlePkt_pubrel_eq]
  refine ⟨?_, ?_, rfl⟩
  · simp
  · intro q hq; simp [hq]

/-- **Exactly once, on histories.** Start with no pending identifier and serve ANY inputs. Take any handled QoS 2 PUBLISH
    with identifier `pid` in the history and let `pre` be everything handled before it.
    If `pid` is pending in `pre` — an earlier QoS 2 PUBLISH with that identifier has no PUBREL after it — the message is not
    delivered to any stream (it is the broker's re-delivery; PUBREC is repeated).
    Otherwise it is a new message: its effects are exactly the delivery loop over the subscriptions registered at that
    moment (the state reached by serving the inputs before it, for some liveness of the streams) followed by the PUBREC.
    So between two PUBRELs of `pid` only the first PUBLISH carrying `pid` goes through the delivery loop. -/
theorem qos2_delivered_once (c : Ctx) (is : List CIn) (hc : c.inQos2 = [])
    (pre post : List CObs) (pb : PublishRx) (pid : Nat) (effs : List Eff) (fl : Flow)
    (hh : (c.serve is).2 = pre ++ .pkt (.publish pb) effs fl :: post)
    (hq : pb.qos = 2) (hp : pb.packetId = some pid) :
    (pid ∈ pendingQ2 pre → deliversOf effs = [] ∧ writesOf effs = [ackBytes 0x50 pid]) ∧
    (pid ∉ pendingQ2 pre → ∃ (is1 : List CIn) (alive : Nat → Bool), is1 <+: is ∧ (c.serve is1).2 = pre ∧
        effs = (Ctx.dispatch alive pb pb.subIds (c.serve is1).1.subs).2 ++ [.write (ackBytes 0x50 pid)]) := by
  obtain ⟨is1, i, is2, rfl, hpre, ho⟩ := Ctx.serve_split c _ pre post _ hh
  have hpend : (c.serve is1).1.inQos2 = pendingQ2 pre := by
    rw [(inQos2_is_pending c is1).1, hpre, hc]; rfl
  cases i with
  | msg m wok => simp [Ctx.stepIn] at ho
  | pkt p dead wok =>
    simp only [Ctx.stepIn, CObs.pkt.injEq] at ho
    obtain ⟨rfl, rfl, _⟩ := ho
    constructor
    · intro hin
      rw [← hpend] at hin
      have := redelivery_suppressed (c.serve is1).1 (fun ch => ch ∉ dead) pb pid wok hq hp hin
      exact ⟨this.1, this.2.1⟩
    · intro hout
      rw [← hpend] at hout
      exact ⟨is1, fun ch => decide (ch ∉ dead), List.prefix_append _ _, hpre,
        (first_delivery (c.serve is1).1 (fun ch => ch ∉ dead) pb pid wok hq hp hout).1⟩

/-- PUBLISH 9 (delivered to channel 1), PUBLISH 9 again (suppressed), PUBREL 9, PUBLISH 9 (a new message: delivered) -/
example :
    let pb : PublishRx := { topic := [], qos := 2, packetId := some 9, subIds := [4] }
    let r := ({ subs := [(4, 1)] } : Ctx).serve
      [.pkt (.publish pb) [] true, .pkt (.publish pb) [] true, .pkt (.pubrel { packetId := 9 }) [] true,
       .pkt (.publish pb) [] true]
    r.2.map (fun o => ((deliversOf o.effs).map (·.1), writesOf o.effs)) =
      [([1], [[0x50, 2, 0, 9]]), ([], [[0x50, 2, 0, 9]]), ([], [[0x70, 2, 0, 9]]), ([1], [[0x50, 2, 0, 9]])] ∧
    r.1.inQos2 = [9] := by decide

#print axioms step_inQos2
#print axioms inQos2_is_pending
#print axioms redelivery_suppressed
#print axioms first_delivery
#print axioms qos01_delivery
#print axioms pubrel_releases
#print axioms qos2_delivered_once

end Poster

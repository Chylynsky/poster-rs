/-
  Properties/C03World.lean — C03 (and the inbound half of C02) for whole scripts: what the context task hands to the
  decoder is the reference framing of what the script fed, whatever the chunking.

  C03: "For every sequence of inbound packets and every way of splitting its bytes into transport reads (single bytes,
  reads ending at any offset including the receive buffer's own boundaries, reads spanning many packets), the client
  observes exactly the same packets in the same order as when each packet arrives in a read of its own. It consumes every
  byte the transport has made available without needing an unrelated event to get polled again, and it never reports
  end-of-stream before the transport does."

  Properties/C03.lean proves this for the framing machine `Framing.pollNext` in isolation. This file lifts it to the whole
  client `World` and to whole scripts.

  Two facts about the model that shape the statements about `SocketClosed`: the framing layer reports the end of the stream not
  only for `eof` / `err` but also for a zero-length read (an empty `feed` chunk) and for a malformed remaining-length field
  (`poll_next` returns `None` when `VarSizeInt::try_from` fails), so `run()` can return `SocketClosed` without any
  `feedEof` / `feedErr`; and under `cfg.fill` an empty chunk next to a non-empty one is merged away (`mergeRuns`), which is
  why the script-level theorems ask for `feedOk` under `cfg.fill`.
-/
import PosterModel.Lemmas.WorldFramingScript
import PosterModel.Lemmas.WorldFramingEx
import PosterModel.Lemmas.WorldWirePkt
import PosterModel.Properties.C02
import PosterModel.Properties.C03
import PosterModel.Properties.C04World


namespace Poster
open Framing World World.W12 Spec Spec.Server

set_option linter.unusedVariables false in
/-- **An accepted `setup` resets the receive side**: nothing is in flight on a new connection. -/
theorem setup_resets_inbound (w : World) (ha : (w.apply .setup).bad = false) (hb : w.bad = false) :
    inbound (w.apply .setup) = [] := by
  -- by the outcome of the event: refused (excluded by `ha`), a new context, or a new connection
  have a := apply_spec w .setup
  generalize w.apply .setup = w' at a ha ⊢
  cases a with
  | bad _ _ => cases ha
  | same _ hi => exact hi.elim
  | newCtx | newConn => rfl
  | start _ _ hs => cases hs
  | feed _ _ he => cases he

/-- **Feeding appends to the bytes in flight.** Whatever `cfg.rdp` (a spurious `Pending` before every read) and `cfg.fill`
    (adjacent reads merged) do to the chunking: after read events `evs` are fed, the bytes in flight are those before
    followed by the bytes `evs` deliver — unless the transport's script had already ended, then nothing more is ever
    delivered. (Under `cfg.fill` no zero-length read may be pending or fed.) -/
theorem feed_appends_to_inbound (w : World) (evs : List ReadEv)
    (hne : w.cfg.fill = true → NoEmpty w.reader ∧ NoEmpty evs) :
    inbound (w.feedEvents evs) = inbound w ++ (if hasEnd w.reader then [] else dataOf evs) := by
  obtain ⟨r1, r2, _⟩ := feedEvents_recv w evs
  obtain ⟨f1, _, _⟩ := fedReader_facts w evs hne
  unfold inbound
  rw [r1, r2, f1, dataOf_append_gen]
  split <;> simp

/-- … in particular a `feed` event with non-empty chunks, on a transport that has not ended, appends exactly the
    concatenation of its chunks. -/
theorem feed_event_appends_its_bytes (w : World) (chunks : List Bytes) (hc : w.hasCtx = true)
    (hend : hasEnd w.reader = false) (hne : ∀ c ∈ chunks, c ≠ []) (hfill : w.cfg.fill = true → NoEmpty w.reader) :
    inbound (w.apply (.feed chunks)) = inbound w ++ chunks.flatten := by
  have hN : NoEmpty (chunks.map ReadEv.data) := feedOk_noEmpty (e := .feed chunks) hne
  simp only [World.apply, hc, Bool.not_true, Bool.false_eq_true, ↓reduceIte]
  rw [feed_appends_to_inbound w _ (fun hf => ⟨hfill hf, hN⟩), hend, (dataOf_data_chunks hne).2]
  simp

/-- **Every frame the framing layer yields is taken from the FRONT of the bytes in flight and is the first frame of
    their reference framing.** If `poll_next` yields `fr` from a state satisfying the invariant, then the bytes in flight
    were `fr` followed by the bytes in flight afterwards, `fr` is exactly one complete frame, and the reference framing
    (`Framing.frames`) of the bytes in flight is `fr` followed by the reference framing of what remains. -/
theorem yielded_frame_is_the_front_frame (w : World) (rx' : Rx) (rd' : List ReadEv) (fr : Bytes) (hok : w.rx.Ok)
    (hp : pollNext w.rx w.reader = (rx', rd', .item fr)) :
    inbound w = fr ++ inbound { w with rx := rx', reader := rd' } ∧ OneFrame fr ∧ rx'.Ok ∧
    frames (inbound w) = (frames (inbound { w with rx := rx', reader := rd' })).map fun q => (fr :: q.1, q.2) := by
  have h1 := (pollNext_polled hp).conserves
  obtain ⟨h3, h2⟩ := (pollNext_polled hp).ok hok
  refine ⟨h1, h2, h3, ?_⟩
  obtain ⟨k, hk⟩ := h2
  have e : inbound w = fr ++ inbound { w with rx := rx', reader := rd' } := h1
  rw [e, frames_cons fr _ ⟨k, hk⟩]

/-- **One poll of the context task hands the decoder the front frames of the bytes in flight, in order.** From a state
    satisfying the framing invariant: the bytes in flight before the poll are the frames handed to `decodeRx` during the
    poll (`ctxFrames w`), concatenated, followed by the bytes in flight after the poll; each of those frames is exactly one
    complete frame; the reference framing of the bytes in flight before is those frames followed by the reference framing
    of what remains; the invariant holds again; end-of-stream events are neither consumed nor invented. -/
theorem poll_hands_over_the_front_frames (w : World) (hok : w.rx.Ok) :
    inbound w = (ctxFrames w).flatten ++ inbound w.pollCtx ∧ (∀ fr ∈ ctxFrames w, OneFrame fr) ∧ w.pollCtx.rx.Ok ∧
    frames (inbound w) = (frames (inbound w.pollCtx)).map (fun q => (ctxFrames w ++ q.1, q.2)) ∧
    hasEnd w.pollCtx.reader = hasEnd w.reader := by
  have hs := pollCtx_wstep w
  have e : inbound w = (ctxFrames w).flatten ++ inbound w.pollCtx := hs.fs.inb hok
  refine ⟨e, hs.fs.whole hok, hs.fs.ok hok, ?_, hs.fs.ends⟩
  rw [e, frames_flatten_append _ _ (hs.fs.whole hok)]

/-- **The handler runs on the decoding of exactly that frame.** In an iteration of the `select!` loop with nothing queued,
    the input handed to `handle_packet` (`iterIn`, Lemmas/WorldIn.lean) is `decodeRx` of the frame `iterFrames` reports
    — and there is no input if there is no frame or the frame does not decode. -/
theorem handler_input_is_the_decoded_frame (w : World) (hq : w.queue = []) :
    w.iterIn = match iterFrames w with
      | [fr] => (match decodeRx fr with | .ok p => some (w.inPkt p) | _ => none)
      | _ => none := by
  rcases iter_cases hq with ⟨e1, e2⟩ | ⟨fr, e1, e2⟩ <;> rw [e1, e2] <;> rfl

/-- **…for every iteration of a poll, in order.** The inbound packets one poll of the `select!` loop hands to
    `handle_packet` — the packet inputs of the served history `loopHist` through which `runLoop_pollServe`
    (Lemmas/WorldCtx.lean) shows the context is driven — are exactly the decodings of the frames `loopFrames` lists, in
    the same order: every frame that decodes is handled, as the packet it decodes to, and nothing else is. -/
theorem loop_handles_exactly_the_decoded_frames (f : Nat) (w : World) :
    (World.loopHist f w).filterMap pktOfIn = (loopFrames f w).filterMap okOf := by
  induction f generalizing w with
  | zero => rfl
  | succ f ih =>
    rw [loopHist_succ]
    simp only [loopFrames]
    rw [List.filterMap_append, ← iter_pkts w]
    rcases runIter_spec w with ⟨w1, e1, hc⟩ | ⟨r, e1, he⟩
    · obtain ⟨i, hi, _⟩ := runCont_iter hc
      rw [e1, hi, ← ih w1]
      exact List.filterMap_append (l := [i])
    · rw [e1]
      cases w.iterIn <;> simp

/-- **The ghost's `fed` is what the script says it feeds**: for a script that is not refused as malformed, the read
    events recorded since the last `setup` are `scriptFed evs` — a function of the script alone (the `feed` chunks, `eof`
    for `feedEof`, `err` for `feedErr`, reset at every `setup`). -/
theorem fed_is_what_the_script_feeds (cfg : Cfg) (evs : List Ev)
    (hb : (evs.foldl World.step { cfg := cfg }).bad = false) : (flog cfg evs).fed = scriptFed evs :=
  flog_fed cfg evs hb

/-- **Conservation, for every script.** Take any configuration (executor mode, `rdp`, `fill`, write limit) and any script
    (under `cfg.fill`: without empty `feed` chunks). Within the current connection (since the last `setup`):
    every frame the context task handed to `decodeRx` is exactly one complete frame; the frames handed over so far,
    concatenated, are a prefix of the bytes fed; and as long as the context has not been dropped, what remains of the bytes
    fed is exactly what is in flight on the receive side — nothing is lost, duplicated, reordered or invented, whatever the
    chunking. -/
theorem decoded_frames_conserve_the_fed_bytes (cfg : Cfg) (evs : List Ev)
    (hf : cfg.fill = true → ∀ e ∈ evs, feedOk e) :
    (∀ fr ∈ (flog cfg evs).dec, OneFrame fr) ∧
    (∃ rest, (flog cfg evs).dec.flatten ++ rest = dataOf (flog cfg evs).fed) ∧
    ((evs.foldl World.step { cfg := cfg }).ctxDropped = false →
      (flog cfg evs).dec.flatten ++ inbound (evs.foldl World.step { cfg := cfg }) = dataOf (flog cfg evs).fed) := by
  have h := (ginv_script cfg evs hf).inv
  exact ⟨h.whole, h.pre.imp fun _ => And.left, h.inb⟩

/-- **The decoder sees the reference framing.** For every script (under `cfg.fill`: without empty `feed` chunks): if the
    bytes fed in this connection (since the last `setup`) have the reference framing `ps` (with unfinished tail `tl`),
    the frames handed to `decodeRx` so far are a prefix of `ps` — the same packets in the same order as when each packet
    arrives in a read of its own; and while the context exists, the reference framing of the bytes fed is the frames
    handed over so far followed by the reference framing of the bytes still in flight (also when the stream contains a
    malformed length: both sides are then `none`). -/
theorem decoded_frames_are_reference_frames (cfg : Cfg) (evs : List Ev)
    (hf : cfg.fill = true → ∀ e ∈ evs, feedOk e) :
    (∀ ps tl, frames (dataOf (flog cfg evs).fed) = some (ps, tl) → (flog cfg evs).dec <+: ps) ∧
    ((evs.foldl World.step { cfg := cfg }).ctxDropped = false →
      frames (dataOf (flog cfg evs).fed) =
        (frames (inbound (evs.foldl World.step { cfg := cfg }))).map fun q => ((flog cfg evs).dec ++ q.1, q.2)) := by
  have h := (ginv_script cfg evs hf).inv
  refine ⟨fun ps tl hfr => ?_, h.frames_fed⟩
  · obtain ⟨rest, e, _⟩ := h.pre
    rw [← e, frames_flatten_append _ _ h.whole] at hfr
    cases hq : frames rest with
    | none => rw [hq] at hfr; cases hfr
    | some q =>
      rw [hq] at hfr
      simp only [Option.map_some, Option.some.injEq, Prod.mk.injEq] at hfr
      rw [← hfr.1]; exact List.prefix_append _ _

/-- **Chunking independence at the level of the whole client.** Two executions — any two configurations, any two scripts
    (under `cfg.fill`: without empty `feed` chunks): different cuts of the bytes into `feed` chunks and events,
    different interleavings with operations, polls, holds — that have fed the same bytes in their current connection
    hand the same frames, in the same order, to the decoder, as far as both have got: one list of decoded frames is a
    prefix of the other. -/
theorem chunking_independence_world (cfg1 cfg2 : Cfg) (evs1 evs2 : List Ev)
    (hf1 : cfg1.fill = true → ∀ e ∈ evs1, feedOk e) (hf2 : cfg2.fill = true → ∀ e ∈ evs2, feedOk e)
    (h : dataOf (flog cfg1 evs1).fed = dataOf (flog cfg2 evs2).fed) :
    (flog cfg1 evs1).dec <+: (flog cfg2 evs2).dec ∨ (flog cfg2 evs2).dec <+: (flog cfg1 evs1).dec := by
  have h1 := (ginv_script cfg1 evs1 hf1).inv
  have h2 := (ginv_script cfg2 evs2 hf2).inv
  obtain ⟨r1, e1, _⟩ := h1.pre
  obtain ⟨r2, e2, _⟩ := h2.pre
  exact whole_prefix_comparable _ _ r1 r2 h1.whole h2.whole (by rw [e1, e2, h])

/-- … stated on the scripts themselves: two scripts that are not refused and feed the same bytes since their last
    `setup` (`scriptFed`), cut in any way. -/
theorem chunking_independence_scripts (cfg1 cfg2 : Cfg) (evs1 evs2 : List Ev)
    (hf1 : cfg1.fill = true → ∀ e ∈ evs1, feedOk e) (hf2 : cfg2.fill = true → ∀ e ∈ evs2, feedOk e)
    (hb1 : (evs1.foldl World.step { cfg := cfg1 }).bad = false)
    (hb2 : (evs2.foldl World.step { cfg := cfg2 }).bad = false)
    (h : dataOf (scriptFed evs1) = dataOf (scriptFed evs2)) :
    (flog cfg1 evs1).dec <+: (flog cfg2 evs2).dec ∨ (flog cfg2 evs2).dec <+: (flog cfg1 evs1).dec :=
  chunking_independence_world cfg1 cfg2 evs1 evs2 hf1 hf2 (by rw [flog_fed _ _ hb1, flog_fed _ _ hb2, h])

/-- **A sleeping context has consumed everything.** In every world a script (under `cfg.fill`: without empty `feed`
    chunks) can reach: if the `connect()` / `authorize()` / `run()` future is alive and not flagged for the executor,
    then the transport's event queue is empty, the framing machine is in `Idle`, and the reference framing of ALL bytes
    fed in this connection is exactly the frames handed to the decoder, with exactly the unfinished tail in the receive
    buffer: every complete packet that was fed has been decoded, only an incomplete last frame is left. -/
theorem asleep_context_has_consumed_everything (cfg : Cfg) (evs : List Ev)
    (hf : cfg.fill = true → ∀ e ∈ evs, feedOk e)
    (ht : (evs.foldl World.step { cfg := cfg }).task ≠ .none)
    (hw : Task.ctx ∉ (evs.foldl World.step { cfg := cfg }).woken) :
    (evs.foldl World.step { cfg := cfg }).reader = [] ∧ (evs.foldl World.step { cfg := cfg }).rx.st = .idle ∧
    frames (dataOf (flog cfg evs).fed) = some ((flog cfg evs).dec, (evs.foldl World.step { cfg := cfg }).rx.valid) := by
  have hg := ginv_script cfg evs hf
  have h := hg.inv
  have hrd := (context_asleep_only_with_everything_read cfg evs ht hw).1
  have hidle := h.idle ht hw
  have hd := hg.ctl.not_dropped ht
  refine ⟨hrd, hidle, ?_⟩
  have hin : inbound (evs.foldl World.step { cfg := cfg }) = (evs.foldl World.step { cfg := cfg }).rx.valid := by
    unfold inbound; rw [hrd]; simp [dataOf]
  rw [h.frames_fed hd, hin, frames_of_noFrame _ (h.ok.2.2.2 hidle)]
  simp

/-- **…and that is the state after every step, unless the script holds the context back.** After every script that is
    not refused (under `cfg.fill`: without empty `feed` chunks): if the call is still executing and the script has not
    put the context task on hold, then (the executor being idle, `executor_idle_after_every_step`) the context sleeps
    with everything consumed: no unread transport event, every complete packet fed so far handed to the decoder, exactly
    the unfinished tail buffered. No unrelated event is needed to get the bytes consumed. -/
theorem idle_executor_context_has_consumed_everything (cfg : Cfg) (evs : List Ev)
    (hf : cfg.fill = true → ∀ e ∈ evs, feedOk e)
    (hb : (evs.foldl World.step { cfg := cfg }).bad = false)
    (ht : (evs.foldl World.step { cfg := cfg }).task ≠ .none)
    (hh : Task.ctx ∉ (evs.foldl World.step { cfg := cfg }).held) :
    (evs.foldl World.step { cfg := cfg }).reader = [] ∧
    frames (dataOf (flog cfg evs).fed) = some ((flog cfg evs).dec, (evs.foldl World.step { cfg := cfg }).rx.valid) := by
  have hq : (evs.foldl World.step { cfg := cfg }).pick = none := by
    rcases executor_idle_after_every_step cfg evs with h | h
    · rw [hb] at h; cases h
    · exact h
  have hw := World.not_woken_of_idle _ .ctx hq (by simpa [World.taskLive] using ht) hh
  obtain ⟨a, _, c⟩ := asleep_context_has_consumed_everything cfg evs hf ht hw
  exact ⟨a, c⟩

/-- **Same bytes, same packets, same leftover.** Two executions (under `cfg.fill`: of scripts without empty `feed`
    chunks) whose contexts are both asleep and that have fed the same bytes in their current connection — however
    differently cut — have handed exactly the same frames to the decoder and hold exactly the same unfinished tail. -/
theorem same_bytes_same_frames_when_asleep (cfg1 cfg2 : Cfg) (evs1 evs2 : List Ev)
    (hf1 : cfg1.fill = true → ∀ e ∈ evs1, feedOk e) (hf2 : cfg2.fill = true → ∀ e ∈ evs2, feedOk e)
    (ht1 : (evs1.foldl World.step { cfg := cfg1 }).task ≠ .none)
    (hw1 : Task.ctx ∉ (evs1.foldl World.step { cfg := cfg1 }).woken)
    (ht2 : (evs2.foldl World.step { cfg := cfg2 }).task ≠ .none)
    (hw2 : Task.ctx ∉ (evs2.foldl World.step { cfg := cfg2 }).woken)
    (h : dataOf (flog cfg1 evs1).fed = dataOf (flog cfg2 evs2).fed) :
    (flog cfg1 evs1).dec = (flog cfg2 evs2).dec ∧
    (evs1.foldl World.step { cfg := cfg1 }).rx.valid = (evs2.foldl World.step { cfg := cfg2 }).rx.valid := by
  obtain ⟨_, _, c1⟩ := asleep_context_has_consumed_everything cfg1 evs1 hf1 ht1 hw1
  obtain ⟨_, _, c2⟩ := asleep_context_has_consumed_everything cfg2 evs2 hf2 ht2 hw2
  rw [h, c2] at c1
  simp only [Option.some.injEq, Prod.mk.injEq] at c1
  exact ⟨c1.1.symm, c1.2.symm⟩

/-- **`SocketClosed` only for a cause.** For every script (under `cfg.fill`: without empty `feed` chunks): if, since the
    last `setup` (from position `mark` of the transcript on), a call returned `SocketClosed`, then the transport refuses
    writes at some point (a write limit is configured), or an end-of-stream event — `feedEof`, `feedErr` or an empty
    chunk (a zero-length read) — was fed in this connection, or the bytes fed in this connection contain a malformed
    remaining-length field (`frames … = none`). The client never reports end-of-stream by itself. -/
theorem socket_closed_only_for_a_cause (cfg : Cfg) (evs : List Ev) (hf : cfg.fill = true → ∀ e ∈ evs, feedOk e)
    (c : Call)
    (h : Obs.ret c (.err .socketClosed) ∈ (evs.foldl World.step { cfg := cfg }).out.drop (flog cfg evs).mark) :
    cfg.wlimit ≠ none ∨ hasEnd (flog cfg evs).fed = true ∨ frames (dataOf (flog cfg evs).fed) = none := by
  have := (ginv_script cfg evs hf).inv.sock c h
  rwa [steps_cfg] at this

/-- **…stated on the script.** Split any script that is not refused at its last `setup`: `pre ++ setup :: post`. Whatever
    the transcript gains during `post` (`added`): a `RET … SocketClosed` among it means a write limit is configured, or
    `post` feeds an end-of-stream event, or the bytes `post` feeds contain a malformed remaining-length field. -/
theorem socket_closed_since_setup (cfg : Cfg) (pre post : List Ev) (hns : ∀ e ∈ post, e ≠ .setup)
    (hf : cfg.fill = true → ∀ e ∈ pre ++ Ev.setup :: post, feedOk e)
    (hb : ((pre ++ Ev.setup :: post).foldl World.step { cfg := cfg }).bad = false) :
    ∃ added, ((pre ++ Ev.setup :: post).foldl World.step { cfg := cfg }).out =
        ((pre ++ [Ev.setup]).foldl World.step { cfg := cfg }).out ++ added ∧
      ∀ c, Obs.ret c (.err .socketClosed) ∈ added →
        cfg.wlimit ≠ none ∨ hasEnd (post.flatMap evReads) = true ∨ frames (dataOf (post.flatMap evReads)) = none := by
  have esplit : pre ++ Ev.setup :: post = (pre ++ [Ev.setup]) ++ post := by simp
  obtain ⟨added, ha, _⟩ := stepsAny_line (stepsAny_foldl post ((pre ++ [Ev.setup]).foldl World.step { cfg := cfg }))
  rw [← List.foldl_append, ← esplit] at ha
  refine ⟨added, ha, fun c hc => ?_⟩
  have h0 := (ginv_script cfg (pre ++ [Ev.setup]) (fun hfl e he => hf hfl e (by
    rcases List.mem_append.mp he with h | h
    · exact List.mem_append_left _ h
    · simp only [List.mem_singleton] at h; subst h; simp))).inv
  have hmark : (flog cfg (pre ++ Ev.setup :: post)).mark = (flog cfg (pre ++ [Ev.setup])).mark :=
    esplit ▸ (flog_append_noSetup cfg (pre ++ [Ev.setup]) post hns).1
  have hfed : (flog cfg (pre ++ Ev.setup :: post)).fed = post.flatMap evReads := by
    rw [flog_fed _ _ hb, scriptFed_split pre post hns]
  have := socket_closed_only_for_a_cause cfg (pre ++ Ev.setup :: post) hf c (by
    rw [ha, hmark, List.drop_append_of_le_length h0.mark]
    exact List.mem_append_right _ hc)
  rwa [hfed] at this

/-- **C03's last clause ("never reports end-of-stream before the transport does") on the script.** `_partial`: read as "a
    `feedEof` / `feedErr` event occurs since the last `setup`" the clause is false of model and code alike; it holds with
    the two further alternatives below. On a transport without write limit: if a call returns `SocketClosed`
    during `post` (the part of an accepted script after its last `setup`), then `post` contains a `feedEof` or a `feedErr`
    event — or a `feed` event with an EMPTY chunk, which the transport delivers as a zero-length read, i.e. end-of-stream
    — or the bytes `post` feeds contain a malformed remaining-length field, which the framing layer also reports as the
    end of the stream (`RxPacketStream::poll_next` returns `None` on `VarSizeInt` errors; see the examples below: both
    extra alternatives do occur). -/
theorem socket_closed_needs_end_event_partial (cfg : Cfg) (pre post : List Ev) (hns : ∀ e ∈ post, e ≠ .setup)
    (hf : cfg.fill = true → ∀ e ∈ pre ++ Ev.setup :: post, feedOk e)
    (hb : ((pre ++ Ev.setup :: post).foldl World.step { cfg := cfg }).bad = false) (hw : cfg.wlimit = none) :
    ∃ added, ((pre ++ Ev.setup :: post).foldl World.step { cfg := cfg }).out =
        ((pre ++ [Ev.setup]).foldl World.step { cfg := cfg }).out ++ added ∧
      ∀ c, Obs.ret c (.err .socketClosed) ∈ added →
        (∃ e ∈ post, e = .feedEof ∨ e = .feedErr ∨ ∃ chunks, e = .feed chunks ∧ [] ∈ chunks) ∨
        frames (dataOf (post.flatMap evReads)) = none := by
  obtain ⟨added, ha, hc⟩ := socket_closed_since_setup cfg pre post hns hf hb
  refine ⟨added, ha, fun c hm => ?_⟩
  rcases hc c hm with h | h | h
  · exact absurd hw h
  · left
    obtain ⟨e, he, hfe⟩ := hasEnd_flatMap_evReads post h
    refine ⟨e, he, ?_⟩
    cases e with
    | feedEof => exact Or.inl rfl
    | feedErr => exact Or.inr (Or.inl rfl)
    | feed chunks => exact Or.inr (Or.inr ⟨chunks, rfl, hfe⟩)
    | _ => exact absurd hfe (by simp [feedsEnd])
  · exact Or.inr h

/-- **No spurious end-of-stream.** On a transport without write limit, for a script that is not refused (under `cfg.fill`:
    without empty `feed` chunks): as long as the script has fed no end-of-stream event since its last `setup` and the
    bytes it fed there have a reference framing (no malformed length field), no call returns `SocketClosed` in that
    connection. -/
theorem no_socket_closed_while_transport_open (cfg : Cfg) (pre post : List Ev) (hns : ∀ e ∈ post, e ≠ .setup)
    (hf : cfg.fill = true → ∀ e ∈ pre ++ Ev.setup :: post, feedOk e)
    (hb : ((pre ++ Ev.setup :: post).foldl World.step { cfg := cfg }).bad = false)
    (hw : cfg.wlimit = none) (hend : hasEnd (post.flatMap evReads) = false)
    (hfr : frames (dataOf (post.flatMap evReads)) ≠ none) :
    ∃ added, ((pre ++ Ev.setup :: post).foldl World.step { cfg := cfg }).out =
        ((pre ++ [Ev.setup]).foldl World.step { cfg := cfg }).out ++ added ∧
      ∀ c, Obs.ret c (.err .socketClosed) ∉ added := by
  obtain ⟨added, ha, hc⟩ := socket_closed_since_setup cfg pre post hns hf hb
  refine ⟨added, ha, fun c hm => ?_⟩
  rcases hc c hm with h | h | h
  · exact h hw
  · rw [hend] at h; cases h
  · exact hfr h

/-- **A well-formed server packet is exactly one frame** of the reference framing. -/
theorem server_packet_is_one_frame (p : ServerPacket) (h : WF p) : OneFrame (encodeServer p) := by
  have hl : (body p).length ≤ 268435455 := by
    have h' : wf p = true := h
    unfold wf at h'
    simp only [Bool.and_eq_true, decide_eq_true_eq] at h'
    exact h'.1
  show OneFrame (frame (header p) (body p))
  rw [frame_cons, sVar_eq_encVar _ hl]
  exact oneFrame_hdr _ _ (by omega)

/-- **A well-formed server packet fed in any chunking reaches the decoder as exactly that frame, and decodes to exactly
    the values the server encoded.** Let the context sleep with nothing buffered after the script `evs` (alive, not
    flagged, empty receive buffer). Let `more` be any further events without `setup` that feed — in any number of `feed`
    events, cut at any offsets, interleaved with anything else — exactly the bytes of `encodeServer p` for a well-formed
    server packet `p`, the whole script `evs ++ more` not refused (under `cfg.fill`: without empty `feed` chunks). Then
    within `more` the decoder is handed nothing but that frame, at most once (`dec` grows from `dec₀` to at most
    `dec₀ ++ [encodeServer p]`); if the context sleeps again at the end it was handed exactly that frame and the
    receive buffer is empty again; and `decodeRx` of that frame is `expected p`
    (`dec_of_spec`, Properties/C02.lean): the handler runs on exactly the values the server encoded. -/
theorem fed_server_packet_is_decoded (cfg : Cfg) (evs more : List Ev) (p : ServerPacket) (hwf : WF p)
    (hf : cfg.fill = true → ∀ e ∈ evs ++ more, feedOk e)
    (ht0 : (evs.foldl World.step { cfg := cfg }).task ≠ .none)
    (hw0 : Task.ctx ∉ (evs.foldl World.step { cfg := cfg }).woken)
    (hv0 : (evs.foldl World.step { cfg := cfg }).rx.valid = [])
    (hns : ∀ e ∈ more, e ≠ .setup) (hbytes : dataOf (more.flatMap evReads) = encodeServer p)
    (hb : ((evs ++ more).foldl World.step { cfg := cfg }).bad = false) :
    (flog cfg evs).dec <+: (flog cfg (evs ++ more)).dec ∧
    (flog cfg (evs ++ more)).dec <+: (flog cfg evs).dec ++ [encodeServer p] ∧
    (((evs ++ more).foldl World.step { cfg := cfg }).task ≠ .none →
      Task.ctx ∉ ((evs ++ more).foldl World.step { cfg := cfg }).woken →
      (flog cfg (evs ++ more)).dec = (flog cfg evs).dec ++ [encodeServer p] ∧
      ((evs ++ more).foldl World.step { cfg := cfg }).rx.valid = []) ∧
    decodeRx (encodeServer p) = .ok (expected p) := by
  have hf0 : cfg.fill = true → ∀ e ∈ evs, feedOk e := fun hfl e he => hf hfl e (List.mem_append_left _ he)
  have hg0 := ginv_script cfg evs hf0
  obtain ⟨hrd0, _, hfr0⟩ := asleep_context_has_consumed_everything cfg evs hf0 ht0 hw0
  rw [hv0] at hfr0
  have hd0 := hg0.ctl.not_dropped ht0
  have hend0 : hasEnd (flog cfg evs).fed = false := by
    rw [← hg0.inv.ends hd0, hrd0]; rfl
  have hdata0 : dataOf (flog cfg evs).fed = (flog cfg evs).dec.flatten := by
    have := frames_flatten_eq _ _ _ hfr0
    simpa using this.symm
  obtain ⟨_, hpre, hfed⟩ := flog_append_noSetup cfg evs more hns
  have hfed := hfed hb
  have hdata : dataOf (flog cfg (evs ++ more)).fed = (flog cfg evs).dec.flatten ++ encodeServer p := by
    rw [hfed, dataOf_append_gen, hend0, hdata0, hbytes]; simp
  have hframes : frames (dataOf (flog cfg (evs ++ more)).fed) = some ((flog cfg evs).dec ++ [encodeServer p], []) := by
    rw [hdata, frames_flatten_append _ _ hg0.inv.whole, frames_oneFrame _ (server_packet_is_one_frame p hwf)]
    rfl
  refine ⟨hpre, (decoded_frames_are_reference_frames cfg (evs ++ more) hf).1 _ _ hframes, fun ht1 hw1 => ?_,
    dec_of_spec p hwf⟩
  obtain ⟨_, _, c⟩ := asleep_context_has_consumed_everything cfg (evs ++ more) hf ht1 hw1
  rw [hframes] at c
  simp only [Option.some.injEq, Prod.mk.injEq] at c
  exact ⟨c.1.symm, c.2.symm⟩

/-! ## Non-vacuity (worlds of Lemmas/WorldEx.lean; the script `evsPing` = `SETUP`, a PINGRESP fed in two one-byte chunks,
    `run()`, evaluated stage by stage in Lemmas/WorldFramingEx.lean) -/
section NonVacuity
open Ex

/-- `setup_resets_inbound`: the very first `setup` is accepted -/
example : inbound (({} : World).apply .setup) = [] := setup_resets_inbound {} (by decide) (by decide)

/-- `feed_event_appends_its_bytes`: the serving client `wRun` is fed a PINGRESP in two chunks -/
example : inbound (wRun.apply (.feed [[0xD0], [0]])) = inbound wRun ++ [0xD0, 0] :=
  feed_event_appends_its_bytes wRun [[0xD0], [0]] rfl (by decide) (by decide) (by intro h; cases h)

/-- `feed_appends_to_inbound` under `fill` and `rdp` with a read already pending: the hypotheses are satisfiable there
    too, and the bytes in flight grow by exactly the bytes fed although the reader's script is re-chunked -/
example : inbound (({ wRun with cfg := { fill := true, rdp := true }, reader := [.data [0x30]] } : World).feedEvents
      [.data [0xD0], .data [0]]) = [0x30, 0xD0, 0] := by
  rw [feed_appends_to_inbound _ _ (fun _ => ⟨by intro bs h; simp at h; simp [h], by
    intro bs h
    simp only [List.mem_cons, ReadEv.data.injEq, List.not_mem_nil, or_false] at h
    rcases h with rfl | rfl <;> simp⟩)]
  decide

/-- `yielded_frame_is_the_front_frame`: `connect()` awaiting its response, a CONNACK readable in one read -/
example : inbound (wConn connackOk) = connackOk ++ inbound { wConn connackOk with rx := {}, reader := [] } ∧
    OneFrame connackOk :=
  let h := yielded_frame_is_the_front_frame (wConn connackOk) {} [] connackOk ok_init pn_connackOk
  ⟨h.1, h.2.1⟩

/-- `poll_hands_over_the_front_frames`: the same world — the poll hands exactly the CONNACK to the decoder … -/
example : ctxFrames (wConn connackOk) = [connackOk] := by
  simp [ctxFrames, wConn, nextFrame, pn_connackOk, outFrames]
example : inbound (wConn connackOk) = (ctxFrames (wConn connackOk)).flatten ++ inbound (wConn connackOk).pollCtx :=
  (poll_hands_over_the_front_frames (wConn connackOk) ok_init).1
/-- … and a poll of `run()` reassembles a PINGRESP from two one-byte reads -/
example : ctxFrames (wPing3a.unwake .ctx) = [pingresp] := wPing3a_frames

/-- `handler_input_is_the_decoded_frame`: `run()` serving with a PINGRESP readable: the frame is the PINGRESP and the
    handler's input is its decoding -/
example : iterFrames (wServe [.data pingresp]) = [pingresp] ∧
    (wServe [.data pingresp]).iterIn = some ((wServe [.data pingresp]).inPkt .pingresp) := by
  have hi : iterFrames (wServe [.data pingresp]) = [pingresp] := by
    simp [iterFrames, wServe, senders, nextFrame, pn_pingresp, outFrames]
  refine ⟨hi, ?_⟩
  rw [handler_input_is_the_decoded_frame _ rfl, hi]
  simp only [dec_pingresp]

/-- `loop_handles_exactly_the_decoded_frames`: the same world, a poll with fuel 2: one frame, one handled packet -/
example : (loopFrames 2 (wServe [.data pingresp])).filterMap okOf = [.pingresp] := by
  rw [← loop_handles_exactly_the_decoded_frames,
    World.loopHist_one_frame 0 (wServe [.data pingresp]) pingresp .pingresp rfl (by decide) pn_pingresp dec_pingresp]
  rfl

/-- the script `evsPing` is not refused, feeds `[data [0xD0], data [0]]`, and its ghost records ONE decoded frame, the
    PINGRESP: the conclusions of `decoded_frames_conserve_the_fed_bytes` / `decoded_frames_are_reference_frames` are about
    a non-empty list of frames -/
example : (evsPing.foldl World.step {}).bad = false ∧ (flog {} evsPing).fed = [.data [0xD0], .data [0]] ∧
    (flog {} evsPing).dec = [pingresp] ∧ scriptFed evsPing = [.data [0xD0], .data [0]] := by
  refine ⟨evsPing_ok, ?_, ?_, by decide⟩ <;> rw [evsPing_flog]
example : (flog {} evsPing).dec.flatten ++ inbound (evsPing.foldl World.step {}) = dataOf (flog {} evsPing).fed :=
  (decoded_frames_conserve_the_fed_bytes {} evsPing (by intro h; cases h)).2.2 (by rw [evsPing_world]; decide)
/-- the reference framing of the two fed bytes is the one PINGRESP: the premise of the first part of
    `decoded_frames_are_reference_frames` holds for `evsPing` -/
example : frames (dataOf (flog {} evsPing).fed) = some ([pingresp], []) := by rw [evsPing_flog]; decide
/-- the side condition under `cfg.fill` is satisfiable: `evsPing` has no empty chunk -/
example : ({ fill := true } : Cfg).fill = true → ∀ e ∈ evsPing, feedOk e := by
  intro _ e he
  simp only [evsPing, List.mem_cons, List.not_mem_nil, or_false] at he
  rcases he with rfl | rfl | rfl
  · trivial
  · intro c hc; simp only [List.mem_cons, List.not_mem_nil, or_false] at hc; rcases hc with rfl | rfl <;> simp
  · trivial
/-- … and it can fail: an empty chunk -/
example : ¬ feedOk (.feed [[]]) := by intro h; exact h [] (by simp) rfl

/-- `chunking_independence_scripts`: `evsPing` (two one-byte chunks, then `run`) against a script that has fed the same
    two bytes in ONE chunk and has not started `run()` yet: both are accepted, feed the same bytes, and the frames of the
    second (none yet) are a prefix of the frames of the first (the PINGRESP) -/
example : (flog {} [.setup, .feed [[0xD0, 0]]]).dec <+: (flog {} evsPing).dec ∨
    (flog {} evsPing).dec <+: (flog {} [.setup, .feed [[0xD0, 0]]]).dec :=
  chunking_independence_scripts {} {} [.setup, .feed [[0xD0, 0]]] evsPing (by intro h; cases h) (by intro h; cases h)
    (by decide) evsPing_ok (by decide)

/-- `asleep_context_has_consumed_everything` / `idle_executor_context_has_consumed_everything`: after `evsPing` the
    `run()` future is alive, not flagged and not held … -/
example : (evsPing.foldl World.step {}).task ≠ .none ∧ Task.ctx ∉ (evsPing.foldl World.step {}).woken ∧
    Task.ctx ∉ (evsPing.foldl World.step {}).held := by rw [evsPing_world]; decide
/-- … so everything fed was decoded: the reference framing of the bytes fed is exactly the decoded frames, nothing
    is left in the receive buffer -/
example : frames (dataOf (flog {} evsPing).fed) = some ((flog {} evsPing).dec, []) := by
  have h := (asleep_context_has_consumed_everything {} evsPing (by intro h; cases h)
    (by rw [evsPing_world]; decide) (by rw [evsPing_world]; decide)).2.2
  rwa [show (evsPing.foldl World.step {}).rx.valid = [] by rw [evsPing_world]; decide] at h
/-- `same_bytes_same_frames_when_asleep`: its hypotheses are satisfiable (the same execution on both sides) -/
example : (flog {} evsPing).dec = (flog {} evsPing).dec ∧
    (evsPing.foldl World.step {}).rx.valid = (evsPing.foldl World.step {}).rx.valid :=
  same_bytes_same_frames_when_asleep {} {} evsPing evsPing (by intro h; cases h) (by intro h; cases h)
    (by rw [evsPing_world]; decide) (by rw [evsPing_world]; decide) (by rw [evsPing_world]; decide)
    (by rw [evsPing_world]; decide) rfl

/-- `socket_closed_since_setup` / `no_socket_closed_while_transport_open`: `evsPing` splits at its `setup`, is accepted,
    has no write limit, feeds no end-of-stream event and well-formed bytes -/
example : ∃ added, (([] ++ Ev.setup :: [.feed [[0xD0], [0]], .run]).foldl World.step {}).out =
      (([] ++ [Ev.setup]).foldl World.step {}).out ++ added ∧ ∀ c, Obs.ret c (.err .socketClosed) ∉ added :=
  no_socket_closed_while_transport_open {} [] [.feed [[0xD0], [0]], .run] (by decide) (by intro h; cases h) evsPing_ok rfl
    (by decide) (by decide)
/-- `socket_closed_needs_end_event_partial`: the same script satisfies its hypotheses -/
example : ∃ added, (([] ++ Ev.setup :: [.feed [[0xD0], [0]], .run]).foldl World.step {}).out =
      (([] ++ [Ev.setup]).foldl World.step {}).out ++ added ∧
    ∀ c, Obs.ret c (.err .socketClosed) ∈ added →
      (∃ e ∈ [Ev.feed [[0xD0], [0]], .run], e = .feedEof ∨ e = .feedErr ∨ ∃ chunks, e = .feed chunks ∧ [] ∈ chunks) ∨
      frames (dataOf (List.flatMap evReads [Ev.feed [[0xD0], [0]], .run])) = none :=
  socket_closed_needs_end_event_partial {} [] [.feed [[0xD0], [0]], .run] (by decide) (by intro h; cases h) evsPing_ok rfl
/-- the third cause is real, so `socket_closed_only_for_a_cause` cannot be strengthened to "`SocketClosed` only after `feedEof` / `feedErr`":
    with a malformed remaining-length field readable — no end-of-stream event anywhere, no write limit — a poll of `run()`
    returns `SocketClosed`; the bytes in flight then have no reference framing (`SockCause`, third alternative) -/
example : (wServe [.data malformed]).pollCtx.out = [.ret .run (.err .socketClosed)] ∧
    hasEnd (wServe [.data malformed]).reader = false ∧ (wServe [.data malformed]).cfg.wlimit = none ∧
    frames (inbound (wServe [.data malformed])) = none :=
  ⟨wServe_malformed_closed, by decide, rfl, by decide⟩
/-- … and so is the second one: an empty chunk is a zero-length read, i.e. end-of-stream, without any `feedEof` -/
example : hasEnd (evReads (.feed [[]])) = true := by decide

/-- `server_packet_is_one_frame` / `fed_server_packet_is_decoded`: after `evsPing` the context sleeps with an empty receive
    buffer; one more PINGRESP (`morePing`, again two one-byte chunks) is a well-formed server packet whose encoding is
    exactly the bytes fed, and the extended script is accepted -/
example : WF .pingresp ∧ OneFrame (encodeServer .pingresp) ∧
    dataOf (morePing.flatMap evReads) = encodeServer .pingresp := ⟨by decide, server_packet_is_one_frame _ (by decide), by decide⟩
example : (flog {} (evsPing ++ morePing)).dec <+: [pingresp] ++ [encodeServer .pingresp] ∧
    decodeRx (encodeServer .pingresp) = .ok (expected .pingresp) := by
  have h := fed_server_packet_is_decoded {} evsPing morePing .pingresp (by decide) (by intro h; cases h)
    (by rw [evsPing_world]; decide) (by rw [evsPing_world]; decide) (by rw [evsPing_world]; decide) (by decide) (by decide)
    evsPing_more_ok
  rw [evsPing_flog] at h
  exact ⟨h.2.1, h.2.2.2⟩

end NonVacuity

#print axioms setup_resets_inbound
#print axioms feed_appends_to_inbound
#print axioms feed_event_appends_its_bytes
#print axioms yielded_frame_is_the_front_frame
#print axioms poll_hands_over_the_front_frames
#print axioms handler_input_is_the_decoded_frame
#print axioms loop_handles_exactly_the_decoded_frames
#print axioms fed_is_what_the_script_feeds
#print axioms decoded_frames_conserve_the_fed_bytes
#print axioms decoded_frames_are_reference_frames
#print axioms chunking_independence_world
#print axioms chunking_independence_scripts
#print axioms asleep_context_has_consumed_everything
#print axioms idle_executor_context_has_consumed_everything
#print axioms same_bytes_same_frames_when_asleep
#print axioms socket_closed_only_for_a_cause
#print axioms socket_closed_since_setup
#print axioms socket_closed_needs_end_event_partial
#print axioms no_socket_closed_while_transport_open
#print axioms server_packet_is_one_frame
#print axioms fed_server_packet_is_decoded

end Poster

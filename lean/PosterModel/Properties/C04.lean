/-
  Properties/C04.lean — no packet order or transport fault can panic or wedge the client (actor part).

  C04: "For every byte sequence and every sequence of well- or ill-formed, expected or unexpected packets the
  transport delivers during connect, authorize or run, and for every transport fault (read or write error,
  end-of-stream at any offset), the client never panics and never stalls with unread input: the affected call
  either keeps serving or returns an error. The only exemption is the documented assertion on brokers that
  announce no subscription-identifier support."

  The decoder part (no byte sequence makes `decodeRx` panic on a non-empty frame) is Properties/C04Decode.lean,
  the framing part (index safety, frames of length ≥ 2) is Properties/C03.lean. This file is about the actor:
  `Ctx.handlePkt` on unexpected packets, `World.awaitFirst` / `World.runLoop` / `World.resumeOp` /
  `World.pollTask` — every place an `Obs.panic` can be appended — and transport faults.
-/
import PosterModel.Lemmas.WorldPanic
import PosterModel.Lemmas.WorldReach
import PosterModel.Lemmas.WorldEx
import PosterModel.Properties.C13

namespace Poster
open Framing

/-- **An acknowledgement nobody waits for is ignored.** A PUBACK / PUBREC / PUBCOMP / SUBACK / UNSUBACK /
    PINGRESP (or PUBREL) whose action identifier is not registered in `awaiting_ack`: no oneshot is completed,
    `awaiting_ack` is unchanged, and `run()` goes on (for PUBREL — which always owes a PUBCOMP — provided the
    transport takes that write). -/
theorem unknown_identifier_ignored (c : Ctx) (alive : Nat → Bool) (p : RxPacket) (wok : Bool) (aid : Nat)
    (ha : rxActionId p = some aid) (hn : aid ∉ c.awaiting.map (·.1)) :
    sendsOf (c.handlePkt alive p wok).2.1 = [] ∧
    (c.handlePkt alive p wok).1.awaiting = c.awaiting ∧
    ((wok = true ∨ ∀ a, p ≠ .pubrel a) → (c.handlePkt alive p wok).2.2 = .cont) := by
  cases p.kind with
  | pubrel a => exact ⟨rfl, rfl, fun h => h.elim (fun h => by simp [Ctx.handlePkt_pubrel_eq, h]) (absurd rfl <| · a)⟩
  | ack p _ _ hrel => -- the six completing arms: nobody is registered under `aid`, so `complete` does nothing
    have hl := (lookupFirst_none_iff _ _).2 hn
    rw [Ctx.handlePkt_ack_eq c alive p wok aid ha hrel, Ctx.complete_effs, hl]
    exact ⟨rfl, eraseFirst_absent _ _ hl, fun _ => rfl⟩
  | idle p hi => rw [hi] at ha; cases ha
  | publish | disconnect => cases ha
/-- **A CONNACK or AUTH while `run()` is serving is ignored**: no state change, no effect, `run()` goes on. -/
theorem connack_auth_while_running_ignored (c : Ctx) (alive : Nat → Bool) (wok : Bool) (k : ConnackRx)
    (au : AuthRx) :
    c.handlePkt alive (.connack k) wok = (c, [], .cont) ∧ c.handlePkt alive (.auth au) wok = (c, [], .cont) :=
  ⟨rfl, rfl⟩

/-- **An unexpected first packet is an error, not a panic.** While `connect()` / `authorize()` wait for the
    first response, any decodable packet that is neither CONNACK nor AUTH makes the call return a codec error
    (and so does an undecodable frame). -/
theorem unexpected_first_packet_is_an_error (w : World) (call : Call) (t : ConnectTx) (a : AuthTx) (rx' : Rx)
    (rd' : List ReadEv) (fr : Bytes) (hp : pollNext w.rx w.reader = (rx', rd', .item fr)) :
    (∀ p, decodeRx fr = .ok p → (∀ k, p ≠ .connack k) → (∀ au, p ≠ .auth au) →
      w.awaitFirst call t a = ({ w with rx := rx', reader := rd' }).finish call (.err .codecError)) ∧
    (decodeRx fr = .err →
      w.awaitFirst call t a = ({ w with rx := rx', reader := rd' }).finish call (.err .codecError)) :=
  ⟨fun p hd h1 h2 => (World.FirstEnd.unexpected rx' rd' fr p hp hd h1 h2).eq,
    fun hd => (World.FirstEnd.codec rx' rd' fr hp hd).eq⟩

/-- what `Wait.accepts k p` says: the packet in the oneshot is of the kind the suspended handle future
    waits for (a fire-and-forget future accepts no packet at all: it is completed with `()`). -/
theorem wait_accepts_iff (k : Wait) (p : RxPacket) :
    World.Wait.accepts k p = true ↔
      (k = .puback ∧ ∃ a, p = .puback a) ∨ (k = .pubrec ∧ ∃ a, p = .pubrec a) ∨
      (k = .pubcomp ∧ ∃ a, p = .pubcomp a) ∨ (k = .suback ∧ ∃ a, p = .suback a) ∨
      (k = .unsuback ∧ ∃ a, p = .unsuback a) ∨ (k = .pingresp ∧ p = .pingresp) := by
  constructor
  · intro h
    unfold World.Wait.accepts at h
    split at h
    · exact .inl ⟨rfl, _, rfl⟩
    · exact .inr (.inl ⟨rfl, _, rfl⟩)
    · exact .inr (.inr (.inl ⟨rfl, _, rfl⟩))
    · exact .inr (.inr (.inr (.inl ⟨rfl, _, rfl⟩)))
    · exact .inr (.inr (.inr (.inr (.inl ⟨rfl, _, rfl⟩))))
    · exact .inr (.inr (.inr (.inr (.inr ⟨rfl, rfl⟩))))
    · cases h
  · rintro (⟨rfl, a, rfl⟩ | ⟨rfl, a, rfl⟩ | ⟨rfl, a, rfl⟩ | ⟨rfl, a, rfl⟩ | ⟨rfl, a, rfl⟩ | ⟨rfl, rfl⟩) <;> rfl

/-- **(i), (ii) for `connect()` / `authorize()`.** Waiting for the first response appends
    `PANIC ctx assert-subid` exactly when the first response is a CONNACK with reason < 0x80 announcing no
    subscription-identifier support (the documented assertion), and `PANIC ctx other` exactly when the decoder
    panics on the frame the framing layer handed over; otherwise it appends no panic at all. -/
theorem awaitFirst_panics (w : World) (call : Call) (t : ConnectTx) (a : AuthTx) :
    ((w.awaitFirst call t a).out = w.out ++ [.panic .ctx "assert-subid"] ↔
      ∃ rx' rd' fr k, pollNext w.rx w.reader = (rx', rd', .item fr) ∧ decodeRx fr = .ok (.connack k) ∧
        k.reason < 128 ∧ k.subIdAvail = false) ∧
    ((w.awaitFirst call t a).out = w.out ++ [.panic .ctx "other"] ↔
      ∃ rx' rd' fr, pollNext w.rx w.reader = (rx', rd', .item fr) ∧ decodeRx fr = .panic) ∧
    (∀ tk cls, (∃ pre, (w.awaitFirst call t a).out = w.out ++ pre ∧ Obs.panic tk cls ∈ pre) →
      tk = .ctx ∧ (cls = "assert-subid" ∨ cls = "other")) := by
  refine ⟨⟨fun h => ?_, ?_⟩, ⟨fun h => ?_, ?_⟩, ?_⟩
  · rcases World.awaitFirst_logged h with e | ⟨_, e, ⟨_, hr, _⟩ | ⟨_, hx⟩ | ⟨hr, _⟩⟩ <;> cases e
    · cases hr
    · exact hx
    · simp at hr
  · rintro ⟨rx', rd', fr, k, hp, hd, hk, hs⟩
    rw [(World.FirstEnd.assertSubId rx' rd' fr k hp hd hk hs).eq]; rfl
  · rcases World.awaitFirst_logged h with e | ⟨_, e, ⟨_, hr, _⟩ | ⟨hr, _⟩ | ⟨_, hx⟩⟩ <;> cases e
    · cases hr
    · simp at hr
    · exact hx
  · rintro ⟨rx', rd', fr, hp, hd⟩
    rw [(World.FirstEnd.panic rx' rd' fr hp hd).eq]; rfl
  · rintro tk cls ⟨pre, hpre, hmem⟩
    rcases World.awaitFirst_logged hpre with rfl | ⟨_, rfl, ⟨_, rfl, _⟩ | ⟨rfl, _⟩ | ⟨rfl, _⟩⟩ <;>
      simp only [List.mem_singleton, List.not_mem_nil, Obs.panic.injEq, reduceCtorEq] at hmem
    · exact ⟨hmem.1, Or.inl hmem.2⟩
    · exact ⟨hmem.1, Or.inr hmem.2⟩

/-- **(ii) for `run()`, one step.** With nothing queued and a sender alive, the loop appends
    `PANIC ctx other` when — and, by `world_panics_enumerated`, only when — the decoder panics on the frame the
    framing layer handed over. -/
theorem runLoop_panic_step (f : Nat) (w : World) (rx' : Rx) (rd' : List ReadEv) (fr : Bytes)
    (hq : w.queue = []) (hs : w.senders ≠ 0) (hp : pollNext w.rx w.reader = (rx', rd', .item fr))
    (hd : decodeRx fr = .panic) :
    w.runLoop (f + 1) = ({ w with rx := rx', reader := rd', task := .none }).emit (.panic .ctx "other") :=
  (World.RunEnd.panic rx' rd' fr hq hs hp hd).loop f

/-- **(iii) for a handle future.** Resuming an operation with the value of its oneshot appends
    `PANIC op<id> unreachable` exactly when the oneshot holds a packet whose kind is not the one the operation
    waits for; the operation is removed either way. (`Ctx.complete` only ever sends an acknowledgement to the
    oneshot registered under that acknowledgement's own action identifier, so this does not happen as long as
    action identifiers are not reused while in flight.) -/
theorem resumeOp_panics (w : World) (id s : Nat) (k : Wait) (v : SlotVal) :
    (w.resumeOp id s k v).out = w.out ++ [.panic (.op id) "unreachable"] ↔
      ∃ p, v = .pkt p ∧ World.Wait.accepts k p = false := by
  constructor
  · intro h
    by_cases hm : ∃ p, v = .pkt p ∧ World.Wait.accepts k p = false
    · exact hm
    · exfalso
      have hc : ∀ p, v = .pkt p → World.Wait.accepts k p = true := by
        intro p hv
        cases ha : World.Wait.accepts k p with
        | true => rfl
        | false => exact absurd ⟨p, hv, ha⟩ hm
      obtain ⟨added, e, hcalm⟩ := World.resumeOp_calm w id s k v hc
      rw [e] at h
      have : added = [.panic (.op id) "unreachable"] := List.append_cancel_left h
      subst this
      exact hcalm _ (by simp) (.op id) "unreachable" rfl
  · rintro ⟨p, rfl, hp⟩
    exact (World.resumeOp_panic w id s k p hp).1

/-- **The panics of the whole client, enumerated.** One poll of any task appends observations to the log;
    every `PANIC` among them is one of:
    (i) `ctx assert-subid` — the task polled is the `connect()` / `authorize()` future and the first response
        is a CONNACK with reason < 0x80 and no subscription-identifier support (the documented assertion);
    (ii) `ctx other` — the decoder panicked on a frame emitted by `poll_next` from a framing state reachable
        from the current one (excluded by `reachable_client_never_panics_other`);
    (iii) `op<id> unreachable` — the task polled is that handle future and its oneshot holds a packet of a kind
        it does not wait for. -/
theorem world_panics_enumerated (w : World) (t : Task) :
    ∃ added, (w.pollTask t).out = w.out ++ added ∧ ∀ tk cls, Obs.panic tk cls ∈ added →
      (t = .ctx ∧ tk = .ctx ∧ cls = "assert-subid" ∧ ∃ call tx a st rx' rd' fr k,
        w.task = .connecting call tx a st ∧ pollNext w.rx w.reader = (rx', rd', .item fr) ∧
        decodeRx fr = .ok (.connack k) ∧ k.reason < 128 ∧ k.subIdAvail = false) ∨
      (t = .ctx ∧ tk = .ctx ∧ cls = "other" ∧ ∃ rx rd rx' rd' fr, (Reach w.rx → Reach rx) ∧
        pollNext rx rd = (rx', rd', .item fr) ∧ decodeRx fr = .panic) ∨
      (∃ id s k p, t = .op id ∧ tk = .op id ∧ cls = "unreachable" ∧ w.opSt id = some (.wait s k) ∧
        w.slot s = some (.full (.pkt p)) ∧ World.Wait.accepts k p = false) := by
  cases t with
  | ctx =>
    obtain ⟨added, e, hP⟩ := World.pollCtx_panics (w.unwake .ctx)
    refine ⟨added, e, fun tk cls hmem => ?_⟩
    rcases hP _ hmem with hc | ⟨he, call, tx, a, st, rx', rd', fr, k, h1, h2, h3, h4, h5⟩ |
        ⟨he, rx, rd, rx', rd', fr, h1, h2, h3⟩
    · exact absurd rfl (hc tk cls)
    · simp only [Obs.panic.injEq] at he
      exact Or.inl ⟨rfl, he.1, he.2, call, tx, a, st, rx', rd', fr, k, by simpa using h1, by simpa using h2,
        h3, h4, h5⟩
    · simp only [Obs.panic.injEq] at he
      exact Or.inr (Or.inl ⟨rfl, he.1, he.2, rx, rd, rx', rd', fr, by simpa using h1, h2, h3⟩)
  | op id =>
    rcases World.pollOp_panics (w.unwake (.op id)) id with ⟨s, k, p, h1, h2, h3, h4⟩ | ⟨_, added, e, hc⟩
    · refine ⟨[.panic (.op id) "unreachable"], h4, fun tk cls hmem => ?_⟩
      simp only [List.mem_singleton, Obs.panic.injEq] at hmem
      exact Or.inr (Or.inr ⟨id, s, k, p, rfl, hmem.1, hmem.2, by simpa using h1, by simpa using h2, h3⟩)
    · exact ⟨added, e, fun tk cls hmem => absurd rfl (hc _ hmem tk cls)⟩
  | st id =>
    obtain ⟨added, e, hc⟩ := World.pollStream_calm (w.unwake (.st id)) id
    exact ⟨added, e, fun tk cls hmem => absurd rfl (hc _ hmem tk cls)⟩

/-- **From reachable framing states the decoder panic is impossible**: the framing layer only hands over
    frames of at least two bytes (`framing_index_safe`) and the decoder does not panic on a non-empty frame
    (`decodeRx_never_panics`). So the only panics one poll of any task can produce are the documented
    assertion (i) and the wrong-kind packet in a oneshot (iii). -/
theorem reachable_client_never_panics_other (w : World) (t : Task) (hr : Reach w.rx) :
    ∃ added, (w.pollTask t).out = w.out ++ added ∧ ∀ tk cls, Obs.panic tk cls ∈ added →
      (t = .ctx ∧ tk = .ctx ∧ cls = "assert-subid" ∧ ∃ call tx a st rx' rd' fr k,
        w.task = .connecting call tx a st ∧ pollNext w.rx w.reader = (rx', rd', .item fr) ∧
        decodeRx fr = .ok (.connack k) ∧ k.reason < 128 ∧ k.subIdAvail = false) ∨
      (∃ id s k p, t = .op id ∧ tk = .op id ∧ cls = "unreachable" ∧ w.opSt id = some (.wait s k) ∧
        w.slot s = some (.full (.pkt p)) ∧ World.Wait.accepts k p = false) := by
  obtain ⟨added, e, h⟩ := world_panics_enumerated w t
  refine ⟨added, e, fun tk cls hmem => ?_⟩
  rcases h tk cls hmem with h1 | ⟨_, _, _, rx, rd, rx', rd', fr, h2, h3, h4⟩ | h3
  · exact Or.inl h1
  · exact absurd h4 (World.no_decoder_panic (h2 hr) h3)
  · exact Or.inr h3

/-- **A transport fault makes the affected call return an error — it neither panics nor hangs.**
    (a) `poll_next` reporting the end of the stream (end-of-stream, a read error, or a malformed length field —
        `pollNext_spec` in C03 says these are the only reasons) makes `run()` return `SocketClosed` …
    (b) … and `connect()` / `authorize()` return `SocketClosed`;
    (c) a handler whose write the transport cannot take is run with `wok = false`; whenever such a handler
        attempts a write, `run()` ends with `SocketClosed`. -/
theorem transport_fault_returns_error (w : World) :
    (∀ f rx' rd', w.queue = [] → w.senders ≠ 0 → pollNext w.rx w.reader = (rx', rd', .none) →
      w.runLoop (f + 1) = ({ w with rx := rx', reader := rd' }).finish .run (.err .socketClosed)) ∧
    (∀ call t a rx' rd', pollNext w.rx w.reader = (rx', rd', .none) →
      w.awaitFirst call t a = ({ w with rx := rx', reader := rd' }).finish call (.err .socketClosed)) ∧
    (∀ h : Bool → Ctx × List Eff × Flow, w.canWrite (World.writeNeed (h true).2.1) = false →
      (w.runHandler h).2 = (h false).2.2 ∧ (w.runHandler h).1.c = (h false).1) ∧
    (∀ (c : Ctx) (m : Msg), writesOf (c.handleMsg m false).2.1 ≠ [] →
      World.flowRet (c.handleMsg m false).2.2 = .err .socketClosed) ∧
    (∀ (c : Ctx) (alive : Nat → Bool) (p : RxPacket), writesOf (c.handlePkt alive p false).2.1 ≠ [] →
      World.flowRet (c.handlePkt alive p false).2.2 = .err .socketClosed) := by
  refine ⟨fun f rx' rd' hq hs hp => ?_, fun call t a rx' rd' hp => ?_, fun h hc => ?_, fun c m hw => ?_,
    fun c alive p hw => ?_⟩
  · exact (World.RunEnd.sock rx' rd' hq hs hp).loop f
  · exact (World.FirstEnd.sock rx' rd' hp).eq
  · rw [World.runHandler_eq, hc]; simp
  · rw [((handleMsg_flow c m false).2.1).2 ⟨rfl, hw⟩]; rfl
  · rw [((handlePkt_flow c alive p false).2.2.1).2 ⟨rfl, hw⟩]; rfl

/-- **The context never goes to sleep on unread input.** Whenever a poll leaves the `connect()` /
    `authorize()` / `run()` future alive (from a framing state satisfying the invariant): the transport's
    event queue has been read to the end, or the task has woken itself and will be polled again; the framing
    machine is idle and what it has buffered contains no complete packet (`framing_no_lost_wakeup`). So the
    executor's stall check — context alive with unread transport events and nobody woken — cannot fire. -/
theorem stall_impossible_after_pending (w : World) (hok : w.rx.Ok) (h : (w.pollCtx).task ≠ .none) :
    ((w.pollCtx).reader = [] ∨ .ctx ∈ (w.pollCtx).woken) ∧ (w.pollCtx).rx.st = .idle ∧
    frames (w.pollCtx).rx.valid = some ([], (w.pollCtx).rx.valid) := by
  have fin : ∀ (rx0 : Rx) (rd0 : List ReadEv) (r : World), rx0.Ok →
      pollNext rx0 rd0 = (r.rx, r.reader, .pending) →
      ((r.reader = [] ∧ r.readerReg = true) ∨ .ctx ∈ r.woken) →
      (r.reader = [] ∨ .ctx ∈ r.woken) ∧ r.rx.st = .idle ∧ frames r.rx.valid = some ([], r.rx.valid) := by
    intro rx0 rd0 r h0 hp hw
    obtain ⟨_, h2, h3⟩ := framing_no_lost_wakeup rx0 rd0 r.rx r.reader h0 hp
    exact ⟨hw.imp (fun x => x.1) id, h2, h3⟩
  have p := World.pollCtx_pending w hok h
  obtain ⟨wm, hokm, hp⟩ := p.read
  exact fin _ _ _ hokm hp p.armed

/-- **The framing state stays reachable along every script.** Every script event — with everything the
    executor does after it: drain, sweep, drain, stall check — takes a world whose framing state is reachable
    (`Framing.Reach`: obtained from the initial state by `poll_next` calls) to another such world. `SETUP`
    installs the initial state; nothing but `poll_next` ever touches it. So the hypotheses `Reach w.rx` /
    `w.rx.Ok` of the theorems of C04, C13 and C16 hold in every world a script can produce. -/
theorem step_preserves_reach (w : World) (e : Ev) (hr : Reach w.rx) : Reach (w.step e).rx :=
  (World.step_safe w e hr).1

/-- every world of every run has a reachable framing state (and so satisfies the framing invariant) -/
theorem run_states_reachable (cfg : Cfg) (evs : List Ev) :
    Reach (evs.foldl World.step { cfg := cfg }).rx ∧ (evs.foldl World.step { cfg := cfg }).rx.Ok := by
  have h := (World.steps_safe evs { cfg := cfg } Reach.init).1
  exact ⟨h, reach_ok h⟩

/-- **No script whatsoever makes the decoder panic.** Whatever the configuration (executor, read chunking,
    write limits) and whatever the events — any bytes fed in any chunks, end of stream, read errors, any
    operations, drops and polls in any order — the transcript of the run contains no `PANIC ctx other`. -/
theorem run_never_panics_other (cfg : Cfg) (evs : List Ev) : Obs.panic .ctx "other" ∉ World.run cfg evs :=
  (World.runAny_run cfg evs).no_other

/-! ## Non-vacuity: the hypotheses are satisfiable and the conclusions are not trivial (worlds of Lemmas/WorldEx.lean) -/
section NonVacuity
open Ex

/-- a PUBACK for packet 9 which nobody awaits (`unknown_identifier_ignored` applies): nothing is sent -/
example : rxActionId (.puback { packetId := 9 }) = some (actionId 4 9) ∧
    actionId 4 9 ∉ wRun.c.awaiting.map (·.1) ∧
    (wRun.c.handlePkt (fun _ => true) (.puback { packetId := 9 }) true).2 = ([], .cont) := by decide
/-- (i) the documented assertion: a CONNACK announcing no subscription-identifier support -/
example : ((wConn connackNoSubId).awaitFirst .connect {} {}).out = [.panic .ctx "assert-subid"] :=
  (awaitFirst_panics (wConn connackNoSubId) .connect {} {}).1.mpr
    ⟨{}, [], connackNoSubId, kNoSubId, pn_connackNoSubId, dec_connackNoSubId, by decide, rfl⟩
/-- a PINGRESP as the first response is an error, not a panic -/
example : ((wConn pingresp).awaitFirst .connect {} {}).out = [.ret .connect (.err .codecError)] := by
  rw [(unexpected_first_packet_is_an_error (wConn pingresp) .connect {} {} {} [] pingresp pn_pingresp).1
    .pingresp dec_pingresp (by intro k h; cases h) (by intro k h; cases h)]
  rfl
/-- (iii) a PINGRESP in the oneshot of an operation waiting for a PUBACK -/
example : (wRun.resumeOp 1 2 .puback (.pkt .pingresp)).out = [.panic (.op 1) "unreachable"] :=
  (resumeOp_panics wRun 1 2 .puback (.pkt .pingresp)).mpr ⟨_, rfl, rfl⟩
/-- the hypothesis `Reach w.rx` of `reachable_client_never_panics_other` holds for a fresh transport, and is
    kept by every `poll_next` -/
example : Reach (wConn connackOk).rx ∧ Reach (pollNext (wConn connackOk).rx (wConn connackOk).reader).1 :=
  ⟨Reach.init, Reach.poll _ Reach.init⟩
/-- end of stream while connecting: `SocketClosed` -/
example : (({ wConn [] with reader := [.eof] } : World).awaitFirst .connect {} {}).out =
    [.ret .connect (.err .socketClosed)] := by
  rw [(transport_fault_returns_error _).2.1 .connect {} {} {} [.eof] pn_eof]; rfl
/-- a write the transport refuses (limit 0): the PUBREL handler's flow is `SocketClosed` -/
example : World.flowRet (wRun.c.handlePkt (fun _ => true) (.pubrel { packetId := 3 }) false).2.2 =
    .err .socketClosed := by decide
/-- pending with everything read: the hypotheses and conclusion of `stall_impossible_after_pending` -/
example : (wConn [0x20]).rx.Ok ∧ ((wConn [0x20]).pollCtx).task ≠ .none ∧ ((wConn [0x20]).pollCtx).reader = [] := by
  have : (wConn [0x20]).pollCtx = (wConn [0x20]).awaitFirst .connect {} {} := rfl
  rw [this]
  refine ⟨ok_init, ?_, ?_⟩ <;> simp [World.awaitFirst, wConn, pn_pending]

end NonVacuity

#print axioms unknown_identifier_ignored
#print axioms connack_auth_while_running_ignored
#print axioms unexpected_first_packet_is_an_error
#print axioms wait_accepts_iff
#print axioms awaitFirst_panics
#print axioms runLoop_panic_step
#print axioms resumeOp_panics
#print axioms world_panics_enumerated
#print axioms reachable_client_never_panics_other
#print axioms transport_fault_returns_error
#print axioms stall_impossible_after_pending
#print axioms step_preserves_reach
#print axioms run_states_reachable
#print axioms run_never_panics_other

end Poster

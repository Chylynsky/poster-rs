/-
  Properties/C02World.lean — C02 at the level of the whole client: what the caller SEES of a well-formed server packet.

  C02: "For every well-formed MQTT 5 packet a server may send (…), including the shortened forms the standard allows, any
  legal set of properties in any order and repeated user properties, the client accepts the packet. Every value it then
  exposes through its response, error and message accessors equals the value that was encoded, and absent properties read
  as the defaults the standard prescribes."

  Properties/C02.lean proves `decodeRx (encodeServer p) = .ok (expected p)` for every well-formed `p`. Here the decoded
  record is followed to the observation through which the caller reads it: an acknowledgement read by the `run()` loop
  reaches the oneshot of the operation registered under its action identifier, and the `DONE id r` of that operation's
  next poll carries the values of the specification-level packet; a server DISCONNECT is what `run()` returns; the
  CONNACK / AUTH is what `connect()` / `authorize()` returns; a PUBLISH is delivered to the stream registered under its
  Subscription Identifier.
-/
import PosterModel.Lemmas.WorldResumeLive
import PosterModel.Properties.C02
import PosterModel.Properties.C13
import PosterModel.Properties.C17World
import PosterModel.Properties.C07World
import PosterModel.Lemmas.WorldStreamEx


namespace Poster
open Framing World Spec Spec.Server

/-- **A well-formed acknowledgement reaches the future registered for it, unchanged.** `W13.Awaits w fr aid s id k`:
    the `run()` loop of `w` is about to read the frame `fr`, and operation `id` waits with kind `k` on the empty oneshot
    `s`, the first waiter registered under the action identifier `aid`. If `fr` is the encoding of a well-formed server
    packet `p` whose decoded form has the action identifier `aid` (and is not a PUBREL), then after the poll of `run()`
    the oneshot holds exactly `expected p`, and — if that is the acknowledgement `k` waits for, with result `r` — the next
    poll of the operation logs `DONE id r` and removes it. -/
theorem server_ack_reaches_its_future (w : World) (p : ServerPacket) (aid s id : Nat) (k : Wait) (r : DoneRes)
    (hwf : WF p) (h : W13.Awaits w (encodeServer p) aid s id k)
    (haid : rxActionId (expected p) = some aid) (hrel : ∀ a, expected p ≠ .pubrel a)
    (hr : W13.doneOf k (expected p) = some r) :
    w.pollCtx.slot s = some (.full (.pkt (expected p))) ∧
    (w.pollCtx.pollOp id).out = w.pollCtx.out ++ [.done id r] ∧
    (w.pollCtx.pollOp id).ops = eraseFirst id w.pollCtx.ops := by
  obtain ⟨rx', rd', hp⟩ := h.frame
  obtain ⟨a1, a2, _, _⟩ := ack_completes_waiting_future w h.own h.task rx' rd' _ (expected p) aid s id k h.queue h.senders hp
    (dec_of_spec p hwf) haid hrel h.first h.op h.empty
  exact ⟨a1, (W13.pollOp_done w.pollCtx id s k (expected p) r a2 a1 hr).2⟩

/-- **PUBACK accessors.** A well-formed PUBACK (any of the three forms) for packet identifier `pid`, read by the loop
    while the QoS 1 publish `id` waits for it: `publish()` returns `Ok` for a reason code below 0x80 and otherwise the
    error `PubackError` carrying the reason code sent, the Reason String sent (`none` if absent) and the User
    Properties sent, in wire order with repeats. -/
theorem puback_accessors (w : World) (form : AckForm) (pid reason : Nat) (props : List Property) (s id : Nat)
    (hwf : WF (.puback form pid reason props))
    (h : W13.Awaits w (encodeServer (.puback form pid reason props)) (actionId 4 pid) s id .puback) :
    (w.pollCtx.pollOp id).out = w.pollCtx.out ++ [.done id
      (if reason ≥ 128 then .errAck .pubackError reason (getBytes 31 props) (users props) else .ok)] :=
  (server_ack_reaches_its_future w _ _ s id .puback _ hwf h rfl (fun a e => by cases e) rfl).2.1

/-- **PUBREC accessors.** A well-formed PUBREC for `pid` while the QoS 2 publish `id` waits for it: with a reason code
    of 0x80 or above `publish()` returns `PubrecError` with the reason code, Reason String and User Properties sent;
    with a reason code below 0x80 nothing is returned yet — the future queues the PUBREL for the SAME packet identifier,
    registered under the PUBCOMP's action identifier, and waits on its second oneshot. -/
theorem pubrec_accessors (w : World) (form : AckForm) (pid reason : Nat) (props : List Property) (s id : Nat)
    (hwf : WF (.pubrec form pid reason props))
    (h : W13.Awaits w (encodeServer (.pubrec form pid reason props)) (actionId 5 pid) s id .pubrec) :
    (reason ≥ 128 → (w.pollCtx.pollOp id).out = w.pollCtx.out ++ [.done id
      (.errAck .pubrecError reason (getBytes 31 props) (users props))]) ∧
    (reason < 128 → (w.pollCtx.pollOp id).out = w.pollCtx.out ∧
      (w.pollCtx.pollOp id).opSt id = some (.wait (s + 1) .pubcomp) ∧
      (w.pollCtx.pollOp id).queue = w.pollCtx.queue ++ [.awaitAck (actionId 7 pid) (ackBytes 0x62 pid) (s + 1)]) := by
  obtain ⟨rx', rd', hp⟩ := h.frame
  obtain ⟨a1, a2, _, _⟩ := ack_completes_waiting_future w h.own h.task rx' rd' _ _ (actionId 5 pid) s id .pubrec h.queue
    h.senders hp (dec_of_spec _ hwf) rfl (fun a e => by cases e) h.first h.op h.empty
  refine ⟨fun hr => ?_, fun hr => ?_⟩
  · exact (W13.pollOp_done w.pollCtx id s .pubrec _ _ a2 a1 (by simp [expected, expectedAck, W13.doneOf, hr])).2.1
  · have hc : w.pollCtx.hasCtx = true := by
      rw [(hand_pollCtx w).act.hasCtx_eq]
      exact (h.own.waitOwn id s .pubrec h.op h.empty).1
    obtain ⟨b1, b2, b3⟩ := W13.pollOp_pubrec_goes_on w.pollCtx id s (expectedAck pid reason props) a2 a1 hr hc
    exact ⟨b2, b1, b3⟩

/-- **PUBCOMP accessors.** A well-formed PUBCOMP for `pid` while the QoS 2 publish `id` waits for it (second phase):
    `publish()` returns `Ok`, or `PubcompError` with the reason code, Reason String and User Properties sent. -/
theorem pubcomp_accessors (w : World) (form : AckForm) (pid reason : Nat) (props : List Property) (s id : Nat)
    (hwf : WF (.pubcomp form pid reason props))
    (h : W13.Awaits w (encodeServer (.pubcomp form pid reason props)) (actionId 7 pid) s id .pubcomp) :
    (w.pollCtx.pollOp id).out = w.pollCtx.out ++ [.done id
      (if reason ≥ 128 then .errAck .pubcompError reason (getBytes 31 props) (users props) else .ok)] :=
  (server_ack_reaches_its_future w _ _ s id .pubcomp _ hwf h rfl (fun a e => by cases e) rfl).2.1

/-- **SUBACK accessors.** A well-formed SUBACK for `pid` while the `subscribe()` future `id` waits for it: the response
    exposes the Reason String sent (`none` if absent), the User Properties sent in wire order, and the reason codes of
    the payload, one per topic filter, in order. -/
theorem suback_accessors (w : World) (pid : Nat) (props : List Property) (reasons : List Nat) (s id : Nat)
    (hwf : WF (.suback pid props reasons))
    (h : W13.Awaits w (encodeServer (.suback pid props reasons)) (actionId 9 pid) s id .suback) :
    (w.pollCtx.pollOp id).out = w.pollCtx.out ++ [.done id (.okAck false (getBytes 31 props) (users props) reasons)] :=
  (server_ack_reaches_its_future w _ _ s id .suback _ hwf h rfl (fun a e => by cases e) rfl).2.1

/-- **UNSUBACK accessors**: likewise for `unsubscribe()`. -/
theorem unsuback_accessors (w : World) (pid : Nat) (props : List Property) (reasons : List Nat) (s id : Nat)
    (hwf : WF (.unsuback pid props reasons))
    (h : W13.Awaits w (encodeServer (.unsuback pid props reasons)) (actionId 11 pid) s id .unsuback) :
    (w.pollCtx.pollOp id).out = w.pollCtx.out ++ [.done id (.okAck true (getBytes 31 props) (users props) reasons)] :=
  (server_ack_reaches_its_future w _ _ s id .unsuback _ hwf h rfl (fun a e => by cases e) rfl).2.1

/-- **PINGRESP**: `ping()` returns `Ok`. -/
theorem pingresp_accessors (w : World) (s id : Nat)
    (h : W13.Awaits w (encodeServer .pingresp) (actionId 13 0) s id .pingresp) :
    (w.pollCtx.pollOp id).out = w.pollCtx.out ++ [.done id .ok] :=
  (server_ack_reaches_its_future w .pingresp _ s id .pingresp _ (by decide) h rfl (fun a e => by cases e) rfl).2.1

/-- **The short forms and absent properties read as the defaults.** In a well-formed acknowledgement the identifier-only
    form (remaining length 2) stands for reason code 0 without properties — so the call returns `Ok` —, the reason-only
    form (remaining length 3) has no properties; and whenever the Reason String (resp. every User Property) is absent
    from the property list, the accessor yields `none` (resp. the empty list). -/
theorem ack_short_forms_and_absent_properties (codes : List Nat) (form : AckForm) (pid reason : Nat)
    (props : List Property) (h : ackOk codes form pid reason props = true) :
    (form = .idOnly → reason = 0 ∧ props = []) ∧ (form = .reasonOnly → props = []) ∧
    ((∀ q ∈ props, q.id ≠ 31) → getBytes 31 props = none) ∧ ((∀ q ∈ props, q.id ≠ 38) → users props = []) ∧
    getBytes 31 [] = none ∧ users [] = [] := by
  refine ⟨?_, ?_, fun h31 => getBytes_none (by simpa using h31), fun h38 => users_absent h38, rfl, rfl⟩
  · rintro rfl
    simp only [ackOk, Bool.and_eq_true, beq_iff_eq, List.isEmpty_iff] at h
    exact h.2
  · rintro rfl
    simp only [ackOk, Bool.and_eq_true, List.isEmpty_iff] at h
    exact h.2

/-- **DISCONNECT accessors.** `run()` has been polled before, nothing is queued, a handle is alive, and the next frame
    is a well-formed server DISCONNECT (full form, reason only, or the empty form). Then this poll of `run()` returns:
    `Ok` if the reason code is 0 (in each of the three forms), and otherwise `Disconnected` carrying the reason code sent,
    the Reason String and Server Reference sent (`none` if absent), the User Properties sent in wire order, and Session
    Expiry Interval 0 (a server never sends one). Exactly that `RET` line is logged and the future is finished. -/
theorem disconnect_accessors (w : World) (rx' : Rx) (rd' : List ReadEv) (form : DiscForm) (reason : Nat)
    (props : List Property) (hwf : WF (.disconnect form reason props)) (ht : w.task = .running true)
    (hq : w.queue = []) (hsn : w.senders ≠ 0)
    (hp : pollNext w.rx w.reader = (rx', rd', .item (encodeServer (.disconnect form reason props)))) :
    w.pollCtx.out = w.out ++ [.ret .run (if reason = 0 then .ok else .disconnected
      { reason := reason, sessionExpiry := 0, reasonString := getBytes 31 props,
        serverReference := getBytes 28 props, userProps := users props })] ∧
    w.pollCtx.task = .none ∧ w.pollCtx.c = w.c := by
  have h17 : getNum 17 props = none := by
    simp only [WF, wf, Bool.and_eq_true, decide_eq_true_eq] at hwf
    obtain ⟨_, _, hf⟩ := hwf
    cases form with
    | full => simp only [getNum, find_none_of_legal hf (i := 17) (by decide)]
    | reasonOnly => simp only [List.isEmpty_iff] at hf; subst hf; rfl
    | empty =>
      simp only [Bool.and_eq_true, beq_iff_eq, List.isEmpty_iff] at hf
      obtain ⟨_, rfl⟩ := hf; rfl
  have hdec := dec_disconnect_of_spec form reason props hwf
  simp only [expected, h17, Option.getD_none] at hdec
  rw [W13.pollCtx_disconnect w rx' rd' _ _ ht hq hsn hp hdec]
  exact ⟨rfl, rfl, rfl⟩

/-- **CONNACK accessors.** `connect()` (or `authorize()`) has sent its request and the first frame it reads is a
    well-formed CONNACK. With a reason code below 0x80 (and subscription identifiers available — otherwise the documented
    assertion fires) the call returns `ConnectRsp`, with a reason code of 0x80 or above `ConnectError`; in both cases the
    response exposes exactly: Session Present = bit 0 of the flags byte, the reason code sent, and every property as sent
    — or, when absent, the default of the standard: Receive Maximum 65535, Topic Alias Maximum 0, Maximum QoS 2, Retain /
    Wildcard Subscription / Subscription Identifier / Shared Subscription Available = true, everything else `none`; User
    Properties in wire order. The session takes over the CONNACK's limits. -/
theorem connack_accessors (w : World) (call : Call) (t : ConnectTx) (a : AuthTx) (rx' : Rx) (rd' : List ReadEv)
    (flags reason : Nat) (props : List Property) (hwf : WF (.connack flags reason props))
    (ht : w.task = .connecting call t a true)
    (hp : pollNext w.rx w.reader = (rx', rd', .item (encodeServer (.connack flags reason props))))
    (k : ConnackRx)
    (hk : k = { sessionPresent := flags == 1, reason := reason,
                wildcardSubAvail := (getBool 40 props).getD true, subIdAvail := (getBool 41 props).getD true,
                sharedSubAvail := (getBool 42 props).getD true, maxQos := (getNum 36 props).getD 2,
                retainAvail := (getBool 37 props).getD true, serverKeepAlive := getNum 19 props,
                receiveMax := (getNum 33 props).getD 65535, topicAliasMax := (getNum 34 props).getD 0,
                sessionExpiry := getNum 17 props, maxPacketSize := getNum 39 props, authData := getBytes 22 props,
                assignedClientId := getBytes 18 props, reasonString := getBytes 31 props,
                responseInfo := getBytes 26 props, serverReference := getBytes 28 props,
                authMethod := getBytes 21 props, userProps := users props }) :
    (reason < 128 → (getBool 41 props).getD true = true →
      w.pollCtx.out = w.out ++ [.ret call (.connack k)] ∧ w.pollCtx.task = .none ∧
      w.pollCtx.c = w.c.handleConnack k) ∧
    (reason ≥ 128 →
      w.pollCtx.out = w.out ++ [.ret call (.connectError k)] ∧ w.pollCtx.task = .none ∧
      w.pollCtx.c = w.c.handleConnack k) := by
  have hdec : decodeRx (encodeServer (.connack flags reason props)) = .ok (.connack k) := by
    rw [dec_connack_of_spec flags reason props hwf, hk]; rfl
  have e0 : w.pollCtx = w.awaitFirst call t a := pollCtx_connecting ht
  obtain ⟨m1, m2, _⟩ := first_response_mapping w call t a rx' rd'
  refine ⟨fun hr hs => ?_, fun hr => ?_⟩
  · rw [e0, m1 _ k hp hdec (by rw [hk]; exact hr) (by rw [hk]; exact hs)]
    exact ⟨rfl, rfl, rfl⟩
  · rw [e0, m2 _ k hp hdec (by rw [hk]; exact hr)]
    exact ⟨rfl, rfl, rfl⟩

/-- a CONNACK without properties: every accessor reads as the standard's default -/
theorem connack_absent_properties_read_as_defaults (flags reason : Nat) :
    expected (.connack flags reason []) = .connack { sessionPresent := flags == 1, reason := reason } ∧
    ({ sessionPresent := flags == 1, reason := reason } : ConnackRx).receiveMax = 65535 ∧
    ({ sessionPresent := flags == 1, reason := reason } : ConnackRx).maxQos = 2 ∧
    ({ sessionPresent := flags == 1, reason := reason } : ConnackRx).retainAvail = true ∧
    ({ sessionPresent := flags == 1, reason := reason } : ConnackRx).topicAliasMax = 0 ∧
    ({ sessionPresent := flags == 1, reason := reason } : ConnackRx).subIdAvail = true ∧
    ({ sessionPresent := flags == 1, reason := reason } : ConnackRx).wildcardSubAvail = true ∧
    ({ sessionPresent := flags == 1, reason := reason } : ConnackRx).sharedSubAvail = true :=
  ⟨rfl, rfl, rfl, rfl, rfl, rfl, rfl, rfl⟩

/-- **AUTH accessors.** The first frame `connect()` / `authorize()` reads is a well-formed AUTH (full form with an
    Authentication Method, or the empty form): the call returns `AuthRsp` exposing the reason code sent (0 in the empty
    form), the Authentication Method and Data, the Reason String (each `none` if absent) and the User Properties sent. -/
theorem auth_accessors (w : World) (call : Call) (t : ConnectTx) (a : AuthTx) (rx' : Rx) (rd' : List ReadEv)
    (form : AuthForm) (reason : Nat) (props : List Property) (hwf : WF (.auth form reason props))
    (ht : w.task = .connecting call t a true)
    (hp : pollNext w.rx w.reader = (rx', rd', .item (encodeServer (.auth form reason props)))) :
    w.pollCtx.out = w.out ++ [.ret call (.auth
      { reason := reason, authMethod := getBytes 21 props, authData := getBytes 22 props,
        reasonString := getBytes 31 props, userProps := users props })] ∧
    w.pollCtx.task = .none ∧ w.pollCtx.c = w.c := by
  have hdec := dec_auth_of_spec form reason props hwf
  simp only [expected] at hdec
  have e0 : w.pollCtx = w.awaitFirst call t a := pollCtx_connecting ht
  obtain ⟨_, _, m3, _⟩ := first_response_mapping w call t a rx' rd'
  rw [e0, m3 _ _ hp hdec]
  exact ⟨rfl, rfl, rfl⟩

/-- **Message accessors.** The channel table is well formed (`World.ChanWf`: one entry per channel, every receiver
    exists), `run()` has been polled before, nothing is queued, a handle is alive and the next frame is a
    well-formed server PUBLISH (not a re-delivery of a QoS 2 message already received). Let `sid` be one of its
    Subscription Identifiers, registered (once) for the channel `ch`. Then after this poll of
    `run()` the channel holds what it held, followed by the message `pb` — nothing has been yielded meanwhile — where `pb`
    has exactly the values of the packet sent: DUP, QoS, RETAIN, topic, packet identifier, payload, Payload Format
    Indicator, Message Expiry Interval, Topic Alias, Response Topic, Correlation Data, Content Type (each `none` if
    absent), all Subscription Identifiers and all User Properties in wire order with repeats (`[]` if absent). If the
    channel was empty and its stream exists, the stream's next poll logs `ITEM ch pb`. -/
theorem publish_accessors (w : World) (wf : World.ChanWf w) (hn : (w.c.subs.map (·.1)).Nodup) (rx' : Rx)
    (rd' : List ReadEv) (dup : Bool) (qos : Nat) (retain : Bool) (topic : Bytes) (pid : Option Nat)
    (props : List Property) (payload : Bytes) (hwf : WF (.publish dup qos retain topic pid props payload))
    (ht : w.task = .running true) (hq : w.queue = []) (hsn : w.senders ≠ 0)
    (hp : pollNext w.rx w.reader = (rx', rd', .item (encodeServer (.publish dup qos retain topic pid props payload))))
    (hnew : ¬ (qos = 2 ∧ pid.getD 0 ∈ w.c.inQos2)) (sid ch : Nat) (c0 : Chan) (hsid : sid ∈ subIds props)
    (hreg : lookupFirst sid w.c.subs = some ch) (hc : w.chan ch = some c0) (pb : PublishRx)
    (hpb : pb = { dup := dup, retain := retain, qos := qos, topic := topic, packetId := pid,
                  pfi := getBool 1 props, topicAlias := getNum 35 props, mei := getNum 2 props,
                  subIds := subIds props, correlationData := getBytes 9 props, responseTopic := getBytes 8 props,
                  contentType := getBytes 3 props, userProps := users props, payload := payload }) :
    ∃ c1 rest, w.pollCtx.chan ch = some c1 ∧ c1.buf = c0.buf ++ pb :: rest ∧
      itemsOf ch w.pollCtx.out = itemsOf ch w.out ∧
      (c0.buf = [] → ch ∈ w.streams → (w.pollCtx.pollStream ch).out = w.pollCtx.out ++ [.item ch pb]) := by
  have hdec : decodeRx (encodeServer (.publish dup qos retain topic pid props payload)) = .ok (.publish pb) := by
    rw [dec_publish_of_spec dup qos retain topic pid props payload hwf, hpb]; rfl
  obtain ⟨c1, rest, hc1, hb, hit⟩ := W13.pollCtx_pkt_buffer w wf rx' rd' _ (.publish pb) ht hq hsn hp hdec ch c0 hc
  have hd := (publish_delivers_in_world w wf hn pb ch).2 (by rw [hc]; simp)
  have hnr : ¬ (pb.qos = 2 ∧ pb.packetId.getD 0 ∈ w.c.inQos2) := by rw [hpb]; exact hnew
  rw [if_neg hnr] at hd
  have hmem : sid ∈ pb.subIds.filter (fun sid => lookupFirst sid w.c.subs == some ch) := by
    rw [List.mem_filter]
    exact ⟨by rw [hpb]; exact hsid, by simp [hreg]⟩
  obtain ⟨x, t, hxt⟩ : ∃ x t, pb.subIds.filter (fun sid => lookupFirst sid w.c.subs == some ch) = x :: t := by
    cases hl : pb.subIds.filter (fun sid => lookupFirst sid w.c.subs == some ch) with
    | nil => rw [hl] at hmem; cases hmem
    | cons x t => exact ⟨x, t, rfl⟩
  rw [hxt, List.map_cons] at hd
  rw [hd] at hb
  refine ⟨c1, t.map (fun _ => pb) ++ rest, hc1, by rw [hb]; simp, hit, fun he hst => ?_⟩
  have hst' : ch ∈ w.pollCtx.streams := by rw [(hand_pollCtx w).act.streams_eq]; exact hst
  have e := User.pollStream_item w.pollCtx ch c1 pb (t.map (fun _ => pb) ++ rest) hst' hc1
    (by rw [hb, he]; simp)
  rw [e]

section NonVacuity
open Ex W13

/-- PUBACK, full form, 0x87 Not authorized, user property / Reason String "hi" / user property with the same key, read
    while operation 1 waits for PUBACK 7 (`W13.wWait`): `publish()` returns `PubackError` with exactly these values -/
example :
    let p := ServerPacket.puback .full 7 0x87 [⟨38, .pair [97] [98]⟩, ⟨31, .bytes [104, 105]⟩, ⟨38, .pair [97] [99]⟩]
    (((wWait (actionId 4 7) .puback (encodeServer p)).pollCtx).pollOp 1).out =
      (wWait (actionId 4 7) .puback (encodeServer p)).pollCtx.out ++
        [.done 1 (.errAck .pubackError 0x87 (some [104, 105]) [([97], [98]), ([97], [99])])] :=
  puback_accessors _ .full 7 0x87 [⟨38, .pair [97] [98]⟩, ⟨31, .bytes [104, 105]⟩, ⟨38, .pair [97] [99]⟩] 2 1
    (by wf_concrete) (wWait_awaits _ _ _ (by decide) (by decide) (by decide))

/-- PUBACK, identifier only (remaining length 2): reason 0, no properties — `publish()` returns `Ok` -/
example :
    (((wWait (actionId 4 7) .puback (encodeServer (.puback .idOnly 7 0 []))).pollCtx).pollOp 1).out =
      (wWait (actionId 4 7) .puback (encodeServer (.puback .idOnly 7 0 []))).pollCtx.out ++ [.done 1 .ok] :=
  puback_accessors _ .idOnly 7 0 [] 2 1 (by wf_concrete) (wWait_awaits _ _ _ (by decide) (by decide) (by decide))

/-- PUBREC, reason only (remaining length 3), 0x97 Quota exceeded: `PubrecError` with the reason code and the defaults -/
example :
    (((wWait (actionId 5 7) .pubrec (encodeServer (.pubrec .reasonOnly 7 0x97 []))).pollCtx).pollOp 1).out =
      (wWait (actionId 5 7) .pubrec (encodeServer (.pubrec .reasonOnly 7 0x97 []))).pollCtx.out ++
        [.done 1 (.errAck .pubrecError 0x97 none [])] :=
  (pubrec_accessors _ .reasonOnly 7 0x97 [] 2 1 (by wf_concrete)
    (wWait_awaits _ _ _ (by decide) (by decide) (by decide))).1 (by decide)

/-- PUBREC, identifier only: success — the future queues PUBREL 7 and waits for the PUBCOMP on its second oneshot -/
example :
    (((wWait (actionId 5 7) .pubrec (encodeServer (.pubrec .idOnly 7 0 []))).pollCtx).pollOp 1).opSt 1 =
      some (.wait 3 .pubcomp) :=
  ((pubrec_accessors _ .idOnly 7 0 [] 2 1 (by wf_concrete)
    (wWait_awaits _ _ _ (by decide) (by decide) (by decide))).2 (by decide)).2.1

/-- SUBACK for three filters (granted QoS 1, granted QoS 2, 0x87 Not authorized) with a Reason String between two user
    properties: the response exposes all of it, in order -/
example :
    let p := ServerPacket.suback 3 [⟨38, .pair [97] [98]⟩, ⟨31, .bytes [111, 107]⟩, ⟨38, .pair [99] [100]⟩] [1, 2, 0x87]
    (((wWait (actionId 9 3) .suback (encodeServer p)).pollCtx).pollOp 1).out =
      (wWait (actionId 9 3) .suback (encodeServer p)).pollCtx.out ++
        [.done 1 (.okAck false (some [111, 107]) [([97], [98]), ([99], [100])] [1, 2, 0x87])] :=
  suback_accessors _ 3 [⟨38, .pair [97] [98]⟩, ⟨31, .bytes [111, 107]⟩, ⟨38, .pair [99] [100]⟩] [1, 2, 0x87] 2 1
    (by wf_concrete) (wWait_awaits _ _ _ (by decide) (by decide) (by decide))

/-- UNSUBACK without properties: Reason String `none`, no user properties, the two reason codes -/
example :
    (((wWait (actionId 11 4) .unsuback (encodeServer (.unsuback 4 [] [0, 0x11]))).pollCtx).pollOp 1).out =
      (wWait (actionId 11 4) .unsuback (encodeServer (.unsuback 4 [] [0, 0x11]))).pollCtx.out ++
        [.done 1 (.okAck true none [] [0, 0x11])] :=
  unsuback_accessors _ 4 [] [0, 0x11] 2 1 (by wf_concrete) (wWait_awaits _ _ _ (by decide) (by decide) (by decide))

/-- PINGRESP -/
example :
    (((wWait (actionId 13 0) .pingresp (encodeServer .pingresp)).pollCtx).pollOp 1).out =
      (wWait (actionId 13 0) .pingresp (encodeServer .pingresp)).pollCtx.out ++ [.done 1 .ok] :=
  pingresp_accessors _ 2 1 (wWait_awaits _ _ _ (by decide) (by decide) (by decide))

/-- DISCONNECT 0x9C Use another server, with Server Reference "h:1", two user properties and a Reason String, read by a
    serving `run()` (`Ex.wServe`): `Disconnected` with exactly these values -/
example :
    let p := ServerPacket.disconnect .full 0x9C
      [⟨38, .pair [97] [98]⟩, ⟨28, .bytes [104, 58, 49]⟩, ⟨38, .pair [99] [100]⟩, ⟨31, .bytes [109]⟩]
    (wServe [.data (encodeServer p)]).pollCtx.out = [.ret .run (.disconnected
      { reason := 0x9C, sessionExpiry := 0, reasonString := some [109], serverReference := some [104, 58, 49],
        userProps := [([97], [98]), ([99], [100])] })] :=
  (disconnect_accessors _ {} [] .full 0x9C
    [⟨38, .pair [97] [98]⟩, ⟨28, .bytes [104, 58, 49]⟩, ⟨38, .pair [99] [100]⟩, ⟨31, .bytes [109]⟩] (by wf_concrete)
    rfl rfl (by decide) (pollNext_whole _ (by decide) (by decide) (by decide))).1

/-- DISCONNECT, the empty form (remaining length 0) and the reason-only form with reason 0: `run()` returns `Ok` -/
example : (wServe [.data (encodeServer (.disconnect .empty 0 []))]).pollCtx.out = [.ret .run .ok] :=
  (disconnect_accessors _ {} [] .empty 0 [] (by wf_concrete) rfl rfl (by decide)
    (pollNext_whole _ (by decide) (by decide) (by decide))).1
example : (wServe [.data (encodeServer (.disconnect .reasonOnly 0 []))]).pollCtx.out = [.ret .run .ok] :=
  (disconnect_accessors _ {} [] .reasonOnly 0 [] (by wf_concrete) rfl rfl (by decide)
    (pollNext_whole _ (by decide) (by decide) (by decide))).1
/-- … and the reason-only form with 0x8B Server shutting down: `Disconnected`, everything else at its default -/
example : (wServe [.data (encodeServer (.disconnect .reasonOnly 0x8B []))]).pollCtx.out =
    [.ret .run (.disconnected { reason := 0x8B })] :=
  (disconnect_accessors _ {} [] .reasonOnly 0x8B [] (by wf_concrete) rfl rfl (by decide)
    (pollNext_whole _ (by decide) (by decide) (by decide))).1

/-- CONNACK, Session Present, Receive Maximum 10, a user property, Retain Available = 0, Assigned Client Identifier
    "hi", a second user property, Maximum QoS 1, answering `connect()` (`Ex.wConn`): `ConnectRsp` with these values and
    the defaults for everything else (Topic Alias Maximum 0, the other three flags true, …) -/
example :
    let p := ServerPacket.connack 1 0
      [⟨33, .num 10⟩, ⟨38, .pair [97] [98]⟩, ⟨37, .bool false⟩, ⟨18, .bytes [104, 105]⟩, ⟨38, .pair [97] [99]⟩,
       ⟨36, .num 1⟩]
    (wConn (encodeServer p)).pollCtx.out = [.ret .connect (.connack
      { sessionPresent := true, reason := 0, receiveMax := 10, retainAvail := false, maxQos := 1,
        assignedClientId := some [104, 105], userProps := [([97], [98]), ([97], [99])] })] :=
  ((connack_accessors _ .connect {} {} {} [] 1 0
    [⟨33, .num 10⟩, ⟨38, .pair [97] [98]⟩, ⟨37, .bool false⟩, ⟨18, .bytes [104, 105]⟩, ⟨38, .pair [97] [99]⟩,
     ⟨36, .num 1⟩] (by wf_concrete) rfl
    (pollNext_whole _ (by decide) (by decide) (by decide)) _ rfl).1 (by decide) (by decide)).1

/-- CONNACK refusing the connection (0x87) without properties: `ConnectError`, every accessor at its default -/
example : (wConn (encodeServer (.connack 0 0x87 []))).pollCtx.out =
    [.ret .connect (.connectError { sessionPresent := false, reason := 0x87 })] :=
  ((connack_accessors _ .connect {} {} {} [] 0 0x87 [] (by wf_concrete) rfl
    (pollNext_whole _ (by decide) (by decide) (by decide)) _ rfl).2 (by decide)).1

/-- AUTH 0x18 Continue authentication with method "SCRAM", data 01 02 03, and the empty form -/
example :
    (wConn (encodeServer (.auth .full 0x18 [⟨22, .bytes [1, 2, 3]⟩, ⟨21, .bytes [83, 67, 82, 65, 77]⟩]))).pollCtx.out =
      [.ret .connect (.auth { reason := 0x18, authMethod := some [83, 67, 82, 65, 77], authData := some [1, 2, 3] })] :=
  (auth_accessors _ .connect {} {} {} [] .full 0x18 [⟨22, .bytes [1, 2, 3]⟩, ⟨21, .bytes [83, 67, 82, 65, 77]⟩]
    (by wf_concrete) rfl (pollNext_whole _ (by decide) (by decide) (by decide))).1
example : (wConn (encodeServer (.auth .empty 0 []))).pollCtx.out = [.ret .connect (.auth {})] :=
  (auth_accessors _ .connect {} {} {} [] .empty 0 [] (by wf_concrete) rfl
    (pollNext_whole _ (by decide) (by decide) (by decide))).1

example : encodeServer (.publish false 0 false [0x61] none [⟨11, .var 1 1⟩] []) = pubFrame := by decide
/-- PUBLISH, QoS 0, topic "a", Subscription Identifier 1, read by `Ex.wPub` (stream 1 asleep on its empty channel,
    registered under identifier 1): the message is delivered and the stream's next poll logs it, every accessor at the
    value sent or its default -/
example : ∃ c1 rest, wPub.pollCtx.chan 1 = some c1 ∧ c1.buf = pubA :: rest ∧
    (wPub.pollCtx.pollStream 1).out = wPub.pollCtx.out ++ [.item 1 pubA] := by
  have hw : World.ChanWf wPub := wPub_sInv.wf
  obtain ⟨c1, rest, h1, h2, _, h5⟩ := publish_accessors wPub hw (by decide) {} [] false 0 false [0x61] none
    [⟨11, .var 1 1⟩] [] (by wf_concrete) rfl rfl (by decide)
    (pollNext_whole _ (by decide) (by decide) (by decide)) (by decide) 1 1 { buf := [], reg := true } (by decide)
    (by decide) (by decide) pubA (by decide)
  exact ⟨c1, rest, h1, by simpa using h2, h5 rfl (by decide)⟩

end NonVacuity

#print axioms server_ack_reaches_its_future
#print axioms puback_accessors
#print axioms pubrec_accessors
#print axioms pubcomp_accessors
#print axioms suback_accessors
#print axioms unsuback_accessors
#print axioms pingresp_accessors
#print axioms ack_short_forms_and_absent_properties
#print axioms disconnect_accessors
#print axioms connack_accessors
#print axioms connack_absent_properties_read_as_defaults
#print axioms auth_accessors
#print axioms publish_accessors

end Poster

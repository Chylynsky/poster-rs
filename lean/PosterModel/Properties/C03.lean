/-
  C03 — framing is independent of chunking; no lost wakeups
  (plus the framing parts of C04 "never panics" and C16 "Pending only after the reader registered the waker").

  Model: `Poster.Framing.pollNext` (PosterModel/Framing.lean) = `RxPacketStream::poll_next`.
  Reference: `Poster.Framing.frames` = greedy split of a byte string by fixed header + variable byte integer.
  `collect n s rs = (items, s', rs', stop)` is the client's loop over the stream with fuel `n`; fuel above `mu s rs` is irrelevant.
  `collect`, `mu`, the invariant `Rx.Ok` and the script vocabulary (`dataOf`, `Clean`, …) are defined in
  Lemmas/Framing.lean, not in the model.
-/
import PosterModel.Lemmas.Framing

namespace Poster.Framing
open Poster

/-- **One call of `poll_next`**, from any state satisfying the invariant:
    an emitted item is exactly one complete frame and the byte stream is conserved
    (`buffered ++ unread = item ++ buffered' ++ unread'`);
    `Pending` conserves the stream, re-establishes the invariant and leaves the machine in `Idle`;
    `Ready(None)` conserves the stream and is reported only from `Idle` with an end-of-stream event
    (`eof`, `err`, zero-length read) next in the script, or from `ReadPacketLen` on a malformed length field. -/
theorem pollNext_spec (s : Rx) (rs : List ReadEv) (hs : s.Ok) :
    match pollNext s rs with
    | (s', rs', .item p) =>
        s.valid ++ dataOf rs = p ++ (s'.valid ++ dataOf rs') ∧ (∃ k, frameLen p = .ok p.length k) ∧ s'.Ok
    | (s', rs', .pending) =>
        s.valid ++ dataOf rs = s'.valid ++ dataOf rs' ∧ s'.Ok ∧ s'.st = .idle
    | (s', rs', .none) =>
        s.valid ++ dataOf rs = s'.valid ++ dataOf rs' ∧ s'.Ok ∧
          ((s'.st = .idle ∧ atEnd rs' = true) ∨ (s'.st = .len ∧ frameLen s'.valid = .bad)) := by
  rcases hr : pollNext s rs with ⟨s', rs', _ | _ | _⟩ <;> have P := pollNext_polled hr
  · exact ⟨P.conserves, (P.ok hs).2, (P.ok hs).1⟩
  · exact ⟨P.conserves, P.ok hs⟩
  · exact ⟨P.conserves, P.ok hs⟩

/-- **Fuel is irrelevant**: with more fuel than `mu s rs` the consumer loop's result does not depend on it
    (and it never stops with `Stop.fuel`: `collect_outcome`, Lemmas/Framing.lean). -/
theorem collect_fuel_irrelevant (n m : Nat) (s : Rx) (rs : List ReadEv) (hs : s.Ok)
    (hn : mu s rs < n) (hm : mu s rs < m) : collect n s rs = collect m s rs := by
  refine collect_induct (motive := fun s rs r => ∀ m, mu s rs < m → r = collect m s rs) ?_ ?_ ?_ ?_ n s rs hs hn m hm
  -- each round unfolds `collect m` once; where the loop goes on, one unit of fuel less is still enough
  · intro s rs s' rs' p r _ h hdec ih m hm
    obtain ⟨m, rfl⟩ : ∃ k, m = k + 1 := ⟨m - 1, by omega⟩
    rw [collect_succ m h, ← ih m (by omega)]
  · intro s rs s' rs' r _ h hp hdec ih m hm
    obtain ⟨m, rfl⟩ : ∃ k, m = k + 1 := ⟨m - 1, by omega⟩
    rw [collect_succ m h]
    exact (ih m (by omega)).trans (if_pos hp).symm
  · intro s rs s' _ h h0 m hm
    obtain ⟨m, rfl⟩ : ∃ k, m = k + 1 := ⟨m - 1, by omega⟩
    rw [collect_succ m h]
    exact (if_neg (h0 ▸ Nat.lt_irrefl 0)).symm
  · intro s rs s' rs' _ h m hm
    obtain ⟨m, rfl⟩ : ∃ k, m = k + 1 := ⟨m - 1, by omega⟩
    rw [collect_succ m h]

/-- **Chunking independence.** For every byte string `bs` whose reference framing is `ps` with unfinished
    tail `tl`, and EVERY transport script made of non-empty `data` events and `pending` events whose data
    concatenates to `bs` (any cuts, any yields, any interaction with the read capacity): the client observes
    exactly the packets `ps`, in order, then sleeps with the reader queue empty (every available byte was
    consumed), the machine idle and exactly `tl` buffered. -/
theorem framing_chunking_independent (bs : Bytes) (ps : List Bytes) (tl : Bytes) (rs : List ReadEv) (n : Nat)
    (hf : frames bs = some (ps, tl))
    (hc : ∀ e ∈ rs, e = .pending ∨ ∃ c, c ≠ [] ∧ e = .data c)
    (hd : dataOf rs = bs) (hn : evBytes rs + rs.length < n) :
    ∃ s', collect n {} rs = (ps, s', [], .asleep) ∧ s'.valid = tl ∧ s'.st = .idle := by
  have hcl : Clean rs := (clean_iff rs).mpr hc
  obtain ⟨qs, s', rs', st, h, _, ⟨rfl, rfl, hi, _, hq⟩ | ⟨_, _, _, he, _⟩ | ⟨_, _, _, hq, _⟩⟩ :=
    collect_outcome n {} rs ok_init (by simpa [mu] using hn)
  · cases (hd ▸ hf).symm.trans hq
    exact ⟨s', h, rfl, hi⟩
  · rw [hcl] at he; cases he
  · rw [show ({} : Rx).valid ++ dataOf rs = bs from hd, hf] at hq; cases hq

/-- **Same packets as with one read per packet.** The emitted packets are a function of the delivered bytes
    alone: any two transport scripts (arbitrary events, including end-of-stream events and malformed data)
    that deliver the same bytes yield the same items in the same order — in particular an arbitrary chunking
    and the script with one `data` event per packet. -/
theorem framing_same_as_whole_packets (rs1 rs2 : List ReadEv) (n m : Nat) (hd : dataOf rs1 = dataOf rs2)
    (hn : evBytes rs1 + rs1.length < n) (hm : evBytes rs2 + rs2.length < m) :
    (collect n {} rs1).1 = (collect m {} rs2).1 :=
  collect_items_eq n m {} {} rs1 rs2 ok_init ok_init hd (by simpa [mu] using hn) (by simpa [mu] using hm)

/-- The script with one `data` event per packet. -/
def wholePackets (ps : List Bytes) : List ReadEv := ps.map .data

/-- **Chunked = whole packets**, spelled out: if `ps` are complete packets and `rs` is any clean script
    delivering `ps.flatten`, the loop emits exactly `ps`, and so does the script `wholePackets ps`. -/
theorem framing_chunked_eq_whole (ps : List Bytes) (rs : List ReadEv) (n m : Nat)
    (hp : ∀ p ∈ ps, ∃ k, frameLen p = .ok p.length k)
    (hc : ∀ e ∈ rs, e = .pending ∨ ∃ c, c ≠ [] ∧ e = .data c)
    (hd : dataOf rs = ps.flatten) (hn : evBytes rs + rs.length < n)
    (hm : evBytes (wholePackets ps) + ps.length < m) :
    (collect n {} rs).1 = ps ∧ (collect m {} (wholePackets ps)).1 = ps := by
  have hf := frames_flatten ps hp
  -- a complete packet has at least two bytes
  obtain ⟨hcl, hdw⟩ := dataOf_data_chunks (cs := ps) fun p hp1 h0 => by
    obtain ⟨k, hk⟩ := hp p hp1
    have := (frameLen_ok_ge p _ _ hk).2
    simp [h0] at this
  have hw := (clean_iff _).mp hcl
  obtain ⟨s1, h1, _⟩ := framing_chunking_independent _ ps [] rs n hf hc hd hn
  obtain ⟨s2, h2, _⟩ := framing_chunking_independent _ ps [] (wholePackets ps) m hf hw hdw
    (by simpa [wholePackets] using hm)
  rw [h1, h2]; exact ⟨rfl, rfl⟩

/-- **End-of-stream is exact.** The same script followed by an end-of-stream event `e` (`eof`, `err` or a
    zero-length read; anything may follow it): the items are again exactly `ps`, then the loop stops with
    `ended` — from `Idle`, with exactly the unfinished tail `tl` buffered, every data event consumed and the
    end event itself still at the head of the script (it is sticky). So end-of-stream is never reported while
    a complete packet is buffered or unread data remains, and never before the transport reports it. -/
theorem framing_eof_exact (bs : Bytes) (ps : List Bytes) (tl : Bytes) (rs : List ReadEv) (e : ReadEv)
    (more : List ReadEv) (n : Nat)
    (hf : frames bs = some (ps, tl))
    (hc : ∀ x ∈ rs, x = .pending ∨ ∃ c, c ≠ [] ∧ x = .data c)
    (hd : dataOf rs = bs) (he : e = .eof ∨ e = .err ∨ e = .data [])
    (hn : evBytes (rs ++ e :: more) + (rs ++ e :: more).length < n) :
    ∃ s', collect n {} (rs ++ e :: more) = (ps, s', e :: more, .ended) ∧ s'.valid = tl ∧ s'.st = .idle ∧
      ps.flatten ++ tl = bs := by
  have hcl : Clean rs := (clean_iff rs).mpr hc
  have hee : e.isEnd = true := by rcases he with rfl | rfl | rfl <;> rfl
  have hde : dataOf (e :: more) = [] := by rcases he with rfl | rfl | rfl <;> simp [dataOf]
  have hend : hasEnd (rs ++ e :: more) = true := by simp [hasEnd_append, hasEnd, hee]
  have hdat : ({} : Rx).valid ++ dataOf (rs ++ e :: more) = bs := by
    rw [dataOf_append _ _ hcl, hde, hd]; simp
  obtain ⟨qs, s', rs', st, h1, _, ⟨_, _, _, he, _⟩ | ⟨rfl, h4, h3, _, hq⟩ | ⟨_, _, _, hq, _⟩⟩ :=
    collect_outcome n {} (rs ++ e :: more) ok_init (by simpa [mu] using hn)
  · rw [hend] at he; cases he
  · cases (hdat ▸ hf).symm.trans hq
    -- the end event is still the head of what is left of the script
    obtain ⟨a', h5, h6⟩ := collect_suffix n {} rs e more hee hcl ok_init (by simpa [mu] using hn)
    rw [h1] at h5
    cases h5
    cases atEnd_clean_append a' _ h6 h4
    exact ⟨s', h1, rfl, h3, frames_flatten_eq _ _ _ hf⟩
  · rw [hdat, hf] at hq; cases hq

/-- **No spurious end-of-stream.** While the transport has not ended (no `eof`/`err`/zero-length read in the
    script) the loop stops with `ended` only if the stream contains a malformed length field. -/
theorem framing_no_spurious_end (rs : List ReadEv) (n : Nat)
    (hc : ∀ e ∈ rs, e = .pending ∨ ∃ c, c ≠ [] ∧ e = .data c)
    (hn : evBytes rs + rs.length < n) (hstop : (collect n {} rs).2.2.2 = .ended) :
    frames (dataOf rs) = none := by
  cases hf : frames (dataOf rs) with
  | none => rfl
  | some q =>
    obtain ⟨ps, tl⟩ := q
    obtain ⟨s', h, _⟩ := framing_chunking_independent _ ps tl rs n hf hc rfl hn
    rw [h] at hstop; simp at hstop

/-- **Malformed length field.** If the delivered bytes contain a malformed remaining-length field
    (`frames = none`), then for every script whatsoever the loop emits exactly the complete frames in front
    of it (`ps`: each a complete frame, `frames ps.flatten = (ps, [])`, and the bytes after them start with
    the malformed field) and then reports end-of-stream from `ReadPacketLen`. -/
theorem framing_malformed_exact (rs : List ReadEv) (n : Nat) (hf : frames (dataOf rs) = none)
    (hn : evBytes rs + rs.length < n) :
    ∃ ps s' rs', collect n {} rs = (ps, s', rs', .ended) ∧ s'.st = .len ∧ frameLen s'.valid = .bad ∧
      dataOf rs = ps.flatten ++ (s'.valid ++ dataOf rs') ∧ frames ps.flatten = some (ps, []) := by
  obtain ⟨ps, s', rs', h1, h2, h3, h4, h5⟩ :=
    collect_malformed n {} rs ok_init (by simpa [mu] using hn) (by simpa using hf)
  exact ⟨ps, s', rs', h1, h2, h3, by simpa using h4, frames_flatten ps h5⟩

/-- **No lost wakeup** (C16 for the framing layer). Whenever `poll_next` returns `Pending` from an
    invariant-satisfying state, either the reader was polled with an empty queue — the script held data
    events only, all of whose bytes are now buffered, so the reader holds the waker and nothing is left
    undelivered — or exactly one `pending` event (the reader woke the task itself) was consumed after data
    events whose bytes are all buffered. In both cases the machine is `Idle` and the buffer holds no
    complete frame: nothing that could be acted on is left waiting. -/
theorem framing_no_lost_wakeup (s : Rx) (rs : List ReadEv) (s' : Rx) (rs' : List ReadEv) (hs : s.Ok)
    (h : pollNext s rs = (s', rs', .pending)) :
    ((rs' = [] ∧ AllData rs ∧ s'.valid = s.valid ++ dataOf rs) ∨
     (∃ pre, rs = pre ++ .pending :: rs' ∧ AllData pre ∧ s'.valid = s.valid ++ dataOf pre)) ∧
    s'.st = .idle ∧ frames s'.valid = some ([], s'.valid) := by
  obtain ⟨hok, hidle⟩ := (pollNext_polled h).ok hs
  exact ⟨pollNext_pending_shape s rs s' rs' h, hidle, frames_of_noFrame _ (hok.2.2.2 hidle)⟩

/-- **Reads are offered room.** The capacity offered to every `poll_read` is at least 512 bytes, in
    particular at least 1 (so `Ready(Ok(0))` can only mean end-of-stream); and an `Idle` iteration that finds
    a non-empty read takes at least one byte of it. -/
theorem framing_reads_positive :
    (∀ pend size, 1 ≤ cap pend size ∧ 512 ≤ cap pend size) ∧
    (∀ s bs rs t rs2, s.st = .idle → bs ≠ [] → loopStep s (.data bs :: rs) = .inr (t, rs2) →
      s.valid.length < t.valid.length) := by
  refine ⟨fun p n => ?_, ?_⟩
  · unfold cap; split <;> omega
  · intro s bs rs t rs2 hst hb h
    cases loopCase h with
    | read _ _ _ hb0 hv =>
      have := cap_pos s.pend s.valid.length
      have := List.length_pos_iff.mpr hb
      rw [hv, List.length_append, List.length_take]; omega
    | lenOk hl | lenNeed hl => rw [hst] at hl; cases hl
    | short hd => rw [hst] at hd; cases hd

/-- **The invariant is inductive**: it holds initially and is preserved by every `poll_next` call and by
    every single loop iteration inside a call. -/
theorem framing_invariant :
    Rx.Ok {} ∧ (∀ s rs, s.Ok → (pollNext s rs).1.Ok) ∧
    (∀ s rs t rs2, s.Ok → loopStep s rs = .inr (t, rs2) → t.Ok) ∧
    (∀ s rs, pollNext s rs = match loopStep s rs with | .inl r => r | .inr (t, rs2) => pollNext t rs2) :=
  ⟨ok_init, fun _ _ hs => ((pollNext_polled rfl).ok hs).1, fun s rs t rs2 => loopStep_ok s rs t rs2, pollNext_loopStep⟩

/-- **Index safety** (the no-panic obligations of `poll_next`). In every state `s` at the head of any loop
    iteration of any call in any run from the initial state:
    the invariant holds; in `ReadPacketLen` at least one byte is buffered (`&buf[1..size]` is a valid range);
    in `ReadPacketData` the announced length is the one determined by the buffer and is ≥ 2;
    when the iteration emits, `packet.end ≤ size` (`split_to(packet.end)` and `size -= packet.len()` are in
    range), the emitted frame has exactly the announced length, which is ≥ 2 (`bytes[0]` exists);
    and every frame a call returns has length ≥ 2. -/
theorem framing_index_safe (s : Rx) (hr : Reach s) :
    s.Ok ∧
    (s.st = .len → 1 ≤ s.valid.length) ∧
    (s.st = .data → (∃ k, frameLen s.valid = .ok s.pend k) ∧ 2 ≤ s.pend) ∧
    (∀ rs s' rs' p, loopStep s rs = .inl (s', rs', .item p) →
      s.pend ≤ s.valid.length ∧ p = s.valid.take s.pend ∧ p.length = s.pend ∧ 2 ≤ p.length) ∧
    (∀ rs s' rs' p, pollNext s rs = (s', rs', .item p) → 2 ≤ p.length) := by
  have hs := reach_ok hr
  refine ⟨hs, hs.2.2.1, ?_, ?_, ?_⟩
  · intro hd
    obtain ⟨k, hk⟩ := hs.2.1 hd
    exact ⟨⟨k, hk⟩, (frameLen_ok_ge _ _ _ hk).1⟩
  · intro rs s' rs' p h
    obtain ⟨_, h1, h2, h3, h4⟩ := loopStep_item s rs s' rs' p hs h
    exact ⟨h1, h2, h3, by omega⟩
  · intro rs s' rs' p h
    obtain ⟨_, k, hk⟩ := (pollNext_polled h).ok hs
    exact (frameLen_ok_ge _ _ _ hk).2

/-! ## Non-vacuity: concrete streams -/

/-- PINGRESP -/
def exP1 : Bytes := [0xD0, 0x00]
/-- a PUBLISH-shaped packet with remaining length 3 -/
def exP2 : Bytes := [0x30, 0x03, 0x61, 0x62, 0x63]
/-- the two packets delivered one byte per read -/
def exBytewise : List ReadEv := (exP1 ++ exP2).map fun b => .data [b]
/-- the two packets delivered one packet per read -/
def exWhole : List ReadEv := [.data exP1, .data exP2]
/-- a cut between the second packet's header byte and its length byte, a yield, then the rest and a first byte of a third packet -/
def exRagged : List ReadEv := [.data [0xD0, 0x00, 0x30], .pending, .data [0x03, 0x61], .pending, .data [0x62, 0x63, 0xE0]]

/-- the reference framing of the concrete two-packet stream. -/
example : frames (exP1 ++ exP2) = some ([exP1, exP2], []) := by decide

/-- bytewise delivery, evaluated directly: both packets, then asleep with nothing buffered. -/
example : collect 20 {} exBytewise = ([exP1, exP2], { valid := [], pend := 0, st := .idle }, [], .asleep) := by
  unfold exBytewise exP1 exP2
  simp [collect, pollNext, cap, frameLen, decVar, decVarAux, nPending, varMax]

/-- whole-packet delivery, evaluated directly: the same result. -/
example : collect 20 {} exWhole = ([exP1, exP2], { valid := [], pend := 0, st := .idle }, [], .asleep) := by
  unfold exWhole exP1 exP2
  simp [collect, pollNext, cap, frameLen, decVar, decVarAux, nPending, varMax]

/-- ragged delivery with yields, evaluated directly: the same packets; the stray byte stays buffered. -/
example : collect 20 {} exRagged = ([exP1, exP2], { valid := [0xE0], pend := 0, st := .idle }, [], .asleep) := by
  unfold exRagged exP1 exP2
  simp [collect, pollNext, cap, frameLen, decVar, decVarAux, nPending, varMax]

/-- the hypotheses of `framing_chunking_independent` are satisfiable (bytewise script), and its conclusion
    is the directly evaluated one. -/
example : ∃ s', collect 20 {} exBytewise = ([exP1, exP2], s', [], .asleep) ∧ s'.valid = [] ∧ s'.st = .idle :=
  framing_chunking_independent (exP1 ++ exP2) [exP1, exP2] [] exBytewise 20 (by decide)
    ((clean_iff _).mp (by decide)) (by decide) (by decide)

/-- `framing_same_as_whole_packets` applied: the bytewise and the whole-packet scripts agree. -/
example : (collect 20 {} exBytewise).1 = (collect 10 {} exWhole).1 :=
  framing_same_as_whole_packets exBytewise exWhole 20 10 (by decide) (by decide) (by decide)

/-- `framing_chunked_eq_whole` applied to the bytewise script. -/
example : (collect 20 {} exBytewise).1 = [exP1, exP2] ∧ (collect 10 {} (wholePackets [exP1, exP2])).1 = [exP1, exP2] :=
  framing_chunked_eq_whole [exP1, exP2] exBytewise 20 10
    (by intro p hp; simp at hp; rcases hp with rfl | rfl <;> exact ⟨1, by decide⟩)
    ((clean_iff _).mp (by decide)) (by decide) (by decide) (by decide)

/-- end-of-stream after bytewise delivery, evaluated directly: both packets first, then `ended`, the `eof`
    event still in the queue. -/
example : collect 20 {} (exBytewise ++ [.eof]) =
    ([exP1, exP2], { valid := [], pend := 0, st := .idle }, [.eof], .ended) := by
  unfold exBytewise exP1 exP2
  simp [collect, pollNext, cap, frameLen, decVar, decVarAux, varMax]

/-- the hypotheses of `framing_eof_exact` are satisfiable. -/
example : ∃ s', collect 20 {} (exBytewise ++ [.err]) = ([exP1, exP2], s', [.err], .ended) ∧ s'.valid = [] ∧
    s'.st = .idle ∧ [exP1, exP2].flatten ++ [] = exP1 ++ exP2 :=
  framing_eof_exact (exP1 ++ exP2) [exP1, exP2] [] exBytewise .err [] 20 (by decide)
    ((clean_iff _).mp (by decide)) (by decide) (Or.inr (Or.inl rfl)) (by decide)

/-- a malformed length field (five continuation bytes) after one good packet, evaluated directly: the good
    packet is emitted, then `ended` from `ReadPacketLen`. -/
example : collect 20 {} [.data [0xD0, 0x00, 0x30], .pending, .data [0xff, 0xff, 0xff, 0xff, 0xff, 1]] =
    ([[0xD0, 0x00]], { valid := [0x30, 0xff, 0xff, 0xff, 0xff, 0xff, 1], pend := 0, st := .len }, [], .ended) := by
  simp [collect, pollNext, cap, frameLen, decVar, decVarAux, nPending, varMax]

/-- the hypothesis of `framing_malformed_exact` is satisfiable. -/
example : frames (dataOf [.data [0xD0, 0x00, 0x30], .pending, .data [0xff, 0xff, 0xff, 0xff, 0xff, 1]]) = none := by
  decide

/-- a `Pending` that consumed a `pending` event (second disjunct of `framing_no_lost_wakeup`) … -/
example : pollNext {} [.data [0xD0], .pending, .data [0x00]] = ({ valid := [0xD0] }, [.data [0x00]], .pending) := by
  simp [pollNext, cap]

/-- … and one with the reader queue exhausted (first disjunct). -/
example : pollNext {} [.data [0xD0]] = ({ valid := [0xD0] }, [], .pending) := by
  simp [pollNext, cap]

/-- `Reach` is inhabited beyond the initial state: the state after one call. -/
example : Reach (pollNext {} [.data [0xD0]]).1 := Reach.poll _ Reach.init

#print axioms pollNext_spec
#print axioms collect_fuel_irrelevant
#print axioms framing_chunking_independent
#print axioms framing_same_as_whole_packets
#print axioms framing_chunked_eq_whole
#print axioms framing_eof_exact
#print axioms framing_no_spurious_end
#print axioms framing_malformed_exact
#print axioms framing_no_lost_wakeup
#print axioms framing_reads_positive
#print axioms framing_invariant
#print axioms framing_index_safe

end Poster.Framing

/-
  Properties/C11World.lean — C11 for whole executions of the client: packet identifiers (and subscription identifiers)
  are non-zero and unique among the operations in flight.

  C11: "Every PUBLISH (QoS>0), SUBSCRIBE and UNSUBSCRIBE the client sends carries a non-zero packet identifier that
  differs from the identifier of every other such operation still outstanding, including operations issued concurrently
  from different clones of the handle, and every subscribe() call gets its own subscription identifier. This keeps holding
  after more than 65535 operations on one client (identifier wrap-around), provided fewer than 65535 identifiers are
  allocated while any single operation is outstanding, and allocating an identifier never panics."

  Properties/C11.lean proves the arithmetic of the two counters in isolation. This file follows the identifiers through the
  whole-client machine `World` (PosterModel/World.lean): from the first poll of the future that allocates them, through the
  message queue and `awaiting_ack`, to the PUBREL of a QoS 2 publish — for every script, every interleaving, every clone of
  the handle (all futures run `startOp` on the one shared `World.pidCtr`; the handle a request came through plays no role).

  Vocabulary (namespace `Poster.World.W10`, explained where it is defined): `Outstanding`, `msgPid`, `IdStep` in
  Lemmas/WorldIdsOut.lean; `Exec`, `allocCount`, `allocated`, `allocAge`, `WindowOk`, `consEv` in Lemmas/WorldIdsPath.lean;
  `SubOk` in Lemmas/WorldIdsSub.lean, `psids` in Lemmas/WorldStream.lean; `World.W7.Micro` / `During cfg w`, the elementary transitions and the moments
  of an execution, in Lemmas/WorldDuring.lean. Identifiers leave `Outstanding` when the acknowledgement is handled, the request
  is refused, the session is reset or the context dropped — whether or not the caller still holds the future.
-/
import PosterModel.Lemmas.WorldIdsPath
import PosterModel.Lemmas.WorldIdsSub
import PosterModel.Lemmas.WorldIdsForm
import PosterModel.Lemmas.WorldIdsEx
import PosterModel.Properties.C07World
import PosterModel.Properties.C12
import PosterModel.Lemmas.WorldWire


namespace Poster
open Framing World World.W7 World.W10

/-- **The first poll of a handle future stamps the request with the counter's value.** In any world whose counter is in
    range (every reachable world): the first poll of the future of a request that takes a packet identifier (PUBLISH with
    QoS > 0, SUBSCRIBE, UNSUBSCRIBE) advances the shared counter by exactly one step of the cycle 1, 2, …, 65535, 1, …
    — whether or not the request is then accepted —, and any other request leaves it alone; the queue gains at most one
    message; and the message queued, if any, carries exactly the value the counter had before the poll (`msgPid m = some
    w.pidCtr`, a value in 1..65535) resp. no identifier at all. Which handle (clone) the request came through plays no role:
    `startOp` does not take it. -/
theorem first_poll_takes_the_counter_value (w : World) (id : Nat) (req : Req) (hp : 1 ≤ w.pidCtr ∧ w.pidCtr ≤ 65535) :
    (w.startOp id req).pidCtr = (if Req.consumes req then nextPid w.pidCtr else w.pidCtr) ∧
    ((w.startOp id req).queue = w.queue ∨
      ∃ m, (w.startOp id req).queue = w.queue ++ [m] ∧
        msgPid m = (if Req.consumes req then some w.pidCtr else none)) := by
  refine ⟨by rw [(startOp_counters w id req).1, allocFor_pidCtr], ?_⟩
  rcases startOp_spec w id req with ⟨w0, hp0, ⟨k, _, e, _⟩ | ⟨hc, _, _, hv⟩⟩
  · exact Or.inl (by rw [e, World.finishOp_queue, (hp0 0).queue])
  · exact Or.inr ⟨_, (startOp_accepted w id req hc hv).1, reqMsg_msgPid w id req (by omega)⟩

/-- the message forms: an accepted QoS > 0 PUBLISH / SUBSCRIBE / UNSUBSCRIBE on a live context is queued under
    `actionId kind w.pidCtr` with `kind` = 4 (QoS 1), 5 (QoS 2), 9, 11, and its packet is the request encoded with
    `packetId := w.pidCtr` (and, for SUBSCRIBE, `subId := w.subCtr`) -/
theorem first_poll_message_forms (w : World) (id : Nat) (hc : w.hasCtx = true) :
    (∀ t : PublishTx, t.qos ≠ 0 → ({ t with packetId := some w.pidCtr } : PublishTx).valid = true →
      (w.startOp id (.publish t)).queue = w.queue ++
        [.awaitAck (actionId (if t.qos = 1 then 4 else 5) w.pidCtr)
          ({ t with packetId := some w.pidCtr } : PublishTx).encode (2 * id)]) ∧
    (∀ t : SubscribeTx, ({ t with packetId := w.pidCtr, subId := some w.subCtr } : SubscribeTx).valid = true →
      (w.startOp id (.subscribe t)).queue = w.queue ++
        [.subscribe (actionId 9 w.pidCtr) w.subCtr
          ({ t with packetId := w.pidCtr, subId := some w.subCtr } : SubscribeTx).encode (2 * id) id]) ∧
    (∀ t : UnsubscribeTx, ({ t with packetId := w.pidCtr } : UnsubscribeTx).valid = true →
      (w.startOp id (.unsubscribe t)).queue = w.queue ++
        [.awaitAck (actionId 11 w.pidCtr) ({ t with packetId := w.pidCtr } : UnsubscribeTx).encode (2 * id)]) := by
  refine ⟨fun t hq hv => ?_, fun t hv => (startOp_accepted w id (.subscribe t) hc hv).1,
    fun t hv => (startOp_accepted w id (.unsubscribe t) hc hv).1⟩
  have h := (startOp_accepted w id (.publish t) hc (by simpa only [completeReq, hq, if_false, Req.accepted] using hv)).1
  simpa only [reqMsg, hq, if_false] using h

/-- **The PUBREL of a QoS 2 publish reuses the identifier of the PUBREC it answers.** A resumed future never touches the
    counter; it queues nothing, or — a future waiting for its PUBREC, resumed with a PUBREC of reason < 0x80 — exactly
    one message, whose packet identifier is the one that PUBREC stands for (`relPid`: the identifier of `actionId 7
    a.packetId`, i.e. the PUBREC's own packet identifier). -/
theorem pubrel_reuses_the_identifier (w : World) (id s : Nat) (k : Wait) (v : SlotVal) :
    (w.resumeOp id s k v).pidCtr = w.pidCtr ∧
    ((w.resumeOp id s k v).queue = w.queue ∨
      ∃ m, (w.resumeOp id s k v).queue = w.queue ++ [m] ∧ k = .pubrec ∧ msgPid m = relPid (some (.full v))) := by
  obtain ⟨hp, _, hq | ⟨a, hk, hv, ha, _, hq⟩⟩ := resumeOp_outcome w id s k v
  · exact ⟨hp, Or.inl hq⟩
  · exact ⟨hp, Or.inr ⟨_, hq, hk, by rw [hv]; exact pubrelMsg_msgPid a (s + 1) ha⟩⟩

/-- **Every identifier in flight is a real packet identifier, at every moment of every execution**: all outstanding
    identifiers and the counter itself lie in 1..65535 — never 0, never beyond the 16-bit field — also after the counter
    has wrapped around. -/
theorem identifiers_in_flight_are_in_range (cfg : Cfg) (w : World) (hd : During cfg w) :
    (1 ≤ w.pidCtr ∧ w.pidCtr ≤ 65535) ∧ ∀ p ∈ Outstanding w, 1 ≤ p ∧ p ≤ 65535 :=
  ⟨(during_opsInv hd).pid, during_outstanding_range hd⟩

/-- **Every action identifier the client holds is `actionId kind pid` with a packet identifier in 1..65535, at every moment
    of every execution**: the action identifier of every queued message, every key of `awaiting_ack` and every key of the
    retransmit queue is `actionId kind pid` with `kind` ∈ {4 (PUBACK), 5 (PUBREC), 7 (PUBCOMP), 9 (SUBACK), 11 (UNSUBACK)}
    and `1 ≤ pid ≤ 65535`, or the key `actionId 13 0` all PINGREQs share (`AidForm`); and every packet stored in a oneshot
    is decoder output (`RxPacket.wf`), so the PUBREL built from a stored PUBREC carries an identifier in 1..65535. -/
theorem held_action_identifiers_have_the_right_form (cfg : Cfg) (w : World) (hd : During cfg w) :
    (∀ m ∈ w.queue, ∀ aid, m.aid = some aid → AidForm aid) ∧ (∀ e ∈ w.c.awaiting, AidForm e.1) ∧
    (∀ e ∈ w.c.retx, AidForm e.1) ∧ ∀ s p, w.slot s = some (.full (.pkt p)) → p.wf :=
  ⟨(during_keyForm hd).queue, (during_keyForm hd).awaiting, (during_keyForm hd).retx,
    fun s p h => during_slotWf hd s p (Poster.mem_of_lookupFirst s _ w.slots h)⟩

/-- **One elementary transition.** At every moment `w` of every execution, for every elementary transition `w → w'` (one
    poll of the context task, of a handle future — through whichever clone of the handle it was issued —, of a stream; a
    script event; …): the counter stands still or advances by one step; an identifier `p` outstanding afterwards was
    outstanding before — with at least the same multiplicity —, or it is the value `w.pidCtr` the counter had, the counter
    has advanced, and `p` has gained exactly one occurrence. The context task never makes an identifier outstanding
    (next theorem): handling a request moves its identifier from the queue to `awaiting_ack`, handling a PUBREC moves it to
    the future's oneshot, the PUBREL moves it back into the queue. -/
theorem identifiers_enter_only_by_allocation (cfg : Cfg) (w w' : World) (hd : During cfg w) (hm : Micro w w') :
    (w'.pidCtr = w.pidCtr ∨ w'.pidCtr = nextPid w.pidCtr) ∧
    (∀ p, (Outstanding w').count p ≤
      (Outstanding w).count p + (if w'.pidCtr ≠ w.pidCtr ∧ p = w.pidCtr then 1 else 0)) ∧
    (∀ p ∈ Outstanding w', p ∈ Outstanding w ∨ (p = w.pidCtr ∧ w'.pidCtr = nextPid w.pidCtr)) :=
  ⟨(micro_idStep (during_opsInv hd) hm).ctr, (micro_idStep (during_opsInv hd) hm).cnt,
    fun _ hp => (micro_idStep (during_opsInv hd) hm).mem hp⟩

/-- a poll of the context task lets no identifier become outstanding and leaves the counter alone -/
theorem context_never_makes_an_identifier_outstanding (cfg : Cfg) (w : World) (hd : During cfg w) :
    w.pollCtx.pidCtr = w.pidCtr ∧ ∀ p, (Outstanding w.pollCtx).count p ≤ (Outstanding w).count p :=
  shrinks_of_moves_ctx (during_opsInv hd) (pollCtx_moves w)

/-- every script's end lies on a path (so does every moment of every execution: `exec_of_during`) -/
theorem execution_paths_exist (cfg : Cfg) (evs : List Ev) :
    ∃ ws, Exec cfg ((evs.foldl World.step { cfg := cfg }) :: ws) :=
  exec_of_during (during_run cfg evs)

/-- **What `allocAge` measures.** Along an execution, if `allocAge p ws = some a` then `a ≥ 1` and the counter now stands
    where `a` steps of the cycle from `p` lead (`iter nextPid a p`); so for `a < 65535` the counter is NOT `p` — the next
    allocation cannot return `p` (`alloc_unique_window`) — while at `a = 65535` it is `p` again (`alloc_period`): the
    window cannot be enlarged. -/
theorem allocAge_is_the_distance_to_the_counter (cfg : Cfg) (w : World) (ws : List World) (h : Exec cfg (w :: ws))
    (p a : Nat) (ha : allocAge p (w :: ws) = some a) (hp : 1 ≤ p ∧ p ≤ 65535) :
    1 ≤ a ∧ w.pidCtr = iter nextPid a p ∧ (a < 65535 → w.pidCtr ≠ p) ∧ (a = 65535 → w.pidCtr = p) := by
  obtain ⟨h1, h2⟩ := exec_age_counter h p a ha
  refine ⟨h1, h2, fun hlt e => ?_, fun e => ?_⟩
  · have := alloc_unique_window p 0 a hp (by omega) (by omega)
    apply this
    rw [← h2, e]; rfl
  · rw [h2, e]
    have := alloc_period p 0 hp
    rw [Nat.zero_add] at this
    exact this

/-- every outstanding identifier has an age: it was handed out along the path -/
theorem outstanding_identifiers_were_allocated (cfg : Cfg) (w : World) (ws : List World) (h : Exec cfg (w :: ws)) :
    ∀ p ∈ Outstanding w, ∃ a, allocAge p (w :: ws) = some a :=
  exec_outstanding_allocated h

/-- **Uniqueness among the outstanding, for as long as the window hypothesis holds.** Along any execution `ws` (any
    script, any interleaving, any number of handle clones, any broker behaviour) in which at every moment every outstanding
    identifier was handed out fewer than 65535 allocations ago (`WindowOk ws`): at every moment of `ws` the outstanding
    packet identifiers are pairwise distinct. No bound on the total number of operations: the counter may have wrapped
    around any number of times. -/
theorem outstanding_identifiers_pairwise_distinct (cfg : Cfg) (ws : List World) (h : Exec cfg ws) (hw : WindowOk ws) :
    ∀ w ∈ ws, (Outstanding w).Nodup :=
  exec_unique h hw

/-- **The identifier being written differs from every other outstanding identifier.** At a moment `w` at which the
    outstanding identifiers are pairwise distinct (previous theorem), let `m` be the request at the head of the queue,
    carrying the packet identifier `p`. Then `p` is not the identifier of any other queued request, of any operation
    awaiting its acknowledgement, or of any QoS 2 publish about to send its PUBREL; and what `run()` hands to the transport
    for `m`, if anything, is `m`'s own packet, unchanged (`handleMsg_writes`: nothing, or exactly `[m.pkt]`). -/
theorem written_identifier_differs_from_all_others (w : World) (hn : (Outstanding w).Nodup) (m : Msg) (q : List Msg)
    (hq : w.queue = m :: q) (p : Nat) (hp : msgPid m = some p) :
    p ∉ qpids q ∧ p ∉ apids w.c.awaiting ∧ p ∉ ppids w ∧
    ∀ wok, writesOf (w.c.handleMsg m wok).2.1 = [] ∨ writesOf (w.c.handleMsg m wok).2.1 = [m.pkt] := by
  have e : Outstanding w = p :: (qpids q ++ apids w.c.awaiting ++ ppids w) := by
    simp [Outstanding, hq, qpids_cons, hp]
  rw [e, List.nodup_cons] at hn
  have := hn.1
  simp only [List.mem_append, not_or] at this
  exact ⟨this.1.1, this.1.2, this.2, fun wok => handleMsg_writes w.c m wok⟩

/-- … and when the message is handled and registered, its identifier is still unique among those awaiting their
    acknowledgements: `Outstanding` stays duplicate-free (one step of `identifiers_enter_only_by_allocation`), provided
    (`hc`) the counter stands still or its value is not outstanding. -/
theorem uniqueness_is_kept_by_steps_without_allocation (cfg : Cfg) (w w' : World) (hd : During cfg w) (hm : Micro w w')
    (hn : (Outstanding w).Nodup) (hc : w'.pidCtr = w.pidCtr ∨ w.pidCtr ∉ Outstanding w) : (Outstanding w').Nodup :=
  (micro_idStep (during_opsInv hd) hm).nodup hn hc

/-- **Allocations are bounded by requests.** Along every execution: identifiers allocated so far + identifier-taking
    futures not yet polled ≤ identifier-taking `op` events logged so far. An identifier is taken only by the first poll
    of the future of such an event, once. -/
theorem allocations_bounded_by_requests (cfg : Cfg) (w : World) (ws : List World) (h : Exec cfg (w :: ws)) :
    allocCount (w :: ws) + freshC w ≤ w.out.countP consObs :=
  exec_alloc_bound h

/-- **A script with fewer than 65535 identifier-taking operations never repeats an identifier.** If the script issues
    at most 65534 `op` events whose request is a PUBLISH with QoS > 0, a SUBSCRIBE or an UNSUBSCRIBE (any number of other
    operations), then along every execution path to its end: the window hypothesis holds; at every moment the outstanding
    identifiers are pairwise distinct; moreover ALL identifiers ever handed out are pairwise distinct, each lies in
    1..65534, and every identifier outstanding at the end is one of them. -/
theorem few_operations_all_identifiers_distinct (cfg : Cfg) (evs : List Ev) (hn : evs.countP consEv < 65535)
    (ws : List World) (h : Exec cfg ((evs.foldl World.step { cfg := cfg }) :: ws)) :
    WindowOk ((evs.foldl World.step { cfg := cfg }) :: ws) ∧
    (∀ w ∈ (evs.foldl World.step { cfg := cfg }) :: ws, (Outstanding w).Nodup) ∧
    (allocated ((evs.foldl World.step { cfg := cfg }) :: ws)).Nodup ∧
    (∀ p ∈ allocated ((evs.foldl World.step { cfg := cfg }) :: ws), 1 ≤ p ∧ p ≤ 65534) ∧
    ∀ p ∈ Outstanding (evs.foldl World.step { cfg := cfg }),
      p ∈ allocated ((evs.foldl World.step { cfg := cfg }) :: ws) := by
  have hb := exec_alloc_bound h
  have hc := consObs_script cfg evs
  have hlt : allocCount ((evs.foldl World.step { cfg := cfg }) :: ws) < 65535 := by omega
  have hw := windowOk_of_count _ hlt
  obtain ⟨_, h2, h3, h4⟩ := exec_allocated_nodup h hlt
  exact ⟨hw, exec_unique h hw, h2, fun p hp => ⟨(h3 p hp).1, by have := (h3 p hp).2; omega⟩, h4⟩

/-- the same without mentioning paths: at the end of such a script the outstanding identifiers are pairwise distinct -/
theorem few_operations_outstanding_distinct (cfg : Cfg) (evs : List Ev) (hn : evs.countP consEv < 65535) :
    (Outstanding (evs.foldl World.step { cfg := cfg })).Nodup := by
  obtain ⟨ws, h⟩ := execution_paths_exist cfg evs
  exact (few_operations_all_identifiers_distinct cfg evs hn ws h).2.1 _ (by simp)

/-- **Subscription identifiers are non-zero and encodable, in every reachable world.** After any script: the counter and
    every subscription identifier in flight — carried by a queued SUBSCRIBE or registered in the context's subscription
    table — lie in 1..268435455: the `NonZero` conversion in the SUBSCRIBE builder cannot fail, and the value fits a
    variable byte integer. No hypothesis on the script. -/
theorem subscription_identifiers_nonzero (cfg : Cfg) (evs : List Ev) : SubOk (evs.foldl World.step { cfg := cfg }) := by
  obtain ⟨tr, st, _⟩ := steps_dec evs { cfg := cfg } (OpsInv.init cfg)
  exact strace_subOk st (subOk_init cfg)

/-- **Every `subscribe()` call gets its own subscription identifier.** For every script with pairwise distinct `OP`
    identifiers and fewer operations than the counter has values: the execution is a trace of moves in which the `k`-th
    `subscribe()` future first polled (`k` counted from 0) finds the counter at `iter nextSub k 1 = k + 1` and is given
    exactly that value — the counter then advances, and nothing but that value newly comes in flight; these values are
    pairwise distinct (`sub_unique_window`); and in the world reached the subscription identifiers in flight are pairwise
    distinct, non-zero and below the counter. -/
theorem every_subscribe_gets_its_own_identifier (cfg : Cfg) (evs : List Ev) (hn : (opIds evs).Nodup)
    (hlen : (opIds evs).length + 1 < 268435455) :
    ∃ tr, STrace { cfg := cfg } tr (evs.foldl World.step { cfg := cfg }) ∧
      (startedOf tr).length < 268435455 ∧
      (∀ t1 l t2, tr = t1 ++ l :: t2 → l.started ≠ none →
        ∃ wa wb, STrace { cfg := cfg } t1 wa ∧ SMove l wa wb ∧
          wa.subCtr = (startedOf t1).length + 1 ∧ wb.subCtr = wa.subCtr + 1 ∧
          ∀ s ∈ psids wb, s ∈ psids wa ∨ s = wa.subCtr) ∧
      (∀ i j, i < j → j < 268435455 → iter nextSub i 1 ≠ iter nextSub j 1) ∧
      (psids (evs.foldl World.step { cfg := cfg })).Nodup ∧
      ∀ s ∈ psids (evs.foldl World.step { cfg := cfg }), 1 ≤ s ∧ s < (evs.foldl World.step { cfg := cfg }).subCtr := by
  obtain ⟨tr, st, hnd, hs, _⟩ := script_is_a_trace cfg evs hn
  have hl : (startedOf tr).length ≤ (opIds evs).length := Nat.le_trans (st.started_length_le hnd) hs.length_le
  obtain ⟨x, _, _⟩ := st.sidInv (sidInv_init cfg) (by show 1 + _ < _; omega)
  have hok := strace_subOk st (subOk_init cfg)
  refine ⟨tr, st, by omega, fun t1 l t2 e hl' => ?_, fun i j hij hj => ?_, x.nodup,
    fun s hs' => ⟨(hok.ids s hs').1, x.lt s hs'⟩⟩
  · obtain ⟨wa, wb, s1, m, s2, h1, h2, h3⟩ := strace_started_gets_counter st t1 t2 l e hl'
    have hlen1 : (startedOf t1).length < (startedOf tr).length := by
      rw [e]
      simp only [startedOf, List.filterMap_append, List.filterMap_cons, List.length_append]
      cases hst : l.started with
      | none => exact absurd hst hl'
      | some y => simp
    have hlt : (startedOf t1).length + 1 < 268435455 := by omega
    have hc : wa.subCtr = (startedOf t1).length + 1 := h1.trans (iter_nextSub_one _ (Nat.lt_of_succ_lt hlt))
    exact ⟨wa, wb, s1, m, hc, by rw [h2, hc]; exact nextSub_of_lt _ hlt, h3⟩
  · exact sub_unique_window 1 i j (by omega) hij (by omega)

/-- **A SUBSCRIBE enters the message queue only at the first poll of its `subscribe()` future, carrying the counter's
    value** (any world, any elementary transition): a queued message carrying a subscription identifier `sid` was already
    queued before the transition, or the transition is the first poll of the future of a `subscribe()` operation, `sid` is
    the value the counter had, and the counter has advanced. The context writes a queued packet exactly as given
    (`handleMsg_writes`), so every SUBSCRIBE handed to the transport carries an identifier that was allocated for it. -/
theorem subscribe_enters_queue_only_at_first_poll {w w' : World} (hm : Micro w w') :
    ∀ m ∈ w'.queue, ∀ sid, m.sid? = some sid → m ∈ w.queue ∨
      ∃ id h t, w' = w.pollTask (.op id) ∧ w.opSt id = some (.fresh h (.subscribe t)) ∧ sid = w.subCtr ∧
        w'.subCtr = nextSub w.subCtr :=
  subscribe_queue_origin hm

/-- **Subscription identifiers are handed out once, and all SUBSCRIBEs carry handed-out identifiers** (across time). If the
    script issues fewer than 268435455 identifier-taking operations, then along every execution path to its end: the
    subscription identifiers handed out (`subAllocated`: the counter's values at the first polls of `subscribe()` futures)
    are `1, 2, …, n` — pairwise distinct and non-zero —; the counter stands at `n + 1`; and every SUBSCRIBE message in the
    queue carries one of them. (That no two SUBSCRIBE packets handed to the transport carry the same subscription identifier
    follows from this, `subscribe_enters_queue_only_at_first_poll` and the FIFO queue; that step is not stated as a theorem.) -/
theorem subscription_identifiers_handed_out_once (cfg : Cfg) (evs : List Ev) (hn : evs.countP consEv < 268435455)
    (ws : List World) (h : Exec cfg ((evs.foldl World.step { cfg := cfg }) :: ws)) :
    (subAllocated ((evs.foldl World.step { cfg := cfg }) :: ws)).Nodup ∧
    (∀ s ∈ subAllocated ((evs.foldl World.step { cfg := cfg }) :: ws),
      1 ≤ s ∧ s ≤ (subAllocated ((evs.foldl World.step { cfg := cfg }) :: ws)).length) ∧
    (evs.foldl World.step { cfg := cfg }).subCtr =
      (subAllocated ((evs.foldl World.step { cfg := cfg }) :: ws)).length + 1 ∧
    ∀ m ∈ (evs.foldl World.step { cfg := cfg }).queue, ∀ sid, m.sid? = some sid →
      sid ∈ subAllocated ((evs.foldl World.step { cfg := cfg }) :: ws) := by
  have hb := exec_alloc_bound h
  have hc := consObs_script cfg evs
  have hlt : allocCount ((evs.foldl World.step { cfg := cfg }) :: ws) < 268435455 := by omega
  obtain ⟨h1, _, h3, h4, h5⟩ := exec_subAllocated_nodup h hlt
  exact ⟨h3, h4, h1, h5⟩

/-- **The first poll of a handle future never panics**, in any world: it logs nothing (the request was queued) or exactly
    one `DONE id (err …)` line (the request cannot be encoded, or the context is gone). The allocation itself is a total
    function returning a value in 1..65535 resp. 1..268435455 (`alloc_in_range`, `sub_nonzero`), so the `NonZero`
    conversions of the option builders always succeed. No hypothesis on the world — in particular none on operation
    identifiers. -/
theorem first_poll_never_panics (w : World) (id : Nat) (req : Req) :
    (∀ t cls, Obs.panic t cls ∈ (w.startOp id req).out → Obs.panic t cls ∈ w.out) ∧
    ((w.startOp id req).out = w.out ∨ ∃ k, (w.startOp id req).out = w.out ++ [.done id (.err k)]) := by
  refine ⟨fun t cls h => ?_, startOp_out w id req⟩
  rcases startOp_out w id req with e | ⟨k, e⟩
  · rw [e] at h; exact h
  · rw [e] at h
    rcases List.mem_append.mp h with h | h
    · exact h
    · simp at h

/-- the allocators themselves: total, in range from a counter in range, whatever else is going on -/
theorem allocators_total_and_in_range (w : World) (hp : 1 ≤ w.pidCtr ∧ w.pidCtr ≤ 65535)
    (hs : 1 ≤ w.subCtr ∧ w.subCtr ≤ 268435455) :
    (1 ≤ w.allocPid.1 ∧ w.allocPid.1 ≤ 65535) ∧ (1 ≤ w.allocPid.2.pidCtr ∧ w.allocPid.2.pidCtr ≤ 65535) ∧
    (1 ≤ w.allocSub.1 ∧ w.allocSub.1 ≤ 268435455) ∧ (1 ≤ w.allocSub.2.subCtr ∧ w.allocSub.2.subCtr ≤ 268435455) :=
  ⟨hp, User.nextPid_range _, hs, User.nextSub_range _⟩

section NonVacuity
namespace C11Ex

/-- its hypothesis for `few_operations_all_identifiers_distinct` holds, and its outstanding identifiers are 1, 2, 3 —
    the ping took none —, the counter stands at 4 -/
example : scrIds.countP consEv < 65535 ∧ Outstanding (scrIds.foldl World.step {}) = [1, 2, 3] ∧
    (scrIds.foldl World.step {}).pidCtr = 4 ∧ (scrIds.foldl World.step {}).subCtr = 2 ∧
    psids (scrIds.foldl World.step {}) = [1] := by decide +kernel

example : (Outstanding (scrIds.foldl World.step {})).Nodup := few_operations_outstanding_distinct {} scrIds (by decide)

/-- the hypotheses of `outstanding_identifiers_pairwise_distinct` are satisfiable: the end of `scrIds` lies on a path along
    which the window hypothesis holds -/
example : ∃ ws, Exec {} ((scrIds.foldl World.step {}) :: ws) ∧ WindowOk ((scrIds.foldl World.step {}) :: ws) := by
  obtain ⟨ws, h⟩ := execution_paths_exist {} scrIds
  exact ⟨ws, h, (few_operations_all_identifiers_distinct {} scrIds (by decide) ws h).1⟩

/-- the wrap-around: the next allocation returns 65535 and wraps the counter to 1 — the identifier 1 is then about to be
    handed out again while outstanding: the window hypothesis is what excludes this -/
example : Outstanding wWrap = [1] ∧ (wWrap.pollOp 9).pidCtr = 1 ∧ Outstanding (wWrap.pollOp 9) = [1, 65535] := by
  decide

/-- the identifier 7 is outstanding although it is neither queued nor registered; the poll of the future queues the PUBREL
    with the same identifier, and 7 is still outstanding, once -/
example : Outstanding wGap = [7] ∧ (wGap.pollOp 1).queue = [.awaitAck (actionId 7 7) (ackBytes 0x62 7) 3] ∧
    Outstanding (wGap.pollOp 1) = [7] ∧ (wGap.pollOp 1).pidCtr = 8 := by decide

/-- `allocAge` on a two-step path: after one allocation the identifier 1 has age 1 -/
example :
    let w0 : World := {}
    let w1 : World := { pidCtr := 2 }
    allocAge 1 [w1, w0] = some 1 ∧ allocCount [w1, w0] = 1 ∧ allocated [w1, w0] = [1] := by decide

/-- the form of the identifiers a reachable world holds: the end of `scrIds` (`held_action_identifiers_have_the_right_form`
    applies by `during_run`); its queue carries the action identifiers 4/1, 13/0, 9/2, 5/3 -/
example : During {} (scrIds.foldl World.step {}) ∧
    (scrIds.foldl World.step {}).queue.map Msg.aid =
      [some (actionId 4 1), some (actionId 13 0), some (actionId 9 2), some (actionId 5 3)] :=
  ⟨during_run {} scrIds, by decide⟩

/-- a script satisfying the hypotheses of `every_subscribe_gets_its_own_identifier` -/
example : (opIds scrIds).Nodup ∧ (opIds scrIds).length + 1 < 268435455 := by decide

end C11Ex
end NonVacuity

#print axioms first_poll_takes_the_counter_value
#print axioms first_poll_message_forms
#print axioms pubrel_reuses_the_identifier
#print axioms identifiers_in_flight_are_in_range
#print axioms held_action_identifiers_have_the_right_form
#print axioms identifiers_enter_only_by_allocation
#print axioms context_never_makes_an_identifier_outstanding
#print axioms execution_paths_exist
#print axioms allocAge_is_the_distance_to_the_counter
#print axioms outstanding_identifiers_were_allocated
#print axioms outstanding_identifiers_pairwise_distinct
#print axioms written_identifier_differs_from_all_others
#print axioms uniqueness_is_kept_by_steps_without_allocation
#print axioms allocations_bounded_by_requests
#print axioms few_operations_all_identifiers_distinct
#print axioms few_operations_outstanding_distinct
#print axioms subscription_identifiers_nonzero
#print axioms every_subscribe_gets_its_own_identifier
#print axioms subscribe_enters_queue_only_at_first_poll
#print axioms subscription_identifiers_handed_out_once
#print axioms first_poll_never_panics
#print axioms allocators_total_and_in_range

end Poster

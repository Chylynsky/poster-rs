/-
  C02: "For every well-formed MQTT 5 packet a server may send (CONNACK, AUTH, PUBLISH, PUBACK, PUBREC, PUBREL, PUBCOMP,
  SUBACK, UNSUBACK, PINGRESP, DISCONNECT), including the shortened forms the standard allows, any legal set of
  properties in any order and repeated user properties, the client accepts the packet. Every value it then exposes …
  equals the value that was encoded, and absent properties read as the defaults the standard prescribes."

  `Spec.encodeServer` / `Spec.WF` / `Spec.expected` (PosterModel/Spec/Server.lean) are written from the standard;
  `decodeRx` (PosterModel/Rx.lean) is the code-shaped model of `RxPacket::try_decode`.
-/
import PosterModel.Lemmas.RxPackets

namespace Poster
open Spec Spec.Server

/-- **CONNACK** (§3.2). Any of the 22 reason codes, Session Present 0/1, any subset of the 17 CONNACK properties in any
    order with any number of user properties: accepted; every field is the value sent, absent properties read as
    Receive Maximum 65535, Topic Alias Maximum 0, Maximum QoS 2, the four "available" flags true, the rest `none`. -/
theorem dec_connack_of_spec (flags reason : Nat) (props : List Property) (h : WF (.connack flags reason props)) :
    decodeRx (encodeServer (.connack flags reason props)) = .ok (expected (.connack flags reason props)) := by
  simp only [WF, wf, Bool.and_eq_true, decide_eq_true_eq] at h
  obtain ⟨hlen, ⟨hf, hr⟩, hps⟩ := h
  obtain ⟨hok, hr256⟩ := table_ok (ok := connectReasonOk) (by decide) hr
  simp only [encodeServer, header, decodeRx_frame _ _ (by decide : 32 < 256)]
  exact decConnack_spec flags reason props hf hr256 hok hps hlen

/-- **PUBLISH** (§3.3). Every DUP / QoS 0..2 / RETAIN combination, packet identifier 1..65535 exactly when QoS > 0, any
    topic and payload, any subset and order of the 8 PUBLISH properties with repeated user properties and repeated
    subscription identifiers: accepted; flags, topic, identifier, payload and every property value are those sent,
    user properties and subscription identifiers in wire order. -/
theorem dec_publish_of_spec (dup : Bool) (qos : Nat) (retain : Bool) (topic : Bytes) (pid : Option Nat)
    (props : List Property) (payload : Bytes) (h : WF (.publish dup qos retain topic pid props payload)) :
    decodeRx (encodeServer (.publish dup qos retain topic pid props payload)) =
      .ok (expected (.publish dup qos retain topic pid props payload)) := by
  simp only [WF, wf, Bool.and_eq_true, decide_eq_true_eq] at h
  obtain ⟨hlen, ⟨⟨hq, ht⟩, hpid⟩, hps⟩ := h
  obtain ⟨hH, h16, hq', hd, hr⟩ := pubHdr_facts dup qos retain hq
  have hnone : pid = none → qos = 0 := by
    intro e; subst e; simpa using hpid
  have hsome : ∀ i, pid = some i → qos > 0 ∧ pidOk i = true := by
    intro i e; subst e; simpa using hpid
  simp only [encodeServer, header, decodeRx_frame _ _ hH, h16]
  exact decPublish_spec _ dup qos retain topic pid props payload hH h16 hq' hd hr hq ht hnone hsome hps hlen

/-- **PUBACK** (§3.4). All three forms — full (with properties), reason only (remaining length 3), identifier
    only (remaining length 2, reason reads as 0x00 Success) — with every reason code of the type's table and every
    identifier 1..65535: accepted, and identifier, reason, reason string and user properties (in order) are those sent. -/
theorem dec_puback_of_spec (form : AckForm) (pid reason : Nat) (props : List Property)
    (h : WF (.puback form pid reason props)) :
    decodeRx (encodeServer (.puback form pid reason props)) = .ok (expected (.puback form pid reason props)) := by
  simp only [WF, wf, Bool.and_eq_true, decide_eq_true_eq] at h
  exact decodeRx_ackLike (hdr := 0x40) (ok := pubackReasonOk) (by decide) (by decide) rfl rfl (fun _ => rfl) rfl h.1 h.2

/-- **PUBREC** (§3.5). All three forms — full (with properties), reason only (remaining length 3), identifier
    only (remaining length 2, reason reads as 0x00 Success) — with every reason code of the type's table and every
    identifier 1..65535: accepted, and identifier, reason, reason string and user properties (in order) are those sent. -/
theorem dec_pubrec_of_spec (form : AckForm) (pid reason : Nat) (props : List Property)
    (h : WF (.pubrec form pid reason props)) :
    decodeRx (encodeServer (.pubrec form pid reason props)) = .ok (expected (.pubrec form pid reason props)) := by
  simp only [WF, wf, Bool.and_eq_true, decide_eq_true_eq] at h
  exact decodeRx_ackLike (hdr := 0x50) (ok := pubrecReasonOk) (by decide) (by decide) rfl rfl (fun _ => rfl) rfl h.1 h.2

/-- **PUBREL** (§3.6). All three forms — full (with properties), reason only (remaining length 3), identifier
    only (remaining length 2, reason reads as 0x00 Success) — with every reason code of the type's table and every
    identifier 1..65535: accepted, and identifier, reason, reason string and user properties (in order) are those sent. -/
theorem dec_pubrel_of_spec (form : AckForm) (pid reason : Nat) (props : List Property)
    (h : WF (.pubrel form pid reason props)) :
    decodeRx (encodeServer (.pubrel form pid reason props)) = .ok (expected (.pubrel form pid reason props)) := by
  simp only [WF, wf, Bool.and_eq_true, decide_eq_true_eq] at h
  exact decodeRx_ackLike (hdr := 0x62) (ok := pubrelReasonOk) (by decide) (by decide) rfl rfl (fun _ => rfl) rfl h.1 h.2

/-- **PUBCOMP** (§3.7). All three forms — full (with properties), reason only (remaining length 3), identifier
    only (remaining length 2, reason reads as 0x00 Success) — with every reason code of the type's table and every
    identifier 1..65535: accepted, and identifier, reason, reason string and user properties (in order) are those sent. -/
theorem dec_pubcomp_of_spec (form : AckForm) (pid reason : Nat) (props : List Property)
    (h : WF (.pubcomp form pid reason props)) :
    decodeRx (encodeServer (.pubcomp form pid reason props)) = .ok (expected (.pubcomp form pid reason props)) := by
  simp only [WF, wf, Bool.and_eq_true, decide_eq_true_eq] at h
  exact decodeRx_ackLike (hdr := 0x70) (ok := pubcompReasonOk) (by decide) (by decide) rfl rfl (fun _ => rfl) rfl h.1 h.2

/-- **SUBACK** (§3.9). Identifier 1..65535, reason string and user properties, any list of reason codes of the
    type's table: accepted; identifier, properties and the reason codes (in order) are those sent. -/
theorem dec_suback_of_spec (pid : Nat) (props : List Property) (reasons : List Nat)
    (h : WF (.suback pid props reasons)) :
    decodeRx (encodeServer (.suback pid props reasons)) = .ok (expected (.suback pid props reasons)) := by
  simp only [WF, wf, Bool.and_eq_true, decide_eq_true_eq, List.all_eq_true] at h
  exact decodeRx_subackLike (hdr := 0x90) (ok := subackReasonOk) (by decide) (by decide) rfl rfl (fun _ => rfl) rfl h.1 h.2.1.1
    h.2.1.2 h.2.2

/-- **UNSUBACK** (§3.11). Identifier 1..65535, reason string and user properties, any list of reason codes of the
    type's table: accepted; identifier, properties and the reason codes (in order) are those sent. -/
theorem dec_unsuback_of_spec (pid : Nat) (props : List Property) (reasons : List Nat)
    (h : WF (.unsuback pid props reasons)) :
    decodeRx (encodeServer (.unsuback pid props reasons)) = .ok (expected (.unsuback pid props reasons)) := by
  simp only [WF, wf, Bool.and_eq_true, decide_eq_true_eq, List.all_eq_true] at h
  exact decodeRx_subackLike (hdr := 0xB0) (ok := unsubackReasonOk) (by decide) (by decide) rfl rfl (fun _ => rfl) rfl h.1 h.2.1.1
    h.2.1.2 h.2.2

/-- **PINGRESP** (§3.13): `d0 00` is accepted. -/
theorem dec_pingresp_of_spec : decodeRx (encodeServer .pingresp) = .ok (expected .pingresp) := by
  simp only [encodeServer, header, decodeRx_frame _ _ (by decide : 0xD0 < 256), dU8_frame _ _ (by decide : 0xD0 < 256)]
  simp [expected]

/-- **DISCONNECT** (§3.14). Full form with Reason String / Server Reference / user properties, reason only (remaining
    length 1), and the empty form (remaining length 0, reason reads as 0x00): accepted; Session Expiry Interval reads
    as 0 (a server never sends it). -/
theorem dec_disconnect_of_spec (form : DiscForm) (reason : Nat) (props : List Property)
    (h : WF (.disconnect form reason props)) :
    decodeRx (encodeServer (.disconnect form reason props)) = .ok (expected (.disconnect form reason props)) := by
  simp only [WF, wf, Bool.and_eq_true, decide_eq_true_eq] at h
  obtain ⟨hlen, hr, hf⟩ := h
  obtain ⟨hok, hr256⟩ := table_ok (ok := disconnectReasonOk) (by decide) hr
  simp only [encodeServer, header, decodeRx_frame _ _ (by decide : 0xE0 < 256)]
  exact decDisconnect_spec form reason props hr256 hok hf hlen

/-- **AUTH** (§3.15). Full form with an Authentication Method (Authentication Data, Reason String, user properties
    optional) and the empty form (remaining length 0, reason reads as 0x00): accepted, values as sent. -/
theorem dec_auth_of_spec (form : AuthForm) (reason : Nat) (props : List Property)
    (h : WF (.auth form reason props)) :
    decodeRx (encodeServer (.auth form reason props)) = .ok (expected (.auth form reason props)) := by
  simp only [WF, wf, Bool.and_eq_true, decide_eq_true_eq] at h
  obtain ⟨hlen, hr, hf⟩ := h
  obtain ⟨hok, hr256⟩ := table_ok (ok := authReasonOk) (by decide) hr
  simp only [encodeServer, header, decodeRx_frame _ _ (by decide : 0xF0 < 256)]
  exact decAuth_spec form reason props hr256 hok hf hlen

/-- **C02.** Every well-formed server packet is accepted by `RxPacket::try_decode`, and the decoded record is exactly
    `Spec.expected`: the values that were encoded, the standard's defaults for absent properties. -/
theorem dec_of_spec (p : ServerPacket) (h : WF p) : decodeRx (encodeServer p) = .ok (expected p) := by
  cases p with
  | connack flags reason props => exact dec_connack_of_spec flags reason props h
  | publish dup qos retain topic pid props payload => exact dec_publish_of_spec dup qos retain topic pid props payload h
  | puback form pid reason props => exact dec_puback_of_spec form pid reason props h
  | pubrec form pid reason props => exact dec_pubrec_of_spec form pid reason props h
  | pubrel form pid reason props => exact dec_pubrel_of_spec form pid reason props h
  | pubcomp form pid reason props => exact dec_pubcomp_of_spec form pid reason props h
  | suback pid props reasons => exact dec_suback_of_spec pid props reasons h
  | unsuback pid props reasons => exact dec_unsuback_of_spec pid props reasons h
  | pingresp => exact dec_pingresp_of_spec
  | disconnect form reason props => exact dec_disconnect_of_spec form reason props h
  | auth form reason props => exact dec_auth_of_spec form reason props h

/-! ## non-vacuity: a concrete well-formed packet of every type (properties out of table order, two user properties)

`a` = 97, `b` = 98, … ; `wf_concrete` evaluates `WF` (see Lemmas/RxPackets.lean). -/

/-- CONNACK, Session Present, success, 9 properties: Receive Maximum 10, a user property, Retain Available = 0,
    Assigned Client Identifier "hi", a second user property, Maximum QoS 1, Session Expiry 3600, Shared Subscription
    Available = 0, Server Keep Alive 60 -/
example : WF (.connack 1 0
    [⟨33, .num 10⟩, ⟨38, .pair [97] [98]⟩, ⟨37, .bool false⟩, ⟨18, .bytes [104, 105]⟩, ⟨38, .pair [97] [99]⟩,
     ⟨36, .num 1⟩, ⟨17, .num 3600⟩, ⟨42, .bool false⟩, ⟨19, .num 60⟩]) := by wf_concrete

/-- CONNACK refusing the connection (0x87 Not authorized) with a Reason String "é" (two-byte UTF-8) -/
example : WF (.connack 0 0x87 [⟨31, .bytes [0xC3, 0xA9]⟩]) := by wf_concrete

/-- PUBLISH, DUP, QoS 1, identifier 7, topic "t", two Subscription Identifiers (300 takes two bytes), two user
    properties, Payload Format Indicator, Content Type, Message Expiry, payload 01 02 03 -/
example : WF (.publish true 1 false [116] (some 7)
    [⟨11, .var 300 2⟩, ⟨38, .pair [97] [98]⟩, ⟨3, .bytes [120]⟩, ⟨11, .var 5 1⟩, ⟨1, .bool true⟩,
     ⟨38, .pair [97] [98]⟩, ⟨2, .num 4294967295⟩] [1, 2, 3]) := by wf_concrete

/-- PUBLISH, QoS 0 (no identifier), RETAIN, Topic Alias 65535, Response Topic, Correlation Data, empty payload -/
example : WF (.publish false 0 true [] none
    [⟨35, .num 65535⟩, ⟨8, .bytes [114]⟩, ⟨9, .bytes [0, 255]⟩] []) := by wf_concrete

/-- PUBACK, full form, 0x10 No matching subscribers, user property / Reason String / user property -/
example : WF (.puback .full 7 0x10
    [⟨38, .pair [97] [98]⟩, ⟨31, .bytes [104, 105]⟩, ⟨38, .pair [97] [99]⟩]) := by wf_concrete
/-- PUBACK, identifier only (remaining length 2) -/
example : WF (.puback .idOnly 65535 0 []) := by wf_concrete

/-- PUBREC, reason only (remaining length 3), 0x97 Quota exceeded -/
example : WF (.pubrec .reasonOnly 1 0x97 []) := by wf_concrete
/-- PUBREC, full form with two user properties around a Reason String -/
example : WF (.pubrec .full 2 0x80
    [⟨38, .pair [107] [118]⟩, ⟨31, .bytes [110, 111]⟩, ⟨38, .pair [107] [119]⟩]) := by wf_concrete

/-- PUBREL, full form, 0x92 Packet Identifier not found -/
example : WF (.pubrel .full 9 0x92
    [⟨31, .bytes [120]⟩, ⟨38, .pair [97] [98]⟩, ⟨38, .pair [97] [98]⟩]) := by wf_concrete

/-- PUBCOMP, full form without properties (remaining length 4) and with them -/
example : WF (.pubcomp .full 9 0 []) := by wf_concrete
example : WF (.pubcomp .full 9 0x92
    [⟨38, .pair [] []⟩, ⟨38, .pair [97] []⟩, ⟨31, .bytes []⟩]) := by wf_concrete

/-- SUBACK for three filters: granted QoS 1, granted QoS 2, 0x87 Not authorized -/
example : WF (.suback 3 [⟨38, .pair [97] [98]⟩, ⟨31, .bytes [111, 107]⟩, ⟨38, .pair [99] [100]⟩]
    [0x01, 0x02, 0x87]) := by wf_concrete

/-- UNSUBACK: success, 0x11 No subscription existed -/
example : WF (.unsuback 4 [⟨38, .pair [97] [98]⟩, ⟨38, .pair [97] [98]⟩, ⟨31, .bytes [120]⟩] [0x00, 0x11]) := by
  wf_concrete

/-- PINGRESP -/
example : WF .pingresp := by wf_concrete

/-- DISCONNECT 0x9C Use another server, with Server Reference, two user properties and a Reason String -/
example : WF (.disconnect .full 0x9C
    [⟨38, .pair [97] [98]⟩, ⟨28, .bytes [104, 58, 49]⟩, ⟨38, .pair [99] [100]⟩, ⟨31, .bytes [109]⟩]) := by
  wf_concrete
/-- DISCONNECT short forms: reason only (0x8B Server shutting down) and empty (remaining length 0) -/
example : WF (.disconnect .reasonOnly 0x8B []) := by wf_concrete
example : WF (.disconnect .empty 0 []) := by wf_concrete

/-- AUTH 0x18 Continue authentication: user property, Authentication Data, Authentication Method, user property,
    Reason String -/
example : WF (.auth .full 0x18
    [⟨38, .pair [97] [98]⟩, ⟨22, .bytes [1, 2, 3]⟩, ⟨21, .bytes [83, 67, 82, 65, 77]⟩, ⟨38, .pair [97] [99]⟩,
     ⟨31, .bytes [114]⟩]) := by wf_concrete
/-- AUTH with a method and no data (legal, §3.15.2.2.3), and the empty form -/
example : WF (.auth .full 0 [⟨21, .bytes [120]⟩]) := by wf_concrete
example : WF (.auth .empty 0 []) := by wf_concrete

/-- the encoder's bytes for two of the packets above (what the test driver feeds to the implementation) -/
example : encodeServer (.puback .full 7 0x10
    [⟨38, .pair [97] [98]⟩, ⟨31, .bytes [104, 105]⟩, ⟨38, .pair [97] [99]⟩]) =
    [0x40, 0x17, 0x00, 0x07, 0x10, 0x13, 0x26, 0x00, 0x01, 0x61, 0x00, 0x01, 0x62, 0x1f, 0x00, 0x02, 0x68, 0x69,
     0x26, 0x00, 0x01, 0x61, 0x00, 0x01, 0x63] := by decide
example : encodeServer (.disconnect .empty 0 []) = [0xE0, 0x00] := by decide

/-- WF is not trivially true: a zero packet identifier, a duplicated Reason String, Maximum QoS 2, a PUBLISH property in
    a PUBACK, QoS 1 without identifier, a short form hiding a non-zero reason, AUTH without a method -/
example : ¬ WF (.puback .idOnly 0 0 []) := by wf_concrete
example : ¬ WF (.puback .full 1 0 [⟨31, .bytes [120]⟩, ⟨31, .bytes [121]⟩]) := by wf_concrete
example : ¬ WF (.connack 0 0 [⟨36, .num 2⟩]) := by wf_concrete
example : ¬ WF (.puback .full 1 0 [⟨1, .bool true⟩]) := by wf_concrete
example : ¬ WF (.publish false 1 false [116] none [] []) := by wf_concrete
example : ¬ WF (.disconnect .empty 0x8B []) := by wf_concrete
example : ¬ WF (.auth .full 0x18 [⟨22, .bytes [1]⟩]) := by wf_concrete

end Poster

#print axioms Poster.dec_connack_of_spec
#print axioms Poster.dec_publish_of_spec
#print axioms Poster.dec_puback_of_spec
#print axioms Poster.dec_pubrec_of_spec
#print axioms Poster.dec_pubrel_of_spec
#print axioms Poster.dec_pubcomp_of_spec
#print axioms Poster.dec_suback_of_spec
#print axioms Poster.dec_unsuback_of_spec
#print axioms Poster.dec_pingresp_of_spec
#print axioms Poster.dec_disconnect_of_spec
#print axioms Poster.dec_auth_of_spec
#print axioms Poster.dec_of_spec

/-
  Properties/CtxLift.lean — the context-level properties C08, C09, C10, C12, C17, proved in their own files for every history
  `Ctx.serve c is` of the serving loop, hold for whole executions of the client. Per poll: one poll of the `select!` loop of
  `run()` drives the context through exactly one served history of well-formed inputs (`World.PollServe`), so every
  per-history theorem applies to it. Per script: the context moves only by the transitions `CtxTrans`, so every invariant of
  those transitions holds in every reachable world.
-/
import PosterModel.Lemmas.WorldCtxTrans
import PosterModel.Lemmas.WorldEx
import PosterModel.Properties.C08
import PosterModel.Properties.C09
import PosterModel.Properties.C10
import PosterModel.Properties.C12
import PosterModel.Properties.C17

namespace Poster
open Framing

/-- **Every script moves the context only by the documented transitions.** Whatever the configuration and whatever the
    script (setup, connect, authorize, run, feeding bytes, requests, polls, drops, …), the context of the world reached is
    obtained from the fresh context by: handling one well-formed input of the serving loop, handling a CONNACK, recording
    the session expiry interval of a CONNECT, recording the disconnection time, resuming the session, or starting afresh.
    Nothing else — no handle future, no stream, no executor step — ever touches the context. -/
theorem world_ctx_transitions (cfg : Cfg) (evs : List Ev) :
    CtxTrans {} (evs.foldl World.step { cfg := cfg }).c :=
  World.run_ctxTrans cfg evs

/-- **The send quota never exceeds Receive Maximum, in every reachable world** (C10 `quota_bounded`, lifted): after any
    script the number of free QoS>0 publish slots is at most the Receive Maximum announced by the broker (65535 before any
    CONNACK) — the guarded increment never overflows, even when the broker acknowledges things twice, across reconnects and
    session resets. -/
theorem world_quota_bounded (cfg : Cfg) (evs : List Ev) :
    let w := evs.foldl World.step { cfg := cfg }
    w.c.quota ≤ w.c.recvMax :=
  (World.run_ctxTrans cfg evs).quota_le (by decide)

/-- **`inbound_qos2` never holds an identifier twice, in every reachable world** (C09, lifted): the list of QoS 2 packet
    identifiers answered with PUBREC and not yet released has no duplicates after any script — so a PUBREL removes the
    identifier completely and the next PUBLISH carrying it is delivered as a new message. -/
theorem world_inQos2 (cfg : Cfg) (evs : List Ev) : (evs.foldl World.step { cfg := cfg }).c.inQos2.Nodup :=
  (World.run_ctxTrans cfg evs).inQos2_nodup List.nodup_nil

/-- **One poll of the loop is a served history.** For every world and every fuel, the poll hands the inputs
    `World.loopHist f w` to the handlers: each is well formed, none is skipped, all but possibly the last let the loop go on,
    the context afterwards is the one `Ctx.serve` computes; if the last one ends `run()` the task is over and returns the
    result of that flow; and with an unlimited transport the bytes handed to the transport by the poll are exactly the
    writes of the history, in order. -/
theorem world_poll_is_serve (f : Nat) (w : World) :
    World.PollServe w (World.runLoop f w) (World.loopHist f w) :=
  World.runLoop_pollServe f w

theorem histWrites_eq_wire (c : Ctx) (is : List CIn) (h : ∀ i ∈ is, i.wf) :
    World.histWrites (c.serve is).2 = (c.serve is).2.flatMap obsWire :=
  histWrites_of_acks _ (acks_exact c is h)

/-- **Acknowledgements are exact in every poll of `run()`, down to the bytes on the transport** (C08, lifted). For every
    world and fuel, with `t` the history the poll serves: every handled inbound packet is answered with exactly the
    acknowledgement owed and every handled request with nothing or its own packet (`P_C08`); the acknowledgements written
    are the ones owed, in arrival order; and if the transport is unlimited, the bytes the poll hands to the transport are
    exactly, in order, for each handled packet its owed acknowledgement and for each handled request what it wrote. -/
theorem world_poll_acks_exact (f : Nat) (w : World) :
    let t := (w.c.serve (World.loopHist f w)).2
    (World.runLoop f w).c = (w.c.serve (World.loopHist f w)).1 ∧
    P_C08 t = true ∧ pktWrites t = pktOwed t ∧
    (w.cfg.wlimit = none → (World.runLoop f w).sent = w.sent ++ (t.flatMap obsWire).flatten) := by
  have h := World.runLoop_pollServe f w
  exact ⟨h.c_eq, h.acks, pktWrites_eq_pktOwed _ h.acks, fun hl => h.wire (.inl hl)⟩

/-- **The bytes of a poll under a write limit.** Whatever the write limit of the transport: if the transport took the write of
    every handler of the poll (every input of the history has `wok = true`), the bytes the poll hands to the transport are
    exactly, in order, the acknowledgement owed for each handled packet and what each handled request wrote; and in any case
    (a write cut short by the limit) the poll only appends to what the transport was handed before. -/
theorem world_poll_bytes (f : Nat) (w : World) :
    ((∀ i ∈ World.loopHist f w, i.wok = true) →
      (World.runLoop f w).sent = w.sent ++ ((w.c.serve (World.loopHist f w)).2.flatMap obsWire).flatten) ∧
    ∃ more, (World.runLoop f w).sent = w.sent ++ more := by
  have h := World.runLoop_pollServe f w
  exact ⟨fun hk => h.wire (.inr hk), h.sent_prefix⟩

/-- **The send quota is respected in every poll of `run()`** (C10, lifted). For every world, every fuel and every monitor
    state `m` that accounts for the context (`QRel`: free slots + outstanding publishes = Receive Maximum), the monitor
    accepts the history the poll serves: no QoS>0 PUBLISH is written while Receive Maximum are outstanding, and
    `QuotaExceeded` is returned only to a QoS>0 PUBLISH and only then. -/
theorem world_poll_quota (f : Nat) (w : World) (m : QMon) (h : QRel w.c m) :
    m.scan (w.c.serve (World.loopHist f w)).2 = true :=
  serve_sim w.c m _ h

/-- the same from a context whose quota is full (e.g. right after CONNACK): C10 itself for the poll -/
theorem world_poll_quota_fresh (f : Nat) (w : World) (R : Nat) (hq : w.c.quota = R) (hr : w.c.recvMax = R) :
    P_C10 R (w.c.serve (World.loopHist f w)).2 = true :=
  quota_invariant R w.c hq hr _

/-- **`inbound_qos2` after a poll is what the history says** (C09, lifted): the identifiers pending after the poll are
    obtained from those pending before by adding each handled QoS 2 PUBLISH identifier not yet pending and removing each
    handled PUBREL identifier. -/
theorem world_poll_inQos2 (f : Nat) (w : World) :
    (World.runLoop f w).c.inQos2 = (w.c.serve (World.loopHist f w)).2.foldl q2Step w.c.inQos2 :=
  (World.runLoop_pollServe f w).inQos2

/-- **The retransmit queue after a poll is the unfinished handshakes of its history** (C17, lifted). -/
theorem world_poll_retx (f : Nat) (w : World) :
    (World.runLoop f w).c.retx = unfinishedFrom w.c.retx (w.c.serve (World.loopHist f w)).2 :=
  (World.runLoop_pollServe f w).retx

/-- **Serving never changes the packet-size limit** (C12, lifted): after a poll of the loop it is still the one of the last
    CONNACK. -/
theorem world_poll_maxPkt (f : Nat) (w : World) : (World.runLoop f w).c.maxPkt = w.c.maxPkt :=
  (World.runLoop_pollServe f w).maxPkt

/-- **Every poll of the `run()` task** — the first one (`started = false`: session resumption, the retransmit queue is
    re-sent, then the loop) or a later one (`started = true`: the loop) — drives the context through a served history of
    well-formed inputs, starting from the resumed context resp. the current one; that history satisfies C08 (every packet
    answered with exactly the acknowledgement owed, in arrival order); and with an unlimited transport the bytes the poll
    hands to the transport are exactly: the re-sent packets of the retransmit queue (first poll only), then for each
    handled input, in order, the acknowledgement owed resp. what the request wrote. -/
theorem world_run_poll_is_serve (w : World) (started : Bool) (ht : w.task = .running started) :
    ∃ is : List CIn, (∀ i ∈ is, i.wf) ∧
      let c0 := if started then w.c else w.c.resume.1
      let t := (c0.serve is).2
      w.pollCtx.c = (c0.serve is).1 ∧ is.length = t.length ∧ (∀ o ∈ t.dropLast, o.flow = .cont) ∧
      P_C08 t = true ∧ pktWrites t = pktOwed t ∧
      (w.cfg.wlimit = none → w.pollCtx.sent =
        w.sent ++ (if started then [] else w.c.resume.2.2.flatten) ++ (t.flatMap obsWire).flatten) := by
  obtain ⟨w1, is, h, hc, hs⟩ := World.pollRun_pollServe w started
  rw [World.pollCtx_running ht, ← hc]
  exact ⟨is, h.wf, h.c_eq, h.len_eq.symm, h.cont, h.acks, pktWrites_eq_pktOwed _ h.acks,
    fun hl => by rw [h.wire (.inl (hs hl).1), (hs hl).2]⟩

/-- **Every pending inbound QoS 2 identifier is a real packet identifier, in every reachable world**: after any script all
    entries of `inbound_qos2` are in 1..65535 (this uses that the inputs of the serving loop are decoder output). -/
theorem world_inQos2_range (cfg : Cfg) (evs : List Ev) :
    ∀ x ∈ (evs.foldl World.step { cfg := cfg }).c.inQos2, 0 < x ∧ x < 65536 :=
  (World.run_ctxTrans cfg evs).inQos2_range fun _ h => absurd h List.not_mem_nil

section NonVacuity
open Ex

/-- a poll with a non-trivial history: the user's DISCONNECT is queued (and a PINGREQ behind it); the history of the poll
    is exactly that DISCONNECT with a successful write — the loop ends with it -/
example : World.loopHist 3 wBye = [.msg (.ff [0xE0, 0] 4) true] := by decide

/-- and the bytes of that poll on an unlimited transport are the DISCONNECT packet -/
example : (World.runLoop 3 wBye).sent = [0xE0, 0] := by
  rw [(world_poll_acks_exact 3 wBye).2.2.2 rfl]
  decide

/-- the hypothesis of `world_poll_bytes` holds for that poll although the transport accepts only 2 more bytes -/
example : ∀ i ∈ World.loopHist 3 { wBye with cfg := { wlimit := some 2 } }, i.wok = true := by decide

/-- a poll that handles an inbound packet: a PINGRESP arrives, the history is that packet (no dead channel, write fine) -/
example : (wServe [.data pingresp]).iterIn = some (.pkt .pingresp [] true) := by
  simp [World.iterIn, wServe, World.senders, pn_pingresp, dec_pingresp]
  rfl

/-- a poll that handles an inbound QoS 2 PUBLISH (identifier 9): the history is that packet; the identifier becomes pending;
    on an unlimited transport the poll hands exactly the PUBREC to the transport -/
example :
    World.loopHist 5 (wServe [.data q2frame]) = [.pkt (.publish q2pub) [] true] ∧
    (World.runLoop 5 (wServe [.data q2frame])).c.inQos2 = [9] ∧
    (World.runLoop 5 (wServe [.data q2frame])).sent = [0x50, 2, 0, 9] := by
  have h : World.loopHist 5 (wServe [.data q2frame]) = [.pkt (.publish q2pub) [] true] :=
    World.loopHist_one_frame 3 _ q2frame _ rfl (by decide) pn_q2 dec_q2
  refine ⟨h, ?_, ?_⟩
  · rw [world_poll_inQos2, h]; decide
  · rw [(world_poll_acks_exact 5 _).2.2.2 rfl, h]; decide

/-- a script in which `run()` serves a request and the context moves: with a transport that accepts nothing, a QoS 1
    PUBLISH takes a quota slot, its write fails, `run()` returns `SocketClosed` and the caller gets `ContextExited` -/
example :
    let w := [Ev.setup, .op 1 0 (.publish { topic := some [0x61], qos := 1 }), .run].foldl World.step
      { cfg := { wlimit := some 0 } }
    w.c.quota = 65534 ∧ w.c.recvMax = 65535 ∧
    w.out.drop 3 = [.ret .run (.err .socketClosed), .done 1 (.err .contextExited)] := by decide

/-- a script that moves the context: the disconnection time is recorded by `markDisc` -/
example : ([Ev.setup, .markDisc 5].foldl World.step {}).c.disc = some 5 := by decide

/-- a first poll of `run()` after a reconnect within the session: the QoS 1 PUBLISH in flight is re-sent (context `cFlight`
    disconnected 5 s ago, session expiry 60 s), then the queued DISCONNECT is served -/
example :
    let w : World := { wBye with task := .running false, c := { cFlight with disc := some 5, sei := 60 } }
    w.c.resume.2.2 = [[0x32, 0]] ∧ w.c.resume.1.disc = none ∧
    World.loopHist w.resent.loopFuel w.resent = [.msg (.ff [0xE0, 0] 4) true] := by decide

/-- the monitor relation of `world_poll_quota` holds for a concrete world: nothing outstanding, quota full -/
example : QRel wBye.c { R := 65535 } := ⟨by decide, by decide⟩

end NonVacuity

#print axioms world_ctx_transitions
#print axioms world_quota_bounded
#print axioms step_inQos2_nodup
#print axioms world_inQos2
#print axioms world_poll_is_serve
#print axioms histWrites_eq_wire
#print axioms world_poll_acks_exact
#print axioms world_poll_bytes
#print axioms world_poll_quota
#print axioms world_poll_quota_fresh
#print axioms world_poll_inQos2
#print axioms world_poll_retx
#print axioms world_poll_maxPkt
#print axioms world_run_poll_is_serve
#print axioms step_inQos2_range
#print axioms world_inQos2_range

end Poster

/-
  `handle_message` over every transport (TxHandler.lean): the clause of C01 "however the transport fragments or delays writes"
  and the clause of C14 "no future stays pending / reports something that did not happen" at the one place where the context
  can be suspended in the middle of a request; and `World.runHandler` with an unlimited model transport as the good-transport
  instance.
-/
import PosterModel.Properties.ActionOrder
import PosterModel.Lemmas.TxStream
import PosterModel.Lemmas.TxHandler
import PosterModel.World

namespace Poster
open Poster.TxStream

/-- **Whatever the transport does, the bytes it has taken are a prefix of the request's packet** — nothing else, nothing
    twice, nothing out of order; and a request refused locally leaves the transport untouched. -/
theorem handler_puts_a_prefix_of_its_packet_on_the_wire (c : Ctx) (m : Msg) (evs : List WEv) :
    (handleMsgOver c m evs).2.1 <+: m.pkt := by
  have h := handleMsgOver_cases c m evs
  generalize handleMsgOver c m evs = r at h ⊢
  cases h with
  | silent => exact List.nil_prefix
  | done | failed | parked => exact ⟨_, (writeAll_spec m.pkt evs).1⟩

/-- **The caller is told "written" only when every byte of its packet is with the transport** — for every transport:
    however the packet was cut, however often the write was suspended. (`Ok(())` of a fire-and-forget request: PUBLISH QoS 0,
    DISCONNECT.) -/
theorem told_written_means_written (c : Ctx) (m : Msg) (evs : List WEv) (c' : Ctx) (effs : List Eff) (fl : Flow) (s : Nat)
    (h : (handleMsgOver c m evs).1 = .finished c' effs fl) (hs : Eff.send s .unit ∈ effs) :
    (handleMsgOver c m evs).2.1 = m.pkt := by
  have hc := handleMsgOver_cases c m evs
  generalize handleMsgOver c m evs = r at hc h ⊢
  cases hc with
  | silent hw =>
    -- a request that replies `Ok(())` does write
    cases h
    rw [(success_reply_follows_the_write c m true s hs).1] at hw
    cases hw
  | done ho => exact writeAll_done_acc ho
  | failed => cases h; exact absurd hs ((failed_write_reports_no_success c m).1 s)
  | parked => cases h

/-- **A handler parked inside a write has told nobody anything and has put a PROPER prefix of its packet on the wire**; its
    context is the one the code has at that statement. Dropping the Context at that moment leaves the caller's oneshot
    unanswered (it completes with ContextExited: C14) — seeded change C14-i, which replied before writing, breaks exactly this. -/
theorem suspended_handler_has_told_nobody (c : Ctx) (m : Msg) (evs : List WEv) (c' : Ctx)
    (h : (handleMsgOver c m evs).1 = .suspended c') :
    (writeAll m.pkt evs).1.out = .pending ∧ (handleMsgOver c m evs).2.1.length < m.pkt.length ∧
    c' = (c.handleMsg m false).1 := by
  have hc := handleMsgOver_cases c m evs
  generalize handleMsgOver c m evs = r at hc h ⊢
  cases hc with
  | silent | done | failed => cases h
  | parked ho => cases h; exact ⟨ho, (writeAll_notdone_proper (by rw [ho]; nofun)).2, rfl⟩

/-- a fault-free transport that keeps accepting lets every handler run to its end with the model's (`wok = true`) result:
    the whole-packet transport of `World` is the special case, and nothing else can come out -/
theorem handler_over_a_good_transport_is_the_model (c : Ctx) (m : Msg) (evs : List WEv)
    (hf : ∀ e ∈ evs, e.isFault = false) (hl : m.pkt.length ≤ (evs.filter WEv.isAccept).length) :
    (handleMsgOver c m evs).1 = .finished (c.handleMsg m true).1 (c.handleMsg m true).2.1 (c.handleMsg m true).2.2 := by
  have hd := writeAll_completes_aux evs m.pkt hf hl
  have h := handleMsgOver_cases c m evs
  generalize handleMsgOver c m evs = r at h ⊢
  cases h with
  | silent | done => rfl
  | failed ho | parked ho => rw [hd] at ho; cases ho

/-- a transport that fails takes the model's failing-write exit (`wok = false`) -/
theorem handler_over_a_failing_transport_is_the_model (c : Ctx) (m : Msg) (evs : List WEv)
    (hw : ((c.handleMsg m true).2.1.filter Eff.isWrite).isEmpty = false) (he : (writeAll m.pkt evs).1.out = .err) :
    (handleMsgOver c m evs).1 = .finished (c.handleMsg m false).1 (c.handleMsg m false).2.1 (c.handleMsg m false).2.2 := by
  unfold handleMsgOver
  simp only [hw, Bool.false_eq_true, if_false, handleMsgAfter, he]

/-- **Whatever the transport does with the acknowledgement — takes it, cuts it, delays it for good, fails — the client's
    bookkeeping is the same**: inbound QoS 2 identifiers, subscriptions, quota, waiters are those of the handler that wrote
    successfully. (The deliveries to the streams precede the write: `publish_ack_is_written_last`.) -/
theorem inbound_bookkeeping_independent_of_the_transport (c : Ctx) (alive : Nat → Bool) (p : RxPacket) (evs : List WEv) :
    (handlePktOver c alive p evs).1.ctx = (c.handlePkt alive p true).1 := by
  unfold handlePktOver
  have hf := (ack_write_fault_changes_only_the_outcome c alive p).1
  split
  · rfl
  · rename_i ack _
    cases ho : (writeAll ack evs).1.out <;> simp only [ho, HOut.ctx, hf]

/-- the wire gets a prefix of the acknowledgement, all of it exactly when the write completed -/
theorem inbound_ack_on_the_wire (c : Ctx) (alive : Nat → Bool) (p : RxPacket) (evs : List WEv) (ack : Bytes)
    (h : ackOf c alive p = some ack) :
    (handlePktOver c alive p evs).2.1 <+: ack ∧
    ((writeAll ack evs).1.out = .done → (handlePktOver c alive p evs).2.1 = ack) := by
  unfold handlePktOver
  simp only [h]
  exact ⟨⟨_, (writeAll_spec ack evs).1⟩, writeAll_done_acc⟩

/-- **`World`'s handler step is the good-transport instance of `handleMsgOver`**: with an unlimited model transport, what
    `World.runHandler` does for a request is exactly what the handler does over ANY fault-free transport that keeps accepting —
    the same context, the same effects in the same order, the same flow. -/
theorem world_handler_is_the_good_transport_instance (w : World) (m : Msg) (hl : w.cfg.wlimit = none) (evs : List WEv)
    (hf : ∀ e ∈ evs, e.isFault = false) (hlen : m.pkt.length ≤ (evs.filter WEv.isAccept).length) :
    (handleMsgOver w.c m evs).1 = .finished (w.c.handleMsg m true).1 (w.c.handleMsg m true).2.1 (w.c.handleMsg m true).2.2 ∧
    w.runHandler (fun wok => w.c.handleMsg m wok) =
      (({ w with c := (w.c.handleMsg m true).1 }).applyEffs (w.c.handleMsg m true).2.1, (w.c.handleMsg m true).2.2) := by
  refine ⟨handler_over_a_good_transport_is_the_model w.c m evs hf hlen, ?_⟩
  simp [World.runHandler, World.canWrite, hl]

/-- the same for an inbound packet -/
theorem world_packet_handler_is_the_good_transport_instance (w : World) (p : RxPacket) (hl : w.cfg.wlimit = none) :
    w.runHandler (fun wok => w.c.handlePkt w.chanRxAlive p wok) =
      (({ w with c := (w.c.handlePkt w.chanRxAlive p true).1 }).applyEffs (w.c.handlePkt w.chanRxAlive p true).2.1,
        (w.c.handlePkt w.chanRxAlive p true).2.2) := by
  simp [World.runHandler, World.canWrite, hl]

/-! ## non-vacuity -/
example : (handleMsgOver {} (.ff [0xc0, 0x00] 4) [.accept 0, .pending, .accept 0]).1 matches .finished _ _ _ := by decide
example : (handleMsgOver {} (.ff [0xc0, 0x00] 4) [.accept 0, .pending]).2.1 = [0xc0] := by decide
example : (handleMsgOver {} (.ff [0xc0, 0x00] 4) [.accept 0, .pending]).1 matches .suspended _ := by decide
example : (handleMsgOver { maxPkt := some 1 } (.ff [0xc0, 0x00] 4) [.err]).2 = ([], [.err]) := by decide

end Poster
#print axioms Poster.handler_puts_a_prefix_of_its_packet_on_the_wire
#print axioms Poster.told_written_means_written
#print axioms Poster.suspended_handler_has_told_nobody
#print axioms Poster.handler_over_a_good_transport_is_the_model
#print axioms Poster.handler_over_a_failing_transport_is_the_model
#print axioms Poster.inbound_bookkeeping_independent_of_the_transport
#print axioms Poster.inbound_ack_on_the_wire
#print axioms Poster.world_handler_is_the_good_transport_instance
#print axioms Poster.world_packet_handler_is_the_good_transport_instance

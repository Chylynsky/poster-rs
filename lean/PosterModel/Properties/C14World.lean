/-
  Properties/C14World.lean — C14 end to end, over every script.

  C14: "Once the Context has been dropped (normally right after run() returned), every operation still pending
  on any handle completes with ContextExited, every operation started afterwards fails with ContextExited
  immediately, and every subscription stream yields the messages it had already received and then ends. No
  future obtained from the library stays pending forever after that point."

  Properties/C14.lean proves the single-step facts. This file proves that they compose: the sender-ownership
  invariant `World.OwnInv` (Lemmas/WorldOwn.lean) holds in every world reachable by any script, so that at the
  moment the context is dropped every oneshot an operation still waits on, and every subscription channel with a
  live sender, IS one of the senders `DROPCTX` drops; and afterwards nothing can be left waiting.
  Model: `World.step`, `World.apply .dropCtx`, `World.pollOp`, `World.startOp`, `World.pollStream`, `World.pick`.
  That the executor ends every step with nothing left to poll is `World.W5.pick_script` (Lemmas/WorldFuelScript).
-/
import PosterModel.Lemmas.WorldOwnEx
import PosterModel.Lemmas.WorldFuelScript
import PosterModel.Properties.C14
import PosterModel.Lemmas.WorldEx


namespace Poster
open Framing World

/-- **Every sender somebody still waits for is inside the context, which then exists.** In every world
    `w` reachable by any script: an operation waiting on a oneshot that has no
    value yet has its waker registered on that oneshot, the oneshot is one of the operation's own two
    (`s / 2 = id`, so the waker wakes this very operation), and the oneshot's sender sits in a queued message or
    in `awaiting_ack`; an operation whose oneshot already has a value (or is closed) is flagged for the executor;
    every subscription channel whose sending half is alive has it in a queued SUBSCRIBE or in `subscriptions`. -/
theorem senders_are_owned (cfg : Cfg) (evs : List Ev) (w : World) (hw : w = evs.foldl World.step { cfg := cfg }) :
    (∀ id s k, (id, OpSt.wait s k) ∈ w.ops → s / 2 = id ∧ w.slot s ≠ none) ∧
    (∀ id s k, (id, OpSt.wait s k) ∈ w.ops → w.slot s = some .empty →
      w.hasCtx = true ∧ s ∈ w.slotReg ∧ OwnsSlot w s) ∧
    (∀ id s k, (id, OpSt.wait s k) ∈ w.ops → w.slot s ≠ some .empty → Task.op id ∈ w.woken) ∧
    (∀ id hd req, (id, OpSt.fresh hd req) ∈ w.ops → Task.op id ∈ w.woken) ∧
    (∀ ch c0, w.chan ch = some c0 → c0.txAlive = true → w.hasCtx = true ∧ OwnsChan w ch) := by
  have h : OwnInv w := hw ▸ ownInv_script cfg evs
  refine ⟨fun id s k hm => ?_, fun id s k hm he => ?_, fun id s k hm hne => ?_, fun id hd req hm => ?_, h.chanOwn⟩
  · have hop := h.opSt_of_mem hm
    exact ⟨(h.slotOf id s k hop).half, h.slotSome id s k hop⟩
  · have hop := h.opSt_of_mem hm
    exact ⟨(h.waitOwn id s k hop he).1, h.waitReg id s k hop he, (h.waitOwn id s k hop he).2⟩
  · exact h.waitDone id s k (h.opSt_of_mem hm) hne
  · exact h.freshWoken id hd req (h.opSt_of_mem hm)

/-- **After the context is dropped no sender is left anywhere.** In every reachable world in which the context
    has been dropped: the context does not exist (it cannot come back); every oneshot a pending operation waits
    on is closed or already holds its value — none is still `empty`; every pending operation (waiting, or not
    yet polled) is flagged for the executor; every subscription channel has lost its sending half. -/
theorem after_drop_all_senders_gone (cfg : Cfg) (evs : List Ev) (w : World)
    (hw : w = evs.foldl World.step { cfg := cfg }) (hd : w.ctxDropped = true) :
    w.hasCtx = false ∧
    (∀ id s k, (id, OpSt.wait s k) ∈ w.ops → w.slot s = some .closed ∨ ∃ v, w.slot s = some (.full v)) ∧
    (∀ id st, (id, st) ∈ w.ops → Task.op id ∈ w.woken) ∧
    (∀ ch c0, w.chan ch = some c0 → c0.txAlive = false) := by
  have h : OwnInv w := hw ▸ ownInv_script cfg evs
  have hc := h.dropped hd
  exact ⟨hc, fun id s k hm => h.wait_settled hc id s k (h.opSt_of_mem hm),
    fun id st hm => h.op_flagged hc id st (h.opSt_of_mem hm), fun ch c0 hch => h.chan_shut hc ch c0 hch⟩

/-- **No operation hangs once the context is gone.** For every script and every world `w` it reaches in which
    the context has been dropped, and every operation `id` still pending in `w`:
    * its task is flagged for the executor (so the executor polls it unless the script holds it) — and if the
      executor is quiescent (`pick = none`) the script does hold it;
    * a single poll completes it: afterwards the operation is gone, and exactly one observation was appended:
      - an operation that was never polled fails with `ContextExited` (or `CodecError` for a request that is
        refused before it would be sent);
      - a waiting operation whose oneshot was closed completes with `ContextExited`;
      - a waiting operation whose acknowledgement had already reached its oneshot is resumed with that value, as
        if the context were alive, and completes in that same poll (a QoS 2 publish whose PUBREC was good then
        fails with `ContextExited` when it tries to send the PUBREL: `resume_after_drop`). -/
theorem no_op_hangs_after_drop (cfg : Cfg) (evs : List Ev) (w : World)
    (hw : w = evs.foldl World.step { cfg := cfg }) (hd : w.ctxDropped = true)
    (id : Nat) (st : OpSt) (hm : (id, st) ∈ w.ops) :
    Task.op id ∈ w.woken ∧ (w.pick = none → Task.op id ∈ w.held) ∧
    (w.pollOp id).opSt id = none ∧ (w.pollOp id).ops = eraseFirst id w.ops ∧
    (match st with
     | .fresh _ _ => ∃ k, (k = ErrKind.contextExited ∨ k = ErrKind.codecError) ∧
         (w.pollOp id).out = w.out ++ [.done id (.err k)]
     | .wait s k =>
        (w.slot s = some .closed ∧ (w.pollOp id).out = w.out ++ [.done id (.err .contextExited)]) ∨
        (∃ v, w.slot s = some (.full v) ∧ w.pollOp id = w.resumeOp id s k v ∧
          ∃ o, OpEnd id o ∧ (w.pollOp id).out = w.out ++ [o])) :=
  World.no_op_hangs_of_ownInv (hw ▸ ownInv_script cfg evs) hd id st hm

/-- **When the executor has run to quiescence after the drop, every operation that is still there is one the
    script holds back.** In other words every operation the executor was allowed to poll has completed. -/
theorem ops_held_when_quiescent (cfg : Cfg) (evs : List Ev) (w : World)
    (hw : w = evs.foldl World.step { cfg := cfg }) (hd : w.ctxDropped = true) (hq : w.pick = none) :
    ∀ id st, (id, st) ∈ w.ops → Task.op id ∈ w.held :=
  fun id st hm => (no_op_hangs_after_drop cfg evs w hw hd id st hm).2.1 hq

/-- **The executor's fuel suffices once the context is gone.** After every step of every script, if the context
    has been dropped the executor has run to quiescence: no flagged live task that the script does not hold is
    left. (The case `ctxDropped = true` of `World.W5.pick_script`, which holds whether or not the context is
    there: every poll the executor makes decreases the potential `W5.phi`, which stays below `drainFuel` at every
    drain of a script; an event the script is not allowed to issue changes nothing but the log.) -/
theorem executor_quiescent_after_drop (cfg : Cfg) (evs : List Ev) (w : World)
    (hw : w = evs.foldl World.step { cfg := cfg }) (hd : w.ctxDropped = true) :
    w.pick = none := by
  subst hw; exact W5.pick_script cfg evs

/-- **No future stays pending after the drop: every operation still present is one the script holds back.**
    After every step of every script, if the context has been dropped, the only operations still
    present are those whose task the script holds (`HOLD op id`). (That one poll completes any other is
    `no_op_hangs_after_drop`.) -/
theorem no_op_left_after_drop (cfg : Cfg) (evs : List Ev) (w : World)
    (hw : w = evs.foldl World.step { cfg := cfg }) (hd : w.ctxDropped = true) :
    ∀ id st, (id, st) ∈ w.ops → Task.op id ∈ w.held :=
  ops_held_when_quiescent cfg evs w hw hd (executor_quiescent_after_drop cfg evs w hw hd)

/-- … in particular, with nothing held, no operation is left at all -/
theorem no_op_left_after_drop_unheld (cfg : Cfg) (evs : List Ev) (w : World)
    (hw : w = evs.foldl World.step { cfg := cfg }) (hd : w.ctxDropped = true)
    (hh : w.held = []) : w.ops = [] := by
  cases ho : w.ops with
  | nil => rfl
  | cons x t =>
    obtain ⟨id, st⟩ := x
    have := no_op_left_after_drop cfg evs w hw hd id st (by rw [ho]; exact List.mem_cons_self)
    rw [hh] at this; cases this

/-- **An operation started after the drop fails at once.** In every reachable world in which the context has
    been dropped, the first poll of a new operation (any request) emits `DONE id Err(ContextExited)` — or
    `Err(CodecError)` for a request refused before it would be sent — and removes the operation: it never waits. -/
theorem op_started_after_drop_fails_at_once (cfg : Cfg) (evs : List Ev) (w : World)
    (hw : w = evs.foldl World.step { cfg := cfg }) (hd : w.ctxDropped = true) (id : Nat) (req : Req) :
    ∃ k, (k = ErrKind.contextExited ∨ k = ErrKind.codecError) ∧
      (w.startOp id req).out = w.out ++ [.done id (.err k)] ∧
      (w.startOp id req).ops = eraseFirst id w.ops ∧ (w.startOp id req).opSt id = none := by
  have h : OwnInv w := hw ▸ ownInv_script cfg evs
  obtain ⟨k, hk, e1, e2⟩ := start_after_drop w id req (h.dropped hd)
  exact ⟨k, hk, e1, e2, opSt_erase id h.nodup e2⟩

/-- **Every subscription stream drains, then ends** (the part that does not depend on who polls it). In every
    reachable world in which the context has been dropped, every existing subscription channel has lost its
    sender; hence a stream with `n` buffered messages, polled `n + 1` times, yields exactly those messages in
    order, then `END`, and is gone — it never returns `Pending` again.
    (That the executor does poll it — the stream's task being flagged — additionally needs that the script does
    not start a new operation under the identifier of a stream that is still alive, an artefact of the model's
    identifier scheme: `World.GoodFrom`.) -/
theorem streams_end_after_drop_partial (cfg : Cfg) (evs : List Ev) (w : World)
    (hw : w = evs.foldl World.step { cfg := cfg }) (hd : w.ctxDropped = true)
    (id : Nat) (ch : Chan) (hst : id ∈ w.streams) (hc : w.chan id = some ch) :
    ch.txAlive = false ∧
    (World.pollStreamTimes id (ch.buf.length + 1) w).out = w.out ++ ch.buf.map (Obs.item id) ++ [.endStream id] ∧
    id ∉ (World.pollStreamTimes id (ch.buf.length + 1) w).streams := by
  have h : OwnInv w := hw ▸ ownInv_script cfg evs
  have ht := h.chan_shut (h.dropped hd) id ch hc
  obtain ⟨a, b, _⟩ := stream_ends_after_n_plus_one w id ch hst hc ht
  exact ⟨ht, a, b⟩

/-- **Every live stream is polled after the drop** (general form: from any world in which the two invariants
    hold). Along a script that never starts an operation under the identifier of a response or stream that is
    still alive (`GoodFrom`: the model names the response channel of a `subscribe` after the operation's
    identifier, so such a re-use would overwrite a live stream's channel — no real client can do that), in every
    world in which the context has been dropped, every stream still has its channel, the channel's sending half
    is gone, and the stream's task is flagged for the executor — so the executor polls it, and each poll yields a
    buffered message or ends the stream (`stream_ends_after_n_plus_one`); if the executor is quiescent, the
    stream is one the script holds back. -/
theorem streams_flagged_after_drop_from (w0 : World) (h0 : World.Both w0) (evs : List Ev)
    (hg : World.GoodFrom w0 evs) (w : World) (hw : w = evs.foldl World.step w0) (hd : w.ctxDropped = true) :
    ∀ id, id ∈ w.streams → ∃ ch, w.chan id = some ch ∧ ch.txAlive = false ∧ Task.st id ∈ w.woken ∧
      (w.pick = none → Task.st id ∈ w.held) := by
  have hb : World.Both w := hw ▸ World.both_steps evs w0 h0 hg
  intro id hid
  obtain ⟨ch, hch, hfl⟩ := hb.str.strOk id hid
  have ht := hb.own.chan_shut (hb.own.dropped hd) id ch hch
  have hwk : Task.st id ∈ w.woken := by
    rcases hfl with hfl | ⟨_, _, hfl⟩
    · exact hfl
    · rw [ht] at hfl; cases hfl
  exact ⟨ch, hch, ht, hwk, fun hp => pick_none_held w _ hp hwk (by simp [taskLive, hid])⟩

/-- **Every subscription stream yields what it had received and then ends.** For every script that does not
    re-use the identifier of a live response or stream, and every world `w` it reaches in which the context has
    been dropped: every stream in `w` has its channel with the sending half gone and is flagged for the
    executor; polling it `n + 1` times, `n` the number of buffered messages, yields exactly those messages in
    order, then `END`, after which the stream is gone. -/
theorem streams_end_after_drop (cfg : Cfg) (evs : List Ev) (w : World)
    (hw : w = evs.foldl World.step { cfg := cfg }) (hg : World.GoodFrom { cfg := cfg } evs)
    (hd : w.ctxDropped = true) (id : Nat) (hid : id ∈ w.streams) :
    ∃ ch, w.chan id = some ch ∧ ch.txAlive = false ∧ Task.st id ∈ w.woken ∧
      (w.pick = none → Task.st id ∈ w.held) ∧
      (World.pollStreamTimes id (ch.buf.length + 1) w).out = w.out ++ ch.buf.map (Obs.item id) ++ [.endStream id] ∧
      id ∉ (World.pollStreamTimes id (ch.buf.length + 1) w).streams := by
  obtain ⟨ch, a, b, c, d⟩ := streams_flagged_after_drop_from { cfg := cfg }
    ⟨ownInv_init cfg, strInv_init cfg⟩ evs hg w hw hd id hid
  obtain ⟨e1, e2, _⟩ := stream_ends_after_n_plus_one w id ch hid a b
  exact ⟨ch, a, b, c, d, e1, e2⟩

/-- **No stream stays pending after the drop.** After every step of every script that does not re-use
    the identifier of a live response or stream, if the context has been dropped, the only streams still present
    are those whose task the script holds back. (That `n + 1` polls end any other is `streams_end_after_drop`.) -/
theorem no_stream_left_after_drop (cfg : Cfg) (evs : List Ev) (w : World)
    (hw : w = evs.foldl World.step { cfg := cfg }) (hg : World.GoodFrom { cfg := cfg } evs)
    (hd : w.ctxDropped = true) : ∀ id, id ∈ w.streams → Task.st id ∈ w.held := by
  intro id hid
  obtain ⟨_, _, _, _, h, _⟩ := streams_end_after_drop cfg evs w hw hg hd id hid
  exact h (executor_quiescent_after_drop cfg evs w hw hd)

/-- **A script that uses every operation identifier once is a good one**: it never starts an operation under the
    identifier of a response or stream that is still alive (identifiers get into `rsps` / `streams` only from
    `OP` events). -/
theorem distinct_ids_good (cfg : Cfg) (evs : List Ev) (hn : (World.opIds evs).Nodup) :
    World.GoodFrom { cfg := cfg } evs := World.goodFrom_script cfg evs hn

/-- **C14, end to end: nothing obtained from the library stays pending once the context is gone.** For every
    script whose `OP` events use pairwise distinct identifiers, after every step, if the context has been dropped:
    every operation and every subscription stream still present is one the script explicitly holds back
    (`HOLD`), and the executor is quiescent. (What a poll does to any other: `no_op_hangs_after_drop`,
    `streams_end_after_drop`.) -/
theorem nothing_pending_after_drop (cfg : Cfg) (evs : List Ev) (w : World)
    (hw : w = evs.foldl World.step { cfg := cfg }) (hn : (World.opIds evs).Nodup) (hd : w.ctxDropped = true) :
    w.pick = none ∧ (∀ id st, (id, st) ∈ w.ops → Task.op id ∈ w.held) ∧
    (∀ id, id ∈ w.streams → Task.st id ∈ w.held) :=
  ⟨executor_quiescent_after_drop cfg evs w hw hd, no_op_left_after_drop cfg evs w hw hd,
    no_stream_left_after_drop cfg evs w hw (distinct_ids_good cfg evs hn) hd⟩

/-! ## Non-vacuity -/
section NonVacuity
open Ex

/-- the transcript: the pending publish completes with `ContextExited` in the very step of the drop -/
example : World.run {} scrDrop =
    [.ev .setup, .ev (.op 1 0 (.publish { topic := some [0x61], qos := 1 })), .ev .dropCtx,
     .done 1 (.err .contextExited)] := by decide

/-- before the drop the hypotheses of `senders_are_owned` are met non-trivially: operation 1 waits on the empty,
    registered oneshot 2 whose sender sits in the queued message -/
example : (scrDrop.dropLast.foldl World.step {}).ops = [(1, .wait 2 .puback)] ∧
    (scrDrop.dropLast.foldl World.step {}).slot 2 = some .empty ∧
    (scrDrop.dropLast.foldl World.step {}).slotReg = [2] ∧
    (scrDrop.dropLast.foldl World.step {}).queue.map Msg.slot = [2] := by decide

/-- `Ex.scrHeld` (the same with the operation held back): after the drop the operation is still there
    (`no_op_hangs_after_drop` applies to it), its oneshot is closed, it is flagged, held, the executor is
    quiescent, and a poll completes it with `ContextExited` -/
example : (scrHeld.foldl World.step {}).ctxDropped = true ∧
    (scrHeld.foldl World.step {}).ops = [(1, .wait 2 .puback)] ∧
    (scrHeld.foldl World.step {}).slot 2 = some .closed ∧
    Task.op 1 ∈ (scrHeld.foldl World.step {}).woken ∧ Task.op 1 ∈ (scrHeld.foldl World.step {}).held ∧
    (scrHeld.foldl World.step {}).pick = none ∧
    ((scrHeld.foldl World.step {}).pollOp 1).out =
      (scrHeld.foldl World.step {}).out ++ [.done 1 (.err .contextExited)] := by decide

/-- an operation started after the drop fails in the same step (`op_started_after_drop_fails_at_once`) -/
example : World.run {} (scrDrop ++ [.op 2 0 .ping]) =
    [.ev .setup, .ev (.op 1 0 (.publish { topic := some [0x61], qos := 1 })), .ev .dropCtx,
     .done 1 (.err .contextExited), .ev (.op 2 0 .ping), .done 2 (.err .contextExited)] := by decide

/-- `Ex.scrThree`: three operations pending (a QoS 1 publish waiting for its PUBACK, a subscribe, a ping not yet
    polled and held), then the drop; the two the executor may poll complete with `ContextExited`, the held one
    remains; released, it completes in the next step -/
example : (scrThree.foldl World.step {}).bad = false ∧ (scrThree.foldl World.step {}).ctxDropped = true ∧
    (scrThree.foldl World.step {}).ops = [(3, .fresh 0 .ping)] ∧
    (scrThree.foldl World.step {}).held = [.op 3] ∧ (scrThree.foldl World.step {}).pick = none ∧
    (World.run {} scrThree).drop 6 = [.done 1 (.err .contextExited), .done 2 (.err .contextExited)] ∧
    (World.run {} (scrThree ++ [.release (.op 3)])).drop 8 =
      [.ev (.release (.op 3)), .done 3 (.err .contextExited)] := by decide

/-- the drop, with the stream held back: the stream is still there, its channel's sender is gone, it is flagged
    and held, the executor is quiescent (`streams_flagged_after_drop_from` applies non-trivially) … -/
example : World.GoodFrom wSub [.hold (.st 1), .dropCtx] ∧
    ([Ev.hold (.st 1), .dropCtx].foldl World.step wSub).ctxDropped = true ∧
    ([Ev.hold (.st 1), .dropCtx].foldl World.step wSub).streams = [1] ∧
    ([Ev.hold (.st 1), .dropCtx].foldl World.step wSub).chan 1 = some { buf := [], txAlive := false, reg := false } ∧
    Task.st 1 ∈ ([Ev.hold (.st 1), .dropCtx].foldl World.step wSub).woken ∧
    Task.st 1 ∈ ([Ev.hold (.st 1), .dropCtx].foldl World.step wSub).held ∧
    ([Ev.hold (.st 1), .dropCtx].foldl World.step wSub).pick = none := by
  refine ⟨⟨trivial, trivial, trivial⟩, ?_⟩
  decide

/-- … released, it ends in that step; and without the hold it ends in the very step of the drop -/
example : ([Ev.hold (.st 1), .dropCtx, .release (.st 1)].foldl World.step wSub).out =
      [.ev (.hold (.st 1)), .ev .dropCtx, .ev (.release (.st 1)), .endStream 1] ∧
    ([Ev.hold (.st 1), .dropCtx, .release (.st 1)].foldl World.step wSub).streams = [] ∧
    ([Ev.dropCtx].foldl World.step wSub).out = [.ev .dropCtx, .endStream 1] ∧
    ([Ev.dropCtx].foldl World.step wSub).streams = [] := by decide

/-- **`GoodFrom` is needed** (an artefact of the model's identifier scheme, not of the client): with the context
    task held back, a second `subscribe` under the identifier 1 of the live stream replaces the stream's channel
    by a fresh one on which the stream is not registered; the drop then closes that channel without waking the
    stream, which is left in the world, neither flagged nor held, with the executor quiescent -/
example : ¬ World.GoodFrom wSub [.hold .ctx, .op 1 0 (.subscribe { packetId := 0, filters := [([0x61], {})] }), .dropCtx] ∧
    ([Ev.hold .ctx, .op 1 0 (.subscribe { packetId := 0, filters := [([0x61], {})] }), .dropCtx].foldl
      World.step wSub).streams = [1] ∧
    Task.st 1 ∉ ([Ev.hold .ctx, .op 1 0 (.subscribe { packetId := 0, filters := [([0x61], {})] }), .dropCtx].foldl
      World.step wSub).woken ∧
    Task.st 1 ∉ ([Ev.hold .ctx, .op 1 0 (.subscribe { packetId := 0, filters := [([0x61], {})] }), .dropCtx].foldl
      World.step wSub).held ∧
    ([Ev.hold .ctx, .op 1 0 (.subscribe { packetId := 0, filters := [([0x61], {})] }), .dropCtx].foldl
      World.step wSub).pick = none := by
  refine ⟨fun h => ?_, by decide⟩
  have := h.2.1.2
  revert this
  decide

/-- the script `scrThree` uses distinct identifiers (hypothesis of `nothing_pending_after_drop`) … -/
example : (World.opIds scrThree).Nodup := by decide

/-- … so the theorem applies to it: whatever is left after the drop is held by the script -/
example : ∀ id st, (id, st) ∈ (scrThree.foldl World.step {}).ops → Task.op id ∈ (scrThree.foldl World.step {}).held :=
  (nothing_pending_after_drop {} scrThree _ rfl (by decide) (by decide)).2.1

/-- the scripts of the examples above do not re-use a live stream identifier -/
example : World.GoodFrom {} scrThree := distinct_ids_good {} scrThree (by decide)

end NonVacuity

#print axioms senders_are_owned
#print axioms after_drop_all_senders_gone
#print axioms no_op_hangs_after_drop
#print axioms ops_held_when_quiescent
#print axioms executor_quiescent_after_drop
#print axioms no_op_left_after_drop
#print axioms no_op_left_after_drop_unheld
#print axioms op_started_after_drop_fails_at_once
#print axioms streams_end_after_drop_partial
#print axioms streams_flagged_after_drop_from
#print axioms streams_end_after_drop
#print axioms no_stream_left_after_drop
#print axioms distinct_ids_good
#print axioms nothing_pending_after_drop

end Poster

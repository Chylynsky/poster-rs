/-
  Properties/Reconnect.lean — what `Context::set_up` on a Context that has been connected before must (and must not) reset.

  "The same Context connected a second time" is where realistic slips hide: three of the seeded changes (DESIGN.md
  section 12: C02-j, C03-i, C04-j) keep part of the previous connection's framer. The script-level
  statement is C03World's (`decoded_frames_are_reference_frames` is per connection); this file states the step itself, for
  EVERY world — whatever the previous connection left in the framer and at the writer.
-/
import PosterModel.Lemmas.WorldApplied
namespace Poster
open Poster.Framing

/-- **A connection set up on the same Context starts with a fresh framer and a fresh transport**, whatever the previous
    connection left behind (bytes of an unfinished packet, bytes behind the last served packet, a state tag, a count of
    written bytes, a partial packet at the writer) — and keeps the session, the request queue, the operations and the
    handles. The seeded changes C02-j, C03-i, C04-j are violations of exactly this. -/
theorem setup_starts_a_fresh_connection (w : World) (ht : w.task = .none) (hd : w.ctxDropped = false) (hc : w.hasCtx = true) :
    (w.apply .setup).rx = {} ∧ (w.apply .setup).reader = [] ∧ (w.apply .setup).readerReg = false ∧
    (w.apply .setup).written = 0 ∧ (w.apply .setup).wirePend = [] ∧
    (w.apply .setup).c = w.c ∧ (w.apply .setup).queue = w.queue ∧ (w.apply .setup).ops = w.ops ∧
    (w.apply .setup).handles = w.handles ∧ (w.apply .setup).bad = w.bad := by
  -- the outcome `newConn` of `apply`: the raw bytes still at the writer are flushed to the log, then the transport is new
  rw [← (World.Applied.newConn ht hd hc).eq]
  have hp : w.flushRaw.wirePend = [] := by
    unfold World.flushRaw
    by_cases h : w.wirePend = []
    · rw [if_pos h]; exact h
    · rw [if_neg h]
  obtain ⟨ou, wp, e⟩ := World.flushRaw_frame w
  refine ⟨rfl, rfl, rfl, rfl, hp, ?_⟩
  rw [e]
  exact ⟨rfl, rfl, rfl, rfl, rfl⟩

/-- hence the first thing the new connection reads is framed exactly as on a brand-new Context: the result of the framer's
    first poll depends on the new transport's reads alone -/
theorem first_read_of_a_new_connection_ignores_the_old_one (w w' : World)
    (ht : w.task = .none) (hd : w.ctxDropped = false) (hc : w.hasCtx = true)
    (ht' : w'.task = .none) (hd' : w'.ctxDropped = false) (hc' : w'.hasCtx = true) (rd : List ReadEv) :
    pollNext (w.apply .setup).rx rd = pollNext (w'.apply .setup).rx rd ∧
    pollNext (w.apply .setup).rx rd = pollNext {} rd := by
  rw [(setup_starts_a_fresh_connection w ht hd hc).1, (setup_starts_a_fresh_connection w' ht' hd' hc').1]
  exact ⟨rfl, rfl⟩

end Poster
#print axioms Poster.setup_starts_a_fresh_connection
#print axioms Poster.first_read_of_a_new_connection_ignores_the_old_one

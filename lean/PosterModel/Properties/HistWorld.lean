/-
  C08, C09, C10, C17 for WHOLE scripts: the histories of all polls of a connection, composed.

  Properties/CtxLift.lean lifts the per-history theorems of C08 / C09 / C10 / C17 to ONE poll of `run()`. Here the polls
  of a whole script are composed: the monitors see the whole history of a connection. `World.history cfg evs` lists, in
  order, everything that ever touches `World.c` (`HEv`, Lemmas/WorldHist.lean); `ctxHist` cuts it into connection segments,
  `sessionObs` keeps the observations of the current session (Lemmas/CtxHist.lean).

  Why not `List SLab`: the labels of Lemmas/WorldStream.lean only show the context when it applies effects (`.ctx src`); a
  CONNACK, the session expiry recorded by `connect()` and `markDisc` are `tau` moves there, which of the context state fix
  `c.subs` only.
  `script_trace_matches_history` below shows that the `.ctx` labels of a trace of stream moves of the script are exactly
  the effectful events of its history, so the conservation law of C07World can be stated in terms of the history.
-/
import PosterModel.Lemmas.WorldHistEx
import PosterModel.Properties.CtxLift
import PosterModel.Properties.C07World

namespace Poster
open Framing World

/-! ## 1. the history of a script and its connection segments -/

/-- **Every script is tracked by its history.** For every configuration and every script: the events of
    `World.history cfg evs` are chained from the fresh context — each handler call, CONNACK, `run()` prelude, request,
    `markDisc`, drop happens in exactly the state the previous event left: NOTHING else ever changes the context, in
    particular nothing between two polls of the same `run()` call —, the context of the world the script reaches is the
    state the last event left, and every handler input is well formed (inbound packets are decoder output). -/
theorem script_history_chained (cfg : Cfg) (evs : List Ev) :
    Chained {} (World.history cfg evs) ∧
    (evs.foldl World.step { cfg := cfg }).c = lastCtx {} (World.history cfg evs) ∧
    ∀ e ∈ World.history cfg evs, e.ok :=
  have h := World.script_tracks cfg evs
  ⟨h.chained, h.c_eq, h.ok⟩

/-- the history of a script continued is the history of the script, continued from the world it reached -/
theorem script_history_append (cfg : Cfg) (a b : List Ev) :
    World.history cfg (a ++ b) = World.history cfg a ++ World.scriptEvs (a.foldl World.step { cfg := cfg }) b :=
  World.scriptEvs_append a b _

/-- **One poll of the context task contributes exactly its own events**: a poll of `run()` that is not the first one
    contributes the handler calls of the history `loopHist` of that poll (Lemmas/WorldCtx.lean), made one after the other
    from the current context; the first poll contributes the prelude and then, unless the transport fails inside the
    re-sent packets, the handler calls of its loop from the resumed context. This is the definition of `ctxEvs` unfolded;
    that the poll changes the context by exactly these events is `World.pollTask_tracks`. -/
theorem poll_events_of_run (w : World) (started : Bool) (ht : w.task = .running started) :
    w.ctxEvs =
      if started then histEvs w.c (World.loopHist w.loopFuel w)
      else .resume w.c ::
        (if w.resumed.canWrite ((w.c.resume.2.2.map List.length).sum) then
           histEvs w.c.resume.1 (World.loopHist w.resent.loopFuel w.resent)
         else []) :=
  World.ctxEvs_running w started ht

/-- **Within a segment the handler calls form ONE `Ctx.serve` history from the segment's start state** — across all polls
    of the `run()` call(s) of that connection. For every script and every connection segment `s` of its history:
    * each call was made in the state reached by handling the inputs before it one after the other from `s.start`
      (`callsOf`), so nothing touched the context in between;
    * the observations of the segment are exactly `(s.start.serve s.ins).2`, no input was skipped, every handler but
      possibly the last lets the loop go on;
    * the state at the end of the segment is `(s.start.serve s.ins).1`;
    * every input is well formed. -/
theorem segment_is_one_served_history (cfg : Cfg) (evs : List Ev) :
    ∀ s ∈ ctxHist (World.history cfg evs),
      s.calls = callsOf s.start s.ins ∧
      s.obs = (s.start.serve s.ins).2 ∧
      (s.start.serve s.ins).2.length = s.ins.length ∧
      (∀ o ∈ s.obs.dropLast, o.flow = .cont) ∧
      s.endCtx = (s.start.serve s.ins).1 ∧
      ∀ i ∈ s.ins, i.wf := by
  intro s hs
  obtain ⟨hch, _, hok⟩ := script_history_chained cfg evs
  have hg : s.Good := (ctxHist_spec hch).1 s hs
  refine ⟨hg.calls_eq, hg.obs_eq, hg.full, ?_, hg.endCtx_eq, ctxHist_wf hok s hs⟩
  rw [hg.obs_eq]
  exact serve_cont_of_full _ _ hg.full

/-- **The segments partition the handler calls**: the observations of the segments, concatenated in order, are exactly
    the observations of the handler events of the history — every handler call of the script belongs to exactly one
    segment; consecutive segments are linked as their causes say (`SegLink`: e.g. a segment of cause `connack k` starts in
    `handleConnack k` of the state the previous segment ended in, a segment of cause `resumed c` starts in `c.resume.1`
    where `c`, with a recorded disconnection, is the state the previous segment ended in, a segment of cause `exited`
    starts where the previous one ended, and that one's last handler ended `run()`); the first segment is the initial one;
    and the context of the world reached is the end state of the last segment. -/
theorem segments_partition_the_history (cfg : Cfg) (evs : List Ev) :
    (ctxHist (World.history cfg evs)).flatMap CtxSeg.obs = (World.history cfg evs).filterMap HEv.obs? ∧
    Linked (ctxHist (World.history cfg evs)) ∧
    (∃ s rest, ctxHist (World.history cfg evs) = s :: rest ∧ s.cause = .init ∧ s.start = {}) ∧
    (∀ s, (ctxHist (World.history cfg evs)).getLast? = some s →
      s.endCtx = (evs.foldl World.step { cfg := cfg }).c) := by
  obtain ⟨hch, hc, _⟩ := script_history_chained cfg evs
  exact ⟨ctxHist_obs _, (ctxHist_spec hch).2.1, ctxHist_head _, fun s hs => hc ▸ (ctxHist_spec hch).2.2 s hs⟩

/-- **A cancelled-and-restarted `run()` goes on in the same segment.** The prelude of `run()` on a context without a
    recorded disconnection is the identity (`resume_first_connection`): it changes neither the context nor the segments,
    re-sends nothing, drops nothing. The statement is about any event lists `a`, `b` and any such context: that a
    restarted `run()` meets one is not part of it. -/
theorem restarted_run_continues_its_segment (a b : List HEv) (c : Ctx) (hd : c.disc = none) :
    c.resume = (c, [], []) ∧ (HEv.resume c).after = c ∧ (HEv.resume c).pkts = [] ∧
    ctxHist (a ++ .resume c :: b) = ctxHist (a ++ b) :=
  ⟨resume_first_connection c hd, by simp [HEv.after, resume_first_connection c hd],
    by simp [HEv.pkts, resume_first_connection c hd], segs_skip_resume a b c hd _⟩

/-! ## 2. C10 for every script -/

/-- **C10 in every connection segment, across all its polls.** For every script and every segment of its history whose
    start state has the quota full (`quota = recvMax = R`): the send-quota monitor accepts the WHOLE history of the
    segment — never more than `R` QoS>0 publishes written and not completed, `QuotaExceeded` returned only to a QoS>0
    PUBLISH and only with exactly `R` outstanding. -/
theorem c10_every_segment (cfg : Cfg) (evs : List Ev) :
    ∀ s ∈ ctxHist (World.history cfg evs), s.start.quota = s.start.recvMax →
      P_C10 s.start.recvMax s.obs = true := by
  intro s hs hq
  rw [(segment_is_one_served_history cfg evs s hs).2.1]
  exact quota_invariant _ _ hq rfl _

/-- **A segment that starts right after a CONNACK has its quota full**: it starts in `handleConnack k` of the state the
    previous segment ended in, with `quota = recvMax = k.receiveMax` (65535 when the CONNACK does not say), so C10 holds
    for its whole history with `R` = the Receive Maximum of that CONNACK. This is the segment of a first connection (the
    `run()` prelude does nothing) and of every reconnect without a recorded disconnection. -/
theorem c10_segment_after_connack (cfg : Cfg) (evs : List Ev) (k : ConnackRx) :
    ∀ s ∈ ctxHist (World.history cfg evs), s.cause = .connack k →
      (∃ a ∈ ctxHist (World.history cfg evs), s.start = a.endCtx.handleConnack k) ∧
      s.start.quota = k.receiveMax ∧ s.start.recvMax = k.receiveMax ∧ P_C10 k.receiveMax s.obs = true := by
  intro s hs hc
  obtain ⟨_, hl, ⟨s0, rest, e0, hc0, _⟩, _⟩ := segments_partition_the_history cfg evs
  have hst : ∃ a ∈ ctxHist (World.history cfg evs), s.start = a.endCtx.handleConnack k := by
    rcases linked_pred hl hs with ⟨rest', e⟩ | ⟨a, ha, hla⟩
    · rw [e0] at e; cases e; rw [hc0] at hc; cases hc
    · exact ⟨a, ha, hla.connack hc⟩
  obtain ⟨a, _, e⟩ := hst
  have h1 : s.start.quota = k.receiveMax := by rw [e]; exact (quota_after_connack _ k).1
  have h2 : s.start.recvMax = k.receiveMax := by rw [e]; exact (quota_after_connack _ k).2.1
  refine ⟨⟨a, ‹_›, e⟩, h1, h2, ?_⟩
  have := c10_every_segment cfg evs s hs (by rw [h1, h2])
  rwa [h2] at this

/-- **A RESUMED session** (the prelude of `run()` found a recorded disconnection): the segment starts in `c.resume.1`
    where `c` is the state the previous segment ended in; the quota and the limit are those of `c` — the prelude does not
    touch them. In particular, when the previous segment is the (empty) one opened by the CONNACK `k` of the reconnect, the
    quota is re-armed to `k.receiveMax` ALTHOUGH the packets of the retransmit queue have just been re-sent and are in
    flight: the monitor started with nothing outstanding (`P_C10`) accepts the segment, but it does not count the re-sent
    packets (see `c10_true_monitor` and the examples below: this is the limitation noted in DESIGN.md §8). -/
theorem c10_resumed_segment (cfg : Cfg) (evs : List Ev) (pre post : List CtxSeg) (a b : CtxSeg) (c : Ctx)
    (hh : ctxHist (World.history cfg evs) = pre ++ a :: b :: post) (hb : b.cause = .resumed c) :
    c = a.endCtx ∧ c.disc ≠ none ∧ b.start = c.resume.1 ∧ b.start.quota = c.quota ∧ b.start.recvMax = c.recvMax ∧
    (∀ k, a.cause = .connack k → a.calls = [] →
      b.start.quota = k.receiveMax ∧ b.start.recvMax = k.receiveMax ∧ P_C10 k.receiveMax b.obs = true ∧
      (∀ e, c.disc = some e → c.sessionExpired e = true → b.start.retx = []) ∧
      (∀ e, c.disc = some e → c.sessionExpired e = false → b.start.retx = a.start.retx)) := by
  obtain ⟨_, hl, _, _⟩ := segments_partition_the_history cfg evs
  rw [hh] at hl
  obtain ⟨h1, h2, h3⟩ := (linked_adjacent hl).resumed hb
  subst h1
  have hq : a.endCtx.resume.1.quota = a.endCtx.quota ∧ a.endCtx.resume.1.recvMax = a.endCtx.recvMax := by
    rcases Ctx.resume_fst_cases a.endCtx with e | e | e <;> rw [e] <;> exact ⟨rfl, rfl⟩
  refine ⟨rfl, h2, h3, by rw [h3]; exact hq.1, by rw [h3]; exact hq.2, ?_⟩
  intro k hk hcalls
  have ha : a ∈ ctxHist (World.history cfg evs) := by rw [hh]; simp
  have hbm : b ∈ ctxHist (World.history cfg evs) := by rw [hh]; simp
  obtain ⟨_, h4, h5, _⟩ := c10_segment_after_connack cfg evs k a ha hk
  have hend : a.endCtx = a.start := by simp [CtxSeg.endCtx, CtxSeg.ins, hcalls]
  have h6 : b.start.quota = k.receiveMax := by rw [h3, hq.1, hend, h4]
  have h7 : b.start.recvMax = k.receiveMax := by rw [h3, hq.2, hend, h5]
  refine ⟨h6, h7, ?_, ?_, ?_⟩
  · have := c10_every_segment cfg evs b hbm (by rw [h6, h7])
    rwa [h7] at this
  · intro e hd hx
    obtain ⟨_, _, _, _, _, hretx, _⟩ := resume_expired _ e hd hx
    rw [h3]; exact hretx
  · intro e hd hx
    obtain ⟨_, _, _, _, _, hretx, _⟩ := resume_not_expired _ e hd hx
    rw [h3, hretx, hend]

/-- **The monitor that also counts the re-sent packets.** Start the monitor with the QoS>0 PUBLISH packets of the
    retransmit queue of the segment's start state as outstanding (`inflightOf`: after a resumption they have just been
    re-sent). It accepts the whole history of the segment whenever the quota accounts for them
    (`quota + in flight = recvMax`). With an empty retransmit queue at the start — every first connection, every session
    that expired, every session with nothing unfinished — and `quota = recvMax` there, this is `P_C10` itself: C10 holds
    exactly. Otherwise, after a CONNACK re-armed the quota, the hypothesis fails and the monitor CAN reject (example
    below). -/
theorem c10_true_monitor (cfg : Cfg) (evs : List Ev) :
    ∀ s ∈ ctxHist (World.history cfg evs),
      (s.start.quota + (inflightOf s.start.retx).length = s.start.recvMax →
        ({ out := inflightOf s.start.retx, R := s.start.recvMax } : QMon).scan s.obs = true) ∧
      (s.start.retx = [] → s.start.quota = s.start.recvMax →
        ({ out := inflightOf s.start.retx, R := s.start.recvMax } : QMon).scan s.obs = P_C10 s.start.recvMax s.obs ∧
        P_C10 s.start.recvMax s.obs = true) := by
  intro s hs
  constructor
  · intro hq
    rw [(segment_is_one_served_history cfg evs s hs).2.1]
    exact serve_sim _ _ _ ⟨hq, rfl⟩
  · intro hr hq
    exact ⟨by rw [hr]; rfl, c10_every_segment cfg evs s hs hq⟩

/-! ## 3. C08 for every script -/

/-- **C08 in every connection segment, across all its polls**: every handled inbound packet of the script is answered
    with exactly the acknowledgement owed and every handled request with nothing or its own packet (`P_C08`), and the
    acknowledgements written during the segment are the ones owed, in arrival order (`pktWrites = pktOwed`); the packets
    handed to the transport during the segment (`CtxSeg.pkts`) are exactly `CtxSeg.wire`. -/
theorem c08_every_segment (cfg : Cfg) (evs : List Ev) :
    ∀ s ∈ ctxHist (World.history cfg evs),
      P_C08 s.obs = true ∧ pktWrites s.obs = pktOwed s.obs ∧ s.pkts = s.wire := by
  intro s hs
  obtain ⟨_, h2, _, _, _, hwf⟩ := segment_is_one_served_history cfg evs s hs
  refine ⟨?_, ?_, ?_⟩
  · rw [h2]; exact acks_exact _ _ hwf
  · rw [h2]; exact acks_in_arrival_order _ _ hwf
  · unfold CtxSeg.pkts CtxSeg.wire
    rw [h2]
    exact congrArg _ (histWrites_eq_wire _ _ hwf)

/-- **The bytes of a script are the writes of its history, segment by segment.** With an unlimited transport, everything
    the script hands to the transport (`World.sent`: the `W` / `WRAW` lines of the log and the bytes of the packet not yet
    complete) is exactly, in order: for each connection segment the request or the re-sent packets that opened it, then for
    each inbound packet handled in it the acknowledgement owed, for each request handled in it what it wrote — nothing else,
    nothing missing, nothing between the polls. -/
theorem c08_bytes_of_a_script (cfg : Cfg) (evs : List Ev) (hl : cfg.wlimit = none) :
    (evs.foldl World.step { cfg := cfg }).sent =
      ((ctxHist (World.history cfg evs)).flatMap CtxSeg.wire).flatten ∧
    (evs.foldl World.step { cfg := cfg }).sent = (evPkts (World.history cfg evs)).flatten := by
  have h1 := World.scriptEvs_sent evs { cfg := cfg } hl
  have h0 : ({ cfg := cfg } : World).sent = [] := rfl
  rw [h0, List.nil_append] at h1
  refine ⟨?_, h1⟩
  have h4 : (ctxHist (World.history cfg evs)).flatMap CtxSeg.wire =
      (ctxHist (World.history cfg evs)).flatMap CtxSeg.pkts := by
    have hall : ∀ s ∈ ctxHist (World.history cfg evs), s.wire = s.pkts :=
      fun s hs => ((c08_every_segment cfg evs s hs).2.2).symm
    rw [List.flatMap_def, List.flatMap_def, List.map_congr_left hall]
  rw [h4, ctxHist_pkts]; exact h1

/-! ## 4. C17 for every script (the first theorem also gives the inbound QoS 2 set of C09) -/

/-- **The retransmit queue is the unfinished handshakes of the WHOLE session**, in every world a script reaches: the
    accepted-and-written QoS>0 PUBLISH (DUP set) and PUBREL requests of all handler calls since the session started —
    across polls, `run()` calls, connections and segments —, in order, minus those whose PUBACK / PUBREC / PUBCOMP was
    handled. Likewise the inbound QoS 2 identifiers kept are those pending in the whole session. The observations of the
    session are a suffix of the observations of the script. -/
theorem c17_retx_is_session_unfinished (cfg : Cfg) (evs : List Ev) :
    (evs.foldl World.step { cfg := cfg }).c.retx = unfinished (sessionObs (World.history cfg evs)) ∧
    (evs.foldl World.step { cfg := cfg }).c.inQos2 = pendingQ2 (sessionObs (World.history cfg evs)) ∧
    sessionObs (World.history cfg evs) <:+ (World.history cfg evs).filterMap HEv.obs? := by
  obtain ⟨hch, hc, _⟩ := script_history_chained cfg evs
  refine ⟨by rw [hc]; exact session_retx _ hch, by rw [hc]; exact session_inQos2 _ hch, ?_⟩
  have := sessFrom_suffix (World.history cfg evs) []
  simpa [sessionObs] using this

/-- **C17 at every `run()` prelude of every script.** Let `HEv.resume c` be any prelude event of the history, `pre` the
    events before it. Then `c` is the state they left, its retransmit queue is the unfinished handshakes of the session
    history `sessionObs pre`, and
    * no disconnection recorded: nothing is re-sent, nothing is dropped, the context is unchanged;
    * disconnection recorded `e` seconds ago, session not expired: the packets re-sent are exactly the unfinished
      handshakes of the whole session so far, DUP-marked PUBLISH and PUBREL, in their original order; no waiter and no
      stream is dropped; the queue, the waiters, the subscriptions and the quota are kept;
    * session expired: nothing is re-sent, the oneshot of every waiter and the sender of every subscription is dropped,
      and the session starts empty. -/
theorem c17_every_run_prelude (cfg : Cfg) (evs : List Ev) (pre post : List HEv) (c : Ctx)
    (hh : World.history cfg evs = pre ++ .resume c :: post) :
    c = lastCtx {} pre ∧ c.retx = unfinished (sessionObs pre) ∧
    (c.disc = none → c.resume = (c, [], [])) ∧
    (∀ e, c.disc = some e → c.sessionExpired e = false →
      c.resume.2.2 = (unfinished (sessionObs pre)).map (·.2) ∧ c.resume.2.1 = [] ∧
      c.resume.1.retx = c.retx ∧ c.resume.1.awaiting = c.awaiting ∧ c.resume.1.subs = c.subs ∧
      c.resume.1.quota = c.quota) ∧
    (∀ e, c.disc = some e → c.sessionExpired e = true →
      c.resume.2.2 = [] ∧ (∀ as ∈ c.awaiting, Eff.dropSlot as.2 ∈ c.resume.2.1) ∧
      (∀ sc ∈ c.subs, Eff.dropChan sc.2 ∈ c.resume.2.1) ∧
      c.resume.1.awaiting = [] ∧ c.resume.1.retx = [] ∧ c.resume.1.subs = [] ∧ c.resume.1.inQos2 = []) := by
  obtain ⟨hc, hr, _⟩ := event_in_history hh rfl
  refine ⟨hc, hr, resume_first_connection c, ?_, ?_⟩
  · intro e hd hx
    obtain ⟨_, a, b, c1, c2, c3, c4, _⟩ := resume_not_expired c e hd hx
    exact ⟨by rw [a, hr], b, c3, c1, c2, c4⟩
  · intro e hd hx
    obtain ⟨a, _, b, c1, c2, c3, c4, c5, _⟩ := resume_expired c e hd hx
    exact ⟨a, b, c1, c2, c3, c4, c5⟩

/-- **… and the re-sent packets come before anything else of that `run()` call.** With an unlimited transport the bytes the
    script hands to the transport are: the packets of the events before the prelude, then the re-sent packets of the
    prelude, then the packets of the later events (the handler calls of that `run()` call and everything after it). -/
theorem c17_resent_before_anything_else (cfg : Cfg) (evs : List Ev) (hl : cfg.wlimit = none) (pre post : List HEv)
    (c : Ctx) (hh : World.history cfg evs = pre ++ .resume c :: post) :
    (evs.foldl World.step { cfg := cfg }).sent =
      (evPkts pre).flatten ++ c.resume.2.2.flatten ++ (evPkts post).flatten := by
  rw [(c08_bytes_of_a_script cfg evs hl).2, hh]
  simp [HEv.pkts]

/-- **… as seen from the world**: in any world a script reaches in which `run()` was called and not polled yet, with a
    disconnection recorded `e` seconds ago and the session not expired, the first poll of `run()` hands to the (unlimited)
    transport, before anything else, exactly the unfinished handshakes of the whole session history; then it serves a
    history from the context with the disconnection cleared. -/
theorem c17_first_poll_resends_session_unfinished (cfg : Cfg) (evs : List Ev) (e : Nat) :
    let w := evs.foldl World.step { cfg := cfg }
    w.task = .running false → w.c.disc = some e → w.c.sessionExpired e = false →
    w.c.resume.2.2 = (unfinished (sessionObs (World.history cfg evs))).map (·.2) ∧
    ∃ is : List CIn, (∀ i ∈ is, i.wf) ∧
      w.pollCtx.c = (({ w.c with disc := none } : Ctx).serve is).1 ∧
      (cfg.wlimit = none → w.pollCtx.sent =
        w.sent ++ ((unfinished (sessionObs (World.history cfg evs))).map (·.2)).flatten ++
          ((({ w.c with disc := none } : Ctx).serve is).2.flatMap obsWire).flatten) := by
  intro w ht hd hx
  have hr := (c17_retx_is_session_unfinished cfg evs).1
  obtain ⟨h0, h1, _⟩ := resume_not_expired w.c e hd hx
  have hres : w.c.resume.2.2 = (unfinished (sessionObs (World.history cfg evs))).map (·.2) := by
    rw [h1]; exact congrArg _ hr
  refine ⟨hres, ?_⟩
  obtain ⟨is, hwf, hc, _, _, _, _, hs⟩ := world_run_poll_is_serve w false ht
  have e1 : w.c.resume.1 = { w.c with disc := none } := by rw [h0]
  simp only [Bool.false_eq_true, ↓reduceIte] at hc hs
  rw [e1] at hc hs
  refine ⟨is, hwf, hc, fun hl => ?_⟩
  have hcfg : w.cfg = cfg := World.steps_cfg evs _
  rw [hs (by rw [hcfg]; exact hl), hres]

/-! ## 5. the streams and the history (C07), then C09 for every script -/

/-- **The script is a trace of stream moves whose context labels are the effectful events of its history.** For every
    script with pairwise distinct `OP` identifiers there is a trace `tr` of the moves of Lemmas/WorldStream.lean from the
    initial world to the world reached that issues every identifier at most once and whose `.ctx src` labels are, in order,
    exactly the handler calls, `run()` preludes, drop and creation of the context of `World.history cfg evs`; the ghost
    `delivered id tr` of the conservation law of C07World is what the handler calls of the history deliver into `id`. -/
theorem script_trace_matches_history (cfg : Cfg) (evs : List Ev) (hn : (opIds evs).Nodup) :
    ∃ tr, STrace { cfg := cfg } tr (evs.foldl World.step { cfg := cfg }) ∧ (issuedOf tr).Nodup ∧
      (issuedOf tr).Sublist (opIds evs) ∧ ctxSrcs tr = evSrcs (World.history cfg evs) ∧
      ∀ id, delivered id tr = (World.history cfg evs).flatMap (HEv.gives id) := by
  obtain ⟨tr, st, hsub, hs⟩ := steps_tr evs { cfg := cfg } (OpsInv.init cfg)
  refine ⟨tr, st, hsub.nodup hn, hsub, hs, fun id => ?_⟩
  rw [World.delivered_eq_srcs, hs]
  exact World.srcs_gives id _

/-- **What a stream holds is what the handler calls of the history gave it** (the conservation law of C07World, in terms
    of the history). For every script with distinct `OP` identifiers and every channel `id`: if the channel (still)
    exists, the messages its stream has yielded followed by the messages still buffered are exactly the messages the
    handler calls of the history delivered into `id`, event by event, in order (`HEv.gives id`); in any case what the
    stream has yielded is a prefix of that. -/
theorem c09_stream_holds_what_the_history_gave (cfg : Cfg) (evs : List Ev) (hn : (opIds evs).Nodup) (id : Nat) :
    (∀ ch, (evs.foldl World.step { cfg := cfg }).chan id = some ch →
      itemsOf id (evs.foldl World.step { cfg := cfg }).out ++ ch.buf =
        (World.history cfg evs).flatMap (HEv.gives id)) ∧
    (∃ rest, itemsOf id (evs.foldl World.step { cfg := cfg }).out ++ rest =
        (World.history cfg evs).flatMap (HEv.gives id)) := by
  obtain ⟨tr, st, hnd, _, _, hd⟩ := script_trace_matches_history cfg evs hn
  have := st.conservation_init id hnd
  rw [hd id] at this
  exact this

/-- **Every inbound QoS 2 PUBLISH of every script is delivered exactly once per (delivery … release) cycle.** Take any
    handler call of the history that handles a QoS 2 PUBLISH `pb` with identifier `pid`, in context state `c`; let `a` be
    the events before it. Then `c` is the state `a` left and its `inbound_qos2` is `pendingQ2` of the session history
    (the `q2Step` fold over ALL observations of the session, across polls, `run()` calls and segments), and
    * if `pid` is pending there — an earlier QoS 2 PUBLISH of the session carried it and no PUBREL released it since — the
      call gives NOTHING to any stream (`HEv.gives id = []` for every `id`), writes exactly the PUBREC again, and leaves
      the context unchanged: what every stream holds is what it would hold without this re-delivery;
    * otherwise the message goes through exactly the delivery loop of a QoS 0/1 message over the subscriptions registered
      in `c`, then the PUBREC is written, and `pid` is pending from then on. -/
theorem c09_every_qos2_publish (cfg : Cfg) (evs : List Ev) (a b : List HEv) (c : Ctx) (pb : PublishRx)
    (dead : List Nat) (wok : Bool) (pid : Nat)
    (hh : World.history cfg evs = a ++ .handler c (.pkt (.publish pb) dead wok) :: b)
    (hq : pb.qos = 2) (hp : pb.packetId = some pid) :
    let ev := HEv.handler c (.pkt (.publish pb) dead wok)
    let effs := (c.stepIn (.pkt (.publish pb) dead wok)).2.effs
    c = lastCtx {} a ∧ c.inQos2 = pendingQ2 (sessionObs a) ∧
    (pid ∈ pendingQ2 (sessionObs a) →
      (∀ id, ev.gives id = []) ∧ deliversOf effs = [] ∧ writesOf effs = [ackBytes 0x50 pid] ∧ ev.after = c ∧
      ∀ id, (World.history cfg evs).flatMap (HEv.gives id) = (a ++ b).flatMap (HEv.gives id)) ∧
    (pid ∉ pendingQ2 (sessionObs a) →
      effs = (Ctx.dispatch (fun ch => ch ∉ dead) pb pb.subIds c.subs).2 ++ [.write (ackBytes 0x50 pid)] ∧
      pid ∈ pendingQ2 (sessionObs (a ++ [ev])) ∧
      ((c.subs.map (·.1)).Nodup → ∀ id, ev.gives id =
        (pb.subIds.filter fun sid => lookupFirst sid c.subs == some id && decide (id ∉ dead)).map fun _ => pb)) := by
  intro ev effs
  obtain ⟨hc, _, hi⟩ := event_in_history hh rfl
  refine ⟨hc, hi, ?_, ?_⟩
  · intro hin
    rw [← hi] at hin
    obtain ⟨d1, d2, d3⟩ := redelivery_suppressed c (fun ch => ch ∉ dead) pb pid wok hq hp hin
    have hg : ∀ id, ev.gives id = [] := fun id =>
      (deliversTo_eq id effs).trans (by rw [show deliversOf effs = [] from d1]; rfl)
    refine ⟨hg, d1, d2, d3, fun id => ?_⟩
    rw [hh]
    exact World.flatMap_gives_remove id a b ev (hg id)
  · intro hout
    rw [← hi] at hout
    obtain ⟨f1, f2⟩ := first_delivery c (fun ch => ch ∉ dead) pb pid wok hq hp hout
    refine ⟨f1, ?_, fun hnd id => ?_⟩
    · rw [World.sessionObs_snoc_handler, pendingQ2, List.foldl_append]
      show pid ∈ q2Step (pendingQ2 (sessionObs a)) (c.stepIn (.pkt (.publish pb) dead wok)).2
      rw [← hi, ← step_inQos2]
      exact f2
    · show deliversTo id effs = _
      rw [show effs = (c.stepIn (.pkt (.publish pb) dead wok)).2.effs from rfl,
        deliversTo_stepIn_publish c pb dead wok id hnd]
      unfold pubDelivers
      rw [if_neg]
      rintro ⟨_, h⟩
      rw [hp] at h
      exact hout h

set_option linter.unusedVariables false in
/-- **A PUBREL releases the identifier for the rest of the session**: after a handler call of the history that handles a
    PUBREL for `pid` — with `a` the events before it — `pid` is not pending in the session history any more, so by
    `c09_every_qos2_publish` the next QoS 2 PUBLISH carrying `pid` is delivered again, as a new message; the PUBREL itself
    gives nothing to any stream and is answered with exactly one PUBCOMP. (`hh` only places the call in a script's
    history: the proof does not use it, the conclusion holds for any `a` and `c`.) -/
theorem c09_pubrel_releases (cfg : Cfg) (evs : List Ev) (a b : List HEv) (c : Ctx) (ack : AckRx)
    (dead : List Nat) (wok : Bool)
    (hh : World.history cfg evs = a ++ .handler c (.pkt (.pubrel ack) dead wok) :: b) :
    ack.packetId ∉ pendingQ2 (sessionObs (a ++ [.handler c (.pkt (.pubrel ack) dead wok)])) ∧
    (∀ q, q ≠ ack.packetId →
      (q ∈ pendingQ2 (sessionObs (a ++ [.handler c (.pkt (.pubrel ack) dead wok)])) ↔ q ∈ pendingQ2 (sessionObs a))) ∧
    (∀ id, (HEv.handler c (.pkt (.pubrel ack) dead wok)).gives id = []) ∧
    writesOf (c.stepIn (.pkt (.pubrel ack) dead wok)).2.effs = [ackBytes 0x70 ack.packetId] := by
  have e : pendingQ2 (sessionObs (a ++ [.handler c (.pkt (.pubrel ack) dead wok)])) =
      (pendingQ2 (sessionObs a)).filter (· ≠ ack.packetId) := by
    rw [World.sessionObs_snoc_handler, pendingQ2, List.foldl_append]
    rfl
  refine ⟨by rw [e]; simp, fun q hq => by rw [e]; simp [hq], fun id => ?_, (pubrel_releases c _ ack wok).2.2⟩
  exact deliversTo_stepIn_other c (.pubrel ack) dead wok id (fun pb h => by cases h)

/-! ## 6. non-vacuity

Each example rewrites with the history of its script (`scrA_history` …, computed in Lemmas/WorldHistEx.lean) and leaves
a function of a concrete list of events, which the kernel evaluates. -/

namespace HistEx
open Ex

/-- the history of `scrA`: creation, the prelude of `run()`, the two handler calls -/
example : World.history {} scrA =
    [.fresh, .resume {}, .handler {} (.msg (.awaitAck (actionId 4 1) [0x32, 6, 0, 1, 0x61, 0, 1, 0] 2) true),
     .handler cPub (.msg (.ff [0xE0, 2, 0, 0] 4) true)] := scrA_history

/-- its segments: the initial one, the one opened by `setup` with both handler calls (the prelude of `run()` without a
    recorded disconnection does not cut), and the one after the DISCONNECT ended `run()` -/
example : (ctxHist (World.history {} scrA)).map (fun s => (s.cause, s.start, s.ins.length)) =
    [(.init, {}, 0), (.fresh, {}, 2), (.exited, cPub, 0)] := by rw [scrA_history]; decide +kernel

/-- the hypothesis of `c10_every_segment` holds for the segment with the two calls, and its history is not empty -/
example : ∃ s ∈ ctxHist (World.history {} scrA), s.start.quota = s.start.recvMax ∧ s.obs.length = 2 := by
  rw [scrA_history]; decide +kernel

/-- the bytes of `scrA` on an unlimited transport, through `c08_bytes_of_a_script` -/
example : (scrA.foldl World.step {}).sent = [0x32, 6, 0, 1, 0x61, 0, 1, 0, 0xE0, 2, 0, 0] := by
  rw [(c08_bytes_of_a_script {} scrA rfl).1, scrA_history]; decide +kernel

/-- the segments of `scrB`: after the first `run()` returned — `markDisc`, the CONNECT request, and the segment of the
    RESUMED session (cause `resumed c` with `c` = the context with the disconnection recorded and the 60 s session) with
    one handler call -/
example : (ctxHist (World.history { wlimit := some 12 } scrB)).map (fun s => (s.cause, s.ins.length)) =
    [(.init, 0), (.fresh, 2), (.exited, 0), (.disc, 0),
     (.request [16, 19, 0, 4, 77, 81, 84, 84, 5, 0, 0, 0, 5, 17, 0, 0, 0, 60, 0, 1, 99], 0),
     (.resumed { cPub with disc := some 5, sei := 60 }, 1), (.exited, 0)] := by rw [scrB_history]; decide +kernel

/-- C17 across segments in `scrB`: the two `run()` preludes — the first re-sends nothing, the second (disconnection
    recorded 5 s ago, session of 60 s) re-sends the PUBLISH of the FIRST segment, DUP-marked -/
example : (World.history { wlimit := some 12 } scrB).filterMap
      (fun e => match e with | .resume c => some (c.disc, c.sessionExpired 5, c.resume.2.2) | _ => none) =
    [(none, true, []), (some 5, false, [[0x3A, 6, 0, 1, 0x61, 0, 1, 0]])] := by rw [scrB_history]; decide +kernel

/-- … which is the unfinished handshake of the session history of `scrB` (three observations: the whole session) -/
example :
    (unfinished (sessionObs (World.history { wlimit := some 12 } scrB))).map (·.2) = [[0x3A, 6, 0, 1, 0x61, 0, 1, 0]] ∧
    (sessionObs (World.history { wlimit := some 12 } scrB)).length = 3 := by rw [scrB_history]; decide +kernel

/-- a poll of `connect()` that handles the CONNACK contributes the `connack` event -/
example : World.ctxEvs (wConn connackOk) = [.connack {} kOk] := by
  simp [World.ctxEvs, World.firstEvs, wConn, pn_connackOk, dec_connackOk]

/-- a poll of `run()` that handles an inbound PINGRESP contributes that handler call -/
example : World.ctxEvs (wServe [.data pingresp]) = [.handler {} (.pkt .pingresp [] true)] := by
  rw [poll_events_of_run _ true rfl, if_pos rfl,
    World.loopHist_fuel_one_frame _ pingresp .pingresp rfl (by decide) pn_pingresp dec_pingresp]
  rfl

/-- `cRe` is what `handle_connack` leaves when the slot of PUBLISH 1 was taken before -/
example : cRe = ({ cRe with quota := 0 } : Ctx).handleConnack k1 := by decide +kernel

/-- **The limitation on a resumed session, made concrete.** Receive Maximum is 1. The segment opened by the CONNACK is
    followed by the segment of the resumed session: PUBLISH 1 is re-sent (in flight again), the quota is 1 = Receive
    Maximum, and the handler WRITES PUBLISH 2 — two QoS>0 publishes outstanding. `P_C10 1` (nothing outstanding at the start
    of the segment) accepts the segment; the monitor that counts the re-sent packet rejects it. -/
example :
    let s : CtxSeg := ⟨.resumed cRe, cRe.resume.1, callsOf cRe.resume.1 [.msg pub2 true]⟩
    segs ⟨.connack k1, cRe, []⟩ (World.ctxEvs wRe) = [⟨.connack k1, cRe, []⟩, s] ∧
    s.start.quota = 1 ∧ s.start.recvMax = 1 ∧ inflightOf s.start.retx = [(1, 1)] ∧
    s.opening = [[0x3A, 6, 0, 1, 0x61, 0, 1, 0]] ∧
    writesOf ((s.obs.map CObs.effs).flatten) = [[0x32, 6, 0, 1, 0x61, 0, 2, 0]] ∧
    P_C10 1 s.obs = true ∧ ({ out := inflightOf s.start.retx, R := 1 } : QMon).scan s.obs = false := by
  rw [wRe_evs]; decide +kernel

/-- **The limitation on a resumed session, in a whole script** (`scrR`, history computed in Lemmas/WorldHistEx.lean:
    connect, CONNACK with Receive Maximum 1, `run()`, PUBLISH 1 served; `run()` cancelled, disconnection recorded, new
    transport, connect, CONNACK with Receive Maximum 1, PUBLISH 2 requested, `run()`). For each segment: quota and limit at
    its start, the publishes of its retransmit queue, the number of handler calls, the verdict of `P_C10`, the verdict of
    the monitor that counts the re-sent packets. In the last segment — the resumed session, opened right after the
    (empty) segment of the second CONNACK, which re-armed the quota to 1 — PUBLISH 1 has been re-sent and PUBLISH 2 is
    written: two QoS>0 publishes are outstanding with Receive Maximum 1. `P_C10 1` accepts the segment (it starts counting
    at the CONNACK's quota), the monitor that knows about the re-sent PUBLISH rejects it. -/
example :
    (ctxHist (World.history {} scrR)).map
        (fun s => (s.start.quota, s.start.recvMax, inflightOf s.start.retx, s.ins.length)) =
      [(65535, 65535, [], 0), (65535, 65535, [], 0), (65535, 65535, [], 0), (1, 1, [], 1), (0, 1, [(1, 1)], 0),
       (0, 1, [(1, 1)], 0), (1, 1, [(1, 1)], 0), (1, 1, [(1, 1)], 1)] ∧
    (ctxHist (World.history {} scrR)).map (fun s => (P_C10 s.start.recvMax s.obs,
        ({ out := inflightOf s.start.retx, R := s.start.recvMax } : QMon).scan s.obs)) =
      [(true, true), (true, true), (true, true), (true, true), (true, true), (true, true), (true, true),
       (true, false)] := by
  rw [scrR_history]; decide +kernel

/-- the hypotheses of `c10_resumed_segment` hold in `scrR`: the segment of cause `resumed cRe` (one handler call)
    follows the segment opened by the CONNACK `kR1`, which has no handler call -/
theorem scrR_last_two_segments :
    ctxHist (World.history {} scrR) = (ctxHist (World.history {} scrR)).take 6 ++
      ⟨.connack kR1, cRe, []⟩ :: ⟨.resumed cRe, cRe.resume.1, callsOf cRe.resume.1 [.msg pub2 true]⟩ :: [] := by
  rw [scrR_history]; decide +kernel

/-- … so the theorem applies: quota and limit of the resumed segment are the CONNACK's Receive Maximum, 1 -/
example : (⟨.resumed cRe, cRe.resume.1, callsOf cRe.resume.1 [.msg pub2 true]⟩ : CtxSeg).start.quota = kR1.receiveMax :=
  ((c10_resumed_segment {} scrR _ [] _ _ cRe scrR_last_two_segments rfl).2.2.2.2.2 kR1 rfl rfl).1

/-- the bytes of `scrR`: CONNECT, PUBLISH 1, CONNECT, then — before anything else of the second `run()` — PUBLISH 1
    again with DUP set, then PUBLISH 2 -/
example : (scrR.foldl World.step {}).sent =
    connect60 ++ [0x32, 6, 0, 1, 0x61, 0, 1, 0] ++ connect60 ++ [0x3A, 6, 0, 1, 0x61, 0, 1, 0] ++
      [0x32, 6, 0, 1, 0x61, 0, 2, 0] := by
  rw [(c08_bytes_of_a_script {} scrR rfl).2, scrR_history]; decide +kernel

/-- a script with a CONNACK (`scrC`: CONNECT, CONNACK, `run()`, a QoS 1 PUBLISH — its history is computed in
    Lemmas/WorldHistEx.lean): the segment opened by the CONNACK holds the handler call; the prelude of `run()` did not cut -/
example : (ctxHist (World.history {} scrC)).map (fun s => (s.cause, s.ins.length)) =
    [(.init, 0), (.fresh, 0), (.request connectBytes, 0), (.connack kOk, 1)] := by
  rw [scrC_history]; decide +kernel

/-- the hypothesis of `c10_segment_after_connack` holds for it -/
example : ∃ s ∈ ctxHist (World.history {} scrC), s.cause = .connack kOk ∧ s.obs.length = 1 := by
  rw [scrC_history]; decide +kernel

/-- the bytes of `scrC`, segment by segment: the CONNECT, then the PUBLISH -/
example : (scrC.foldl World.step {}).sent = connectBytes ++ [0x32, 6, 0, 1, 0x61, 0, 1, 0] := by
  rw [(c08_bytes_of_a_script {} scrC rfl).1, scrC_history]; decide +kernel

/-- C09 on `scrQ2` (QoS 2 PUBLISH 9, the same again, PUBREL 9, PUBLISH 9 again; history computed in
    Lemmas/WorldHistEx.lean): the pending identifiers of the session history before each of the four handler calls -/
example :
    pendingQ2 (sessionObs ((World.history {} scrQ2).take 2)) = [] ∧
    pendingQ2 (sessionObs ((World.history {} scrQ2).take 3)) = [9] ∧
    pendingQ2 (sessionObs ((World.history {} scrQ2).take 4)) = [9] ∧
    pendingQ2 (sessionObs ((World.history {} scrQ2).take 5)) = [] := by
  rw [scrQ2_history]; decide +kernel

/-- the re-delivery (second handler call) satisfies the hypotheses of `c09_every_qos2_publish` with 9 pending: it gives
    nothing to any stream -/
example (id : Nat) : (HEv.handler c9 (.pkt (.publish q2pub) [] true)).gives id = [] :=
  ((c09_every_qos2_publish {} scrQ2
      [.fresh, .resume {}, .handler {} (.pkt (.publish q2pub) [] true)]
      [.handler c9 (.pkt (.pubrel { packetId := 9 }) [] true), .handler {} (.pkt (.publish q2pub) [] true)]
      c9 q2pub [] true 9 (by rw [scrQ2_history]; rfl) rfl rfl).2.2.1 (by decide)).1 id

/-- the PUBLISH after the PUBREL (fourth handler call) satisfies them with 9 NOT pending: it goes through the delivery
    loop and 9 is pending again afterwards -/
example : 9 ∈ pendingQ2 (sessionObs (World.history {} scrQ2)) := by
  have h := (c09_every_qos2_publish {} scrQ2
      [.fresh, .resume {}, .handler {} (.pkt (.publish q2pub) [] true), .handler c9 (.pkt (.publish q2pub) [] true),
       .handler c9 (.pkt (.pubrel { packetId := 9 }) [] true)] []
      {} q2pub [] true 9 (by rw [scrQ2_history]; rfl) rfl rfl).2.2.2 (by decide)
  rw [scrQ2_history]
  exact h.2.1

/-- `c09_stream_holds_what_the_history_gave` applies to `scrQ2` (it issues no operation at all) -/
example : (opIds scrQ2).Nodup := by decide +kernel

end HistEx

#print axioms script_history_chained
#print axioms script_history_append
#print axioms poll_events_of_run
#print axioms segment_is_one_served_history
#print axioms segments_partition_the_history
#print axioms restarted_run_continues_its_segment
#print axioms c10_every_segment
#print axioms c10_segment_after_connack
#print axioms c10_resumed_segment
#print axioms c10_true_monitor
#print axioms c08_every_segment
#print axioms c08_bytes_of_a_script
#print axioms c17_retx_is_session_unfinished
#print axioms c17_every_run_prelude
#print axioms c17_resent_before_anything_else
#print axioms c17_first_poll_resends_session_unfinished
#print axioms HistEx.scrR_last_two_segments
#print axioms script_trace_matches_history
#print axioms c09_stream_holds_what_the_history_gave
#print axioms c09_every_qos2_publish
#print axioms c09_pubrel_releases

end Poster

/-
  C01, last clause: "The wire as a whole is always a concatenation of whole packets in submission order, however the
  transport fragments or delays writes" — and C16's half for the writing side.

  `TxPacketStream::write` is `write_all` (TxStream.lean). The theorems below are for EVERY writer oracle: any split of a
  packet into accepted pieces (`accept n`, any `n`), any number of `Pending` answers anywhere, errors and zero-length
  writes anywhere, a transport that stops answering. At the end they are composed with C01World (the model's transport
  takes whole packets) and instantiated with the mock transports of the correspondence run (TxMock.lean), whose `WCALLS`
  line is compared with the implementation's on every script without a byte budget.
-/
import PosterModel.Lemmas.TxStream
import PosterModel.Lemmas.TxMock
import PosterModel.Properties.C01World

namespace Poster
open Poster.TxStream Poster.Framing

/-- **Conservation, one poll**: after any single poll of the `write_all` future, under any transport, the bytes taken
    followed by the bytes still held are the packet. -/
theorem write_poll_conserves (buf : Bytes) (evs : List WEv) :
    (pollWriteAll buf evs).acc ++ (pollWriteAll buf evs).rest = buf :=
  (pollWriteAll_spec buf evs).1

/-- **Conservation, whole call**. -/
theorem write_all_conserves (buf : Bytes) (evs : List WEv) :
    (writeAll buf evs).1.acc ++ (writeAll buf evs).1.rest = buf :=
  (writeAll_spec buf evs).1

/-- **`Ok(())` means the whole packet is on the wire.** -/
theorem write_all_ok_means_everything_written (buf : Bytes) (evs : List WEv)
    (h : (writeAll buf evs).1.out = .done) : (writeAll buf evs).1.acc = buf :=
  writeAll_done_acc h

/-- one poll: `Ready(Ok(()))` only with everything taken -/
theorem write_poll_ok_means_everything_written (buf : Bytes) (evs : List WEv)
    (h : (pollWriteAll buf evs).out = .done) : (pollWriteAll buf evs).acc = buf := by
  have hs := pollWriteAll_spec buf evs
  rw [hs.2.1.mp h, List.append_nil] at hs
  exact hs.1

/-- **Not completed ⇒ a PROPER prefix is on the wire** (never the whole packet without `Ok`). -/
theorem write_all_unfinished_is_a_proper_prefix (buf : Bytes) (evs : List WEv)
    (h : (writeAll buf evs).1.out ≠ .done) :
    (writeAll buf evs).1.acc <+: buf ∧ (writeAll buf evs).1.acc.length < buf.length :=
  writeAll_notdone_proper h

/-- **An error comes only from the transport**: an I/O error or a zero-length write. -/
theorem write_all_fails_only_on_a_transport_fault (buf : Bytes) (evs : List WEv)
    (h : (writeAll buf evs).1.out = .err) : ∃ e ∈ evs, e = WEv.err ∨ e = WEv.zero := by
  obtain ⟨e, h1, h2⟩ := writeAll_err_aux evs buf h
  exact ⟨e, h1, by cases e <;> simp [WEv.isFault] at h2 ⊢⟩

/-- **Liveness**: a transport without faults that answers `accept` (at least one byte each) at least once per byte
    completes the write, whatever `Pending` answers lie in between. -/
theorem write_all_completes (buf : Bytes) (evs : List WEv)
    (hf : ∀ e ∈ evs, e ≠ WEv.err ∧ e ≠ WEv.zero)
    (hl : buf.length ≤ (evs.filter WEv.isAccept).length) :
    (writeAll buf evs).1.out = .done ∧ (writeAll buf evs).1.acc = buf := by
  have hd := writeAll_completes_aux evs buf (fun e he => (WEv.isFault_eq_false_iff e).mpr (hf e he)) hl
  exact ⟨hd, writeAll_done_acc hd⟩

/-- **Delays are invisible**: removing every `Pending` answer changes neither the bytes taken, nor what is left, nor the
    outcome. -/
theorem delays_are_invisible (buf : Bytes) (evs : List WEv) :
    (writeAll buf evs).1.acc = (writeAll buf (evs.filter (· ≠ WEv.pending))).1.acc ∧
    (writeAll buf evs).1.rest = (writeAll buf (evs.filter (· ≠ WEv.pending))).1.rest ∧
    (writeAll buf evs).1.out = (writeAll buf (evs.filter (· ≠ WEv.pending))).1.out :=
  writeAll_delays_aux evs buf

/-- **Fragmentation is invisible**: two fault-free transports that keep accepting put the same bytes on the wire, however
    differently they cut the packet. -/
theorem fragmentation_is_invisible (buf : Bytes) (evs evs' : List WEv)
    (hf : ∀ e ∈ evs, e ≠ WEv.err ∧ e ≠ WEv.zero) (hf' : ∀ e ∈ evs', e ≠ WEv.err ∧ e ≠ WEv.zero)
    (hl : buf.length ≤ (evs.filter WEv.isAccept).length) (hl' : buf.length ≤ (evs'.filter WEv.isAccept).length) :
    (writeAll buf evs).1.acc = (writeAll buf evs').1.acc ∧ (writeAll buf evs).1.out = (writeAll buf evs').1.out := by
  obtain ⟨a, b⟩ := write_all_completes buf evs hf hl
  obtain ⟨a', b'⟩ := write_all_completes buf evs' hf' hl'
  exact ⟨by rw [b, b'], by rw [a, a']⟩

/-- **C16 for writes: `Pending` only from the transport.** When one poll of the future returns `Pending`, the transport
    answered `accept` some number of times and then `Pending` (it has the waker), or it has no further answer at all; the
    packet is then not completely written. -/
theorem write_pending_only_from_the_transport (buf : Bytes) (evs : List WEv)
    (h : (pollWriteAll buf evs).out = .pending) :
    (pollWriteAll buf evs).rest ≠ [] ∧
    ∃ pre, (∀ e ∈ pre, ∃ n, e = WEv.accept n) ∧
      (evs = pre ++ WEv.pending :: (pollWriteAll buf evs).evs ∨ (evs = pre ∧ (pollWriteAll buf evs).evs = [])) := by
  obtain ⟨pre, h1, h2⟩ := pollWriteAll_pending_aux evs buf h
  refine ⟨pollWriteAll_notdone_aux evs buf (by rw [h]; simp), pre, fun e he => ?_, h2⟩
  have := h1 e he
  cases e <;> simp [WEv.isAccept] at this ⊢

/-- `poll_write` is never called with an empty buffer, and at most once per byte of the packet in one poll -/
theorem at_most_one_call_per_byte (buf : Bytes) (evs : List WEv) : (pollWriteAll buf evs).calls ≤ buf.length :=
  (pollWriteAll_spec buf evs).2.2

/-- an empty packet completes without touching the transport -/
theorem empty_write_touches_nothing (evs : List WEv) :
    pollWriteAll [] evs = ⟨[], [], evs, .done, 0⟩ := pollWriteAll_nil_buf evs

/-- **The wire is whole packets in submission order, then a proper prefix of the next one** — for every list of packets
    and every transport. `completed` packets are on the wire entirely; if not all writes completed, the next packet is on
    the wire as a proper prefix (possibly empty), and nothing of any later packet. -/
theorem wire_is_whole_packets_then_a_proper_prefix (pkts : List Bytes) (evs : List WEv) :
    (writeSeq pkts evs).completed ≤ pkts.length ∧
    ∃ pre, (writeSeq pkts evs).wire = (pkts.take (writeSeq pkts evs).completed).flatten ++ pre ∧
      ((writeSeq pkts evs).out = .done → (writeSeq pkts evs).completed = pkts.length ∧ pre = []) ∧
      ((writeSeq pkts evs).out ≠ .done →
        ∃ p, pkts[(writeSeq pkts evs).completed]? = some p ∧ pre <+: p ∧ pre.length < p.length) :=
  writeSeq_shape pkts evs

/-- the wire never holds anything but a prefix of the submitted packets' concatenation -/
theorem wire_is_a_prefix_of_the_submitted_packets (pkts : List Bytes) (evs : List WEv) :
    (writeSeq pkts evs).wire <+: pkts.flatten := by
  induction pkts generalizing evs with
  | nil => exact List.nil_prefix
  | cons p ps ih =>
    rw [List.flatten_cons]
    by_cases hd : (writeAll p evs).1.out = .done
    · rw [writeSeq_cons_done ps hd]
      exact (List.prefix_append_right_inj p).mpr (ih _)
    · rw [writeSeq_cons_notdone ps hd]
      exact (writeAll_notdone_proper hd).1.trans (List.prefix_append p _)

/-- all writes completed ⇒ the wire is exactly the concatenation of the submitted packets -/
theorem wire_is_the_concatenation_when_all_complete (pkts : List Bytes) (evs : List WEv)
    (h : (writeSeq pkts evs).out = .done) : (writeSeq pkts evs).wire = pkts.flatten := by
  obtain ⟨_, pre, hw, hd, _⟩ := wire_is_whole_packets_then_a_proper_prefix pkts evs
  obtain ⟨a, b⟩ := hd h
  rw [hw, b, a]; simp

/-- whole frames followed by something the framing leaves alone -/
theorem frames_flatten_then_part (qs : List Bytes) (pre : Bytes) (hall : ∀ p ∈ qs, OneFrame p)
    (hpre : frames pre = some ([], pre)) : frames (qs.flatten ++ pre) = some (qs, pre) := by
  rw [frames_flatten_append qs pre hall, hpre]
  exact congrArg (fun l => some (l, pre)) (List.append_nil qs)

/-- **Read back with the reference framing of the standard**: if every submitted packet is one frame (C01World: every
    packet the client builds is), the wire frames to exactly the completed packets, the tail being the proper prefix of the
    packet in progress. -/
theorem wire_frames_to_the_completed_packets (pkts : List Bytes) (evs : List WEv) (h1 : ∀ p ∈ pkts, OneFrame p) :
    ∃ pre, frames (writeSeq pkts evs).wire = some (pkts.take (writeSeq pkts evs).completed, pre) ∧
      ((writeSeq pkts evs).out = .done → pre = []) := by
  obtain ⟨_, pre, hw, hd, hn⟩ := wire_is_whole_packets_then_a_proper_prefix pkts evs
  refine ⟨pre, ?_, fun ho => (hd ho).2⟩
  have hall : ∀ p ∈ pkts.take (writeSeq pkts evs).completed, OneFrame p :=
    fun p hp => h1 p (List.mem_of_mem_take hp)
  have hpre : frames pre = some ([], pre) := by
    by_cases ho : (writeSeq pkts evs).out = .done
    · rw [(hd ho).2]; exact frames_nil
    · obtain ⟨p, hp, hpp, hlen⟩ := hn ho
      exact frames_of_noFrame _ (noFrame_of_part _ p (h1 p (List.mem_of_getElem? hp)) hpp hlen)
  rw [hw]
  exact frames_flatten_then_part _ pre hall hpre

/-- **Any transport yields the model's wire.** The model hands whole packets to its transport (`World.sent`, equal to the
    concatenation of the submitted packets by `wire_is_submitted`). Whatever real transport carries those submissions —
    any fragmentation, any delays, faults anywhere — the bytes on the wire are a prefix of the model's `sent`, and all of it
    once every write has completed. -/
theorem any_transport_yields_the_models_wire (cfg : Cfg) (evs : List Ev) (hl : cfg.wlimit = none) (tr : List WEv) :
    (writeSeq (World.submitted cfg evs) tr).wire <+: (evs.foldl World.step { cfg := cfg }).sent ∧
    ((writeSeq (World.submitted cfg evs) tr).out = .done →
      (writeSeq (World.submitted cfg evs) tr).wire = (evs.foldl World.step { cfg := cfg }).sent) := by
  rw [wire_is_submitted cfg evs hl]
  exact ⟨wire_is_a_prefix_of_the_submitted_packets _ tr, wire_is_the_concatenation_when_all_complete _ tr⟩

/-- the mock transports of the correspondence run (`wr=all`, `one`, `pend`, `pendone`, no byte budget) complete every
    write with exactly the packet on the wire -/
theorem mock_transport_writes_everything (one pend : Bool) (buf : Bytes) :
    (writeAll buf (mockEvs one pend buf.length)).1.out = .done ∧
    (writeAll buf (mockEvs one pend buf.length)).1.acc = buf :=
  write_all_completes buf _
    (fun e he => (WEv.isFault_eq_false_iff e).mp (mockEvs_noFault one pend buf.length e he))
    (mockEvs_accepts one pend buf.length)

/-- **A transport with a byte budget** (the harness's `werr=<n>` / `wzero=<n>`: it takes `L` more bytes, then fails): the
    bytes on the wire are the first `L` bytes of the packet and the write fails — what `World.writeBytes` puts on the wire
    (`bs.take k`) when the budget does not cover the packet. -/
theorem budgeted_transport_takes_the_budget (bs : Bytes) (L : Nat) (fault : WEv) (hf : fault = .err ∨ fault = .zero)
    (tr : List WEv) (h0 : 0 < L) (hL : L < bs.length) :
    (writeAll bs (.accept (L - 1) :: fault :: tr)).1.acc = bs.take L ∧
    (writeAll bs (.accept (L - 1) :: fault :: tr)).1.out = .err := by
  have hne : bs ≠ [] := by intro h; simp [h] at hL
  have e : L - 1 + 1 = L := by omega
  have hnl : ¬ bs.length ≤ L := by omega
  rcases hf with rfl | rfl <;> simp [writeAll, hne, e, hnl]

/-- the budget already used up: nothing of the packet reaches the wire -/
theorem exhausted_transport_takes_nothing (bs : Bytes) (fault : WEv) (hf : fault = .err ∨ fault = .zero) (tr : List WEv)
    (hne : bs ≠ []) :
    (writeAll bs (fault :: tr)).1.acc = [] ∧ (writeAll bs (fault :: tr)).1.out = .err := by
  rcases hf with rfl | rfl <;> simp [writeAll, hne]

namespace TxStream
/-- **The mock transports of the correspondence run take every packet whole**, whatever the policy and the state the
    previous write left: the statistics the driver prints (`WCALLS`) are those of completed writes, and `bytes` is the
    total length of the packets. -/
theorem mock_connection_statistics_are_of_completed_writes (pkts : List Bytes) : ∀ (m : MockW),
    (mockStats m pkts).ok = true ∧ (mockStats m pkts).bytes = (pkts.map List.length).sum := by
  intro m
  rw [mockStats_eq]
  simpa using foldl_mockStep pkts ({}, m)

end TxStream

/-! ## non-vacuity: concrete runs -/

example : TxStream.mockStats { one := true, pend := true } [[0xc0, 0x00], [0x40, 0x02, 0x00, 0x07]] = ⟨12, 6, 6, true⟩ := by decide

example : (writeAll [1, 2, 3, 4] [.accept 1, .zero]).1.acc = [1, 2] := by decide

/-- a PINGREQ and a PUBACK through a transport that takes one byte, delays, takes the rest, delays, takes one byte, fails: the PINGREQ is whole, the
    PUBACK a proper prefix -/
example : writeSeq [[0xc0, 0x00], [0x40, 0x02, 0x00, 0x07]] [.accept 0, .pending, .accept 1, .pending, .accept 0, .err] =
    ⟨[0xc0, 0x00, 0x40], 1, .err⟩ := by decide

example : (writeAll [1, 2, 3] [.pending, .accept 0, .pending, .pending, .accept 5]).1.acc = [1, 2, 3] := by decide
example : (pollWriteAll [1, 2, 3] [.accept 0, .pending, .accept 5]).out = .pending := by decide
example : (writeAll [1, 2, 3] [.accept 0, .zero]).1.out = .err := by decide
example : (writeAll [1, 2, 3] (mockEvs true true 3)).1 = ⟨[1, 2, 3], [], [.pending, .accept 0], .done, 6⟩ := by decide

end Poster

#print axioms Poster.write_poll_conserves
#print axioms Poster.write_all_conserves
#print axioms Poster.write_all_ok_means_everything_written
#print axioms Poster.write_poll_ok_means_everything_written
#print axioms Poster.write_all_unfinished_is_a_proper_prefix
#print axioms Poster.write_all_fails_only_on_a_transport_fault
#print axioms Poster.write_all_completes
#print axioms Poster.delays_are_invisible
#print axioms Poster.fragmentation_is_invisible
#print axioms Poster.write_pending_only_from_the_transport
#print axioms Poster.at_most_one_call_per_byte
#print axioms Poster.empty_write_touches_nothing
#print axioms Poster.wire_is_whole_packets_then_a_proper_prefix
#print axioms Poster.wire_is_a_prefix_of_the_submitted_packets
#print axioms Poster.wire_is_the_concatenation_when_all_complete
#print axioms Poster.frames_flatten_then_part
#print axioms Poster.wire_frames_to_the_completed_packets
#print axioms Poster.any_transport_yields_the_models_wire
#print axioms Poster.mock_transport_writes_everything
#print axioms Poster.TxStream.mock_connection_statistics_are_of_completed_writes
#print axioms Poster.budgeted_transport_takes_the_budget
#print axioms Poster.exhausted_transport_takes_nothing

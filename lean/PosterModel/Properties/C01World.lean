/-
  Properties/C01World.lean — C01 for whole executions of the client: the wire is a concatenation of whole, well-formed
  packets carrying the callers' values, in submission order.

  `Properties/C01.lean` proves, per encoder, that the bytes of one request are one well-formed packet that an independent
  parser reads back as the request. Here the statement is about everything a SCRIPT makes the client hand to its transport.

  The script-level theorems that assume `cfg.wlimit = none` are for the unlimited transport: a transport that cuts a
  write short leaves a partial packet on the wire by design. `wire_any_limit` covers every transport limit: whole
  packets, and at most a proper prefix of ONE packet where the transport failed.
-/
import PosterModel.Lemmas.WorldWire
import PosterModel.Lemmas.WorldWireLim
import PosterModel.Lemmas.WorldWireCheck
import PosterModel.Lemmas.WorldWireEx

namespace Poster
open Framing Spec

/-- A CONNECT within the protocol's size limit is exactly one frame of the reference framing: fixed header, remaining
    length equal to the number of bytes that follow, nothing left over. (Likewise below for every other packet.) -/
theorem connect_one_frame (t : ConnectTx) (h : t.remainingLen < 268435456) : frames t.encode = some ([t.encode], []) :=
  frames_oneFrame _ ((connect_layout t).oneFrame h)
/-- an AUTH within the size limit (also in its shortened two-byte form) is exactly one frame -/
theorem auth_one_frame (t : AuthTx) (h : t.remainingLen < 268435456) : frames t.encode = some ([t.encode], []) :=
  frames_oneFrame _ ((auth_layout t).oneFrame h)
theorem publish_one_frame (t : PublishTx) (h : t.remainingLen < 268435456) : frames t.encode = some ([t.encode], []) :=
  frames_oneFrame _ ((publish_layout t).oneFrame h)
theorem subscribe_one_frame (t : SubscribeTx) (h : t.remainingLen < 268435456) :
    frames t.encode = some ([t.encode], []) := frames_oneFrame _ ((subscribe_layout t).oneFrame h)
theorem unsubscribe_one_frame (t : UnsubscribeTx) (h : t.remainingLen < 268435456) :
    frames t.encode = some ([t.encode], []) := frames_oneFrame _ ((unsubscribe_layout t).oneFrame h)
theorem disconnect_one_frame (t : DisconnectTx) (h : t.remainingLen < 268435456) :
    frames t.encode = some ([t.encode], []) := frames_oneFrame _ ((disconnect_layout t).oneFrame h)
/-- a PUBACK / PUBREC / PUBREL / PUBCOMP (any reason, any properties) within the size limit is exactly one frame -/
theorem ack_one_frame (t : AckTx) (h : t.remainingLen < 268435456) : frames t.encode = some ([t.encode], []) :=
  frames_oneFrame _ ((ack_layout t).oneFrame h)
/-- the acknowledgements the library writes by itself (PUBACK 0x40, PUBREC 0x50, PUBREL 0x62, PUBCOMP 0x70), for any
    packet identifier -/
theorem ackBytes_one_frame (hdr pid : Nat) : frames (ackBytes hdr pid) = some ([ackBytes hdr pid], []) :=
  frames_oneFrame _ (oneFrame_ackBytes hdr pid)
theorem pingreq_one_frame : frames pingreqBytes = some ([pingreqBytes], []) := frames_oneFrame _ oneFrame_pingreq
/-- a retransmission (the stored packet with the DUP bit set in its fixed header) of a packet that is one frame is one
    frame: the framing does not look at the flag bits -/
theorem retransmission_one_frame (p : Bytes) (hf : OneFrame p) :
    frames (setDup p) = some ([setDup p], []) := frames_oneFrame _ (oneFrame_setDup p hf)

/-- Every packet of known origin is exactly one frame. -/
theorem wirePkt_one_frame (p : Bytes) (h : WirePkt p) : frames p = some ([p], []) := frames_oneFrame p h.oneFrame

/-- Every packet of known origin is one well-formed MQTT 5 client packet: the independent parser `Spec.parseClient` reads
    exactly one packet from it and leaves whatever follows untouched. -/
theorem wirePkt_parses (p : Bytes) (h : WirePkt p) :
    ∃ pkt : ClientPacket, ∀ rest, parseClient (p ++ rest) = some (pkt, rest) := h.parses

/-- The retransmission of an accepted QoS 1/2 PUBLISH — the stored bytes with the DUP bit set — is the encoding of the same
    publication with the DUP flag set (`setDup_publish_encode`), hence again a well-formed PUBLISH carrying the caller's
    values. -/
theorem retransmission_is_publish (t : PublishTx) (hv : t.valid = true) (hd : PublishInDomain t) (hq : t.qos ≠ 0)
    (rest : Bytes) :
    parseClient (setDup t.encode ++ rest) = some (ofPublish { t with dup := true }, rest) :=
  setDup_publish_parses t hv hd hq rest

/-- **The wire is the concatenation of the submitted packets, in submission order.** For every script, on a transport
    that takes every write: the bytes handed to the transport are exactly the packets the script submits (the CONNECT /
    AUTH packets of `connect()` / `authorize()`, the packets re-sent when `run()` resumes a session, and what the handlers
    of `run()` write for each handled request and each inbound packet), one after the other, nothing in between, nothing
    lost — across reconnects (`setup` on a live context) and whatever the executor interleaving. No assumption on the requests. -/
theorem wire_is_submitted (cfg : Cfg) (evs : List Ev) (hl : cfg.wlimit = none) :
    (evs.foldl World.step { cfg := cfg }).sent = (World.submitted cfg evs).flatten := by
  have := World.scriptSubmits_sent evs { cfg := cfg } hl
  simpa [World.sent, World.submitted] using this

/-- the same, from any world reached: a continuation of a script appends exactly the packets it submits -/
theorem wire_is_submitted_from (w : World) (evs : List Ev) (hl : w.cfg.wlimit = none) :
    (evs.foldl World.step w).sent = w.sent ++ (World.scriptSubmits w evs).flatten :=
  World.scriptSubmits_sent evs w hl

/-- **Every submitted packet is a well-formed packet whose origin is a request of the script**, for scripts whose requests
    MQTT 5 can represent and whatever the transport limit: it is the encoding of an accepted `connect` / `authorize` / `op` request OF THE SCRIPT completed
    with library-assigned identifiers (CONNECT, AUTH, PUBLISH — also as a retransmission with DUP set —, SUBSCRIBE,
    UNSUBSCRIBE, DISCONNECT), the PINGREQ of a ping of the script, or a PUBACK / PUBREC / PUBREL / PUBCOMP (success, no
    properties) for a packet identifier in 1..65535. -/
theorem submitted_from_script (cfg : Cfg) (evs : List Ev) (hd : ScriptInDomain evs) :
    ∀ p ∈ World.submitted cfg evs, WireOf (srcOf evs) p :=
  (World.script_wire evs { cfg := cfg } (World.XInv.init _ True cfg) (.init cfg) (evOk_srcOf evs hd)).2

/-- … in particular a packet of known origin (provenance forgotten), hence one frame that parses -/
theorem submitted_are_packets (cfg : Cfg) (evs : List Ev) (hd : ScriptInDomain evs) :
    ∀ p ∈ World.submitted cfg evs, WirePkt p :=
  fun p hp => (submitted_from_script cfg evs hd p hp).wirePkt

/-- The wire invariant holds in every world a script in the domain reaches (unlimited transport): no partial packet is
    pending at the transport, the transcript has no `WRAW` line and every `W` line is a packet originating in a request of
    the script, every queued message and every entry of the retransmit queue carries such a packet, the identifier counters
    are in range, every packet stored in a oneshot is well formed. -/
theorem wire_invariant (cfg : Cfg) (evs : List Ev) (hl : cfg.wlimit = none) (hd : ScriptInDomain evs) :
    World.WInv (srcOf evs) (evs.foldl World.step { cfg := cfg }) :=
  (World.script_wire evs { cfg := cfg } (World.XInv.init _ True cfg) (.init cfg) (evOk_srcOf evs hd)).1.1.toW
    (by rw [World.steps_cfg]; exact hl)

/-- **The reference framing splits the wire into exactly the submitted packets**, none left incomplete: the wire is a
    concatenation of WHOLE packets, each with a remaining-length field equal to the size of what follows it — for a script
    in the domain on a transport that takes every write (`cfg.wlimit = none`). -/
theorem wire_frames (cfg : Cfg) (evs : List Ev) (hl : cfg.wlimit = none) (hd : ScriptInDomain evs) :
    frames (evs.foldl World.step { cfg := cfg }).sent = some (World.submitted cfg evs, []) := by
  rw [wire_is_submitted cfg evs hl]
  exact frames_flatten _ (fun p hp => (submitted_are_packets cfg evs hd p hp).oneFrame)

/-- **The `W` lines of the transcript are exactly the submitted packets, in submission order**, and nothing is pending at
    the transport when the script ends — for a script in the domain on a transport that takes every write
    (`cfg.wlimit = none`). -/
theorem transcript_wires (cfg : Cfg) (evs : List Ev) (hl : cfg.wlimit = none) (hd : ScriptInDomain evs) :
    World.wires (World.run cfg evs) = World.submitted cfg evs ∧
    (evs.foldl World.step { cfg := cfg }).wirePend = [] := by
  have hw := wire_invariant cfg evs hl hd
  refine ⟨?_, hw.pend⟩
  rw [hw.run_eq]
  apply World.oneFrame_flatten_inj
  · exact fun p hp => (hw.wires_ok p hp).oneFrame
  · exact fun p hp => (submitted_are_packets cfg evs hd p hp).oneFrame
  · rw [← hw.sent_eq, wire_is_submitted cfg evs hl]

/-- **No `WRAW` line is ever logged**: with a transport that takes every write and requests MQTT 5 can represent, the
    transcript of every script shows the wire as whole packets only — at no point (not at a reconnect, not at the end of the
    script) are there bytes on the wire that are not a whole number of packets. -/
theorem no_wraw (cfg : Cfg) (evs : List Ev) (hl : cfg.wlimit = none) (hd : ScriptInDomain evs) :
    ∀ o ∈ World.run cfg evs, ¬ ∃ bs, o = .wraw bs := by
  have hw := wire_invariant cfg evs hl hd
  rw [hw.run_eq]
  rintro o ho ⟨bs, rfl⟩
  exact hw.out _ ho

/-- **Every `W` line of a script decodes to a caller's values.** For every `W` line `bs` of the transcript of a script in
    the domain (unlimited transport), the independent parser `Spec.parseClient` reads exactly one packet from `bs`, nothing
    left over, and that packet is (`FromCaller (srcOf evs)`): the CONNECT / AUTH expected for a `connect` / `authorize`
    event of the script; the PUBLISH expected for a publish request of the script — as stated for QoS 0, with a
    library-assigned packet identifier in 1..65535 for QoS 1 / 2, possibly as a re-delivery with DUP set; the SUBSCRIBE /
    UNSUBSCRIBE expected for a request of the script with the assigned packet identifier (and subscription identifier in
    1..268435455); the DISCONNECT of a disconnect request of the script; the PINGREQ of a ping of the script; or a PUBACK /
    PUBREC / PUBREL / PUBCOMP with reason Success and no properties for an identifier in 1..65535. Nothing else is ever on
    the wire. -/
theorem wire_lines_from_callers (cfg : Cfg) (evs : List Ev) (hl : cfg.wlimit = none) (hd : ScriptInDomain evs) :
    ∀ bs, Obs.wire bs ∈ World.run cfg evs →
      ∃ pkt : ClientPacket, parseClient bs = some (pkt, []) ∧ FromCaller (srcOf evs) pkt := by
  have hw := wire_invariant cfg evs hl hd
  rw [hw.run_eq]
  exact fun bs hb => WireOf.decodes_nil (hw.out _ hb)

set_option linter.unusedVariables false in
/-- the same for the submitted packets (what is handed to the transport, before it shows in the transcript) -/
theorem submitted_from_callers (cfg : Cfg) (evs : List Ev) (hl : cfg.wlimit = none) (hd : ScriptInDomain evs) :
    ∀ p ∈ World.submitted cfg evs,
      ∃ pkt : ClientPacket, (∀ rest, parseClient (p ++ rest) = some (pkt, rest)) ∧ FromCaller (srcOf evs) pkt :=
  fun p hp => (submitted_from_script cfg evs hd p hp).decodes

/-- **One request, from the caller to the wire.** When a handle future is first polled in a world `w` whose context is
    alive, and the request — completed with the packet identifier `w.pidCtr` and the subscription identifier `w.subCtr` the
    library assigns — has its mandatory parts and is one MQTT 5 can represent: exactly one message is appended to the
    context's queue, carrying the oneshot `2 * id`; the independent parser reads its bytes back as exactly the caller's
    values with those identifiers (`Req.packet`: `Spec.ofPublish`, `ofSubscribe`, …); and when `run()` handles that
    message it writes either nothing (refused for its size or the send quota) or exactly those bytes. -/
theorem startOp_carries (w : World) (id : Nat) (req : Req) (hc : w.hasCtx = true)
    (hv : (w.completeReq req).accepted = true) (hd : ReqInDomain req)
    (hp : 1 ≤ w.pidCtr ∧ w.pidCtr ≤ 65535) (hs : 1 ≤ w.subCtr ∧ w.subCtr ≤ 268435455) :
    ∃ m : Msg, (w.startOp id req).queue = w.queue ++ [m] ∧ m.slot = 2 * id ∧
      (∀ rest, parseClient (m.pkt ++ rest) = some ((w.completeReq req).packet, rest)) ∧
      ∀ (c : Ctx) (wok : Bool), writesOf (c.handleMsg m wok).2.1 = [] ∨ writesOf (c.handleMsg m wok).2.1 = [m.pkt] := by
  refine ⟨_, (World.startOp_accepted w id req hc hv).1, World.reqMsg_slot w id req, fun rest => ?_,
    fun c wok => handleMsg_writes c _ wok⟩
  rw [World.reqMsg_pkt]
  exact Req.bytes_parse _ hv (completeReq_inDomain w req hd hp hs) rest

/-- the same for `connect()`: the first poll of an accepted CONNECT request in the domain submits exactly its encoding,
    which parses back to the caller's values -/
theorem connect_carries (w : World) (t : ConnectTx) (a : AuthTx) (ht : w.task = .connecting .connect t a false)
    (hv : t.valid = true) (hd : ConnectInDomain t) (rest : Bytes) :
    w.ctxSubmits = [t.encode] ∧ parseClient (t.encode ++ rest) = some (ofConnect t, rest) := by
  refine ⟨?_, enc_connect_parses t hv hd rest⟩
  rw [World.ctxSubmits_connecting w _ t a false ht]
  simp [World.reqValid, hv, World.W7.reqBytes]

/-- … and for `authorize()`: exactly the AUTH packet, which parses back to the caller's values -/
theorem authorize_carries (w : World) (t : ConnectTx) (a : AuthTx) (ht : w.task = .connecting .authorize t a false)
    (hv : a.valid = true) (hd : AuthInDomain a) (rest : Bytes) :
    w.ctxSubmits = [a.encode] ∧ parseClient (a.encode ++ rest) = some (ofAuth a, rest) := by
  refine ⟨?_, enc_auth_parses a hv hd rest⟩
  rw [World.ctxSubmits_connecting w _ t a false ht]
  simp [World.reqValid, hv, World.W7.reqBytes]

/-- **A request missing a mandatory part is refused before anything is written**: the operation completes with
    `CodecError`; nothing is queued for the context, nothing reaches the transport, the context is untouched; the only
    trace is that the identifier counters have advanced (`allocFor`: the packet identifier for QoS>0 PUBLISH, SUBSCRIBE and
    UNSUBSCRIBE, the subscription identifier for SUBSCRIBE — they are taken before validation). -/
theorem startOp_refused (w : World) (id : Nat) (req : Req) (hv : (w.completeReq req).accepted = false) :
    let w' := w.startOp id req
    w'.out = w.out ++ [.done id (.err .codecError)] ∧ w'.sent = w.sent ∧ w'.queue = w.queue ∧ w'.c = w.c ∧
    w'.ops = eraseFirst id w.ops ∧ w'.slots = w.slots ∧
    w'.pidCtr = (w.allocFor req).pidCtr ∧ w'.subCtr = (w.allocFor req).subCtr := by
  -- `allocFor` moves the two counters and nothing else; `finishOp` logs the result and removes the operation
  simp only
  rw [World.startOp_refused w id req hv, World.allocFor_prep w req]
  refine ⟨by simp, ?_, by simp, by simp, by simp, by simp, by simp, by simp⟩
  rw [World.finishOp_sent]
  rfl

/-- which requests are refused: exactly those of C01 — a PUBLISH without topic, a SUBSCRIBE / UNSUBSCRIBE without topic
    filter (PINGREQ and DISCONNECT never) -/
theorem refused_iff (w : World) (req : Req) :
    (w.completeReq req).accepted = false ↔
      match req with
      | .publish t => t.topic = none
      | .subscribe t => t.filters = []
      | .unsubscribe t => t.filters = []
      | _ => False := by
  cases req with
  | publish t =>
    by_cases hq : t.qos = 0
    · cases h : t.topic <;> simp [World.completeReq, Req.accepted, PublishTx.valid, hq, h]
    · cases h : t.topic <;> simp [World.completeReq, Req.accepted, PublishTx.valid, hq, h]
  | subscribe t => cases h : t.filters <;> simp [World.completeReq, Req.accepted, SubscribeTx.valid, h]
  | unsubscribe t => cases h : t.filters <;> simp [World.completeReq, Req.accepted, UnsubscribeTx.valid, h]
  | ping => simp [World.completeReq, Req.accepted]
  | disconnect t => simp [World.completeReq, Req.accepted]

/-- **`connect()` / `authorize()` with authentication data but no method (resp. extended authentication without both) is
    refused before anything is written**: the call returns `CodecError`, nothing is submitted, the wire and the context are
    untouched. -/
theorem connect_refused (w : World) (call : Call) (t : ConnectTx) (a : AuthTx)
    (ht : w.task = .connecting call t a false) (hv : World.reqValid call t a = false) :
    w.pollCtx.out = w.out ++ [.ret call (.err .codecError)] ∧ w.pollCtx.sent = w.sent ∧ w.pollCtx.c = w.c ∧
    w.ctxSubmits = [] ∧ w.pollCtx.task = .none := by
  have e : w.pollCtx = w.finish call (.err .codecError) := by
    rw [World.pollCtx_connecting ht, World.pollConnect_false_eq, hv]; rfl
  rw [e, World.ctxSubmits_connecting w call t a false ht]
  refine ⟨by simp, World.sent_finish _ _ _, by simp, by simp [hv], rfl⟩

/-- **Whatever the transport limit** (also a transport that takes only part of a write and then fails): for every script
    whose requests MQTT 5 can represent, every `W` line of the transcript is a whole packet that decodes to a caller's values
    (as in `wire_lines_from_callers`), and every `WRAW` line — the bytes left on a connection when the transport cut a write
    short, logged at the reconnect or at the end of the script — is a proper prefix of ONE such packet: never bytes of two
    packets, never anything after the cut. (The invariant behind it, `World.LInv`: once a write was cut the transport limit is
    reached and every later write on that connection adds nothing.) -/
theorem wire_any_limit (cfg : Cfg) (evs : List Ev) (hd : ScriptInDomain evs) :
    (∀ bs, Obs.wire bs ∈ World.run cfg evs →
      ∃ pkt : ClientPacket, parseClient bs = some (pkt, []) ∧ FromCaller (srcOf evs) pkt) ∧
    (∀ bs, Obs.wraw bs ∈ World.run cfg evs →
      ∃ p, WireOf (srcOf evs) p ∧ bs <+: p ∧ bs.length < p.length) := by
  have hw := (World.script_wire (strict := False) evs { cfg := cfg } (World.XInv.init _ _ cfg) (.init cfg)
    (evOk_srcOf evs hd)).1.1.flushRaw.1
  exact ⟨fun bs hb => WireOf.decodes_nil (hw.out _ hb), fun bs hb => (hw.out _ hb).1⟩

/-- The invariant behind `wire_any_limit` holds in every world a script in the domain reaches, whatever the configuration. -/
theorem wire_invariant_any_limit (cfg : Cfg) (evs : List Ev) (hd : ScriptInDomain evs) :
    World.LInv (srcOf evs) (evs.foldl World.step { cfg := cfg }) :=
  World.LInv.script evs (World.LInv.init (srcOf evs) cfg) (evOk_srcOf evs hd)

/-- **`ScriptInDomain` can be checked by running a program**: `scriptInDomainB` (Lemmas/WorldWireCheck.lean) evaluates the
    `XInDomain` predicates on every request of the script, with packet identifier 1 and subscription identifier 1 standing
    for whatever the library assigns (the conditions do not depend on the identifier's value; a SUBSCRIBE within 6 bytes of
    the 268 435 455-byte limit is conservatively rejected). If it answers `true` the script is in the domain. -/
theorem script_domain_check (evs : List Ev) (h : scriptInDomainB evs = true) : ScriptInDomain evs :=
  scriptInDomainB_sound evs h

section NonVacuity
open W6Ex Ex

/-- the hypotheses of the script-level theorems hold for a rich script: connect (with session expiry), CONNACK, run, a QoS 1
    publish, a subscribe, a ping, a disconnect, loss of the connection, then a reconnect on the same context with
    authorize, connect and run (session resumed) -/
example : ({} : Cfg).wlimit = none ∧ ScriptInDomain exScript := ⟨rfl, exScript_inDomain⟩

/-- … which the executable check confirms -/
example : scriptInDomainB exScript = true := by decide

/-- a QoS 3 publication is outside the domain, and the check says so -/
example : scriptInDomainB [.op 1 0 (.publish { topic := some [1], qos := 3 })] = false := by decide

/-- the wire of `exScript` is framed into exactly the packets it submits and it never logs `WRAW` -/
example : frames (exScript.foldl World.step {}).sent = some (World.submitted {} exScript, []) ∧
    ∀ o ∈ World.run {} exScript, ¬ ∃ bs, o = .wraw bs :=
  ⟨wire_frames {} exScript rfl exScript_inDomain, no_wraw {} exScript rfl exScript_inDomain⟩

set_option maxRecDepth 100000 in
/-- a script evaluated completely: the packets submitted are the PUBLISH (packet identifier 1 assigned by the library)
    and the DISCONNECT, in the order the requests were made -/
example : World.submitted {} exShort = [[50, 8, 0, 1, 97, 0, 1, 0, 1, 2], [224, 2, 0, 0]] := exShort_submitted

set_option maxRecDepth 100000 in
/-- … and by `transcript_wires` these are the `W` lines of its transcript -/
example : World.wires (World.run {} exShort) = [[50, 8, 0, 1, 97, 0, 1, 0, 1, 2], [224, 2, 0, 0]] :=
  (transcript_wires {} exShort rfl exShort_inDomain).1.trans exShort_submitted

set_option maxRecDepth 100000 in
/-- the hypothesis `wlimit = none` is needed: a transport that takes only 3 bytes leaves the first three bytes of the
    PUBLISH on the wire — a `WRAW` line -/
example : Obs.wraw [50, 8, 0] ∈ World.run { wlimit := some 3 } exShort := exShort_cut

/-- `wire_any_limit` applies to that run: the `WRAW` line is a proper prefix of the PUBLISH the script submitted -/
example : ∃ p, WireOf (srcOf exShort) p ∧ [50, 8, 0] <+: p ∧ ([50, 8, 0] : Bytes).length < p.length :=
  (wire_any_limit { wlimit := some 3 } exShort exShort_inDomain).2 _ exShort_cut

/-- one poll of `run()` in the world `wBye` (DISCONNECT and PINGREQ queued): the poll submits exactly the DISCONNECT
    (which ends `run()`) -/
example : wBye.ctxSubmits = [[0xE0, 0]] := by decide

/-- `startOp_carries`: its hypotheses hold for the QoS 1 publish on a live context; the completed request has packet
    identifier 1 -/
example : wLive.hasCtx = true ∧ (wLive.completeReq (.publish exPub)).accepted = true ∧ ReqInDomain (.publish exPub) ∧
    (1 ≤ wLive.pidCtr ∧ wLive.pidCtr ≤ 65535) ∧ (1 ≤ wLive.subCtr ∧ wLive.subCtr ≤ 268435455) ∧
    (wLive.completeReq (.publish exPub)).packet = .publish false 1 false [0x61] (some 1) [] [1, 2] :=
  ⟨rfl, by decide, exPub_inDomain, by decide, by decide, by decide⟩

/-- … and for the subscribe: packet identifier 1 and subscription identifier 1 are assigned -/
example : (wLive.completeReq (.subscribe exSub)).accepted = true ∧ ReqInDomain (.subscribe exSub) ∧
    (wLive.completeReq (.subscribe exSub)).packet =
      .subscribe 1 [⟨11, .var 1 1⟩]
        [{ filter := [0x61, 0x2F, 0x23], maxQos := 2, noLocal := false, retainAsPublished := false, retainHandling := 0 }] :=
  ⟨by decide, exSub_inDomain, by decide⟩

/-- `startOp_refused`: a QoS 1 publish without a topic is refused; the packet identifier it was given is gone -/
example : (wLive.completeReq (.publish { qos := 1 })).accepted = false ∧
    (wLive.startOp 1 (.publish { qos := 1 })).pidCtr = 2 ∧ (wLive.startOp 1 (.publish { qos := 1 })).queue = [] :=
  ⟨by decide, by decide, by decide⟩

/-- `connect_refused`: authentication data without a method -/
example :
    let w : World := { wLive with task := .connecting .connect { authData := some [1] } {} false }
    w.task = .connecting .connect { authData := some [1] } {} false ∧
    World.reqValid .connect { authData := some [1] } {} = false := ⟨rfl, by decide⟩

/-- `connect_carries`: an accepted CONNECT in the domain -/
example : exConn.valid = true ∧ ConnectInDomain exConn := ⟨by decide, exConn_inDomain⟩

/-- `retransmission_is_publish`: the completed QoS 1 publish; its retransmission has first byte 0x3A (DUP set) -/
example :
    let t : PublishTx := { exPub with packetId := some 1 }
    t.valid = true ∧ PublishInDomain t ∧ t.qos ≠ 0 ∧ setDup t.encode = [58, 8, 0, 1, 97, 0, 1, 0, 1, 2] :=
  ⟨by decide, exPub_inDomain.2 (by decide) 1 (by decide) (by decide), by decide, by decide⟩

/-- the packets of known origin include every acknowledgement the context writes: PUBREC for identifier 9 -/
example : WirePkt [0x50, 2, 0, 9] := WirePkt.ack 0x50 9 (Or.inr (Or.inl rfl)) (by decide)

end NonVacuity

#print axioms connect_one_frame
#print axioms auth_one_frame
#print axioms publish_one_frame
#print axioms subscribe_one_frame
#print axioms unsubscribe_one_frame
#print axioms disconnect_one_frame
#print axioms ack_one_frame
#print axioms ackBytes_one_frame
#print axioms pingreq_one_frame
#print axioms retransmission_one_frame
#print axioms wirePkt_one_frame
#print axioms wirePkt_parses
#print axioms retransmission_is_publish
#print axioms wire_is_submitted
#print axioms wire_is_submitted_from
#print axioms submitted_from_script
#print axioms submitted_are_packets
#print axioms wire_invariant
#print axioms wire_frames
#print axioms transcript_wires
#print axioms no_wraw
#print axioms wire_lines_from_callers
#print axioms submitted_from_callers
#print axioms wire_any_limit
#print axioms wire_invariant_any_limit
#print axioms script_domain_check
#print axioms startOp_carries
#print axioms connect_carries
#print axioms authorize_carries
#print axioms startOp_refused
#print axioms refused_iff
#print axioms connect_refused

end Poster
